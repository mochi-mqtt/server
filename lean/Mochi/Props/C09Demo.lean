import Mochi.Lemmas.BrokerSurviveDefs
import Mochi.Lemmas.BrokerIndexSync
/-!
# C09 — a concrete history for the survival statement, and two counterexamples

* `c09History`: a QoS 2 delivery to a persistent session that survives a lost connection, a resumption
  (PUBLISH resent with DUP), the PUBREC (record becomes the PUBREL), a take-over (PUBREL resent, no
  PUBLISH) and is ended by — and only by — the PUBCOMP.  Everything is checked by evaluation.
* `C09_deferred_release_counterexample` (finding F09): a record deferred by flow control (`expiry = -1`) is
  DELETED when it is released by `nextImmediate`: `Holds` without its `0 ≤ expiry` clause (`HoldsAny`) does
  not survive an op that is not `Ends`.
* `C09_sched_*`: what the schedule ops do to `Holds`.
-/
namespace Mochi.Broker
open Mochi.Topics

/-! ### 1. the history -/

/-- the subscriber's CONNECT: MQTT 5, Clean Start 0, Session Expiry Interval 100 -/
def c09S : Connect := { ver := 5, clean := false, id := [115], sei := some 100 }

def c09History : List Op :=
  [.connect 1 c09S,                                                   -- 0  S connects
   .recv 1 (.subscribe 1 0 [{ filter := [116], qos := 2 }]),          -- 1  S subscribes to "t" with QoS 2
   .connect 2 { ver := 5, id := [112] },                              -- 2  P connects
   .recv 2 (.publish 2 false false 1 [116] [97] 0 none),              -- 3  P publishes QoS 2 "a": S gets PUBLISH id 1
   .drop 1,                                                           -- 4  S's connection is lost
   .recv 2 (.publish 1 false false 2 [116] [98] 0 none),              -- 5  P publishes QoS 1 "b" (queued for S, id 2)
   .connect 3 c09S,                                                   -- 6  S resumes: PUBLISH 1 resent with DUP
   .recv 3 (.pubrec 1 0),                                             -- 7  S: PUBREC 1 — the record becomes PUBREL
   .connect 4 c09S,                                                   -- 8  S is taken over: PUBREL 1 resent
   .recv 4 (.pubcomp 1 0)]                                            -- 9  S: PUBCOMP 1 — the exchange ends

/-- the state after the first `n` ops -/
def c09St (n : Nat) : Server := run (init {}) (c09History.take n)

theorem C09_demo_fresh : OpsFresh (init {}) c09History := by decide +kernel

theorem C09_demo_schedOK : OpsSchedOK (init {}) c09History := by decide +kernel

/-- before the delivery (prefixes 0 … 3) the session holds no record -/
theorem C09_demo_not_holds_before :
    ¬ Holds (run (init {}) (c09History.take 0)) [115] 1 [97] ∧
    ¬ Holds (run (init {}) (c09History.take 1)) [115] 1 [97] ∧
    ¬ Holds (run (init {}) (c09History.take 2)) [115] 1 [97] ∧
    ¬ Holds (run (init {}) (c09History.take 3)) [115] 1 [97] := by decide +kernel

/-- from the delivery (prefix 4) up to just before the PUBCOMP (prefix 9) the session holds the record -/
theorem C09_demo_holds :
    Holds (run (init {}) (c09History.take 4)) [115] 1 [97] ∧
    Holds (run (init {}) (c09History.take 5)) [115] 1 [97] ∧
    Holds (run (init {}) (c09History.take 6)) [115] 1 [97] ∧
    Holds (run (init {}) (c09History.take 7)) [115] 1 [97] ∧
    Holds (run (init {}) (c09History.take 8)) [115] 1 [97] ∧
    Holds (run (init {}) (c09History.take 9)) [115] 1 [97] := by decide +kernel

/-- after the PUBCOMP it does not -/
theorem C09_demo_not_holds_after : ¬ Holds (run (init {}) c09History) [115] 1 [97] := by decide +kernel

/-- the record is the PUBLISH up to the PUBREC and the PUBREL after it -/
theorem C09_demo_record_types :
    (flGet (getObj (c09St 4) 1) 1).map (·.type) = some 3 ∧
    (flGet (getObj (c09St 7) 3) 1).map (·.type) = some 3 ∧
    (flGet (getObj (c09St 8) 3) 1).map (·.type) = some 6 ∧
    (flGet (getObj (c09St 9) 4) 1).map (·.type) = some 6 ∧
    flGet (getObj (c09St 10) 4) 1 = none := by decide +kernel

/-- none of the ops before the PUBCOMP may end the exchange … -/
theorem C09_demo_not_ends :
    ∀ n ∈ List.range 9, ¬ Ends (run (init {}) (c09History.take n)) [115] 1 (c09History.getD n (.tick "" 0)) := by
  decide +kernel

/-- … and the PUBCOMP may -/
theorem C09_demo_ends :
    Ends (run (init {}) (c09History.take 9)) [115] 1 (.recv 4 (.pubcomp 1 0)) := by decide +kernel

/-- is this output a PUBLISH with packet identifier `id` written to connection `conn`? -/
def isPublishTo (conn id : Nat) : Out → Bool
  | .wrote c (.publish _ m _) => c == conn && m.id == id
  | _ => false

/-- the resuming CONNECT (connection 3) resends PUBLISH 1 with DUP set and the payload -/
theorem C09_demo_resume_resends_dup :
    (step (run (init {}) (c09History.take 6)) (.connect 3 c09S)).2.any (fun o =>
      match o with
      | .wrote 3 (.publish 5 m _) => m.dup && m.id == 1 && m.payload == [97] && m.qos == 2
      | _ => false) = true := by decide +kernel

/-- the first delivery (op 3) wrote it to connection 1 without DUP -/
theorem C09_demo_first_delivery_no_dup :
    (step (run (init {}) (c09History.take 3)) (.recv 2 (.publish 2 false false 1 [116] [97] 0 none))).2.any (fun o =>
      match o with
      | .wrote 1 (.publish 5 m _) => !m.dup && m.id == 1 && m.payload == [97] && m.qos == 2
      | _ => false) = true := by decide +kernel

/-- the PUBREC (op 7) is answered with PUBREL 1 -/
theorem C09_demo_pubrec_answered :
    Out.wrote 3 (.ack 5 6 1 0) ∈ (step (run (init {}) (c09History.take 7)) (.recv 3 (.pubrec 1 0))).2 := by decide +kernel

/-- the take-over CONNECT (connection 4) resends PUBREL 1 and no PUBLISH 1 -/
theorem C09_demo_takeover_resends_pubrel :
    Out.wrote 4 (.ack 5 6 1 0) ∈ (step (run (init {}) (c09History.take 8)) (.connect 4 c09S)).2 ∧
    (step (run (init {}) (c09History.take 8)) (.connect 4 c09S)).2.any (isPublishTo 4 1) = false := by decide +kernel

/-- the ops named in the statements above are the ops of the history -/
theorem C09_demo_ops :
    c09History.getD 3 (.tick "" 0) = .recv 2 (.publish 2 false false 1 [116] [97] 0 none) ∧
    c09History.getD 6 (.tick "" 0) = .connect 3 c09S ∧
    c09History.getD 7 (.tick "" 0) = .recv 3 (.pubrec 1 0) ∧
    c09History.getD 8 (.tick "" 0) = .connect 4 c09S ∧
    c09History.getD 9 (.tick "" 0) = .recv 4 (.pubcomp 1 0) ∧ c09History.length = 10 :=
  ⟨rfl, rfl, rfl, rfl, rfl, rfl⟩

/-! ### 2. F09 -/

def HoldsAny (s : Server) (cid : Str) (k : Nat) (p : Str) : Prop :=
  ∃ i, assocGet s.clients cid = some i ∧ ∃ m, flGet (getObj s i) k = some m ∧ ((m.type = 3 ∧ m.payload = p) ∨ m.type = 6)

instance (s : Server) (cid : Str) (k : Nat) (p : Str) : Decidable (HoldsAny s cid k p) :=
  match h : assocGet s.clients cid with
  | some i =>
    match h' : flGet (getObj s i) k with
    | some m =>
      if h'' : (m.type = 3 ∧ m.payload = p) ∨ m.type = 6 then isTrue ⟨i, h, m, h', h''⟩
      else isFalse (by rintro ⟨i', hi, m', hm, hr⟩; rw [h] at hi; cases hi; rw [h'] at hm; cases hm; exact h'' hr)
    | none => isFalse (by rintro ⟨i', hi, m', hm, _⟩; rw [h] at hi; cases hi; rw [h'] at hm; cases hm)
  | none => isFalse (by rintro ⟨i', hi, _⟩; rw [h] at hi; cases hi)

def f09History : List Op :=
  [.connect 1 { ver := 5, clean := false, id := [115], sei := some 100, rm := some 1 },
   .recv 1 (.subscribe 1 0 [{ filter := [116], qos := 1 }]),
   .connect 2 { ver := 5, id := [112] },
   .recv 2 (.publish 1 false false 1 [116] [97] 0 none),
   .recv 2 (.publish 1 false false 2 [116] [98] 0 none)]

/-- the state after the five ops: PUBLISH 1 delivered, PUBLISH 2 deferred -/
def f09St : Server := run (init {}) f09History


/-- **F09**: before the PUBACK the session has, under packet identifier 2, the PUBLISH with payload "b", deferred by
    Receive Maximum 1 (`expiry = -1`): `Holds` does not count it, `HoldsAny` (= `Holds` without the `0 ≤ expiry`
    clause) does.  The PUBACK of packet 1 is not an op that may end exchange 2 — yet it releases the deferred
    message (`nextImmediate`): it is written and DELETED from the in-flight list, `HoldsAny` is lost. -/
theorem C09_deferred_release_counterexample :
    OpsFresh (init {}) f09History ∧ OpsSchedOK (init {}) f09History ∧
    assocGet (run (init {}) f09History).clients [115] = some 1 ∧
    (flGet (getObj (run (init {}) f09History) 1) 2).map (fun m => (m.type, m.payload, m.expiry)) = some (3, [98], -1) ∧
    ¬ Holds (run (init {}) f09History) [115] 2 [98] ∧
    HoldsAny (run (init {}) f09History) [115] 2 [98] ∧
    ¬ Ends (run (init {}) f09History) [115] 2 (.recv 1 (.puback 1 0)) ∧
    SchedOK (run (init {}) f09History) (.recv 1 (.puback 1 0)) ∧
    ¬ HoldsAny (step (run (init {}) f09History) (.recv 1 (.puback 1 0))).1 [115] 2 [98] ∧
    flGet (getObj (step (run (init {}) f09History) (.recv 1 (.puback 1 0))).1 1) 2 = none ∧
    (step (run (init {}) f09History) (.recv 1 (.puback 1 0))).2.any (fun o =>
      match o with
      | .wrote 1 (.publish 5 m _) => m.id == 2 && m.payload == [98] && !m.dup
      | _ => false) = true := by decide +kernel

/-! ### 3. schedule ops

Explored (with `#eval`, a depth-first search over all op sequences of length ≤ 4 from an alphabet of 40 ops —
`connectHold` stage 1 / 2 and `connect` for S's client id with and without a session expiry interval, MQTT 3, with a
will; `drop`, `dropHold`, `dropHoldEarly`, `release`, `recv`, `recvCut` on S's connection and on the parked ones;
ticks — from four base states in which S holds the record; about 2·10⁶ steps, `SchedOK` respected or not): NO step
with `Holds s ∧ ¬ Ends s op ∧ ¬ Holds (step s op).1`.  `Ends` is wide enough to cover the schedules `SchedOK`
forbids: `EndsDrop` / `EndsRecv` / `EndsParked` look at the client id of the object of the connection, registered or
not.  `C09_sched_no_counterexample` is the depth-1 part of that search as a `decide` statement,
`C09_sched_parked_drop_unregisters` the one notable schedule. -/

/-- a CONNECT for S's client id WITHOUT a session expiry interval: its session ends with its connection -/
def c09S0 : Connect := { ver := 5, clean := false, id := [115] }

/-- schedules applied to the state in which S (connection 1) holds the record -/
def c09SchedPrefixes : List (List Op) :=
  [[],
   [.connectHold 5 c09S0 1],                    -- a second CONNECT for S's id, parked in the authentication hook
   [.connectHold 5 c09S 1],
   [.connectHold 5 c09S0 2],                    -- … parked after `Clients.Add`: it has inherited the session
   [.connectHold 5 c09S 2],
   [.dropHold 1],                               -- S's handler parked before its session clean-up
   [.dropHoldEarly 1],                          -- … right after its read loop
   [.dropHoldEarly 1, .connectHold 5 c09S 1],
   [.dropHold 1, .connectHold 5 c09S0 2],
   [.connectHold 5 c09S0 1, .connectHold 6 c09S 2]]

def c09SchedOps : List Op :=
  [.connectHold 6 c09S 1, .connectHold 6 c09S 2, .connectHold 6 c09S0 1, .connectHold 6 c09S0 2,
   .connect 7 c09S, .connect 7 c09S0,
   .drop 1, .drop 5, .drop 6, .dropHold 1, .dropHold 5, .dropHold 6, .dropHoldEarly 1, .dropHoldEarly 5, .dropHoldEarly 6,
   .release 1, .release 5, .release 6,
   .recv 1 (.pubrec 1 0), .recv 5 (.pubrec 1 0), .recv 5 .pingreq, .recv 5 (.disconnect 0 none),
   .recv 5 (.disconnect 4 none), .recv 2 (.publish 1 false false 3 [116] [99] 0 none),
   .recvCut 1 .pingreq, .recvCut 5 .pingreq, .tick "inflight" 1000001, .tick "clients" 1000001]

/-- no counterexample among these schedules, whether they respect `SchedOK` or not: an op that is not `Ends` keeps
    the record -/
theorem C09_sched_no_counterexample :
    ∀ pre ∈ c09SchedPrefixes, ∀ op ∈ c09SchedOps,
      OpFresh (run (init {}) (c09History.take 4 ++ pre)) op →
      Holds (run (init {}) (c09History.take 4 ++ pre)) [115] 1 [97] →
      Ends (run (init {}) (c09History.take 4 ++ pre)) [115] 1 op ∨
      Holds (step (run (init {}) (c09History.take 4 ++ pre)) op).1 [115] 1 [97] := by decide +kernel

/-- the notable schedule (it violates `SchedOK`: a parked handler does not read): a second CONNECT for S's client id,
    without a session expiry interval, is parked in the authentication hook — nothing is registered for it — and its
    connection is dropped: its clean-up removes the registration of S's session (object 1, which still has the
    record), so `Holds` is lost; `Ends` counts this `drop` (`EndsDrop` looks at the client id of the object of the
    connection), so this is not a counterexample to the survival statement -/
theorem C09_sched_parked_drop_unregisters :
    Holds (run (init {}) (c09History.take 4 ++ [.connectHold 5 c09S0 1])) [115] 1 [97] ∧
    ¬ SchedOK (run (init {}) (c09History.take 4 ++ [.connectHold 5 c09S0 1])) (.drop 5) ∧
    Ends (run (init {}) (c09History.take 4 ++ [.connectHold 5 c09S0 1])) [115] 1 (.drop 5) ∧
    ¬ Holds (step (run (init {}) (c09History.take 4 ++ [.connectHold 5 c09S0 1])) (.drop 5)).1 [115] 1 [97] ∧
    assocGet (step (run (init {}) (c09History.take 4 ++ [.connectHold 5 c09S0 1])) (.drop 5)).1.clients [115] = none ∧
    Rec (getObj (step (run (init {}) (c09History.take 4 ++ [.connectHold 5 c09S0 1])) (.drop 5)).1 1) 1 [97] := by
  decide +kernel

/-- the same CONNECT released instead (this respects `SchedOK`): it takes the session over, the record moves to its
    object (3) and is resent with DUP; not `Ends`, and `Holds` is kept -/
theorem C09_sched_parked_release_keeps :
    OpsSchedOK (init {}) (c09History.take 4 ++ [.connectHold 5 c09S0 1, .release 5]) ∧
    ¬ Ends (run (init {}) (c09History.take 4 ++ [.connectHold 5 c09S0 1])) [115] 1 (.release 5) ∧
    Holds (step (run (init {}) (c09History.take 4 ++ [.connectHold 5 c09S0 1])) (.release 5)).1 [115] 1 [97] ∧
    (step (run (init {}) (c09History.take 4 ++ [.connectHold 5 c09S0 1])) (.release 5)).2.any (fun o =>
      match o with
      | .wrote 5 (.publish 5 m _) => m.dup && m.id == 1 && m.payload == [97]
      | _ => false) = true := by decide +kernel

/-- the hypothesis `Holds` of `C09_sched_no_counterexample` is met: S holds the record after each of the schedules -/
theorem C09_sched_prefixes_hold :
    ∀ pre ∈ c09SchedPrefixes, OpsFresh (init {}) (c09History.take 4 ++ pre) ∧
      Holds (run (init {}) (c09History.take 4 ++ pre)) [115] 1 [97] := by decide +kernel

end Mochi.Broker
