import Mochi.Model.WriteBuf
/-!
# C34 — Accepted output is flushed and every dropped message is reported

Model M11 (`Model/WriteBuf.lean`): the pending-write queue, `WriteLoop` and the buffering decision of
`Client.WritePacket` for one client, a packet being its encoded size. Everything below is for **every**
history of enqueues, write-loop steps and direct handler writes, every buffer size, every Maximum
Packet Size and every packet size.

* `C34_conservation` — nothing is lost or duplicated between "reported sent" and the connection: what was
  reported is on the connection or in the write buffer.
* `C34_flushed` — with the repaired write loop (`fix: the write loop flushes buffered output when it
  refuses the last queued packet`), in every quiescent state (nothing queued, nothing in the write
  loop's hand) the buffer is empty, so everything reported as sent has reached the connection.
* `C34_flushed_unrepaired_counterexample` — the code before the repair strands a buffered packet
  when the last queued packet is refused as too large (the recorded defect F34a, replayed on the real
  code by the `writebuf` correspondence suite).
* `C34_drops_unreported_counterexample` — a packet refused by the size test is dropped without any hook
  event (known finding F34b); `C34_refusals_never_reported` says no history ever reports one.
-/
namespace Mochi.WriteBuf

/-- a state as `newClient` makes it -/
def fresh (wbuf maxSize : Nat) : WP := { wbuf := wbuf, maxSize := maxSize }

def buffered (s : WP) : Nat := s.outbuf.getD 0

/-- the conservation invariant -/
def Cons (s : WP) : Prop := s.conn + buffered s = s.reported

/-- a non-empty buffer is only ever left behind while more is queued or in hand -/
def Pending (s : WP) : Prop := s.outbuf ≠ none → (s.queue ≠ [] ∨ s.inHand ≠ none)

theorem flush_eq (s : WP) : flush s = { s with outbuf := none, conn := s.conn + buffered s } := by
  obtain ⟨wbuf, maxSize, queue, inHand, outbuf, conn, reported, dropped, dropReports⟩ := s
  cases outbuf <;> rfl

theorem flush_cons (s : WP) (h : Cons s) : Cons (flush s) := by
  rw [flush_eq]; exact h

theorem flush_outbuf (s : WP) : (flush s).outbuf = none := by
  rw [flush_eq]

theorem flush_queue (s : WP) : (flush s).queue = s.queue ∧ (flush s).inHand = s.inHand := by
  rw [flush_eq]; exact ⟨rfl, rfl⟩

theorem flush_dropReports (s : WP) : (flush s).dropReports = s.dropReports := by
  rw [flush_eq]

/-- the packet joins what is buffered and is reported as sent -/
def buffer (s : WP) (size : Nat) : WP :=
  { s with reported := s.reported + size, outbuf := some (buffered s + size) }

/-- **what `WritePacket` does**: it refuses the packet; or the packet joins the buffer, and the buffer is then
    flushed, or kept — kept only while something is queued -/
theorem writePacket_cases (s : WP) (size : Nat) :
    writePacket s size = ({ s with dropped := s.dropped + 1 }, .tooLarge) ∨
    (writePacket s size = (buffer s size, .sent) ∧ s.queue ≠ []) ∨
    writePacket s size = (flush (buffer s size), .sent) := by
  unfold writePacket
  split
  · exact Or.inl rfl
  · right
    obtain ⟨wbuf, maxSize, queue, inHand, outbuf, conn, reported, dropped, dropReports⟩ := s
    cases outbuf with
    | none =>
      dsimp only [buffer, buffered, flush, Option.getD]
      rw [Nat.zero_add]
      split
      · exact Or.inr rfl
      · split
        · exact Or.inr rfl
        · rename_i hq _; exact Or.inl ⟨rfl, fun e => hq (by rw [e]; rfl)⟩
    | some b =>
      dsimp only [buffer, buffered, flush, Option.getD]
      split
      · exact Or.inr rfl
      · split
        · rename_i hq _; exact Or.inl ⟨rfl, fun e => hq (by rw [e]; rfl)⟩
        · exact Or.inr rfl

theorem buffer_cons (s : WP) (size : Nat) (h : Cons s) : Cons (buffer s size) := by
  show s.conn + (buffered s + size) = s.reported + size
  rw [← Nat.add_assoc, h]

theorem writePacket_cons (s : WP) (size : Nat) (h : Cons s) : Cons (writePacket s size).1 := by
  rcases writePacket_cases s size with e | ⟨e, _⟩ | e <;> rw [e]
  · exact h
  · exact buffer_cons s size h
  · exact flush_cons _ (buffer_cons s size h)

theorem writePacket_queue (s : WP) (size : Nat) :
    (writePacket s size).1.queue = s.queue ∧ (writePacket s size).1.inHand = s.inHand := by
  rcases writePacket_cases s size with e | ⟨e, _⟩ | e <;> rw [e]
  · exact ⟨rfl, rfl⟩
  · exact ⟨rfl, rfl⟩
  · exact flush_queue _

theorem writePacket_flushes (s : WP) (size : Nat) (hq : s.queue = [])
    (hr : (writePacket s size).2 = .sent) : (writePacket s size).1.outbuf = none := by
  rcases writePacket_cases s size with e | ⟨_, hne⟩ | e
  · rw [e] at hr; exact nomatch hr
  · exact absurd hq hne
  · rw [e]; exact flush_outbuf _

theorem writePacket_refused (s : WP) (size : Nat) (hr : (writePacket s size).2 = .tooLarge) :
    (writePacket s size).1.outbuf = s.outbuf := by
  rcases writePacket_cases s size with e | ⟨e, _⟩ | e <;> rw [e] at hr ⊢
  · exact nomatch hr
  · exact nomatch hr

theorem writePacket_dropReports (s : WP) (size : Nat) : (writePacket s size).1.dropReports = s.dropReports := by
  rcases writePacket_cases s size with e | ⟨e, _⟩ | e
  · rw [e]
  · rw [e]; rfl
  · rw [e]; exact flush_dropReports _

/-- a step of the write loop with a packet in hand, in terms of `writePacket` on the state without it: the
    result of that call, flushed when the packet was refused, nothing is queued and the loop is the repaired one -/
theorem loopWrite_some (b : Bool) (s : WP) (size : Nat) (hh : s.inHand = some size) :
    (loopWrite b s = (writePacket { s with inHand := none } size).1 ∧
      ((writePacket { s with inHand := none } size).2 = .sent ∨ b = false ∨
        (writePacket { s with inHand := none } size).1.queue ≠ [])) ∨
    (loopWrite b s = flush (writePacket { s with inHand := none } size).1) := by
  unfold loopWrite
  rw [hh]
  dsimp only
  cases hr : (writePacket { s with inHand := none } size).2
  · exact Or.inl ⟨rfl, Or.inl rfl⟩
  · dsimp only
    cases b
    · exact Or.inl ⟨rfl, Or.inr (Or.inl rfl)⟩
    · cases hq : (writePacket { s with inHand := none } size).1.queue
      · exact Or.inr rfl
      · exact Or.inl ⟨rfl, Or.inr (Or.inr nofun)⟩

/-- what every history keeps: conservation, no drop ever reported, and — with the repaired write loop — no buffer left
    behind while nothing is queued or in hand -/
structure Inv (b : Bool) (s : WP) : Prop where
  cons : Cons s
  noRep : s.dropReports = 0
  pend : b = true → Pending s

theorem inv_step (b : Bool) (s : WP) (op : Op) (h : Inv b s) : Inv b (step b s op) := by
  cases op with
  | enqueue size =>
    exact ⟨h.cons, h.noRep, fun _ _ => Or.inl (List.append_ne_nil_of_right_ne_nil _ (List.cons_ne_nil _ _))⟩
  | dequeue =>
    simp only [step]
    split
    · exact ⟨h.cons, h.noRep, fun _ _ => Or.inr nofun⟩
    · exact h
  | loopWrite =>
    show Inv b (loopWrite b s)
    cases hh : s.inHand with
    | none => unfold loopWrite; rw [hh]; exact h
    | some size =>
      have hc := writePacket_cons { s with inHand := none } size h.cons
      have hd := (writePacket_dropReports { s with inHand := none } size).trans h.noRep
      have hq := writePacket_queue { s with inHand := none } size
      rcases loopWrite_some b s size hh with ⟨e, hr | hb | hqe⟩ | e <;> rw [e]
      · refine ⟨hc, hd, fun _ hne => ?_⟩
        by_cases hqe : s.queue = []
        · exact absurd (writePacket_flushes { s with inHand := none } size hqe hr) hne
        · exact Or.inl (by rw [hq.1]; exact hqe)
      · exact ⟨hc, hd, fun hb' => nomatch hb.symm.trans hb'⟩
      · exact ⟨hc, hd, fun _ _ => Or.inl hqe⟩
      · exact ⟨flush_cons _ hc, (flush_dropReports _).trans hd, fun _ hne => absurd (flush_outbuf _) hne⟩
  | direct size =>
    refine ⟨writePacket_cons s size h.cons, (writePacket_dropReports s size).trans h.noRep, fun hb hne => ?_⟩
    have hq := writePacket_queue s size
    show (writePacket s size).1.queue ≠ [] ∨ (writePacket s size).1.inHand ≠ none
    rw [hq.1, hq.2]
    cases hr : (writePacket s size).2
    · by_cases hqe : s.queue = []
      · exact absurd (writePacket_flushes s size hqe hr) hne
      · exact Or.inl hqe
    · exact h.pend hb (writePacket_refused s size hr ▸ hne)

theorem inv_run (b : Bool) (wbuf maxSize : Nat) (ops : List Op) : Inv b (run b (fresh wbuf maxSize) ops) :=
  ops.foldlRecOn (step b) ⟨by simp [Cons, buffered, fresh], rfl, fun _ h => by simp [fresh] at h⟩
    fun s h op _ => inv_step b s op h

/-- **Conservation.** In every reachable state, what has been reported as sent is exactly what is on
    the connection plus what waits in the write buffer — with or without the repair. -/
theorem C34_conservation (b : Bool) (wbuf maxSize : Nat) (ops : List Op) :
    let s := run b (fresh wbuf maxSize) ops
    s.conn + buffered s = s.reported :=
  (inv_run b wbuf maxSize ops).cons

/-- **Flushed at quiescence (repaired write loop).** For every history: when nothing is queued and the
    write loop holds nothing, the write buffer is empty and every byte reported as sent has been
    written to the connection. -/
theorem C34_flushed (wbuf maxSize : Nat) (ops : List Op) :
    let s := run true (fresh wbuf maxSize) ops
    quiescent s = true → s.outbuf = none ∧ s.conn = s.reported := by
  intro s hq
  have hI : Inv true s := inv_run true wbuf maxSize ops
  have hnone : s.outbuf = none := Decidable.by_contra fun hne => by
    simp [quiescent] at hq
    exact (hI.pend rfl hne).elim (· hq.1) (· hq.2)
  refine ⟨hnone, ?_⟩
  simpa [Cons, buffered, hnone] using hI.cons

/-- **F34a (the defect the repair removes).** Before the repair: a small packet is buffered because
    another one is queued behind it; that one is larger than the client's Maximum Packet Size and is
    refused; the broker is quiescent and the first packet — reported as sent — never reached the
    connection. -/
theorem C34_flushed_unrepaired_counterexample :
    let s := run false (fresh 2048 50) [.enqueue 12, .enqueue 200, .dequeue, .loopWrite, .dequeue, .loopWrite]
    quiescent s = true ∧ s.outbuf = some 12 ∧ s.conn = 0 ∧ s.reported = 12 := by decide +kernel

/-- the same history on the repaired write loop -/
example :
    let s := run true (fresh 2048 50) [.enqueue 12, .enqueue 200, .dequeue, .loopWrite, .dequeue, .loopWrite]
    quiescent s = true ∧ s.outbuf = none ∧ s.conn = 12 ∧ s.reported = 12 := by decide +kernel

/-- non-vacuity: a history in which buffering really happens and quiescence is reached -/
example :
    let s := run true (fresh 16 0) [.enqueue 5, .enqueue 6, .enqueue 7, .dequeue, .loopWrite, .direct 9, .dequeue, .loopWrite, .dequeue, .loopWrite]
    quiescent s = true ∧ s.conn = 27 ∧ s.reported = 27 := by decide +kernel

/-- no history ever reports a refused packet to the hooks (the code has no such call) -/
theorem C34_refusals_never_reported (b : Bool) (wbuf maxSize : Nat) (ops : List Op) :
    (run b (fresh wbuf maxSize) ops).dropReports = 0 :=
  (inv_run b wbuf maxSize ops).noRep

/-- **F34b (known finding).** "Each such drop is reported to the hooks" fails: a queued message larger
    than the client's Maximum Packet Size is dropped without being written and without a hook event. -/
theorem C34_drops_unreported_counterexample :
    let s := run true (fresh 2048 50) [.enqueue 200, .dequeue, .loopWrite]
    s.dropped = 1 ∧ s.dropReports = 0 ∧ s.conn = 0 := by decide +kernel

end Mochi.WriteBuf
