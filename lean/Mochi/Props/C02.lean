import Mochi.Lemmas.Refine
import Mochi.Lemmas.ScanMsgs
/-!
# C02 — Retained messages returned on subscribe are exactly those matching the filter

Model: `messages` = `TopicsIndex.Messages` / `scanMessages` of topics.go over the flattened particle
trie (after `fix: retained message scan includes the parent topic for a trailing # and skips every $
topic for leading wildcards`). Spec: the retained map of the plain reference index (`absRun`) filtered
by `specMatch` — the very matcher C01 uses for live delivery.

Everything is for **every** history of index operations (subscriptions, unsubscriptions, inline
subscriptions, retained publishes and clears, unbounded), whose retained publishes carry a non-empty
topic name, and **every** filter that is non-empty and uses wildcards only as whole levels with `#`
last (`specLevelsOK`).  Helper lemmas: `Lemmas/ScanMsgs.lean` (the scan visits exactly the matching
particles, each once — `scanMsgs_perm`), `Lemmas/Refine.lean` (the trie refines the plain maps).
-/
namespace Mochi.Topics

theorem Abs.subscribe_retained (a : Abs) (c : Str) (s : Sub) : (a.subscribe c s).1.retained = a.retained := by
  unfold Abs.subscribe
  exact iteInduction (motive := fun r : Abs × Bool => r.1.retained = a.retained) (fun _ => rfl) (fun _ => rfl)

theorem Abs.unsubscribe_retained (a : Abs) (f c : Str) : (a.unsubscribe f c).1.retained = a.retained := by
  unfold Abs.unsubscribe
  exact iteInduction (motive := fun r : Abs × Bool => r.1.retained = a.retained)
    (fun _ => iteInduction (motive := fun r : Abs × Bool => r.1.retained = a.retained) (fun _ => rfl) (fun _ => rfl))
    (fun _ => rfl)

theorem retained_keys (ops : List IOp) :
    ∀ t r, assocGet (runOps ops).retained t = some r → r.topic = t :=
  runOps_retained_ind (P := KeysOK) ops nofun (fun _ t p fl _ h => keysOK_set h t p fl)
    (fun _ t _ _ _ h => keysOK_del h t)

theorem retained_noempty (ops : List IOp) (hret : ∀ t p fl, IOp.retain t p fl ∈ ops → t ≠ []) :
    (assocGet (runOps ops).retained []).isNone = true := by
  refine runOps_retained_ind (P := fun m => (assocGet m []).isNone = true) ops rfl ?_ ?_
  · intro m t p fl ht h
    rw [assocGet_assocSet, if_neg (hret t p fl ht).symm]; exact h
  · intro m t p fl ht h
    rw [assocGet_assocDel, if_neg (hret t p fl ht).symm]; exact h

theorem mem_messagesFor (a : Abs) (f t : Str) :
    t ∈ a.messagesFor f ↔ (∃ r, (t, r) ∈ a.retained) ∧ specMatch (splitLevels f) t = true := by
  unfold Abs.messagesFor
  simp only [List.mem_map, List.mem_filter]
  constructor
  · rintro ⟨⟨t', r⟩, ⟨hm, hs⟩, rfl⟩
    exact ⟨⟨r, hm⟩, hs⟩
  · rintro ⟨⟨r, hm⟩, hs⟩
    exact ⟨(t, r), ⟨hm, hs⟩, rfl⟩

/-- **Exactly the matching retained messages.** For every history and every well-formed filter, a
    topic is among the retained messages `Messages(filter)` returns iff it is currently retained and
    the filter matches it under the rules of live delivery (`specMatch`: levels one by one, `+` one
    level, trailing `#` parent and children, leading wildcards never match `$` topics). -/
theorem C02_messages_exact (ops : List IOp) (hret : ∀ t p fl, IOp.retain t p fl ∈ ops → t ≠ [])
    (f : Str) (hf : f ≠ []) (hok : specLevelsOK (splitLevels f) = true) (t : Str) :
    (∃ r ∈ messages (runOps ops) f, r.topic = t) ↔ t ∈ (absRun ops).messagesFor f := by
  have R := refines_runOps_all ops
  rw [messages_exact (runOps ops) (prefixClosed_runOps ops) (nodupPaths_runOps ops)
        (fun n hn hne => (R.retainPath_sound n hn hne).1) R.retained_has_node (retained_keys ops)
        (retained_noempty ops hret) f hf hok t,
      mem_messagesFor, ← R.retained, ← assocGet_isSome_iff]
  simp only [specMatch, Bool.and_eq_true, Bool.not_eq_true']

/-- **Each exactly once.** -/
theorem C02_each_once (ops : List IOp) (hret : ∀ t p fl, IOp.retain t p fl ∈ ops → t ≠ [])
    (f : Str) (hok : specLevelsOK (splitLevels f) = true) :
    ((messages (runOps ops) f).map (·.topic)).Nodup := by
  have R := refines_runOps_all ops
  exact messages_nodup (runOps ops) (prefixClosed_runOps ops) (nodupPaths_runOps ops)
    (fun n hn hne => (R.retainPath_sound n hn hne).1)
    (retained_keys ops) (retained_noempty ops hret) f hok

/-- **The current value.** Every returned packet is the retained map's current record for its topic —
    the latest retained publish (C05 ties the map itself to the publish history). -/
theorem C02_current (ops : List IOp) (f : Str) (r : Retained) (hr : r ∈ messages (runOps ops) f) :
    assocGet (absRun ops).retained r.topic = some r := by
  rw [← (refines_runOps_all ops).retained]
  exact messages_current (runOps ops) (retained_keys ops) f r hr

/-- **Same rules as live delivery.** A retained topic is returned for filter `f` exactly when a
    subscription made with `f` is one the declarative matcher selects for a publish on that topic. -/
theorem C02_same_as_live (ops : List IOp) (hret : ∀ t p fl, IOp.retain t p fl ∈ ops → t ≠ [])
    (f : Str) (hf : f ≠ []) (hok : specLevelsOK (splitLevels f) = true) (t : Str)
    (hcur : (assocGet (absRun ops).retained t).isSome = true) :
    (∃ r ∈ messages (runOps ops) f, r.topic = t) ↔ specMatch (splitLevels f) t = true := by
  rw [C02_messages_exact ops hret f hf hok t, mem_messagesFor]
  exact and_iff_right ((assocGet_isSome_iff _ _).1 hcur)

/-! the witnesses of the repaired defects: retained on `a`, `a/b`, `$x/y`; a clear; then
    `a/#` returns `a` and `a/b`, `+/#` and `#` never return `$x/y`, `$x/#` does. -/
def exOps : List IOp :=
  [.retain [97] [1] true, .retain [97, 47, 98] [2] true, .retain [36, 120, 47, 121] [3] true,
   .subscribe [99] { filter := [97, 47, 43] }, .retain [99] [4] true, .retain [99] [] true]

example : ∀ t p fl, IOp.retain t p fl ∈ exOps → t ≠ [] := by
  intro t p fl h
  simp [exOps] at h
  rcases h with h | h | h | h | h <;> simp [h.1]
example : ((messages (runOps exOps) [97, 47, 35]).map (·.topic)) = [[97], [97, 47, 98]] := by decide +kernel
example : ((messages (runOps exOps) [43, 47, 35]).map (·.topic)) = [[97], [97, 47, 98]] := by decide +kernel
example : ((messages (runOps exOps) [35]).map (·.topic)) = [[97], [97, 47, 98]] := by decide +kernel
example : ((messages (runOps exOps) [36, 120, 47, 35]).map (·.topic)) = [[36, 120, 47, 121]] := by decide +kernel
example : (absRun exOps).messagesFor [35] = [[97], [97, 47, 98]] := by decide +kernel
example : specLevelsOK (splitLevels [43, 47, 35]) = true := by decide +kernel

end Mochi.Topics
