import Mochi.Model.Codec
/-!
# C42 — Every valid encoding a client may send is decoded as the sender meant

Model: `Mochi.Codec.decodeBody` (after the repairs "fix: DisconnectDecode reads a reason code sent
without a property length" and "fix: AuthDecode accepts the shortened AUTH forms…").
Proved here: the shortened forms the specification permits decode to the packet the sender meant
(for every reason code and packet identifier).  That the property decoder does not depend on the
order in which non-repeatable properties arrive is tied by correspondence only, not proved.
-/
namespace Mochi.Codec

/-- equality of decoded packets up to the `remaining` field of the fixed header (which records the
    length of the encoding that was used, not what the sender meant) -/
def sameMeaning (a b : Dec Packet) : Prop :=
  match a, b with
  | .ok x, .ok y => { x with fixedHeader := { x.fixedHeader with remaining := 0 } } =
                    { y with fixedHeader := { y.fixedHeader with remaining := 0 } }
  | _, _ => False

/-- DISCONNECT with remaining length 1: the reason code is the sender's, no properties -/
theorem C42_disconnect_reason_only (rc : Nat) :
    decodeBody 5 { type := 14, remaining := 1 } [rc] =
      .ok { protocolVersion := 5, fixedHeader := { type := 14, remaining := 1 }, reasonCode := rc } := rfl

/-- in particular `E0 01 04` is a disconnect *with will message* -/
theorem C42_disconnect_will :
    (decodeBody 5 { type := 14, remaining := 1 } [4]).map (·.reasonCode) = .ok 4 := by
  rw [C42_disconnect_reason_only]; rfl

/-- DISCONNECT with remaining length 0: reason 0x00 (normal disconnection), no properties -/
theorem C42_disconnect_empty :
    decodeBody 5 { type := 14, remaining := 0 } [] =
      .ok { protocolVersion := 5, fixedHeader := { type := 14, remaining := 0 } } := rfl

/-- the short and the long form of DISCONNECT mean the same -/
theorem C42_disconnect_short_eq_long (rc : Nat) :
    sameMeaning (decodeBody 5 { type := 14, remaining := 1 } [rc])
                (decodeBody 5 { type := 14, remaining := 2 } [rc, 0]) := rfl

/-- AUTH with remaining length 0 (reason 0x00 implied) and 1 (reason only) -/
theorem C42_auth_empty :
    decodeBody 5 { type := 15, remaining := 0 } [] =
      .ok { protocolVersion := 5, fixedHeader := { type := 15, remaining := 0 } } := rfl

theorem C42_auth_reason_only (rc : Nat) :
    decodeBody 5 { type := 15, remaining := 1 } [rc] =
      .ok { protocolVersion := 5, fixedHeader := { type := 15, remaining := 1 }, reasonCode := rc } := rfl

/-- acknowledgements (PUBACK, PUBREC, PUBREL, PUBCOMP) with remaining length 2: identifier only,
    reason 0x00 implied -/
theorem C42_ack_id_only (t : Nat) (ht : t = 4 ∨ t = 5 ∨ t = 6 ∨ t = 7) (q hi lo : Nat) :
    decodeBody 5 { type := t, qos := q, remaining := 2 } [hi, lo] =
      .ok { protocolVersion := 5, fixedHeader := { type := t, qos := q, remaining := 2 }, packetID := hi * 256 + lo } := by
  rcases ht with rfl | rfl | rfl | rfl <;> rfl

/-- … and with remaining length 3: identifier and the sender's reason code -/
theorem C42_ack_id_reason (t : Nat) (ht : t = 4 ∨ t = 5 ∨ t = 6 ∨ t = 7) (q hi lo rc : Nat) :
    decodeBody 5 { type := t, qos := q, remaining := 3 } [hi, lo, rc] =
      .ok { protocolVersion := 5, fixedHeader := { type := t, qos := q, remaining := 3 },
            packetID := hi * 256 + lo, reasonCode := rc } := by
  rcases ht with rfl | rfl | rfl | rfl <;> rfl

/-- the three permitted forms of an acknowledgement with reason 0 and no properties mean the same -/
theorem C42_ack_forms_agree (t : Nat) (ht : t = 4 ∨ t = 5 ∨ t = 6 ∨ t = 7) (q hi lo : Nat) :
    sameMeaning (decodeBody 5 { type := t, qos := q, remaining := 2 } [hi, lo])
                (decodeBody 5 { type := t, qos := q, remaining := 3 } [hi, lo, 0]) ∧
    sameMeaning (decodeBody 5 { type := t, qos := q, remaining := 2 } [hi, lo])
                (decodeBody 5 { type := t, qos := q, remaining := 4 } [hi, lo, 0, 0]) := by
  rw [C42_ack_id_only t ht, C42_ack_id_reason t ht]
  refine ⟨rfl, ?_⟩
  rcases ht with rfl | rfl | rfl | rfl <;> rfl

/-- MQTT 3.1.1 acknowledgements are the identifier only -/
theorem C42_ack_v4 (t : Nat) (ht : t = 4 ∨ t = 5 ∨ t = 6 ∨ t = 7) (q hi lo : Nat) :
    decodeBody 4 { type := t, qos := q, remaining := 2 } [hi, lo] =
      .ok { protocolVersion := 4, fixedHeader := { type := t, qos := q, remaining := 2 }, packetID := hi * 256 + lo } := by
  rcases ht with rfl | rfl | rfl | rfl <;> rfl

end Mochi.Codec
