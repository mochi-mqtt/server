import Mochi.Lemmas.Varint
/-!
# C29 — Variable byte integers are canonical and bounded

Model: `Mochi.Varint.encodeLength` / `decodeLength` (packets/codec.go `encodeLength`, `DecodeLength`,
after the repair "fix: DecodeLength rejects variable byte integers longer than four bytes").
Spec: `specDecode` (at most four base-128 digits), `minLen`.
All theorems are for every value / every byte string — no enumeration.
-/
namespace Mochi.Varint

/-- The decoder is the reference decoder, for every byte string. -/
theorem C29_decode_refines_spec (bs : List Nat) (hb : ∀ b ∈ bs, b < 256) :
    decodeLength bs = specDecode bs := by
  unfold decodeLength
  match bs, hb with
  | [], _ => rfl
  | [a], hb =>
    rw [decodeLoop_step a _ 0 0 (by omega) (hb a (by simp)) (by omega)]
    simp [specDecode, decodeLoop]
  | [a, b], hb =>
    rw [decodeLoop_step a _ 0 0 (by omega) (hb a (by simp)) (by omega),
      decodeLoop_step b _ 1 _ (by omega) (hb b (by simp)) (by omega)]
    simp [specDecode, decodeLoop]
  | [a, b, c], hb =>
    rw [decodeLoop_step a _ 0 0 (by omega) (hb a (by simp)) (by omega),
      decodeLoop_step b _ 1 _ (by omega) (hb b (by simp)) (by omega),
      decodeLoop_step c _ 2 _ (by omega) (hb c (by simp)) (by omega)]
    simp [specDecode, decodeLoop]
  | a :: b :: c :: d :: rest, hb =>
    rw [decodeLoop_step a _ 0 0 (by omega) (hb a (by simp)) (by omega),
      decodeLoop_step b _ 1 _ (by omega) (hb b (by simp)) (by omega),
      decodeLoop_step c _ 2 _ (by omega) (hb c (by simp)) (by omega),
      decodeLoop_step d _ 3 _ (by omega) (hb d (by simp)) (by omega)]
    simp [specDecode]

/-- **Canonical and round-trips**: every value 0 … 268,435,455 is written in the minimum number of
    bytes (1–4) and decodes back to itself, consuming exactly those bytes. -/
theorem C29_roundtrip_minimal (n : Nat) (h : n ≤ maxVBI) :
    (encodeLength n).length = minLen n ∧ decodeLength (encodeLength n) = .ok (n, minLen n) := by
  refine ⟨encodeLength_length n h, ?_⟩
  have := decodeLoop_encode n 0 0 [] (by omega) (by unfold maxVBI at h; omega) (by omega)
  rw [List.append_nil, encodeLength_length n h] at this
  simpa [decodeLength] using this

theorem specDecode_ok (bs : List Nat) (hb : ∀ b ∈ bs, b < 256) (n k : Nat)
    (h : specDecode bs = .ok (n, k)) : 1 ≤ k ∧ k ≤ 4 ∧ k ≤ bs.length ∧ n ≤ maxVBI := by
  rw [← C29_decode_refines_spec bs hb] at h
  obtain ⟨h1, h4, hl, hn, _⟩ := decodeLength_spec bs n k h
  exact ⟨h1, h4, hl, hn⟩

/-- Encodings longer than four bytes are rejected: an accepted input used at most four bytes, all of
    them present in the input. -/
theorem C29_reject_overlong (bs : List Nat) (hb : ∀ b ∈ bs, b < 256) (n k : Nat)
    (h : decodeLength bs = .ok (n, k)) : 1 ≤ k ∧ k ≤ 4 ∧ k ≤ bs.length := by
  have := specDecode_ok bs hb n k (C29_decode_refines_spec bs hb ▸ h)
  omega

/-- Values above the maximum are never produced. -/
theorem C29_reject_large (bs : List Nat) (hb : ∀ b ∈ bs, b < 256) (n k : Nat)
    (h : decodeLength bs = .ok (n, k)) : n ≤ maxVBI :=
  (specDecode_ok bs hb n k (C29_decode_refines_spec bs hb ▸ h)).2.2.2

/-- In particular five continuation bytes followed by a terminator (the pre-repair acceptance
    `80 80 80 80 00 ↦ 0`) are rejected. -/
example : decodeLength [0x80, 0x80, 0x80, 0x80, 0x00] = .error .malformed := by rfl
example : decodeLength [0xff, 0xff, 0xff, 0xff, 0x00] = .error .malformed := by rfl
/-- the largest value, in four bytes, is accepted -/
example : decodeLength [0xff, 0xff, 0xff, 0x7f] = .ok (268435455, 4) := by rfl

end Mochi.Varint
