import Mochi.Model.Broker
import Mochi.Lemmas.BrokerQosDelivery
/-!
# C04 — Delivered QoS, subscription identifiers and retain flag follow the options

Model: `shapeOut` (the shaping part of server.go `publishToClient`) and `grantedQos`
(`processSubscribe`).  Decision logic stated outright, for every publish, subscription (merged over
any number of matching subscriptions by `Sub.merge`) and server maximum.
Retained deliveries carry the subscription's identifier since the repair "fix: retained messages sent
on subscribe carry the subscription identifier" (before it `publishRetainedToClient` passed the raw
subscription whose `Identifiers` map is nil, cf. `C04_subids_none`).
-/
namespace Mochi.Broker
open Mochi.Topics

/-- delivered QoS = min(published QoS, subscription QoS, server maximum) -/
theorem C04_qos (caps : Caps) (ver : Nat) (sub : Sub) (fwd : Bool) (pk : Msg) :
    (shapeOut caps ver sub fwd pk).qos = min (min pk.qos sub.qos) caps.maximumQos :=
  shapeQos_eq_min caps sub pk.qos

theorem C04_merge_qos (a b : Sub) : (a.merge b).qos = max a.qos b.qos :=
  iteInduction (motive := fun x => x = max a.qos b.qos) (fun h => (Nat.max_eq_right (Nat.le_of_lt h)).symm)
    (fun h => (Nat.max_eq_left (Nat.le_of_not_gt h)).symm)

/-- QoS granted in SUBACK = requested QoS capped at the server maximum -/
theorem C04_suback (caps : Caps) (q : Nat) : grantedQos caps q = min q caps.maximumQos :=
  ite_gt_eq_min q caps.maximumQos

/-- live delivery clears the retain flag unless the (MQTT 5) subscription has Retain As Published;
    replayed retained messages keep it -/
theorem C04_retain_flag (caps : Caps) (ver : Nat) (hv : ver ≤ 5) (sub : Sub) (pk : Msg) :
    (shapeOut caps ver sub false pk).retain = (decide (ver = 5) && sub.rap && pk.retain) := by
  show shapeRetain ver sub false pk.retain = _
  unfold shapeRetain
  by_cases h5 : ver = 5
  · subst h5; cases sub.rap <;> rfl
  · have hlt : ver < 5 := Nat.lt_of_le_of_ne hv h5
    rw [decide_eq_true hlt, Bool.or_true, decide_eq_false h5]
    rfl

/-- replayed retained messages keep the retain flag -/
theorem C04_retain_replay (caps : Caps) (ver : Nat) (sub : Sub) (pk : Msg) :
    (shapeOut caps ver sub true pk).retain = pk.retain := by
  simp [shapeOut, shapeRetain]

/-- the delivered identifiers are exactly the identifiers recorded in the merged subscription, sorted -/
theorem C04_subids (caps : Caps) (ver : Nat) (sub : Sub) (fwd : Bool) (pk : Msg) (ids : List (Str × Nat))
    (h : sub.idents = some ids) (hne : ids ≠ []) :
    (shapeOut caps ver sub fwd pk).subIds = (ids.map (·.2)).mergeSort := by
  simp [shapeOut, shapeSubIds, h, List.length_pos_iff.mpr hne]

/-- a subscription whose identifier map was never built (retained replay) delivers no identifier -/
theorem C04_subids_none (caps : Caps) (ver : Nat) (sub : Sub) (fwd : Bool) (pk : Msg) (h : sub.idents = none) :
    (shapeOut caps ver sub fwd pk).subIds = [] := by
  simp [shapeOut, shapeSubIds, h]

/-- the QoS is capped by the subscription and by the server maximum; Retain As Published counts for MQTT 5 only -/
example : (shapeOut {} 5 { filter := [97], qos := 1 } false { qos := 2, retain := true }).qos = 1 := by decide +kernel
example : (shapeOut { maximumQos := 0 } 5 { filter := [97], qos := 2 } false { qos := 2 }).qos = 0 := by decide +kernel
example : (shapeOut {} 5 { filter := [97], qos := 1, rap := true } false { qos := 2, retain := true }).retain = true := by decide +kernel
example : (shapeOut {} 4 { filter := [97], qos := 1, rap := true } false { qos := 2, retain := true }).retain = false := by decide +kernel

/-! ## The copy that is actually WRITTEN at QoS > 0 carries the shaped QoS, retain flag and identifiers

`Q1.Live`, `Q1.verdict`, `Q1.copyOf`: `Mochi/Lemmas/BrokerQosDelivery.lean`; the classification itself is
`publishToClientCore_qos_shape` (`Props/C10.lean`). -/

/-- In case (d) of a delivery of QoS > 0 (`Q1.verdict s i = .sent pid`) to a live network client without
    outbound aliases, the ONE packet written is a PUBLISH whose QoS is `min (min pk.qos sub.qos) maximumQos`
    (`C04_qos`), whose retain flag and subscription identifiers are those of `shapeOut` (`C04_retain_flag`,
    `C04_subids`), with `dup = false`, the allocated identifier, topic and payload of the message. -/
theorem C04_delivered_qos_exact (s : Server) (i : Nat) (sub : Sub) (pk : Msg) (h : Q1.Live s i) (ht : pk.type = 3)
    (hq : shapeQos s.caps sub pk.qos > 0) (pid : Nat) (hv : Q1.verdict s i = .sent pid) :
    ∃ m me, (publishToClientCore s i sub false pk).2 = [.wrote (getObj s i).conn (.publish (getObj s i).ver m me)] ∧
      m.qos = min (min pk.qos sub.qos) s.caps.maximumQos ∧
      m.retain = (shapeOut s.caps (getObj s i).ver sub false pk).retain ∧
      m.retain = shapeRetain (getObj s i).ver sub false pk.retain ∧
      m.subIds = shapeSubIds sub ∧
      m.dup = false ∧ m.id = pid ∧ m.topic = pk.topic ∧ m.payload = pk.payload ∧ m.type = 3 := by
  have e := Q1.core_eq s i sub pk h ht hq
  unfold Q1.coreResult at e
  rw [hv] at e
  refine ⟨Q1.copyOf s i sub pk pid, _, by rw [e]; rfl, ?_, rfl, rfl, rfl, rfl, rfl, rfl, rfl, ht⟩
  exact C04_qos s.caps (getObj s i).ver sub false pk

/-- with an MQTT version ≤ 5 the retain flag of that copy is `ver = 5 ∧ rap ∧ pk.retain` -/
theorem C04_delivered_retain_exact (s : Server) (i : Nat) (sub : Sub) (pk : Msg) (pid : Nat)
    (hver : (getObj s i).ver ≤ 5) :
    (Q1.copyOf s i sub pk pid).retain = (decide ((getObj s i).ver = 5) && sub.rap && pk.retain) :=
  C04_retain_flag s.caps (getObj s i).ver hver sub pk

end Mochi.Broker

#print axioms Mochi.Broker.C04_delivered_qos_exact
