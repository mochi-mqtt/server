import Mochi.Model.Broker
import Mochi.Lemmas.BrokerSession
import Mochi.Lemmas.BrokerExitsConnect
/-!
# C35 — The connected-client limit is never exceeded (sequential part)

Model: `refuseCode` (the `MaximumClients` test of `attachClient`).  Sequentially, a connection attempt
at the limit is refused with 0x89 (MQTT 5) / 0x03 (MQTT 3, via `v3code 0x88`).  The check and the
counter increment are separate steps with validation and authentication in between (known finding F35,
recorded): under concurrent attempts the limit can be exceeded — exhibited by the schedule replay of
the concurrency suite, not by this sequential theorem.
-/
namespace Mochi.Broker

theorem C35_refused_at_limit (s : Server) (k : Connect) (c : Client) (h : s.info.connected ≥ s.caps.maximumClients) :
    refuseCode s k c = some (if k.ver < 5 then 0x88 else 0x89) := by
  unfold refuseCode; exact if_pos h

theorem C35_v3_code : v3code 0x88 = 3 := by decide

/-- below the limit the limit check does not refuse -/
theorem C35_admits_below_limit (s : Server) (k : Connect) (c : Client) (h : s.info.connected < s.caps.maximumClients)
    (code : Nat) (hr : refuseCode s k c = some code) : code ≠ 0x89 ∧ code ≠ 0x88 := by
  refine refuseCode_cases (Q := fun r => r = some code → code ≠ 0x89 ∧ code ≠ 0x88) s k c
    (fun hge => absurd h (Int.not_lt.mpr hge)) (fun _ => ?_) (fun _ => ?_) (fun _ => ?_) (fun _ => ?_) (fun _ _ => ?_)
    nofun hr
  all_goals (rintro ⟨⟩; decide)

/-- the connections that are established (open, not the inline client) -/
def established (s : Server) : Nat :=
  (s.clients.filter fun (_, i) => (getObj s i).isOpen && !(getObj s i).inline).length

def runOps (s : Server) (ops : List Op) : Server := ops.foldl (fun s op => (step s op).1) s

/-- **F35 (schedule).** Limit 1. Connection 1 passes the `MaximumClients` test and is parked in the
    authentication hook; connection 2 is established; connection 1 resumes: two established
    connections. (Replayed on the real broker on every run: corpus/C35.) -/
theorem C35_limit_counterexample :
    let s := runOps (init { maximumClients := 1 })
      [.connectHold 1 { ver := 5, id := [99, 49] } 1, .connect 2 { ver := 5, id := [99, 50] }, .release 1]
    established s = 2 ∧ s.caps.maximumClients = 1 := by decide +kernel

/-- without the interleaving the second connection is refused -/
example :
    let s := runOps (init { maximumClients := 1 }) [.connect 1 { ver := 5, id := [99, 49] }, .connect 2 { ver := 5, id := [99, 50] }]
    established s = 1 := by decide +kernel

open Mochi.Topics

/-- the invariant of the walk: reachable, counters right, capabilities as configured, `ClientsConnected ≤ MaximumClients` -/
structure fc35_J (caps : Caps) (s : Server) : Prop where
  reach : ReachSeq caps s
  cnt : Counted s
  capsEq : s.caps = caps
  le : s.info.connected ≤ caps.maximumClients

theorem fc35_J_init (caps : Caps) : fc35_J caps (init caps) :=
  ⟨ReachSeq.init, Counted_init caps, rfl, Int.natCast_nonneg _⟩

theorem fc35_J_step {caps : Caps} {s : Server} (h : fc35_J caps s) (op : Op) (hseq : op.isSeq = true)
    (hf : OpFresh s op) (hid : opIdOK op = true) : fc35_J caps (step s op).1 := by
  obtain ⟨_, hw, _, hn1, hn2, hn3⟩ := h.reach.inv
  have hsched : OpSched s op := (NoSched.schedOK ⟨hn1, hn2, hn3⟩ op).sched hid
  -- a CONNECT is admitted below the limit or refused; every other op leaves `caps` alone and does not raise the counter
  have key : ((step s op).1.caps = s.caps ∧ (step s op).1.info.connected ≤ s.caps.maximumClients) ∨
      fc35_R s (step s op).1 := by
    cases op with
    | connect conn k => exact fc35_step_connect s hw conn k hf
    | _ => exact .inr (fc35_step_other s _ hw h.cnt.inflight.nz hseq (fun _ _ e => by cases e))
  refine ⟨h.reach.step op hseq hf, Counted_step s op hw hf hsched h.cnt, ?_, ?_⟩
  · rcases key with ⟨c, _⟩ | r
    · rw [c, h.capsEq]
    · rw [r.caps, h.capsEq]
  · rcases key with ⟨_, l⟩ | r
    · rw [← h.capsEq]; exact l
    · exact Int.le_trans r.le h.le

theorem fc35_J_run {caps : Caps} {s : Server} (h : fc35_J caps s) (ops : List Op) (hseq : SeqOps ops)
    (hf : OpsFresh s ops) (hid : ∀ op ∈ ops, opIdOK op = true) : fc35_J caps (run s ops) :=
  run_inv (I := fc35_J caps) (fun _ op j c => fc35_J_step j op c.1.1 c.1.2 c.2) h
    (((OpsOK.forall.mpr hseq).and (OpsFresh_iff.mp hf)).and (OpsOK.forall.mpr hid))

theorem fc35_established_le {s : Server} (hw : WF s) : established s ≤ liveClients s := by
  have he : established s = liveReg s := by
    unfold established liveReg
    rw [List.countP_eq_length_filter]
  rw [he]
  unfold liveReg liveClients
  rw [← List.countP_eq_length_filter, ← countP_range_getD s.objs {} (fun c => c.isOpen && !c.inline),
    (range_perm_reg hw).countP_eq, List.countP_append, List.countP_map]
  exact Nat.le_add_right _ _

/-- **C35, the limit holds sequentially.**  For every history from `init caps` without schedule ops (`SeqOps`), on fresh
    connection numbers (`OpsFresh`), in which no network client uses the inline client's id (`opIdOK`, the hypothesis
    of the counter theorem `Counted_run`): in the final state — hence, the hypotheses being prefix-closed, after every
    op — the capabilities are the configured ones, `ClientsConnected` is the number of open network client objects,
    and that number — so also the number of ESTABLISHED connections (registered, open, not the inline client) — is at
    most `MaximumClients`.

    The bound is exactly `MaximumClients` (no `max`, no `≥ 1`): the test `ClientsConnected ≥ MaximumClients → refuse` is
    evaluated before the increment, so an admitted CONNECT found the counter strictly below the limit; with
    `MaximumClients = 0` every CONNECT is refused.  With schedule ops it is false: `C35_limit_counterexample` (F35). -/
theorem C35_limit_holds_seq (caps : Caps) (ops : List Op) (hseq : SeqOps ops) (hf : OpsFresh (init caps) ops)
    (hid : ∀ op ∈ ops, opIdOK op = true) :
    (run (init caps) ops).caps = caps ∧
    (run (init caps) ops).info.connected = liveClients (run (init caps) ops) ∧
    liveClients (run (init caps) ops) ≤ caps.maximumClients ∧
    established (run (init caps) ops) ≤ caps.maximumClients := by
  have j := fc35_J_run (fc35_J_init caps) ops hseq hf hid
  obtain ⟨_, hw, _, hn⟩ := j.reach.inv
  have hq := j.cnt.connected_quiescent hn
  have hl : liveClients (run (init caps) ops) ≤ caps.maximumClients := by
    have := j.le
    rw [hq] at this
    exact Int.ofNat_le.mp this
  exact ⟨j.capsEq, hq, hl, Nat.le_trans (fc35_established_le hw) hl⟩

/-- after every op of such a history (the statement for every prefix) -/
theorem C35_limit_holds_seq_prefix (caps : Caps) (ops : List Op) (hseq : SeqOps ops) (hf : OpsFresh (init caps) ops)
    (hid : ∀ op ∈ ops, opIdOK op = true) (n : Nat) :
    established (run (init caps) (ops.take n)) ≤ caps.maximumClients := by
  exact (C35_limit_holds_seq caps (ops.take n) (fun o ho => hseq o (List.mem_of_mem_take ho)) (hf.take n)
    (fun o ho => hid o (List.mem_of_mem_take ho))).2.2.2

/-- **why `opIdOK` is a hypothesis (model artefact, not Go behaviour).**  Limit 1; a network client connects with the
    inline client's id `inline`: in the MODEL the take-over of object 0 runs the tail of `attachClient` for it
    (`detach 0 true`), whose deferred decrement brings `ClientsConnected` back to 0, so a second client is admitted: two
    established connections.  In Go the inline client is created by `NewClient(nil, LocalListener, InlineClientId, true)`
    (/repo/server.go:200-201) and never runs `attachClient`, so there is no deferred decrement for it
    (/repo/server.go:454-455 belong to the handler of a network connection): the counter stays 1 and the second CONNECT
    is refused.  The model's `connect` is faithful only for histories in which no network client uses that id — the
    hypothesis `opIdOK` of `Counted_run`, which every generated history satisfies. -/
theorem C35_limit_inline_id_counterexample :
    let ops : List Op := [.connect 1 { ver := 5, id := inlineID }, .connect 2 { ver := 5, id := [99] }]
    let s := run (init { maximumClients := 1 }) ops
    SeqOps ops ∧ OpsFresh (init { maximumClients := 1 }) ops ∧ ¬ (∀ op ∈ ops, opIdOK op = true) ∧
    established s = 2 ∧ s.info.connected = 1 ∧ s.caps.maximumClients = 1 := by decide +kernel

/-- limit 2: `c1` and `c2` connect, `c1` is lost (its session stays), `c1` resumes on connection 3 (two established
    connections: the limit), `c3` tries on connection 4 -/
def c35History : List Op :=
  [.connect 1 { ver := 5, clean := false, id := [99, 49], sei := some 100 },
   .recv 1 (.subscribe 5 0 [{ filter := [97], qos := 1 }]),
   .connect 2 { ver := 4, id := [99, 50] },
   .recv 2 (.publish 1 false false 7 [97] [1] 0 none),
   .drop 1,
   .connect 3 { ver := 5, clean := false, id := [99, 49], sei := some 100 },
   .connect 4 { ver := 5, id := [99, 51] }]

example : SeqOps c35History ∧ OpsFresh (init { maximumClients := 2 }) c35History ∧
    (∀ op ∈ c35History, opIdOK op = true) := by decide +kernel

/-- the CONNECT at the limit is refused with 0x89 and closed; the limit is reached, not passed -/
example : (step (run (init { maximumClients := 2 }) (c35History.take 6)) (.connect 4 { ver := 5, id := [99, 51] })).2 =
      [.wrote 4 (.connack 5 false 0x89 1024 2 none), .closed 4] ∧
    established (run (init { maximumClients := 2 }) (c35History.take 6)) = 2 ∧
    established (run (init { maximumClients := 2 }) c35History) = 2 ∧
    (run (init { maximumClients := 2 }) c35History).info.connected = 2 := by decide +kernel

example : established (run (init { maximumClients := 2 }) c35History) ≤ 2 :=
  (C35_limit_holds_seq { maximumClients := 2 } c35History (by decide +kernel) (by decide +kernel) (by decide +kernel)).2.2.2

end Mochi.Broker

#print axioms Mochi.Broker.C35_limit_holds_seq
#print axioms Mochi.Broker.C35_limit_holds_seq_prefix
