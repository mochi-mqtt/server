import Mochi.Lemmas.Gather
import Mochi.Lemmas.Edit
import Mochi.Lemmas.Topics
/-!
# C01 — Subscription matching selects exactly the MQTT-matching subscribers

Model: `subscribers` = `scanSubscribers` + the three `gather*` functions of topics.go over the
flattened particle trie (after the repair "fix: subscriber scan matches +/# against the parent level
and applies the $ rule to shared and inline subscriptions").
Spec: `matchLv` (levels compared one by one, `+` one level, trailing `#` parent and children) and the
`$` rule.

Everything is for **every** history of index operations (`runOps ops`, unbounded), every
topic and every client / inline identifier.
-/
namespace Mochi.Topics

/-- The walk gathers client subscriptions from exactly the particles whose address matches the
    topic — for every reachable index and every topic whose levels are not `#`. -/
theorem C01_scan_exact_subs (ops : List IOp) (topic : Str)
    (hnh : ∀ t ∈ splitLevels topic, t ≠ [hash]) (q : Path) :
    Gather.subs q ∈ scanVisits (runOps ops).nodes [] (splitLevels topic) ↔
      hasNode (runOps ops).nodes q = true ∧ matchLv q (splitLevels topic) = true :=
  scan_exact Gather.subs mem_gatherAll_subs _ (prefixClosed_runOps ops) topic hnh q

theorem C01_scan_exact_shared (ops : List IOp) (topic : Str)
    (hnh : ∀ t ∈ splitLevels topic, t ≠ [hash]) (q : Path) :
    Gather.shared q ∈ scanVisits (runOps ops).nodes [] (splitLevels topic) ↔
      hasNode (runOps ops).nodes q = true ∧ matchLv q (splitLevels topic) = true :=
  scan_exact Gather.shared mem_gatherAll_shared _ (prefixClosed_runOps ops) topic hnh q

theorem C01_scan_exact_inline (ops : List IOp) (topic : Str)
    (hnh : ∀ t ∈ splitLevels topic, t ≠ [hash]) (q : Path) :
    Gather.inline q ∈ scanVisits (runOps ops).nodes [] (splitLevels topic) ↔
      hasNode (runOps ops).nodes q = true ∧ matchLv q (splitLevels topic) = true :=
  scan_exact Gather.inline mem_gatherAll_inline _ (prefixClosed_runOps ops) topic hnh q

/-- **Client subscriptions.** A client is selected for a topic exactly when some particle whose
    address matches the topic holds a subscription of that client that the `$` rule does not exclude. -/
theorem C01_clients_exact (ops : List IOp) (topic : Str) (hne : topic ≠ [])
    (hnh : ∀ t ∈ splitLevels topic, t ≠ [hash]) (c : Str) :
    c ∈ (subscribers (runOps ops) topic).subs.map Prod.fst ↔
      ∃ q n s, getNode (runOps ops).nodes q = some n ∧ (c, s) ∈ n.subs ∧
        matchLv q (splitLevels topic) = true ∧ dollarExcluded s.filter topic = false := by
  rw [mem_keys_iff_hasSub, subscribers_hasSub mergeOr_true _ (prefixClosed_runOps ops) topic hne hnh]
  simp only [and_true]

/-- **Inline subscriptions.** An inline identifier is selected exactly when a matching particle holds
    it and the particle's address does not start with a wildcard while the topic starts with `$`. -/
theorem C01_inline_exact (ops : List IOp) (topic : Str) (hne : topic ≠ [])
    (hnh : ∀ t ∈ splitLevels topic, t ≠ [hash]) (i : Nat) :
    i ∈ (subscribers (runOps ops) topic).inline.map Prod.fst ↔
      ∃ q n, getNode (runOps ops).nodes q = some n ∧ i ∈ n.inline.map Prod.fst ∧
        matchLv q (splitLevels topic) = true ∧ (topicDollar topic && wildStart q) = false :=
  subscribers_inline_keys _ (prefixClosed_runOps ops) topic hne hnh i

/-- the `$` rule of the spec and the code's two tests agree on particle addresses -/
theorem C01_dollar_rule (q : Path) (topic : Str) :
    dollarRule q topic = (topicDollar topic && wildStart q) := by
  unfold dollarRule topicDollar wildStart
  cases topic <;> simp

/-- the clause seed C03-r3 removes from the code, at every depth: a filter `pre/+/#` matches every topic that ends
    exactly at the `+` level (the trailing `#` matches its parent level, MQTT 4.7.1.2) — whenever `pre` matches the
    topic's leading levels and holds no `#`. With `C01_clients_exact` (the scan returns exactly the `specMatch`
    subscribers in every history) the model's scan must return such a subscriber. -/
theorem C01_plus_hash_parent_level (pre ts : Path) (t : Str) (hm : matchLv pre ts = true)
    (hh : ∀ f ∈ pre, f ≠ [hash]) : matchLv (pre ++ [[plus], [hash]]) (ts ++ [t]) = true := by
  simp [matchLv_append _ _ _ hh, ← matchLv_length _ _ hh hm, hm, matchLv]

#print axioms C01_plus_hash_parent_level
/-- and no shallower: a topic with no level for the `+` to stand on is not matched by `pre/+/#` -/
theorem C01_plus_hash_needs_plus_level (pre ts : Path) (hl : ts.length ≤ pre.length)
    (hh : ∀ f ∈ pre, f ≠ [hash]) : matchLv (pre ++ [[plus], [hash]]) ts = false := by
  simp [matchLv_append _ _ _ hh, List.drop_eq_nil_of_le hl, matchLv]

#print axioms C01_plus_hash_needs_plus_level

/-- `+/#` matches the parent level; `a/#` matches `a`; a leading wildcard is excluded for `$` topics
    (the three witnesses of the repaired defects), on the spec and on the scan after one subscription. -/
example : matchLv [[plus], [hash]] [[97]] = true := by decide +kernel
example : matchLv [[97], [hash]] [[97]] = true := by decide +kernel
example : specMatch [[hash]] [36, 120] = false := by decide +kernel
example : (subscribers (runOps [.subscribe [99] { filter := [43, 47, 35], qos := 1 }]) [97]).subs.map Prod.fst = [[99]] := by
  decide +kernel
example : (subscribers (runOps [.inlineSubscribe 7 { filter := [97, 47, 35] }]) [97]).inline.map Prod.fst = [7] := by
  decide +kernel
example : (subscribers (runOps [.inlineSubscribe 7 { filter := [35] }]) [36, 120]).inline.map Prod.fst = [] := by
  decide +kernel

end Mochi.Topics
