import Mochi.Model.Broker
import Mochi.Lemmas.Alias
import Mochi.Lemmas.BrokerAlias
import Mochi.Lemmas.BrokerDelivery
import Mochi.Props.C17
/-!
# C24 — Topic aliases are always resolvable by the receiver

Model: `aliasOutSet` (topics.go `OutboundTopicAliases.Set`) and the inbound alias handling of
`processPublish` / `publishValidate`.
Known findings F24a/F24b (recorded): the alias is registered when the message is *shaped*, before it
is known to be written (deferred by flow control, dropped, or stored and resent on a new connection),
so a later packet can carry an alias the client never saw bound — exhibited by the independent
decoder of the correspondence harness.

Second part (namespace `Mochi.Alias`): the alias TABLES of topics.go with their integer widths
(`Model/Alias.lean`: cursor uint32, aliases uint16), for every Topic Alias Maximum a uint16 can hold and
every sequence of `Set` calls from the empty table: aliases stay within the maximum, bindings are
injective and permanent, `existed` means "bound by an earlier call", a full table answers 0 and does not
change (in particular at maximum 65535, where `uint16(cursor)+1` would wrap), the broker model's unbounded
`Nat` version agrees with the width-faithful one, and the inbound table resolves an alias to the topic last
bound to it. `C24_out_wrapped_counterexample` shows what computing the alias in uint16 BEFORE the bound
check does at maximum 65535. Tied to the Go code by the `alias` suite (maxima 0 … 65535).
-/
namespace Mochi.Broker
open Mochi.Topics

/-- outbound alias values never exceed the client's Topic Alias Maximum and none is used when it is 0 -/
theorem C24_alias_bound (c : Client) (topic : Str) (hinv : ∀ t a, assocGet c.aliasOut t = some a → a ≤ c.tam) :
    (aliasOutSet c topic).2.1 ≤ c.tam := by
  unfold aliasOutSet
  split
  · simp
  · split
    · rename_i a ha; exact hinv topic a ha
    · split
      · simp
      · simp; omega

theorem C24_no_alias_when_zero (c : Client) (topic : Str) (h : c.tam = 0) : (aliasOutSet c topic).2.1 = 0 := by
  unfold aliasOutSet; simp [h]

/-- an existing binding is reported as existing (so the topic may be omitted), a new one as new -/
theorem C24_new_binding_carries_topic (c : Client) (topic : Str) (h : assocGet c.aliasOut topic = none) :
    (aliasOutSet c topic).2.2 = false := by
  unfold aliasOutSet
  split
  · rfl
  · simp only [h]
    split <;> rfl

/-- inbound: an alias above the server's maximum is rejected before routing -/
theorem C24_inbound_above_max (s : Server) (q id : Nat) (topic : Str) (a : Nat)
    (hq : ¬ (q > 0 ∧ id = 0)) (hq0 : ¬ (q = 0 ∧ id > 0)) (hw : topic.contains plus = false ∧ topic.contains hash = false)
    (h : a > s.caps.topicAliasMaximum) : publishValidate s q id topic (some a) = some 0x94 := by
  unfold publishValidate
  have h1 : ¬ (decide (q > 0) && id == 0) = true := by
    rw [Bool.and_eq_true_iff, decide_eq_true_iff, beq_iff_eq]; exact hq
  have h2 : ¬ (q == 0 && decide (id > 0)) = true := by
    rw [Bool.and_eq_true_iff, beq_iff_eq, decide_eq_true_iff]; exact hq0
  have h3 : ¬ (topic.contains plus || topic.contains hash) = true := by rw [hw.1, hw.2]; exact Bool.false_ne_true
  rw [if_neg h1, if_neg h2, if_neg h3, if_pos (show (some a).getD 0 > _ from h)]

/-- inbound: an empty topic with no alias at all is rejected -/
theorem C24_inbound_no_topic (s : Server) (q id : Nat)
    (hq : ¬ (q > 0 ∧ id = 0)) (hq0 : ¬ (q = 0 ∧ id > 0)) : publishValidate s q id [] none = some 0x82 := by
  unfold publishValidate
  have h1 : ¬ (decide (q > 0) && id == 0) = true := by
    rw [Bool.and_eq_true_iff, decide_eq_true_iff, beq_iff_eq]; exact hq
  have h2 : ¬ (q == 0 && decide (id > 0)) = true := by
    rw [Bool.and_eq_true_iff, beq_iff_eq, decide_eq_true_iff]; exact hq0
  rw [if_neg h1, if_neg h2, if_neg (by decide), if_neg (show ¬ (none : Option Nat).getD 0 > _ from Nat.not_lt_zero _),
    if_pos (by decide)]

/-- inbound: an empty topic with an alias that is not bound on the connection is a protocol error: DISCONNECT 0x82,
    nothing is routed (no PUBLISH written to any connection) and nothing is retained -/
theorem C24_inbound_unbound_alias (s : Server) (i q id : Nat) (dup retain : Bool) (payload : Str) (msgExpiry a : Nat)
    (hinl : (getObj s i).inline = false) (hquota : (getObj s i).recvQuota ≠ 0)
    (hacl : aclOk s (getObj s i).id [] true = true)
    (hfl : ∀ m, flGet (getObj s i) id = some m → (m.type == 5) = false)
    (hmax : s.caps.topicAliasMaximum > 0) (ha : a > 0)
    (hunbound : assocGet (getObj s i).aliasIn a = none) :
    (processPublish s i q dup retain id [] payload msgExpiry (some a)).2.2 = some 0x82 ∧
    (∀ n ver m me, Out.wrote n (.publish ver m me) ∉ (processPublish s i q dup retain id [] payload msgExpiry (some a)).2.1) ∧
    (processPublish s i q dup retain id [] payload msgExpiry (some a)).1.rmsgs = s.rmsgs := by
  -- the whole handler is a `disconnectClient … 0x82` on `s1`, which has the retained messages of the start state
  let s1 := pubTaken s i id (aliasBound s.caps.topicAliasMaximum (getObj s i).aliasIn [] (some a))
  have hr : s1.rmsgs = s.rmsgs := by unfold s1 pubTaken; split <;> rfl
  have e0 : R07.pubTopic s i [] (some a) = [] := by
    unfold R07.pubTopic R07.aliasTopic
    show (if a > 0 then _ else _) = _
    rw [if_pos ha, if_neg (by rw [beq_iff_eq]; exact Nat.ne_of_gt hmax), hunbound]
  have he : processPublish s i q dup retain id [] payload msgExpiry (some a) =
      ((disconnectClient s1 i 0x82).1, (disconnectClient s1 i 0x82).2, some 0x82) := by
    refine processPublish_cases (Q := fun r => r = _) s i q dup retain id [] payload msgExpiry (some a)
      (fun h => ?_) (fun _ h => absurd (eq_of_beq h) hquota) (fun _ _ h => ?_) (fun _ _ _ h => ?_) (fun _ => ?_)
    · rw [hinl] at h; cases h
    · rw [hinl, hacl] at h; cases h
    · unfold pubDup at h
      rw [hinl] at h
      cases hg : flGet (getObj s i) id with
      | none => rw [hg] at h; cases h
      | some m => rw [hg] at h; exact absurd h (by show ¬ (!false && (m.type == 5)) = true; rw [hfl m hg]; exact Bool.false_ne_true)
    · have hgo : (!(getObj s1 i).inline && (R07.pubTopic s i [] (some a)).isEmpty) = true := by
        rw [(pubTaken_walk OwnEq.ops (Frame.walk i) s id _ : Frame i s _ []).inline, hinl, e0]; rfl
      exact pubGo_cases (Q := fun r => r = _) _ i id _ (fun _ => rfl) (fun h _ => nomatch h.symm.trans hgo)
        (fun _ _ h _ _ => nomatch h.symm.trans hgo) (fun _ _ h _ _ _ => nomatch h.symm.trans hgo)
        (fun _ _ _ _ h _ _ _ _ => nomatch h.symm.trans hgo) (fun _ _ _ _ h _ _ _ _ => nomatch h.symm.trans hgo)
  rw [he]
  exact ⟨rfl, (disconnectClient_noPublish s1 i 0x82).1, (disconnectClient_noPublish s1 i 0x82).2.1.trans hr⟩

/-- non-vacuity: the hypotheses of `C24_inbound_unbound_alias` hold for a fresh MQTT 5 connection with quota -/
example : (processPublish { objs := [{ ver := 5, recvQuota := 1 }] } 0 0 false false 0 [] [1] 0 (some 3)).2 =
    ([.wrote 0 (.disconnect 5 0x82), .closed 0], some 0x82) := by decide +kernel

end Mochi.Broker

/-! ## The alias tables with their integer widths (Model/Alias.lean) -/
namespace Mochi.Alias
open Mochi.Topics Mochi.Broker

/-- every alias ever returned is within the Topic Alias Maximum, none (0 = "send the topic") is returned
    when the maximum is 0, and every alias ever stored is in `1 .. maximum` -/
theorem C24_out_alias_le_max (m : Nat) (hm : m < 65536) (ts : List Str) (t : Str) :
    (((Out.new m).after ts).set t).2.1 ≤ m ∧
    (m = 0 → (((Out.new m).after ts).set t).2.1 = 0) ∧
    (∀ t' x, assocGet ((Out.new m).after ts).internal t' = some x → 1 ≤ x ∧ x ≤ m) := by
  have hinv := inv_after (inv_new m hm) ts
  have hmax : ((Out.new m).after ts).maximum = m := by rw [after_maximum, new_maximum m hm]
  have h1 := set_alias_le hinv t
  rw [hmax] at h1
  refine ⟨h1, fun h0 => by omega, ?_⟩
  intro t' x hx
  have := hinv.bound_range hx
  have := hinv.cur_le
  omega

/-- two different topics never hold the same alias, and a binding, once made, never changes: the table
    only grows -/
theorem C24_out_alias_injective (m : Nat) (hm : m < 65536) (ts : List Str) :
    (∀ t1 t2 x, assocGet ((Out.new m).after ts).internal t1 = some x →
        assocGet ((Out.new m).after ts).internal t2 = some x → t1 = t2) ∧
    (∀ t x, assocGet ((Out.new m).after ts).internal t = some x →
        ∀ ts', assocGet ((Out.new m).after (ts ++ ts')).internal t = some x) := by
  have hinv := inv_after (inv_new m hm) ts
  refine ⟨fun t1 t2 x h1 h2 => hinv.injective h1 h2, ?_⟩
  intro t x hx ts'
  rw [after_append]
  exact after_mono _ ts' t x hx

/-- `existed = true` exactly when an EARLIER call `Set(t)` of the sequence bound the topic (returned a
    non-zero alias), and then the alias returned now is the one returned then -/
theorem C24_out_existed_iff_bound (m : Nat) (hm : m < 65536) (ts : List Str) (t : Str) :
    ((((Out.new m).after ts).set t).2.2 = true ↔
        ∃ p, (p ++ [t]) <+: ts ∧ (((Out.new m).after p).set t).2.1 ≠ 0) ∧
    (∀ p, (p ++ [t]) <+: ts → (((Out.new m).after p).set t).2.1 ≠ 0 →
        (((Out.new m).after ts).set t).2.1 = (((Out.new m).after p).set t).2.1 ∧
        (((Out.new m).after ts).set t).2.2 = true ∧
        (((Out.new m).after ts).set t).1 = (Out.new m).after ts) := by
  have hinv := inv_after (inv_new m hm) ts
  constructor
  · rw [set_existed_iff hinv]
    constructor
    · rintro ⟨x, hx⟩
      obtain ⟨p, hp, hr, h0⟩ := (bound_iff_earlier m hm ts t x).1 hx
      exact ⟨p, hp, by rw [hr]; exact h0⟩
    · rintro ⟨p, hp, h0⟩
      exact ⟨_, (bound_iff_earlier m hm ts t _).2 ⟨p, hp, rfl, h0⟩⟩
  · intro p hp h0
    have hx := (bound_iff_earlier m hm ts t _).2 ⟨p, hp, rfl, h0⟩
    rw [set_existing _ t _ (hinv.max_ne_zero_of_bound hx) hx]
    exact ⟨rfl, rfl, rfl⟩

/-- when all `maximum` aliases are taken a new topic gets alias 0 ("send the topic") and the table is
    unchanged -/
theorem C24_out_full_table (m : Nat) (hm : m < 65536) (ts : List Str) (t : Str)
    (hfull : ((Out.new m).after ts).internal.length = m)
    (hnew : assocGet ((Out.new m).after ts).internal t = none) :
    ((Out.new m).after ts).set t = ((Out.new m).after ts, 0, false) := by
  have hinv := inv_after (inv_new m hm) ts
  apply set_full hinv t _ hnew
  rw [after_maximum, new_maximum m hm]; exact hfull

theorem key_mem_sequence (m : Nat) (hm : m < 65536) (ts : List Str) (t : Str) (ht : t ∉ ts) :
    assocGet ((Out.new m).after ts).internal t = none := by
  cases hg : assocGet ((Out.new m).after ts).internal t with
  | none => rfl
  | some x =>
    obtain ⟨p, hp, _⟩ := (bound_iff_earlier m hm ts t x).1 hg
    exact absurd (List.IsPrefix.mem (by simp) hp) ht

/-- … and the table does fill up: `maximum` or more pairwise different topics take all the aliases, after
    which every further topic is answered 0 -/
theorem C24_out_full_table_reached (m : Nat) (hm : m < 65536) (ts : List Str) (t : Str)
    (hn : ts.Nodup) (hlen : m ≤ ts.length) (ht : t ∉ ts) :
    ((Out.new m).after ts).internal.length = m ∧
    ((Out.new m).after ts).set t = ((Out.new m).after ts, 0, false) := by
  have hl : ((Out.new m).after ts).internal.length = m := by
    rw [after_length (inv_new m hm) ts (fun _ _ => rfl) hn, new_maximum m hm]
    simp only [Out.new, List.length_nil]
    omega
  exact ⟨hl, C24_out_full_table m hm ts t hl (key_mem_sequence m hm ts t ht)⟩

/-- the boundary the widths are about: at Topic Alias Maximum 65535, after 65535 different topics, the
    next topic is answered 0 and nothing is stored (`uint16(65535)+1` is never computed) -/
theorem C24_out_full_table_65535 :
    let ts := (List.range 65535).map (fun k => [k])
    ((Out.new 65535).after ts).internal.length = 65535 ∧
    ((Out.new 65535).after ts).set [65535] = ((Out.new 65535).after ts, 0, false) := by
  intro ts
  refine C24_out_full_table_reached 65535 (by omega) ts [65535] ?_ (by simp [ts]) ?_
  · show List.Pairwise (· ≠ ·) _
    rw [List.pairwise_map]
    exact (List.nodup_range (n := 65535)).imp (fun h e => h (by simpa using e))
  · simp [ts]

/-- the relation between a width-faithful table and the alias fields of the broker model's client -/
def Rel (a : Out) (c : Client) : Prop :=
  c.tam = a.maximum ∧ c.aliasOut = a.internal ∧ c.aliasCursor = a.cursor

/-- the broker model's `aliasOutSet` iterated -/
def natAfter (c : Client) (ts : List Str) : Client := ts.foldl (fun c t => (aliasOutSet c t).1) c

/-- for every maximum a uint16 can hold, the width-faithful `Out.set` and the unbounded-`Nat`
    `aliasOutSet` of the broker model agree on the alias, the existed flag and the next state -/
theorem C24_out_refines_nat (m : Nat) (hm : m < 65536) (ts : List Str) (c : Client)
    (hr : Rel ((Out.new m).after ts) c) (t : Str) :
    (aliasOutSet c t).2.1 = (((Out.new m).after ts).set t).2.1 ∧
    (aliasOutSet c t).2.2 = (((Out.new m).after ts).set t).2.2 ∧
    Rel (((Out.new m).after ts).set t).1 (aliasOutSet c t).1 := by
  have hinv := inv_after (inv_new m hm) ts
  rw [set_eq_setNat hinv]
  generalize (Out.new m).after ts = a at hr hinv
  obtain ⟨h1, h2, h3⟩ := hr
  unfold Out.setNat aliasOutSet
  simp only [h1, h2, h3]
  by_cases hz : (a.maximum == 0) = true
  · simp [hz, Rel, h1, h2, h3]
  · cases hg : assocGet a.internal t with
    | some i => simp [hz, Rel, h1, h2, h3]
    | none =>
      by_cases hgt : a.cursor + 1 > a.maximum
      · simp [hz, hgt, Rel, h1, h2, h3]
      · simp [hz, hgt, Rel]

/-- hence over whole sequences from the empty table: the broker model's client and the width-faithful
    table stay related -/
theorem C24_out_refines_nat_run (m : Nat) (hm : m < 65536) (ts : List Str) (c : Client)
    (h1 : c.tam = m) (h2 : c.aliasOut = []) (h3 : c.aliasCursor = 0) :
    Rel ((Out.new m).after ts) (natAfter c ts) := by
  induction ts using list_snoc_induction with
  | nil =>
    show Rel (Out.new m) c
    exact ⟨by rw [new_maximum m hm]; exact h1, h2, h3⟩
  | snoc ts t ih =>
    rw [after_snoc]
    have : natAfter c (ts ++ [t]) = (aliasOutSet (natAfter c ts) t).1 := by
      simp [natAfter, List.foldl_append]
    rw [this]
    exact (C24_out_refines_nat m hm ts _ ih t).2.2

theorem in_after_maximum (a : In) (ops : List (Nat × Str)) : (a.after ops).maximum = a.maximum :=
  ops.foldlRecOn _ (motive := (·.maximum = a.maximum)) rfl fun a' h o _ => (in_set_maximum a' o.1 o.2).trans h

/-- inbound: an alias presented with an empty topic resolves to the topic last bound to it on this
    table (to the empty topic — which `processPublish` rejects — when none was) -/
theorem C24_in_resolves_last_binding (m : Nat) (h0 : 0 < m) (hm : m < 65536) (ops : List (Nat × Str)) (id : Nat) :
    (((In.new m).after ops).set id []).2 = (lastBinding ops id).getD [] ∧
    (∀ t, t ≠ [] → (((In.new m).after ops).set id t).2 = t ∧
        ((((In.new m).after ops).set id t).1.set id []).2 = t) := by
  have hmax : (In.new m).maximum ≠ 0 := by
    simp only [In.new, u16_of_lt hm]; omega
  have hz : ∀ ops : List (Nat × Str), (((In.new m).after ops).maximum == 0) = false := by
    intro ops
    rw [in_after_maximum]; simpa using hmax
  have key : ∀ ops : List (Nat × Str), (((In.new m).after ops).set id []).2 = (lastBinding ops id).getD [] := by
    intro ops
    have hg := in_after_get (In.new m) hmax ops id none rfl
    unfold In.set lastBinding
    simp only [hz]
    cases hc : assocGet ((In.new m).after ops).internal id with
    | some e => rw [hc] at hg; simpa using hg
    | none => rw [hc] at hg; simpa using hg
  refine ⟨key ops, ?_⟩
  intro t ht
  have hret : (((In.new m).after ops).set id t).2 = t := by
    unfold In.set
    simp only [hz]
    cases hc : assocGet ((In.new m).after ops).internal id <;> simp [ht]
  refine ⟨hret, ?_⟩
  have := key (ops ++ [(id, t)])
  simp only [In.after, List.foldl_append, List.foldl_cons, List.foldl_nil, lastBinding] at this
  simp only [In.after]
  rw [this]
  simp [ht]

/-- inbound with maximum 0: the topic is returned unchanged and nothing is stored -/
theorem C24_in_zero_maximum (ops : List (Nat × Str)) (id : Nat) (t : Str) :
    (In.new 0).after ops = In.new 0 ∧ (((In.new 0).after ops).set id t) = (In.new 0, t) := by
  have h : (In.new 0).after ops = In.new 0 := ops.foldlRecOn _ (motive := (· = In.new 0)) rfl fun _ h _ _ => by rw [h]; rfl
  rw [h]; exact ⟨rfl, rfl⟩

/-- why the widths matter. The seeded regression computes the alias in uint16 BEFORE the bound check
    (`Out.setWrapped`). On a full table of maximum 65535 (cursor 65535) where `t0` holds alias 1: the real
    `Set` answers a new topic with 0 and stores nothing; the wrapped one stores "alias 0" for the first new
    topic `t1` and then hands alias 1 — still held by `t0` — to the second new topic `t2`. -/
theorem C24_out_wrapped_counterexample (a : Out) (t0 t1 t2 : Str)
    (hmax : a.maximum = 65535) (hcur : a.cursor = 65535)
    (h0 : assocGet a.internal t0 = some 1) (h1 : assocGet a.internal t1 = none)
    (h2 : assocGet a.internal t2 = none) (h12 : t1 ≠ t2) :
    a.set t1 = (a, 0, false) ∧
    (a.setWrapped t1).2 = (0, false) ∧
    assocGet (a.setWrapped t1).1.internal t1 = some 0 ∧
    ((a.setWrapped t1).1.setWrapped t2).2 = (1, false) ∧
    assocGet ((a.setWrapped t1).1.setWrapped t2).1.internal t0 = some 1 ∧
    assocGet ((a.setWrapped t1).1.setWrapped t2).1.internal t2 = some 1 ∧
    t0 ≠ t2 := by
  have hne : t0 ≠ t2 := by
    intro e; subst e; rw [h0] at h2; cases h2
  have e1 : a.setWrapped t1 =
      ({ a with internal := a.internal ++ [(t1, 0)], cursor := 65536 }, 0, false) := by
    unfold Out.setWrapped
    simp [hmax, hcur, h1, u16, u32]
  have hget2 : assocGet (a.internal ++ [(t1, 0)]) t2 = none := by
    rw [assocGet_append, h2]; simp [assocGet, h12]
  have e2 : (a.setWrapped t1).1.setWrapped t2 =
      ({ a with internal := a.internal ++ [(t1, 0)] ++ [(t2, 1)], cursor := 65537 }, 1, false) := by
    rw [e1]
    unfold Out.setWrapped
    simp [hmax, hget2, u16, u32]
  rw [e2, e1]
  refine ⟨by unfold Out.set; simp [hmax, hcur, h1, u32], rfl, ?_, rfl, ?_, ?_, hne⟩ <;> dsimp only
  · rw [assocGet_append, h1]; simp [assocGet]
  · rw [assocGet_append, assocGet_append, h0]; rfl
  · rw [assocGet_append, hget2]; simp [assocGet]

/-- maximum 2, topics a b a c b: two bindings, `a` and `b` found again, `c` answered 0 -/
example : ((Out.new 2).run [[97], [98], [97], [99], [98]]).2 =
    [(1, false), (2, false), (1, true), (0, false), (2, true)] := by decide +kernel

example : ((Out.new 0).run [[97], [97]]).2 = [(0, false), (0, false)] := by decide +kernel

/-- the hypotheses of `C24_out_existed_iff_bound` are met: `a` was bound by the first call -/
example : ([] ++ [[97]]) <+: [[97], [98]] ∧ (((Out.new 2).after []).set [97]).2.1 ≠ 0 :=
  ⟨⟨[[98]], rfl⟩, by decide +kernel⟩

/-- the hypotheses of `C24_out_wrapped_counterexample` are met by a table (the one 65535 calls build has
    exactly this shape: `C24_out_full_table_65535`) -/
example : ∃ a : Out, a.maximum = 65535 ∧ a.cursor = 65535 ∧ assocGet a.internal [0] = some 1 ∧
    assocGet a.internal [1] = none ∧ assocGet a.internal [2] = none :=
  ⟨{ maximum := 65535, cursor := 65535, internal := [([0], 1)] }, rfl, rfl, by decide +kernel, by decide +kernel, by decide +kernel⟩

/-- the one-pass fill used by the driver and `Set` agree on an instance that crosses the boundary -/
example : (Out.new 3).fillFresh [[1], [2], [3], [4], [5]] =
    (((Out.new 3).run [[1], [2], [3], [4], [5]]).1, [1, 2, 3, 0, 0]) := by decide +kernel

/-- inbound: bind 5 to "a", rebind to "b", resolve with an empty topic; an unbound id resolves to "" -/
example : (((In.new 10).after [(5, [97]), (5, []), (5, [98]), (7, [99])]).set 5 []).2 = [98] := by decide +kernel
example : (((In.new 10).after [(5, [97])]).set 6 []).2 = [] := by decide +kernel

end Mochi.Alias

/-! ## The receiver's view over histories (`Mochi/Lemmas/BrokerAlias.lean`, namespace `A24`)

`A24.seenBindings outs conn` is what the peer of `conn` has learnt from the PUBLISH packets written to it,
`A24.Resolvable view m` says a written PUBLISH names its topic or carries an alias bound in the view,
`A24.AliasSync s outs` says the outbound alias table of every live aliased client is contained in its peer's view.
`AliasSync` is FALSE in general — the two excluded classes first, each with a history by `decide`. -/
namespace Mochi.Broker
open Mochi.Topics A24

/-- F24a: subscriber on connection 1 (Topic Alias Maximum 5, Receive Maximum 1) -/
def A24.demoF24a : List Op :=
  [.connect 1 { ver := 5, id := [115], tam := some 5, rm := some 1 },
   .recv 1 (.subscribe 1 0 [{ filter := [116, 49], qos := 1 }, { filter := [116, 50], qos := 1 }]),
   .connect 2 { ver := 5, id := [112] },
   .recv 2 (.publish 1 false false 1 [116, 49] [97] 0 none),
   .recv 2 (.publish 1 false false 2 [116, 50] [98] 0 none),
   .recv 2 (.publish 0 false false 0 [116, 50] [99] 0 none),
   .recv 1 (.puback 1 0)]

set_option maxRecDepth 100000 in
/-- F24a (Go behaviour: server.go `publishToClient` — the alias is registered at lines 1084–1093
    (`Outbound.Set(pk.TopicName)`) BEFORE the copy is deferred at lines 1121–1125 (`sentQuota == 0 …: out.Expiry = -1;
    Inflight.Set(out); return`) or dropped at 1096–1110).  The QoS 1 message on `t2` is shaped with alias 2 + topic and
    deferred (send quota 0); the next message on `t2` (QoS 0) is written with alias 2 and NO topic: the receiver has never
    seen alias 2.  Nothing was dropped (`inflightDropped = 0`); the history is outside the class only because the aliased
    client has a Receive Maximum.  The binding arrives one op later, when the PUBACK releases the deferred copy. -/
theorem C24_F24a_deferred_counterexample :
    let ops := A24.demoF24a.take 6
    let outs := runOuts (init {}) ops
    OpsFresh (init {}) A24.demoF24a ∧ ¬ OpsClass (init {}) ops ∧
    (run (init {}) ops).info.inflightDropped = 0 ∧
    (unresolved [] outs).map (fun e => (e.1, e.2.topic, e.2.alias, e.2.payload)) = [(1, [], 2, [99])] ∧
    seenBindings outs 1 = [(1, [116, 49])] ∧
    (getObj (run (init {}) ops) 1).aliasOut = [([116, 49], 1), ([116, 50], 2)] ∧
    ¬ AliasSync (run (init {}) ops) outs ∧
    seenBindings (runOuts (init {}) A24.demoF24a) 1 = [(1, [116, 49]), (2, [116, 50])] := by
  intro ops outs
  refine ⟨by decide, by decide, by decide, by decide, by decide, by decide, ?_, by decide⟩
  intro h
  exact absurd (h 1 (by decide) (by decide) [116, 50] 2 (by decide) (by decide)) (by decide)

/-- F24b: a session with one stored alias-only PUBLISH is resumed on a new connection -/
def A24.demoF24b : List Op :=
  [.connect 1 { ver := 5, id := [115], clean := false, sei := some 100, tam := some 5 },
   .recv 1 (.subscribe 1 0 [{ filter := [116], qos := 1 }]),
   .connect 2 { ver := 5, id := [112] },
   .recv 2 (.publish 1 false false 1 [116] [97] 0 none),
   .recv 2 (.publish 1 false false 2 [116] [98] 0 none),
   .recv 1 (.puback 1 0),
   .drop 1,
   .connect 3 { ver := 5, id := [115], clean := false, sei := some 100, tam := some 5 }]

set_option maxRecDepth 100000 in
/-- F24b (Go behaviour: server.go `inheritClientSession` line 586 `cl.State.Inflight = existing.State.Inflight.Clone()`,
    clients.go `ResendInflightMessages` lines 315–321 write the stored packets verbatim, while clients.go line 240
    `ParseConnect` gives the new connection a FRESH outbound alias table).  The history is inside the class (nothing
    dropped, nothing deferred, `AliasSync` keeps holding — the new table is empty) and every PUBLISH of the first seven ops
    is resolvable; the resumed connection 3 is sent the stored packet id 2 with alias 1 and no topic, and its view is
    empty. -/
theorem C24_F24b_resumption_counterexample :
    let ops := A24.demoF24b
    let outs := runOuts (init {}) ops
    OpsFresh (init {}) ops ∧ OpsClass (init {}) ops ∧
    (unresolved [] (runOuts (init {}) (ops.take 7))).isEmpty = true ∧
    (unresolved [] outs).map (fun e => (e.1, e.2.id, e.2.dup, e.2.topic, e.2.alias, e.2.payload)) =
      [(3, 2, true, [], 1, [98])] ∧
    seenBindings outs 1 = [(1, [116])] ∧ seenBindings outs 3 = [] ∧
    (getObj (run (init {}) ops) 3).aliasOut = [] := by
  intro ops outs
  refine ⟨by decide, by decide, by decide, by decide, by decide, by decide, by decide⟩

/-- inside the class: Topic Alias Maximum 2, three topics, QoS 0/1/2 -/
def A24.demoOK : List Op :=
  [.connect 1 { ver := 5, id := [115], tam := some 2 },
   .recv 1 (.subscribe 1 0 [{ filter := [116, 47, 35], qos := 1 }]),
   .connect 2 { ver := 5, id := [112] },
   .recv 2 (.publish 1 false false 1 [116, 47, 49] [97] 0 none),
   .recv 2 (.publish 0 false false 0 [116, 47, 49] [98] 0 none),
   .recv 2 (.publish 1 false true 2 [116, 47, 50] [99] 0 none),
   .recv 2 (.publish 2 false false 3 [116, 47, 51] [100] 0 none),
   .recv 2 (.publish 0 false false 0 [116, 47, 50] [101] 0 none)]

/-- non-vacuity: the history is fresh and in the class, aliases ARE used (two alias-only packets, the third topic gets
    no alias: the table is full), every PUBLISH is resolvable and the view equals the table -/
theorem C24_history_demo :
    let outs := runOuts (init {}) A24.demoOK
    OpsFresh (init {}) A24.demoOK ∧ OpsClass (init {}) A24.demoOK ∧
    (unresolved [] outs).isEmpty = true ∧
    (outs.filterMap fun x => match x with
      | .wrote n (.publish _ m _) => some (n, m.id, m.topic, m.alias) | _ => none) =
      [(1, 1, [116, 47, 49], 1), (1, 0, [], 1), (1, 2, [116, 47, 50], 2), (1, 3, [116, 47, 51], 0), (1, 0, [], 2)] ∧
    seenBindings outs 1 = [(1, [116, 47, 49]), (2, [116, 47, 50])] ∧
    (getObj (run (init {}) A24.demoOK) 1).aliasOut = [([116, 47, 49], 1), ([116, 47, 50], 2)] := by
  decide +kernel

/-- C24 at the level of one routed message (`publishToSubscribers`: every delivery of an inbound PUBLISH, a will, an
    inline publish), PARTIAL: on the class where nothing is dropped by this routing (`info.inflightDropped` unchanged:
    no in-flight limit hit, no packet-id exhaustion — server.go 1096–1110) and no aliased client has a Receive Maximum
    (`Calm`: no deferral — server.go 1121–1125), for a PUBLISH with a non-empty topic, the receiver's view stays in step
    with every live client's outbound alias table, and every PUBLISH written is resolvable in the view accumulated up to
    and including itself.  Outside the class both fail: `C24_F24a_deferred_counterexample`. -/
theorem C24_alias_sync_deliver_partial (s : Server) (pk : Msg) (pre : List Out)
    (hty : pk.type = 3) (hne : pk.topic ≠ [])
    (hcalm : ∀ k, Calm (getObj s k))
    (hnd : (publishToSubscribers s pk).1.info.inflightDropped = s.info.inflightDropped)
    (hs : AliasSync s pre) :
    AliasSync (publishToSubscribers s pk).1 (pre ++ (publishToSubscribers s pk).2) ∧
    ResOuts pre (publishToSubscribers s pk).2 ∧
    (∀ k, Calm (getObj (publishToSubscribers s pk).1 k)) :=
  let h := publishToSubscribers_ah s pk hty hne
  ⟨(h.sync hnd hcalm pre hs).1, (h.sync hnd hcalm pre hs).2, h.calm hcalm⟩

/-- the same for one delivery (`publishToClientCore`), where the three excluded outcomes are visible: the copy is
    dropped (counter), deferred (excluded by `Calm`), or the client is not live (then nothing is claimed for it) -/
theorem C24_alias_sync_core_partial (s : Server) (i : Nat) (sub : Sub) (f : Bool) (pk : Msg) (pre : List Out)
    (hty : pk.type = 3) (hne : pk.topic ≠ [])
    (hcalm : ∀ k, Calm (getObj s k))
    (hnd : (publishToClientCore s i sub f pk).1.info.inflightDropped = s.info.inflightDropped)
    (hs : AliasSync s pre) :
    AliasSync (publishToClientCore s i sub f pk).1 (pre ++ (publishToClientCore s i sub f pk).2) ∧
    ResOuts pre (publishToClientCore s i sub f pk).2 :=
  (publishToClientCore_ah s i sub f pk hty hne).sync hnd hcalm pre hs

/-- `AliasSync` holds initially (no client has a table) -/
theorem C24_alias_sync_init (caps : Caps) : AliasSync (init caps) [] := by
  intro k hl ht
  exfalso
  have : (getObj (init caps) k).tam = 0 := by
    simp only [getObj, init, List.getD_eq_getElem?_getD]
    cases k <;> rfl
  omega

/-- QoS 0 (the message or the subscription has QoS 0): the copy is written in the call that shapes it — nothing can be
    dropped, so the drop hypothesis of `C24_alias_sync_core_partial` is not needed (the `Calm` hypothesis is still
    carried by the relation `A24.AH`, although no QoS 0 copy is ever deferred) -/
theorem C24_qos0_core_resolvable_partial (s : Server) (i : Nat) (sub : Sub) (f : Bool) (pk : Msg) (pre : List Out)
    (hq : pk.qos = 0 ∨ sub.qos = 0) (hty : pk.type = 3) (hne : pk.topic ≠ [])
    (hcalm : ∀ k, Calm (getObj s k)) (hs : AliasSync s pre) :
    AliasSync (publishToClientCore s i sub f pk).1 (pre ++ (publishToClientCore s i sub f pk).2) ∧
    ResOuts pre (publishToClientCore s i sub f pk).2 := by
  have hnd : (publishToClientCore s i sub f pk).1.info.inflightDropped = s.info.inflightDropped := by
    obtain ⟨c1, m, _, _, he⟩ := publishToClientCore_q0 s i sub f pk hq
    rw [he]; rfl
  exact C24_alias_sync_core_partial s i sub f pk pre hty hne hcalm hnd hs

end Mochi.Broker

