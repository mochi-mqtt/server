import Mochi.Props.TieA.PropTable
import Mochi.Props.TieA.Codes
import Mochi.Props.TieA.Attach
import Mochi.Props.TieA.Handlers
import Mochi.Props.TieA.WriteLoop
import Mochi.Props.TieA.Decode
import Mochi.Props.TieA.Listener
import Mochi.Props.TieA.Pool
import Mochi.Props.TieA.Topics
/-!
# Tie A obligations over the regenerated tables and statement orders

Each module states, by `rfl` or kernel evaluation, that data regenerated from `/repo` on every run (`Gen/*.lean`, written
by `go/cmd/vextract`) equals the copy the models were written against: a statement of the Go source that moves, a table
row or a constant that changes makes exactly that module stop building.

| module                 | generated data        | what is tied                                                  | checks |
|------------------------|-----------------------|---------------------------------------------------------------|--------|
| `TieA/PropTable.lean`  | `Gen/PropTable.lean`  | `validPacketProperties`, the packet type and property constants | C26 C27 C42 |
| `TieA/Codes.lean`      | `Gen/Codes.lean`      | the reason code constants, `V5CodesToV3`, `QosCodes`; the model's `refuseCode`, `publishValidate`, `reasonValid`, `v3code` in the Go names | C07 C23 |
| `TieA/Attach.lean`     | `Gen/Programs.lean`   | statement order of `attachClient`, `inheritClientSession`     | C13 C14 C16 C35 C09 C21 |
| `TieA/Handlers.lean`   | `Gen/Programs.lean`   | `processSubscribe`, `processPubrec`, `processPubrel`, `processPublish`, `receivePacket`, `processPacket` | C21 C09 C07 |
| `TieA/WriteLoop.lean`  | `Gen/Programs.lean`   | `Client.WriteLoop`                                            | C34 |
| `TieA/Decode.lean`     | `Gen/Programs.lean`   | `Properties.Decode`                                           | C27 C28 C26 |
| `TieA/Listener.lean`   | `Gen/Programs.lean`   | `TCP.Serve`, `TCP.Close`                                      | C36 |
| `TieA/Topics.lean`     | `Gen/Programs.lean`   | `TopicsIndex.trim`, `TopicsIndex.scanSubscribers`             | C01 C02 C03 C05 |
| `TieA/Pool.lean`       | `Gen/Programs.lean`   | `Buffer.Put`, `BufferWithCap.Put`                             | C41 |

`TieA/Inflight.lean` (`Gen/Programs.lean`; `Inflight.getAll`, `Inflight.NextImmediate`; C12) is imported by `Mochi.lean`
directly.

Self-test (extractor pointed at a mutated scratch copy of /repo): removing `Subscribe: 1` from the
`PropSubscriptionIdentifier` row breaks `C26_prop_table_tied`; moving `s.hooks.OnSubscribed(...)` after
`cl.WritePacket(ack)` in `processSubscribe` breaks `C21_suback_after_store_tied`; moving `s.Clients.Add(cl)` after
`s.SendConnack(...)` in `attachClient` breaks `C13_attach_order_tied` (each time only that module).
-/
