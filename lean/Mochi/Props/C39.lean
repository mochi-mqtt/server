import Mochi.Model.WsConn
/-!
# C39 — WebSocket transport is byte-transparent

Model: `Mochi.WsConn.read` (listeners/websocket.go `wsConn.Read`).  For every list of messages,
every requested read size and **every chunking** of gorilla's message reader.
Partial: gorilla's framing, the HTTP upgrade and `bufio.Reader` above the connection are trusted.
-/
namespace Mochi.WsConn

theorem innerLoop_conserve (fuel : Nat) (rem : List Nat) (want : Nat) (chunks acc : List Nat) :
    (innerLoop fuel rem want chunks acc).1 ++ ((innerLoop fuel rem want chunks acc).2.getD []) = acc ++ rem := by
  induction fuel generalizing rem chunks acc with
  | zero => simp [innerLoop]
  | succ fuel ih =>
    unfold innerLoop
    split
    · simp
    · split
      · rename_i h; simp at h; simp [h]
      · simp only []
        rw [ih]
        simp [List.append_assoc]

theorem innerLoop_le (fuel : Nat) (rem : List Nat) (want : Nat) (chunks acc : List Nat)
    (h : acc.length ≤ want) : (innerLoop fuel rem want chunks acc).1.length ≤ want := by
  induction fuel generalizing rem chunks acc with
  | zero => simpa [innerLoop]
  | succ fuel ih =>
    unfold innerLoop
    split
    · exact h
    · split
      · exact h
      · apply ih
        simp only [List.length_append, List.length_take]
        have : acc.length ≠ want := by rename_i h1 _; simpa using h1
        generalize hkdef : Nat.min (Nat.max 1 (chunks.headD rem.length)) (Nat.min rem.length (want - acc.length)) = k
        have hk1 : k ≤ want - acc.length := by
          rw [← hkdef]; exact Nat.le_trans (Nat.min_le_right _ _) (Nat.min_le_right _ _)
        have hk2 : min k rem.length ≤ k := Nat.min_le_left _ _
        omega

/-- a successful `Read` is one run of the loop on the first pending message -/
theorem read_ok {ws ws' : WS} {want : Nat} {chunks out : List Nat} (h : read ws want chunks = (ws', .ok out)) :
    ∃ fuel rem rest, pending ws = rem ++ rest ∧ out = (innerLoop fuel rem want chunks []).1 ∧
      pending ws' = (innerLoop fuel rem want chunks []).2.getD [] ++ rest := by
  unfold read at h
  cases hc : ws.cur with
  | some rem =>
    simp only [hc] at h
    injection h with h1 h2
    injection h2 with h2
    subst h1 h2
    exact ⟨_, rem, pendingMsgs ws.msgs, by simp only [pending, hc, Option.getD_some], rfl, rfl⟩
  | none =>
    simp only [hc] at h
    cases hm : ws.msgs with
    | nil => simp [hm] at h
    | cons m rest =>
      obtain ⟨isBin, payload⟩ := m
      simp only [hm] at h
      cases isBin with
      | false => simp at h
      | true =>
        simp only [Bool.not_true, Bool.false_eq_true, if_false] at h
        injection h with h1 h2
        injection h2 with h2
        subst h1 h2
        exact ⟨_, payload, pendingMsgs rest, by simp only [pending, hc, Option.getD_none, List.nil_append, hm, pendingMsgs],
          rfl, rfl⟩

/-- **No byte dropped, duplicated or reordered**: whatever a successful `Read` returns, followed by
    what is still pending afterwards, is exactly what was pending before. -/
theorem C39_read_conserves (ws : WS) (want : Nat) (chunks out : List Nat) (ws' : WS)
    (h : read ws want chunks = (ws', .ok out)) : out ++ pending ws' = pending ws := by
  obtain ⟨fuel, rem, rest, h1, h2, h3⟩ := read_ok h
  rw [h1, h2, h3, ← List.append_assoc, innerLoop_conserve, List.nil_append]

/-- a `Read` never returns more than the caller's buffer holds -/
theorem C39_read_fits (ws : WS) (want : Nat) (chunks out : List Nat) (ws' : WS)
    (h : read ws want chunks = (ws', .ok out)) : out.length ≤ want := by
  obtain ⟨fuel, rem, rest, _, h2, _⟩ := read_ok h
  exact h2 ▸ innerLoop_le _ _ _ _ _ (Nat.zero_le _)

/-- a sequence of reads: delivered bytes so far -/
def reads (ws : WS) : List (Nat × List Nat) → WS × List Nat × Option RErr
  | [] => (ws, [], none)
  | (want, chunks) :: rest =>
    match read ws want chunks with
    | (ws', .ok out) =>
      let r := reads ws' rest
      (r.1, out ++ r.2.1, r.2.2)
    | (ws', .error e) => (ws', [], some e)

/-- **Transparency over any sequence of reads**: the concatenation of everything delivered, plus what
    is still pending, is the concatenation of the binary payloads — for every segmentation of the
    stream into messages, every read size and every chunking. -/
theorem C39_stream_transparent (ws : WS) (rs : List (Nat × List Nat)) :
    (reads ws rs).2.1 ++ pending (reads ws rs).1 = pending ws ∨ (reads ws rs).2.2.isSome := by
  induction rs generalizing ws with
  | nil => left; simp [reads]
  | cons r rest ih =>
    obtain ⟨want, chunks⟩ := r
    simp only [reads]
    cases hr : read ws want chunks with
    | mk ws' res =>
      cases res with
      | error e => right; simp
      | ok out =>
        simp only
        rcases ih ws' with h | h
        · left
          rw [List.append_assoc, h]
          exact C39_read_conserves ws want chunks out ws' hr
        · right; exact h

/-- **A non-binary message ends the stream only after every earlier byte was delivered**: the error
    is raised only when no part of a started message is outstanding, and nothing is returned with it. -/
theorem C39_non_binary (ws : WS) (want : Nat) (chunks : List Nat) (ws' : WS)
    (h : read ws want chunks = (ws', .error .invalid)) :
    ws.cur = none ∧ ∃ p rest, ws.msgs = (false, p) :: rest := by
  unfold read at h
  cases hc : ws.cur with
  | some rem => simp [hc] at h
  | none =>
    simp only [hc] at h
    cases hm : ws.msgs with
    | nil => simp [hm] at h
    | cons m rest =>
      obtain ⟨isBin, payload⟩ := m
      cases isBin with
      | true => simp [hm] at h
      | false => exact ⟨rfl, payload, rest, rfl⟩

/-- each `Write p` is one binary message with payload `p` -/
theorem C39_write (p : List Nat) : write p = (true, p) := rfl

/-- non-vacuity: a packet split over two messages, read in buffers of 3 with 1-byte chunks -/
example : (reads { msgs := [(true, [1, 2]), (true, [3, 4, 5])] } [(3, [1, 1]), (3, []), (3, [1]), (3, [])]).2.1
    = [1, 2, 3, 4, 5] := by decide +kernel
example : (reads { msgs := [(true, [1, 2]), (false, [9]), (true, [3])] } [(8, []), (8, []), (8, [])]).2
    = ([1, 2], some .invalid) := by decide +kernel

end Mochi.WsConn
