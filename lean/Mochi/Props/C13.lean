import Mochi.Model.Broker
import Mochi.Lemmas.BrokerConnect
import Mochi.Lemmas.BrokerExitsConnect
import Mochi.Lemmas.BrokerDelivery
import Mochi.Lemmas.BrokerSession
/-!
# C13 — Connections start with one CONNACK and only authenticated clients are admitted

Sequential part (model `connect` = `attachClient` up to the read loop): a refused connection writes
exactly one CONNACK, creates no session and is closed; a client is admitted only if the
authentication hook allows it, and with no authentication hook every connection is refused.
Schedules (a concurrent publish reaching the new client between `Clients.Add` and the CONNACK write —
known finding F13) are the concurrency model's subject.

For every state reachable by a sequential history: `C13_connack_first_seq` (lemmas in
`Mochi/Lemmas/BrokerConnect.lean`) — a refused CONNECT writes exactly the failure CONNACK and the close and registers
nothing; an admitted one writes, before the CONNACK 0, only the take-over DISCONNECT 0x8E / close on ANOTHER
connection, and no CONNACK afterwards; the first packet on the new connection is the one CONNACK of the op.
-/
namespace Mochi.Broker
open Mochi.Topics

/-- with no authentication hook installed every connection is refused -/
theorem C13_no_hook_refused (s : Server) (k : Connect) (c : Client) (h : s.auth = .none) :
    (refuseCode s k c).isSome = true := by
  refine refuseCode_cases (Q := fun r => r.isSome = true) s k c (fun _ => rfl) (fun _ => rfl) (fun _ => rfl)
    (fun _ => rfl) (fun _ => rfl) (fun _ _ => rfl) (fun _ ha => ?_)
  unfold authAllows at ha
  rw [h] at ha
  cases ha

/-- admission implies the authentication hook allowed the client -/
theorem C13_auth (s : Server) (k : Connect) (c : Client) (h : refuseCode s k c = none) : authAllows s k.id = true :=
  refuseCode_cases (Q := fun r => r = none → authAllows s k.id = true) s k c nofun nofun nofun nofun nofun nofun
    (fun _ ha _ => ha) h

/-- a refused connection: exactly one packet (the failure CONNACK) is written, the connection is
    closed, and the client map is untouched (no session) -/
theorem C13_refused_no_session (s : Server) (conn : Nat) (k : Connect) (code : Nat)
    (h : refuseCode { s with objs := s.objs ++ [parseConnect s conn k], connOf := s.connOf ++ [(conn, s.objs.length)] } k
          (parseConnect s conn k) = some code) :
    (connect s conn k).1.clients = s.clients ∧
    ((connect s conn k).2.filter (fun o => match o with | .wrote _ _ => true | _ => false)).length = 1 := by
  rw [connect_refused_eq s conn k code h]
  exact ⟨rfl, rfl⟩

example : ((connect { init {} with auth := .none } 1 { ver := 5, id := [99] }).2.length) = 2 := by decide +kernel

def runOuts (s : Server) (ops : List Op) : Server × List Out :=
  ops.foldl (fun (acc : Server × List Out) op => let r := step acc.1 op; (r.1, acc.2 ++ r.2)) (s, [])

/-- what connection `conn` was written, in order: `true` for a CONNACK -/
def connStream (outs : List Out) (conn : Nat) : List Bool :=
  outs.filterMap fun o => match o with
    | .wrote c (.connack ..) => if c == conn then some true else none
    | .wrote c _ => if c == conn then some false else none
    | _ => none

/-- **F13 (schedule).** A session with a subscription to `a` is resumed on connection 3; its handler is
    parked between `Clients.Add` and `SendConnack`; another client publishes to `a`; the handler
    resumes: connection 3 is written the PUBLISH first and the CONNACK second. (Replayed on the real
    broker on every run: corpus/C13.) -/
theorem C13_connack_first_counterexample :
    connStream (runOuts (init {})
      [.connect 1 { ver := 5, clean := false, id := [99, 49], sei := some 100 },
       .recv 1 (.subscribe 5 0 [{ filter := [97] }]),
       .drop 1,
       .connect 2 { ver := 4, id := [99, 50] },
       .connectHold 3 { ver := 5, clean := false, id := [99, 49], sei := some 100 } 2,
       .recv 2 (.publish 0 false false 0 [97] [1] 0 none),
       .release 3]).2 3 = [false, true] := by decide +kernel

/-- the same history without the parked handler: CONNACK first -/
example :
    connStream (runOuts (init {})
      [.connect 1 { ver := 5, clean := false, id := [99, 49], sei := some 100 },
       .recv 1 (.subscribe 5 0 [{ filter := [97] }]),
       .drop 1,
       .connect 2 { ver := 4, id := [99, 50] },
       .connect 3 { ver := 5, clean := false, id := [99, 49], sei := some 100 },
       .recv 2 (.publish 0 false false 0 [97] [1] 0 none)]).2 3 = [true, false] := by decide +kernel

/-- **C13, sequential.**  `s` reachable by a sequential history, `conn` a fresh connection number, `k` a CONNECT;
    `dec` = the decision of `attachClient` (`refuseCode` in the state where the new client object exists).

    * refused (`dec = some code`): `code` is a failure code (≥ 0x80); the outputs of the op are EXACTLY the failure
      CONNACK on `conn` and the close of `conn`; the Clients map and the delayed wills are unchanged (nothing is
      registered).  In this model every refusal writes a CONNACK: a CONNECT that cannot be decoded / validated before
      the protocol version is known never reaches `attachClient`'s decision (it is the reader's and the codec's
      subject: models M5/M7, property C21), so "refused without CONNACK" does not occur at a `connect` op;
    * admitted (`dec = none`): the authentication hook allowed the client; the outputs are `pre ++ [CONNACK 0] ++ post`
      where `pre` — the take-over of the session's old connection — consists only of a DISCONNECT 0x8E and a close on
      ANOTHER connection `c'`, and `post` (the taken-over handler's will fan-out, the resent in-flight messages, the
      barrier's releases) contains no CONNACK;
    * hence in both cases: the first packet written to `conn` is a CONNACK, and it is the only CONNACK of the op;
      its code is 0 iff the connection was admitted. -/
theorem C13_connack_first_seq (caps : Caps) (s : Server) (hr : ReachSeq caps s) (conn : Nat) (k : Connect)
    (hf : conn ∉ s.connOf.map (·.1)) :
    let dec := refuseCode (connState s conn k) k (parseConnect s conn k)
    let r := step s (.connect conn k)
    (∀ code, dec = some code → code ≥ 0x80 ∧
      r.2 = [.wrote conn (.connack k.ver false code s.caps.receiveMaximum s.caps.maximumQos none), .closed conn] ∧
      r.1.clients = s.clients ∧ r.1.willDelayed = s.willDelayed) ∧
    (dec = none → authAllows s k.id = true ∧
      ∃ c' pre ver sp rm mq seiOut post, c' ≠ conn ∧ TakeoverOut c' pre ∧
        r.2 = pre ++ [.wrote conn (.connack ver sp 0 rm mq seiOut)] ++ post ∧ NoConnack post) ∧
    (∃ ver sp code rm mq seiOut rest, writesTo conn r.2 = .connack ver sp code rm mq seiOut :: rest ∧
      (∀ pk ∈ rest, pk.isConnack = false) ∧ (code = 0 ↔ dec = none)) := by
  dsimp only
  obtain ⟨hs, hw, hcm, _⟩ := hr.inv
  have refused := step_connect_refused s conn k hf
  have admitted := step_connect_admitted s hw conn k hf
  refine ⟨fun code hd => ?_, fun hd => ?_, ?_⟩
  · have R := refused code hd
    exact ⟨R.failure, by rw [R.eq], by rw [R.eq]; rfl, by rw [R.eq]; rfl⟩
  · obtain ⟨c', pre, seiOut, post, h⟩ := (admitted hd).out hcm
    exact ⟨(admitted hd).auth, c', pre, _, _, _, _, seiOut, post, h⟩
  cases hd : connDec s conn k with
  | some code =>
    have R := refused code hd
    refine ⟨_, _, code, _, _, _, [], by rw [R.eq, writesTo_wrote_self]; rfl, (fun _ h => nomatch h), fun h0 => ?_,
      fun h => nomatch hd.symm.trans h⟩
    have := R.failure
    omega
  | none =>
    obtain ⟨c', pre, seiOut, post, hc', hto, ho, hnp⟩ := (admitted hd).out hcm
    exact ⟨_, _, 0, _, _, seiOut, writesTo conn post, by rw [ho, writesTo_connack_first _ hc' hto],
      writesTo_noConnack hnp, fun _ => hd, fun _ => rfl⟩

/-- two clients; the authentication hook denies the client id `b` (configured between ops: `ReachSeq.config`) -/
def c13History : List Op :=
  [.connect 1 { ver := 5, id := [115] },
   .connect 2 { ver := 5, id := [99, 49], will := some { topic := [120], payload := [119] } }]

def c13State : Server := { run (init {}) c13History with auth := .deny [98] }

theorem c13State_reach : ReachSeq {} c13State :=
  ((ReachSeq.init (caps := {})).run c13History (by decide +kernel) (by decide +kernel)).config
    ⟨rfl, rfl, rfl, rfl, rfl, rfl, rfl, rfl⟩

/-- **a refused CONNECT (bad authentication)**: CONNACK 0x86, close, nothing registered -/
example :
    let r := step c13State (.connect 3 { ver := 5, id := [98] })
    refuseCode (connState c13State 3 { ver := 5, id := [98] }) { ver := 5, id := [98] }
      (parseConnect c13State 3 { ver := 5, id := [98] }) = some 0x86 ∧
    r.2 = [.wrote 3 (.connack 5 false 0x86 1024 2 none), .closed 3] ∧ r.1.clients = c13State.clients := by decide +kernel

/-- **a take-over**: DISCONNECT 0x8E and close on the old connection 2, then CONNACK 0 on connection 3 -/
example :
    let r := step c13State (.connect 3 { ver := 5, id := [99, 49] })
    r.2.take 3 = [.wrote 2 (.disconnect 5 0x8E), .closed 2, .wrote 3 (.connack 5 false 0 1024 2 none)] ∧
    writesTo 3 r.2 = [.connack 5 false 0 1024 2 none] := by decide +kernel

/-- `C13_connack_first_seq` applies to this state: the refused CONNECT of `b` above -/
example : ∃ ver sp code rm mq seiOut rest,
    writesTo 3 (step c13State (.connect 3 { ver := 5, id := [98] })).2 = .connack ver sp code rm mq seiOut :: rest ∧
    (∀ pk ∈ rest, pk.isConnack = false) ∧
    (code = 0 ↔ refuseCode (connState c13State 3 { ver := 5, id := [98] }) { ver := 5, id := [98] }
      (parseConnect c13State 3 { ver := 5, id := [98] }) = none) :=
  (C13_connack_first_seq {} c13State c13State_reach 3 { ver := 5, id := [98] } (by decide +kernel)).2.2

example : ∃ c' pre ver sp rm mq seiOut post, c' ≠ 3 ∧ TakeoverOut c' pre ∧
    (step c13State (.connect 3 { ver := 5, id := [99, 49] })).2 =
      pre ++ [.wrote 3 (.connack ver sp 0 rm mq seiOut)] ++ post ∧ NoConnack post :=
  ((C13_connack_first_seq {} c13State c13State_reach 3 { ver := 5, id := [99, 49] } (by decide +kernel)).2.1 (by decide +kernel)).2

/-! ## Admitted means registered (`Mochi/Lemmas/BrokerSession.lean`) -/

/-- **C13, admitted means registered.**  `s` reachable by a sequential history, `conn` a fresh connection number, `k` a
    CONNECT, `dec` the decision of `attachClient`; the client object the op creates has index `s.objs.length`.

    * admitted (`dec = none`): at the end of the op the Clients map is the old one with the NEW object under `k.id`
      (so `k.id ↦ s.objs.length`, every other id as before); the connection table maps `conn` to the new object; the
      new object is open, its connection is `conn`, its client id `k.id`;
    * refused (`dec = some code`): the Clients map is unchanged and no client id is mapped to the new object (nothing
      is registered for `conn`); the new object is closed (and stopped). -/
theorem C13_admitted_registered_seq (caps : Caps) (s : Server) (hr : ReachSeq caps s) (conn : Nat) (k : Connect)
    (hf : conn ∉ s.connOf.map (·.1)) :
    let dec := refuseCode (connState s conn k) k (parseConnect s conn k)
    let r := step s (.connect conn k)
    (dec = none →
      r.1.clients = assocSet s.clients k.id s.objs.length ∧
      assocGet r.1.clients k.id = some s.objs.length ∧
      (∀ id, id ≠ k.id → assocGet r.1.clients id = assocGet s.clients id) ∧
      assocGet r.1.connOf conn = some s.objs.length ∧
      (getObj r.1 s.objs.length).isOpen = true ∧ (getObj r.1 s.objs.length).conn = conn ∧
      (getObj r.1 s.objs.length).id = k.id) ∧
    (∀ code, dec = some code →
      r.1.clients = s.clients ∧ (∀ id, assocGet r.1.clients id ≠ some s.objs.length) ∧
      assocGet r.1.connOf conn = some s.objs.length ∧
      (getObj r.1 s.objs.length).isOpen = false ∧ (getObj r.1 s.objs.length).stopped = true) := by
  dsimp only
  obtain ⟨hs, hw, _, _⟩ := hr.inv
  have hw' := WF_step s (.connect conn k) hw hf
  constructor
  · intro hd
    have A := step_connect_admitted s hw conn k hf hd
    have hreg : assocGet (step s (.connect conn k)).1.clients k.id = some s.objs.length := by
      rw [A.clients, assocGet_assocSet, if_pos rfl]
    exact ⟨A.clients, hreg, fun id hid => by rw [A.clients, assocGet_assocSet, if_neg hid], A.connOf, A.isOpen,
      A.onConn, (hw'.clients_valid k.id _ (assocGet_mem _ _ _ hreg)).2⟩
  · intro code hd
    rw [(step_connect_refused s conn k hf code hd).eq, getObj_setObj_eq _ _ _ (connState_wf s conn k hw hf).2.1]
    exact ⟨rfl, fun id hid => Nat.lt_irrefl _ (hw.clients_valid id _ (assocGet_mem _ _ _ hid)).1,
      assocGet_append_fresh _ _ _ hf, rfl, rfl⟩

/-! ### on `c13State` (`c1` is connected on connection 2 as object 2; the hook denies `b`) -/

/-- the take-over of `c1` on connection 3 is admitted: object 3 is registered under `c1`, open, on connection 3 -/
example : assocGet (step c13State (.connect 3 { ver := 5, id := [99, 49] })).1.clients [99, 49] = some 3 ∧
    (getObj (step c13State (.connect 3 { ver := 5, id := [99, 49] })).1 3).isOpen = true ∧
    (getObj (step c13State (.connect 3 { ver := 5, id := [99, 49] })).1 3).conn = 3 := by
  have h := (C13_admitted_registered_seq {} c13State c13State_reach 3 { ver := 5, id := [99, 49] } (by decide +kernel)).1
    (by decide +kernel)
  exact ⟨h.2.1, h.2.2.2.2.1, h.2.2.2.2.2.1⟩

/-- the refused CONNECT of `b`: nothing is registered for object 3, which is closed -/
example : (∀ id, assocGet (step c13State (.connect 3 { ver := 5, id := [98] })).1.clients id ≠ some 3) ∧
    (getObj (step c13State (.connect 3 { ver := 5, id := [98] })).1 3).isOpen = false := by
  have h := (C13_admitted_registered_seq {} c13State c13State_reach 3 { ver := 5, id := [98] } (by decide +kernel)).2 0x86
    (by decide +kernel)
  exact ⟨h.2.1, h.2.2.2.1⟩

example : c13State.objs.length = 3 ∧ assocGet c13State.clients [99, 49] = some 2 := by decide +kernel

end Mochi.Broker

#print axioms Mochi.Broker.C13_connack_first_seq
#print axioms Mochi.Broker.c13State_reach
#print axioms Mochi.Broker.C13_admitted_registered_seq
