import Mochi.Model.Broker
import Mochi.Lemmas.BrokerIndexSync
/-!
# C15 — Expired or ended sessions leave nothing behind

Model: `sessionDue` / `tickClients` (server.go `clearExpiredClients`, after the repair "fix: expired
sessions are fully discarded…"), `detach` (end of `attachClient`), `processDisconnect`.
-/
namespace Mochi.Broker
open Mochi.Topics

/-- a session is due exactly when it is disconnected and its expiry interval — the client's own for an
    MQTT 5 session that set one, otherwise the server maximum — has elapsed -/
theorem C15_discard_iff (caps : Caps) (c : Client) (dt : Int) :
    sessionDue caps c dt = true ↔
      c.stopped = true ∧ NOW + (if c.ver = 5 ∧ c.fsei = true then (c.sei : Int) else caps.maxSessionExpiry) < dt := by
  unfold sessionDue
  simp only [Bool.and_eq_true, decide_eq_true_eq, beq_iff_eq]
  rw [apply_ite (Nat.cast : Nat → Int)]

/-- a connected session is never due -/
theorem C15_connected_never (caps : Caps) (c : Client) (dt : Int) (h : c.stopped = false) :
    sessionDue caps c dt = false := by
  unfold sessionDue; simp [h]

/-- a DISCONNECT cannot raise a zero session expiry interval to non-zero: it is a protocol error and
    the stored interval is unchanged -/
theorem C15_no_zero_to_nonzero (s : Server) (i rc v : Nat) (hv : v > 0) (h0 : (getObj s i).sei = 0) :
    processDisconnect s i rc (some v) = (s, [], some 0x82) := by
  unfold processDisconnect
  simp [hv, h0]

/-- discarding a session removes every subscription of it from the index bookkeeping of the client
    object and every inflight message -/
theorem C15_nothing_left_inflight (s : Server) (i : Nat) : (getObj (clearInflights s i) i).inflight = [] ∨ s.objs.length ≤ i := by
  by_cases h : i < s.objs.length
  · exact Or.inl (by show (getObj (setObj s i _) i).inflight = []; rw [getObj_setObj_eq s i _ h])
  · exact Or.inr (Nat.le_of_not_lt h)

example : sessionDue {} { stopped := true, ver := 5, fsei := true, sei := 10 } (NOW + 11) = true := by decide +kernel
example : sessionDue {} { stopped := true, ver := 5, fsei := true, sei := 10 } (NOW + 10) = false := by decide +kernel
example : sessionDue { maxSessionExpiry := 100 } { stopped := true, ver := 4 } (NOW + 101) = true := by decide +kernel

/-! ### no orphan subscriptions: the topic index and the sessions agree (`Mochi/Lemmas/BrokerIndexSync.lean`)

`IndexSync s`: every non-inline entry `(cid, filter)` of the topic index (plain or shared) belongs to a client
registered under `cid` whose object holds a subscription for `filter`. -/

/-- the unrestricted statement: no orphan index entry after ANY history with fresh connection numbers.
    False under some schedules: `C15_no_orphan_subscriptions_all_histories_false`. -/
def C15_no_orphan_subscriptions_all_histories : Prop :=
  ∀ (caps : Caps) (ops : List Op), OpsFresh (init caps) ops → IndexSync (run (init caps) ops)

/-- … for every history that respects the discipline of the schedule ops (`SchedOK`: no op on a connection whose
    handler is parked; no `clients` tick that expires a session whose handler is parked before its clean-up) -/
theorem C15_no_orphan_subscriptions_all_histories_partial (caps : Caps) (ops : List Op)
    (hf : OpsFresh (init caps) ops) (hok : OpsSchedOK (init caps) ops) : IndexSync (run (init caps) ops) :=
  IndexSync_run_partial caps ops hf hok

/-- … in particular for EVERY history without schedule ops (connect, recv, recvCut, drop, ticks, inline API) -/
theorem C15_no_orphan_subscriptions_seq (caps : Caps) (ops : List Op) (hseq : SeqOps ops)
    (hf : OpsFresh (init caps) ops) : IndexSync (run (init caps) ops) :=
  IndexSync_run_seq caps ops hseq hf

/-- the schedule that orphans an entry: client `x` (MQTT 5, Session Expiry 0) loses its connection and its handler
    is parked before the session clean-up (`attach.beforeCleanup`); `clearExpiredClients` removes the session; `x`
    connects again and subscribes to `a`; the parked handler runs on — its `Clients.Delete(cl.ID)` removes the NEW
    session from the Clients map, the subscription stays in the index -/
def orphanHistory : List Op :=
  [.connect 1 { ver := 5, id := [120], sei := some 0 },
   .dropHold 1,
   .tick "clients" (NOW + 1),
   .connect 2 { ver := 5, id := [120], sei := some 100 },
   .recv 2 (.subscribe 1 0 [{ filter := [97] }]),
   .release 1]

theorem C15_orphan_fresh : OpsFresh (init {}) orphanHistory := by decide +kernel

/-- the entry `(x, a)` is in the index, `x` is not in the Clients map -/
theorem C15_orphan_counterexample : ¬ IndexSync (run (init {}) orphanHistory) := by decide +kernel

theorem C15_no_orphan_subscriptions_all_histories_false : ¬ C15_no_orphan_subscriptions_all_histories :=
  fun h => C15_orphan_counterexample (h {} orphanHistory C15_orphan_fresh)

/-- the op that breaks the discipline is the `clients` tick (third op) -/
example : OpsSchedOK (init {}) (orphanHistory.take 2) := by decide +kernel
example : ¬ OpsSchedOK (init {}) (orphanHistory.take 3) := by decide +kernel
example : indexEntries (run (init {}) orphanHistory).topics = [([120], [97])] := by decide +kernel
example : (run (init {}) orphanHistory).clients = [(inlineID, 0)] := by decide +kernel

/-- what the orphan entry does: the connection is dropped, `x` connects a third time with Clean Start (connection
    3, never subscribes), `y` connects (connection 4) and publishes to `a`: connection 3 is written the PUBLISH -/
example :
    let s := run (init {}) (orphanHistory ++ [.drop 2, .connect 3 { ver := 5, id := [120], clean := true },
      .connect 4 { ver := 5, id := [121] }])
    (step s (.recv 4 (.publish 0 false false 0 [97] [112] 0 none))).2.any
      (fun o => match o with | .wrote 3 (.publish ..) => true | _ => false) = true := by decide +kernel

/-- other ways to orphan an entry are model artefacts excluded by `SchedOK` (a parked handler does not read, so the
    harness never applies an op to a parked connection): a `drop` on a connection parked in the authentication hook -/
example : ¬ IndexSync (run (init {})
    [.connect 1 { ver := 5, id := [120], sei := some 100 },
     .recv 1 (.subscribe 1 0 [{ filter := [97] }]),
     .connectHold 2 { ver := 5, id := [120], sei := some 0 } 1,
     .drop 2]) := by decide +kernel
/-- … or a SUBSCRIBE read on it -/
example : ¬ IndexSync (run (init {})
    [.connectHold 2 { ver := 5, id := [120], sei := some 0 } 1,
     .recv 2 (.subscribe 1 0 [{ filter := [97] }])]) := by decide +kernel

/-- once a session is no longer in the Clients map, none of its subscriptions is in the index, however the session
    ended (expiry 0 at disconnect, MQTT 3 clean session, the housekeeping): in every reachable state an unregistered
    client id has no entry -/
theorem C15_ended_session_leaves_no_subscription (caps : Caps) (ops : List Op)
    (hf : OpsFresh (init caps) ops) (hok : OpsSchedOK (init caps) ops)
    (cid : Str) (hgone : ∀ i, (cid, i) ∉ (run (init caps) ops).clients) (f : Str) :
    (cid, f) ∉ indexEntries (run (init caps) ops).topics :=
  (IndexSync_run_partial caps _ hf hok).no_entry_of_unregistered cid hgone f

/-- in particular after `clearExpiredClients` (`tick "clients"`) at the end of any history (respecting `OpFresh`,
    `SchedOK`): every client id that is no longer registered has no entry -/
theorem C15_expired_session_leaves_no_subscription (caps : Caps) (ops : List Op) (t : Int)
    (hf : OpsFresh (init caps) (ops ++ [.tick "clients" t])) (hok : OpsSchedOK (init caps) (ops ++ [.tick "clients" t]))
    (cid : Str) (_hwas : ∃ i, (cid, i) ∈ (run (init caps) ops).clients)
    (hgone : ∀ i, (cid, i) ∉ (run (init caps) (ops ++ [.tick "clients" t])).clients) (f : Str) :
    (cid, f) ∉ indexEntries (run (init caps) (ops ++ [.tick "clients" t])).topics :=
  C15_ended_session_leaves_no_subscription caps _ hf hok cid hgone f

/-! two clients `A` (Session Expiry 10) and `B`, plain and `$share` subscriptions, a takeover of `B` with
    Clean Start, `A`'s connection is dropped and its session expires at the tick -/
def demoA : Str := [65]
def demoB : Str := [66]
def demoShare : Str := [36, 115, 104, 97, 114, 101, 47, 103, 47, 97]   -- $share/g/a

def demoTakeover : List Op :=
  [.connect 1 { ver := 5, id := demoA, sei := some 10 },
   .recv 1 (.subscribe 1 0 [{ filter := [97] }, { filter := demoShare }]),
   .connect 2 { ver := 5, id := demoB, sei := some 100 },
   .recv 2 (.subscribe 1 0 [{ filter := [98] }]),
   .connect 3 { ver := 5, id := demoB, clean := true, sei := some 100 }]

def demoExpiry : List Op :=
  demoTakeover ++ [.recv 3 (.subscribe 1 0 [{ filter := [98] }]), .drop 1, .tick "clients" (NOW + 11)]

example : SeqOps demoExpiry := by decide +kernel
example : OpsFresh (init {}) demoExpiry := by decide +kernel
example : OpsSchedOK (init {}) demoExpiry := by decide +kernel
/-- before the takeover `B`'s entry is there -/
example : indexEntries (run (init {}) (demoTakeover.take 4)).topics =
    [(demoA, [97]), (demoA, demoShare), (demoB, [98])] := by decide +kernel
/-- before the tick `A` is registered and its two entries (plain and shared) are in the index, with `B`'s new one -/
example : (demoA, 1) ∈ (run (init {}) (demoExpiry.take 7)).clients := by decide +kernel
example : indexEntries (run (init {}) (demoExpiry.take 7)).topics =
    [(demoA, [97]), (demoA, demoShare), (demoB, [98])] := by decide +kernel
/-- after the tick `A` is gone from the Clients map and from the index; the index is not empty -/
example : ∀ i, (demoA, i) ∉ (run (init {}) demoExpiry).clients := by
  intro i h
  have : (run (init {}) demoExpiry).clients = [(inlineID, 0), (demoB, 3)] := by decide +kernel
  rw [this] at h
  simp [inlineID, demoA, demoB] at h
example : indexEntries (run (init {}) demoExpiry).topics = [(demoB, [98])] := by decide +kernel

/-! ### the converse: a registered session's plain subscriptions are all in the index -/

/-- for plain filters, for every history respecting `OpFresh` and `SchedOK`: every plain filter a registered
    session holds a subscription for has its entry in the topic index (so the session does receive what it subscribed
    to — C03).  For `$share` filters the statement is false already sequentially:
    `IndexSyncConv_seq_false` (`Mochi/Lemmas/BrokerIndexSync.lean`). -/
theorem C15_plain_subscriptions_indexed_partial (caps : Caps) (ops : List Op)
    (hf : OpsFresh (init caps) ops) (hok : OpsSchedOK (init caps) ops) : IndexSyncPlain (run (init caps) ops) :=
  IndexSyncPlain_run_partial caps ops hf hok

theorem C15_plain_subscriptions_indexed_seq (caps : Caps) (ops : List Op) (hseq : SeqOps ops)
    (hf : OpsFresh (init caps) ops) : IndexSyncPlain (run (init caps) ops) :=
  IndexSyncPlain_run_seq caps ops hseq hf

example : IndexSyncPlain (run (init {}) demoExpiry) := by decide +kernel
example : IndexSyncConv (run (init {}) demoExpiry) := by decide +kernel

/-! the discipline `SchedOK` admits the schedules of the harness: a handler parked before its clean-up while the same
    client id reconnects (takeover of the parked session) and is released afterwards; a CONNECT parked in the
    authentication hook and one parked after `Clients.Add`, each released later; a handler parked right after its read
    loop; a `clients` tick while handlers are parked that expires none of them -/
def demoSchedule : List Op :=
  [.connect 1 { ver := 5, id := demoA, sei := some 0 },
   .recv 1 (.subscribe 1 0 [{ filter := [97] }, { filter := demoShare }]),
   .dropHold 1,
   .connect 2 { ver := 5, id := demoA, clean := false, sei := some 50 },
   .release 1,
   .connectHold 3 { ver := 5, id := demoB, sei := some 100 } 1,
   .tick "clients" (NOW + 5),
   .release 3,
   .recv 3 (.subscribe 1 0 [{ filter := [98] }]),
   .connectHold 4 { ver := 5, id := demoB, clean := false, sei := some 100 } 2,
   .dropHoldEarly 2,
   .release 4,
   .release 2,
   .tick "clients" (NOW + 100)]

example : ¬ SeqOps demoSchedule := by decide +kernel
example : OpsFresh (init {}) demoSchedule := by decide +kernel
example : OpsSchedOK (init {}) demoSchedule := by decide +kernel
/-- `A`'s session was resumed by connection 2 while the old handler was parked, lost its connection and expired at the
    last tick; `B`'s session was inherited by connection 4 -/
example : indexEntries (run (init {}) (demoSchedule.take 13)).topics =
    [(demoA, [97]), (demoA, demoShare), (demoB, [98])] := by decide +kernel
example : indexEntries (run (init {}) demoSchedule).topics = [(demoB, [98])] := by decide +kernel
example : (run (init {}) demoSchedule).clients = [(inlineID, 0), (demoB, 4)] := by decide +kernel

end Mochi.Broker
