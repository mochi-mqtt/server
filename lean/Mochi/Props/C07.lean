import Mochi.Model.Broker
import Mochi.Lemmas.BrokerBasics
import Mochi.Lemmas.BrokerAnswers
import Mochi.Lemmas.BrokerAnswersPub
import Mochi.Props.C04
import Mochi.Model.AckFit
/-!
# C07 — Every request that requires a response gets one

Model: the handlers of server.go (`processPubrel`, `processPubrec`, `processUnsubscribe`,
`processSubscribe`, `processPingreq`, `processPublish`) — after the repair "fix: a QoS 1/2 PUBLISH to
a refused topic name ($SYS) is answered instead of silently ignored".
Proved handler by handler, for every state: with the connection open the handler's output contains the
required acknowledgement carrying the request's packet identifier (and, for UNSUBACK/SUBACK, one
reason code per filter).  PUBLISH: the refusal branches (invalid topic, unauthorised) answer or close.
Known findings (recorded; covered by the correspondence oracle): F07c — server maximum QoS below the
published QoS: the publish is downgraded and acknowledged as the lower QoS or not at all; F07d — a
QoS 1 PUBLISH reusing the id of a pending inbound QoS 2 exchange is answered with PUBREC.
-/
namespace Mochi.Broker
open Mochi.Topics

/-- the connection's client can be written to -/
def Writable (c : Client) : Prop := c.isOpen = true ∧ c.inline = false ∧ c.peerGone = false

theorem Writable.live {c : Client} (hw : Writable c) : dead c = false := dead_of_live hw.1 hw.2.2

/-- PUBREL for an unknown identifier is answered with PUBCOMP (reason 0x92) -/
theorem C07_pubrel_unknown (s : Server) (i id rc : Nat) (hw : Writable (getObj s i))
    (hk : flGet (getObj s i) id = none) :
    (processPubrel s i id rc).2.1 = [.wrote (getObj s i).conn (.ack (getObj s i).ver 7 id 0x92)] := by
  unfold processPubrel
  simp only [hk, Option.isNone_none, if_true, ackRes_live s i 7 id 0x92 hw.live, writeAck]
  exact writeMsg_ack _ hw.1 hw.2.1 hw.2.2 (show (7 : Nat) ≠ 3 by decide)

/-- PUBREC for an unknown identifier is answered with PUBREL (reason 0x92) -/
theorem C07_pubrec_unknown (s : Server) (i id rc : Nat) (hw : Writable (getObj s i))
    (hk : flGet (getObj s i) id = none) :
    (processPubrec s i id rc).2.1 = [.wrote (getObj s i).conn (.ack (getObj s i).ver 6 id 0x92)] := by
  unfold processPubrec
  simp only [hk, Option.isNone_none, if_true, ackRes_live s i 6 id 0x92 hw.live, writeAck]
  exact writeMsg_ack _ hw.1 hw.2.1 hw.2.2 (show (6 : Nat) ≠ 3 by decide)

/-- PINGREQ is answered with PINGRESP -/
theorem C07_pingreq (s : Server) (i : Nat) (hopen : (getObj s i).isOpen = true)
    (hpg : (getObj s i).peerGone = false) :
    ∃ rest, (receivePacket s i .pingreq).2.1 = .wrote (getObj s i).conn .pingresp :: rest := by
  rw [receivePacket_pingreq_live s i hopen hpg]
  exact ⟨_, rfl⟩

theorem processPublish_invalid_topic (s : Server) (i q id : Nat) (d r : Bool) (topic payload : Str) (me : Nat)
    (al : Option Nat) (hin : (getObj s i).inline = false) (hbad : isValidFilter topic true = false) :
    processPublish s i q d r id topic payload me al = pubRefuse s i q id 0x90 := by
  have hinv : (!(getObj s i).inline && !isValidFilter topic true) = true := by rw [hin, hbad]; rfl
  exact processPublish_cases (Q := fun x => x = pubRefuse s i q id 0x90) s i q d r id topic payload me al (fun _ => rfl)
    (fun h => nomatch h.symm.trans hinv) (fun h => nomatch h.symm.trans hinv) (fun h => nomatch h.symm.trans hinv)
    (fun p => nomatch p.valid.symm.trans hinv)

/-- a QoS 1/2 PUBLISH to a refused topic name is answered with PUBACK / PUBREC carrying reason 0x90
    (MQTT 5) or the connection is closed (MQTT 3) -/
theorem C07_publish_invalid_topic_v5 (s : Server) (i q id : Nat) (d r : Bool) (topic payload : Str) (me : Nat) (al : Option Nat)
    (hw : Writable (getObj s i)) (hv : (getObj s i).ver = 5) (hq : q ≠ 0) (hbad : isValidFilter topic true = false) :
    (processPublish s i q d r id topic payload me al).2.1 =
      [.wrote (getObj s i).conn (.ack 5 (if q = 2 then 5 else 4) id 0x90)] := by
  rw [processPublish_invalid_topic s i q id d r topic payload me al hw.2.1 hbad]
  refine pubRefuse_cases (Q := fun x => x.2.1 = _) s i q id 0x90 (fun h => absurd (eq_of_beq h) hq)
    (fun _ h => ?_) (fun _ _ => ?_)
  · rw [hv] at h; cases h
  · rw [ackRes_live s i _ id 0x90 hw.live]
    show writeMsg s i _ = _
    rw [writeMsg_ack _ hw.1 hw.2.1 hw.2.2 (by dsimp only; split <;> decide), hv]
    by_cases h2 : q = 2
    · subst h2; rfl
    · rw [if_neg h2, if_neg (by simpa using h2)]

theorem C07_publish_invalid_topic_v3_closes (s : Server) (i q id : Nat) (d r : Bool) (topic payload : Str) (me : Nat) (al : Option Nat)
    (hin : (getObj s i).inline = false) (hv : (getObj s i).ver ≠ 5) (hq : q ≠ 0) (hbad : isValidFilter topic true = false) :
    (processPublish s i q d r id topic payload me al).2.2 = some 0x90 := by
  rw [processPublish_invalid_topic s i q id d r topic payload me al hin hbad]
  exact pubRefuse_cases (Q := fun x => x.2.2 = some 0x90) s i q id 0x90 (fun h => absurd (eq_of_beq h) hq)
    (fun _ _ => rfl) (fun _ h => absurd (by simpa using h) hv)

theorem foldl_snd_length {α β γ : Type} (F : α × List γ → β → α × List γ)
    (h : ∀ a b, (F a b).2.length = a.2.length + 1) (l : List β) (a : α × List γ) :
    (l.foldl F a).2.length = a.2.length + l.length := by
  induction l generalizing a with
  | nil => rfl
  | cons b rest ih => rw [List.foldl_cons, ih, h, List.length_cons, Nat.add_right_comm, Nat.add_assoc]

/-- UNSUBSCRIBE is answered with UNSUBACK carrying the request's identifier and one reason code per
    filter -/
theorem unsub_fold_len (s : Server) (i : Nat) (inUse : Bool) (cid : Str) (filters : List Str) (acc : Server × List Nat) :
    (filters.foldl (fun (acc : Server × List Nat) (f : Str) =>
      let (s, rcs) := acc
      if inUse then (s, rcs ++ [0x91]) else
      let rr := unsubscribe s.topics f cid
      let s := { s with topics := rr.1, info := if rr.2 then { s.info with subs := s.info.subs - 1 } else s.info }
      let s := modObj s i (fun c => { c with subs := assocDel c.subs f })
      (s, rcs ++ [if rr.2 then 0x00 else 0x11])) acc).2.length = acc.2.length + filters.length :=
  foldl_snd_length _ (fun _ _ => by cases inUse <;> exact List.length_append) filters acc

end Mochi.Broker

/-! ## Operation level: `step s (.recv conn pk)` answers on the same connection, or closes it

`R07.Live s conn i`: client object `i` is the one registered on connection `conn`, open, not stopped, not inline, its
peer not gone.  `R07.Answered conn r X`: `wrote conn X ∈ r.2 ∨ closed conn ∈ r.2`.
(Lemmas: `Mochi/Lemmas/BrokerAnswers.lean`.) -/
namespace Mochi.Broker
open Mochi.Topics R07

/-- the MQTT 3 downgrade leaves MQTT 5 codes alone and turns every failure code into 0x80 for MQTT 3 -/
theorem C07_finCode (ver rc : Nat) :
    (ver = 5 → finCode ver rc = rc) ∧ (rc ≤ 2 → finCode ver rc = rc) ∧ (ver < 5 → rc > 2 → finCode ver rc = 0x80) := by
  unfold finCode
  refine ⟨fun h => ?_, fun h => ?_, fun h g => ?_⟩
  · subst h; simp
  · have : ¬ rc > 2 := by omega
    simp [this]
  · simp [h, g]

/-- the reason code of one filter: 0x91 identifier in use (since fix e36320d downgraded for MQTT 3 like the other
    refusals; before, the `continue` in `processSubscribe` skipped the downgrade), else 0x8F invalid filter, 0x82 No Local on a shared subscription, 0x87
    denied (0x80 when `ObscureNotAuthorized`), else the granted QoS `min requested maximumQos` (`C04_suback`) — each
    passed through the MQTT 3 downgrade `finCode` (failure codes become 0x80) -/
theorem C07_suback_code (s : Server) (i id : Nat) (sub : Sub) :
    subCode s i id sub =
      if (flGet (getObj s i) id).isSome then finCode (getObj s i).ver 0x91
      else if !isValidFilter sub.filter false then finCode (getObj s i).ver 0x8F
      else if sub.noLocal && isSharedFilter sub.filter then finCode (getObj s i).ver 0x82
      else if !aclOk s (getObj s i).id sub.filter false then
        finCode (getObj s i).ver (if s.caps.obscureNotAuthorized then 0x80 else 0x87)
      else finCode (getObj s i).ver (min sub.qos s.caps.maximumQos) := by
  unfold subCode
  rw [C04_suback]

/-- **SUBSCRIBE → SUBACK with the same identifier and EXACTLY one reason code per filter, in order, written before
    anything else the op writes** (the retained replay, a released deferred message, …); the connection is not closed
    instead: a live client is always written the SUBACK. -/
theorem C07_subscribe_answered (s : Server) (conn i id subId : Nat) (fs : List Sub) (L : Live s conn i)
    (hne : fs ≠ []) :
    ∃ rcs rest, (step s (.recv conn (.subscribe id subId fs))).2 =
        .wrote conn (.suback (getObj s i).ver id rcs) :: rest ∧
      rcs.length = fs.length ∧ rcs = fs.map (subCode s i id) := by
  obtain ⟨rest, h⟩ := step_prefix L (.subscribe id subId fs)
  have hh : handler s i (.subscribe id subId fs) = processSubscribe s i id subId fs :=
    if_neg (by simpa using hne)
  rw [hh] at h
  obtain ⟨replay, hr⟩ := (processSubscribe_out L id subId fs).2
  rw [hr] at h
  exact ⟨_, replay ++ rest, h, by simp, rfl⟩

/-- **UNSUBSCRIBE → UNSUBACK with the same identifier and exactly one reason code per filter** (0x91 for every filter
    when the identifier is in use, else 0x00 removed / 0x11 no subscription existed), first thing the op writes.  The
    model's UNSUBACK carries the codes for every protocol version; the wire form for MQTT 3 has none (`WPk.render`). -/
theorem C07_unsubscribe_answered (s : Server) (conn i id : Nat) (fs : List Str) (L : Live s conn i) (hne : fs ≠ []) :
    ∃ rcs rest, (step s (.recv conn (.unsubscribe id fs))).2 =
        .wrote conn (.unsuback (getObj s i).ver id rcs) :: rest ∧
      rcs.length = fs.length ∧
      (∀ rc ∈ rcs, if (flGet (getObj s i) id).isSome then rc = 0x91 else (rc = 0x00 ∨ rc = 0x11)) := by
  obtain ⟨rest, h⟩ := step_prefix L (.unsubscribe id fs)
  have hh : handler s i (.unsubscribe id fs) = processUnsubscribe s i id fs :=
    if_neg (by simpa using hne)
  rw [hh] at h
  obtain ⟨rcs, hr, hlen, hcodes⟩ := processUnsubscribe_out L id fs
  rw [hr] at h
  exact ⟨rcs, rest, h, hlen, hcodes⟩

/-- **PINGREQ → PINGRESP**, first thing the op writes. -/
theorem C07_pingreq_answered (s : Server) (conn i : Nat) (L : Live s conn i) :
    ∃ rest, (step s (.recv conn .pingreq)).2 = .wrote conn .pingresp :: rest := by
  obtain ⟨rest, h⟩ := step_prefix L .pingreq
  rw [handler_pingreq L] at h
  exact ⟨rest, h⟩

theorem failed_eq_false {t rc : Nat} (h : rc < 0x80 ∧ reasonValid t rc = true) :
    (decide (rc ≥ 0x80) || !reasonValid t rc) = false := by
  rw [h.2, decide_eq_false (Nat.not_le.mpr h.1)]; rfl

/-- **PUBREL → PUBCOMP with the same identifier**: reason 0x92 when no record exists under the identifier, reason 0
    when a record exists and the PUBREL carries a defined success code.  Known finding F07b (restriction `hrc`): a
    PUBREL with a failure / undefined reason code for a KNOWN identifier deletes the record and is not answered
    (server.go `processPubrel`: `if pk.ReasonCode >= ErrUnspecifiedError.Code || !pk.ReasonCodeValid() { … return nil }`)
    — counterexample `C07_pubrel_failure_code_unanswered`. -/
theorem C07_pubrel_answered_partial (s : Server) (conn i id rc : Nat) (L : Live s conn i)
    (hrc : (flGet (getObj s i) id).isSome = true → rc < 0x80 ∧ reasonValid 6 rc = true) :
    ∃ rest, (step s (.recv conn (.pubrel id rc))).2 =
      .wrote conn (.ack (getObj s i).ver 7 id (if (flGet (getObj s i) id).isNone then 0x92 else 0)) :: rest :=
  step_acked L (.pubrel id rc) (mk := fun c => .ack (getObj s i).ver 7 id c) (processPubrel_out L id rc).2
    fun hs => failed_eq_false (hrc hs)

/-- **PUBREC → PUBREL with the same identifier**: reason 0x92 when no record exists under the identifier (the id is
    unknown: the broker still answers), reason 0 when a record exists and the PUBREC carries a defined success code.
    A PUBREC with a failure / undefined reason code for a known identifier ends the exchange: the record is deleted
    and NOTHING is written (MQTT 5 §4.3.3: correct — a failed PUBREC is not followed by PUBREL); counterexample
    `C07_pubrec_failure_code_unanswered`. -/
theorem C07_pubrec_answered_partial (s : Server) (conn i id rc : Nat) (L : Live s conn i)
    (hrc : (flGet (getObj s i) id).isSome = true → rc < 0x80 ∧ reasonValid 5 rc = true) :
    ∃ rest, (step s (.recv conn (.pubrec id rc))).2 =
      .wrote conn (.ack (getObj s i).ver 6 id (if (flGet (getObj s i) id).isNone then 0x92 else 0)) :: rest :=
  step_acked L (.pubrec id rc) (mk := fun c => .ack (getObj s i).ver 6 id c) (processPubrec_out L id rc).2
    fun hs => failed_eq_false (hrc hs)

/-- PUBREL / PUBREC for an UNKNOWN identifier are always answered (no restriction) -/
theorem C07_pubrel_unknown_answered (s : Server) (conn i id rc : Nat) (L : Live s conn i)
    (hk : flGet (getObj s i) id = none) :
    ∃ rest, (step s (.recv conn (.pubrel id rc))).2 = .wrote conn (.ack (getObj s i).ver 7 id 0x92) :: rest := by
  have := C07_pubrel_answered_partial s conn i id rc L (by rw [hk]; intro h; cases h)
  rw [hk] at this
  exact this

theorem C07_pubrec_unknown_answered (s : Server) (conn i id rc : Nat) (L : Live s conn i)
    (hk : flGet (getObj s i) id = none) :
    ∃ rest, (step s (.recv conn (.pubrec id rc))).2 = .wrote conn (.ack (getObj s i).ver 6 id 0x92) :: rest := by
  have := C07_pubrec_answered_partial s conn i id rc L (by rw [hk]; intro h; cases h)
  rw [hk] at this
  exact this

/-! ### PUBLISH

`R07.pubVerdict s i qos id topic alias` (`Mochi/Lemmas/BrokerAnswersPub.lean`) is the table of every exit of
`PublishValidate` / `processPublish` for a live network client, computed from the state before the packet:
`close` (validation error 0x82/0x94, receive quota 0 → 0x93, unbound alias → 0x82, a refused QoS>0 publish of an MQTT 3
client → 0x90/0x87), `ack t rc` (refused MQTT 5 publish: invalid topic 0x90 / not authorised 0x87 as PUBACK or PUBREC by
QoS; PUBREC record under the identifier → PUBREC 0x91; hook error code → PUBACK / PUBREC 0x87 by the CLAMPED QoS `q`;
accepted → PUBACK `QosCodes[q]` / PUBREC 0 by the CLAMPED QoS `q`), `silent` (QoS 0 refusals, rejecting hook, clamped
QoS 0). -/

/-- **every exit**: verdict `close` — `closed conn` is emitted; verdict `ack t rc` — the FIRST output of the op is that
    acknowledgement with the request's identifier -/
theorem C07_publish_every_exit (s : Server) (conn i : Nat) (L : Live s conn i) (qos : Nat) (dup retain : Bool) (id : Nat)
    (topic payload : Str) (me : Nat) (alias : Option Nat) :
    (pubVerdict s i qos id topic alias = .close →
      Out.closed conn ∈ (step s (.recv conn (.publish qos dup retain id topic payload me alias))).2) ∧
    (∀ t rc, pubVerdict s i qos id topic alias = .ack t rc →
      ∃ rest, (step s (.recv conn (.publish qos dup retain id topic payload me alias))).2 =
        .wrote conn (.ack (getObj s i).ver t id rc) :: rest) :=
  step_publish_table L qos dup retain id topic payload me alias

/-- **QoS 1 → PUBACK with the same identifier (success or failure code), or the connection is closed.**
    Restrictions, each with a counterexample: `hclamp` (F07c, Go: server.go:940-942; `C07_F07c_counterexample`), `hrec`
    (F07d, Go: server.go:921-925; `C07_F07d_counterexample`), `hhook` (a hook that rejects the packet: excluded by the
    property's own text, Go: server.go:947-948; `C07_hook_reject_unanswered`). -/
theorem C07_publish_qos1_answered_partial (s : Server) (conn i : Nat) (L : Live s conn i) (dup retain : Bool) (id : Nat)
    (topic payload : Str) (me : Nat) (alias : Option Nat)
    (hclamp : 1 ≤ s.caps.maximumQos)
    (hrec : ((flGet (getObj s i) id).map (·.type)) ≠ some 5)
    (hhook : assocGet s.pubHook (pubTopic s i topic alias) ≠ some "reject") :
    Out.closed conn ∈ (step s (.recv conn (.publish 1 dup retain id topic payload me alias))).2 ∨
    ∃ rc rest, (step s (.recv conn (.publish 1 dup retain id topic payload me alias))).2 =
      .wrote conn (.ack (getObj s i).ver 4 id rc) :: rest := by
  obtain ⟨h1, h2⟩ := step_publish_table L 1 dup retain id topic payload me alias
  rcases pubVerdict_qos1 s i id topic alias hclamp hrec hhook with h | ⟨rc, h⟩
  · exact Or.inl (h1 h)
  · exact Or.inr ⟨rc, h2 4 rc h⟩

/-- **QoS 2 → PUBREC with the same identifier (success or failure code, 0x91 when the identifier is in use), or the
    connection is closed.**  Restrictions: `hclamp` (F07c), `hhook` (rejecting hook).  A hook error code for an MQTT 5
    client is sent as PUBREC 0x87 (Go: server.go `processPublish`, the acknowledgement type of the OnPublish error branch
    is chosen by QoS; history `C07_hook_error_qos2_pubrec`). -/
theorem C07_publish_qos2_answered_partial (s : Server) (conn i : Nat) (L : Live s conn i) (dup retain : Bool) (id : Nat)
    (topic payload : Str) (me : Nat) (alias : Option Nat)
    (hclamp : 2 ≤ s.caps.maximumQos)
    (hhook : assocGet s.pubHook (pubTopic s i topic alias) ≠ some "reject") :
    Out.closed conn ∈ (step s (.recv conn (.publish 2 dup retain id topic payload me alias))).2 ∨
    ∃ rc rest, (step s (.recv conn (.publish 2 dup retain id topic payload me alias))).2 =
      .wrote conn (.ack (getObj s i).ver 5 id rc) :: rest := by
  obtain ⟨h1, h2⟩ := step_publish_table L 2 dup retain id topic payload me alias
  rcases pubVerdict_qos2 s i id topic alias hclamp hhook with h | ⟨rc, h⟩
  · exact Or.inl (h1 h)
  · exact Or.inr ⟨rc, h2 5 rc h⟩

/-- **QoS 0 → no acknowledgement**: the handler takes an exit that writes none (`silent`: no error, no acknowledgement
    written by `processPublish`) or the connection is closed.  (`hrec`: no PUBREC record under identifier 0 —
    `PublishValidate` refuses QoS 0 with a non-zero identifier.) -/
theorem C07_publish_qos0_no_ack (s : Server) (conn i : Nat) (L : Live s conn i) (dup retain : Bool) (id : Nat)
    (topic payload : Str) (me : Nat) (alias : Option Nat)
    (hrec : ((flGet (getObj s i) id).map (·.type)) ≠ some 5) :
    (pubVerdict s i 0 id topic alias = .close ∧
      Out.closed conn ∈ (step s (.recv conn (.publish 0 dup retain id topic payload me alias))).2) ∨
    (pubVerdict s i 0 id topic alias = .silent ∧ ∀ t rc, pubVerdict s i 0 id topic alias ≠ .ack t rc) := by
  rcases pubVerdict_qos0 s i id topic alias hrec with h | h
  · exact Or.inl ⟨h, (step_publish_table L 0 dup retain id topic payload me alias).1 h⟩
  · exact Or.inr ⟨h, fun t rc g => by rw [h] at g; cases g⟩

end Mochi.Broker

/-! ### concrete histories: the demo and the counterexamples behind every restriction -/
namespace Mochi.Broker.R07
open Mochi.Topics

/-- the outputs of a history, op by op -/
def outsOf (s : Server) : List Op → List (List Out)
  | [] => []
  | op :: ops => (step s op).2 :: outsOf (step s op).1 ops

/-- everything but events and forwarded PUBLISH copies: the answers -/
def isAnswer : Out → Bool
  | .event _ => false
  | .wrote _ (.publish ..) => false
  | _ => true

def answers (s : Server) (ops : List Op) : List (List Out) := (outsOf s ops).map (·.filter isAnswer)

/-- configuration of the demo: Receive Maximum 2; client "p" may not write topic "x"; the `OnPublish` hook rejects
    topic "r" and returns an error code for topic "e" -/
def r07S0 : Server :=
  { init { receiveMaximum := 2 } with
    aclDeny := [([112], [120], true)], pubHook := [([114], "reject"), ([101], "err")] }

def r07P : Connect := { ver := 5, id := [112] }

def r07History : List Op :=
  [.connect 1 r07P,                                                                     -- 0
   .recv 1 (.subscribe 1 0 [{ filter := [116], qos := 1 }, { filter := [35, 47, 98], qos := 0 }]),  -- 1 SUBACK [01, 8F]
   .recv 1 (.unsubscribe 2 [[116], [117]]),                                              -- 2 UNSUBACK [00, 11]
   .recv 1 .pingreq,                                                                     -- 3 PINGRESP
   .recv 1 (.publish 1 false false 3 [116] [97] 0 none),                                 -- 4 PUBACK 3
   .recv 1 (.publish 2 false false 9 [116] [97] 0 none),                                 -- 5 PUBREC 9
   .recv 1 (.publish 2 true false 9 [116] [97] 0 none),                                  -- 6 refused, id in use: PUBREC 9 0x91
   .recv 1 (.pubrel 9 0),                                                                -- 7 PUBCOMP 9
   .recv 1 (.pubrel 9 0),                                                                -- 8 unknown id: PUBCOMP 9 0x92
   .recv 1 (.pubrec 77 0),                                                               -- 9 unknown id: PUBREL 77 0x92
   .recv 1 (.publish 1 false false 4 [36, 83, 89, 83, 47, 120] [97] 0 none),             -- 10 refused, "$SYS/x": PUBACK 4 0x90
   .recv 1 (.publish 1 false false 5 [120] [97] 0 none),                                 -- 11 refused, ACL: PUBACK 5 0x87
   .recv 1 (.publish 1 false false 6 [101] [97] 0 none),                                 -- 12 refused, hook error: PUBACK 6 0x87
   .recv 1 (.publish 2 false false 13 [101] [97] 0 none),                                -- 13 refused, hook error, QoS 2: PUBREC 13 0x87
   .recv 1 (.publish 1 false false 7 [114] [97] 0 none),                                 -- 14 rejecting hook: NOTHING (excluded)
   .recv 1 (.publish 0 false false 0 [116] [97] 0 none),                                 -- 15 QoS 0: nothing
   .connect 2 { ver := 5, id := [113] },                                                 -- 16
   .recv 2 (.publish 1 false false 8 [] [97] 0 (some 3)),                                -- 17 refused, unbound alias: closed
   .connect 3 { ver := 4, id := [118] },                                                 -- 18
   .recv 3 (.publish 1 false false 4 [36, 83, 89, 83, 47, 120] [97] 0 none),             -- 19 refused, MQTT 3: closed
   .connect 4 { ver := 5, id := [119] },                                                 -- 20
   .recv 4 (.publish 1 false false 0 [116] [97] 0 none),                                 -- 21 PublishValidate (id 0): closed
   .recv 1 (.publish 2 false false 10 [116] [97] 0 none),                                -- 22 PUBREC 10
   .recv 1 (.publish 2 false false 11 [116] [97] 0 none),                                -- 23 PUBREC 11 (quota now 0)
   .recv 1 (.publish 1 false false 12 [116] [97] 0 none)]                                -- 24 refused, quota: closed

end Mochi.Broker.R07

namespace Mochi.Broker
open Mochi.Topics R07

/-- the demo: every request once, one refused publish of each kind — what is written back, op by op -/
theorem C07_demo_answers : answers r07S0 r07History =
    [[.wrote 1 (.connack 5 false 0 2 2 none)],
     [.wrote 1 (.suback 5 1 [1, 0x8F])],
     [.wrote 1 (.unsuback 5 2 [0, 0x11])],
     [.wrote 1 .pingresp],
     [.wrote 1 (.ack 5 4 3 1)],
     [.wrote 1 (.ack 5 5 9 0)],
     [.wrote 1 (.ack 5 5 9 0x91)],
     [.wrote 1 (.ack 5 7 9 0)],
     [.wrote 1 (.ack 5 7 9 0x92)],
     [.wrote 1 (.ack 5 6 77 0x92)],
     [.wrote 1 (.ack 5 4 4 0x90)],
     [.wrote 1 (.ack 5 4 5 0x87)],
     [.wrote 1 (.ack 5 4 6 0x87)],
     [.wrote 1 (.ack 5 5 13 0x87)],
     [],
     [],
     [.wrote 2 (.connack 5 false 0 2 2 none)],
     [.wrote 2 (.disconnect 5 0x82), .closed 2],
     [.wrote 3 (.connack 4 false 0 2 2 none)],
     [.wrote 3 (.disconnect 4 0x90), .closed 3],
     [.wrote 4 (.connack 5 false 0 2 2 none)],
     [.wrote 4 (.disconnect 5 0x82), .closed 4],
     [.wrote 1 (.ack 5 5 10 0)],
     [.wrote 1 (.ack 5 5 11 0)],
     [.wrote 1 (.disconnect 5 0x93), .closed 1]] := by decide +kernel

/-- the demo is a sequential history with fresh connection numbers, and the client is `Live` when its requests start -/
theorem C07_demo_valid : SeqOps r07History ∧ OpsFresh r07S0 r07History ∧
    Live (run r07S0 (r07History.take 1)) 1 1 := by
  refine ⟨by decide +kernel, by decide +kernel, by decide +kernel⟩

/-- the demo's states are reachable (`ReachSeq`: ops without schedule ops, interleaved with configuration) -/
theorem C07_demo_reach : ReachSeq { receiveMaximum := 2 } (run r07S0 r07History) :=
  ((ReachSeq.init (caps := { receiveMaximum := 2 })).config (s' := r07S0) ⟨rfl, rfl, rfl, rfl, rfl, rfl, rfl, rfl⟩).run
    r07History C07_demo_valid.1 C07_demo_valid.2.1

/-- **F07c** (Go: server.go:940-942, the QoS is clamped BEFORE the acknowledgement is chosen): server maximum QoS 1 —
    a QoS 2 PUBLISH is answered with PUBACK; server maximum QoS 0 — QoS 1 and QoS 2 PUBLISH are not answered at all -/
theorem C07_F07c_counterexample :
    answers (init { maximumQos := 1 }) [.connect 1 r07P, .recv 1 (.publish 2 false false 5 [116] [97] 0 none)] =
      [[.wrote 1 (.connack 5 false 0 1024 1 none)], [.wrote 1 (.ack 5 4 5 1)]] ∧
    answers (init { maximumQos := 0 }) [.connect 1 r07P, .recv 1 (.publish 1 false false 5 [116] [97] 0 none),
        .recv 1 (.publish 2 false false 6 [116] [97] 0 none)] =
      [[.wrote 1 (.connack 5 false 0 1024 0 none)], [], []] := by decide +kernel

/-- **F07d** (Go: server.go:921-925, the duplicate test does not look at the QoS): a QoS 1 PUBLISH under the identifier
    of an open inbound QoS 2 exchange is answered with PUBREC 0x91 -/
theorem C07_F07d_counterexample :
    answers (init {}) [.connect 1 r07P, .recv 1 (.publish 2 false false 9 [116] [97] 0 none),
        .recv 1 (.publish 1 false false 9 [116] [97] 0 none)] =
      [[.wrote 1 (.connack 5 false 0 1024 2 none)], [.wrote 1 (.ack 5 5 9 0)], [.wrote 1 (.ack 5 5 9 0x91)]] := by
  decide +kernel

/-- a hook error code for an MQTT 5 client refuses a QoS 2 PUBLISH with PUBREC 0x87 (Go: server.go `processPublish`,
    OnPublish error branch: PUBACK for QoS 1, PUBREC for QoS 2) -/
theorem C07_hook_error_qos2_pubrec :
    answers r07S0 [.connect 1 r07P, .recv 1 (.publish 2 false false 6 [101] [97] 0 none)] =
      [[.wrote 1 (.connack 5 false 0 2 2 none)], [.wrote 1 (.ack 5 5 6 0x87)]] := by decide +kernel

/-- a rejecting hook: a QoS 1 PUBLISH is not answered and the connection stays open (Go: server.go:947-948; excluded by
    the property's text) -/
theorem C07_hook_reject_unanswered :
    answers r07S0 [.connect 1 r07P, .recv 1 (.publish 1 false false 7 [114] [97] 0 none)] =
      [[.wrote 1 (.connack 5 false 0 2 2 none)], []] := by decide +kernel

/-- **F07b**: PUBREL with a failure reason code for a KNOWN identifier: the record is deleted, no PUBCOMP (Go:
    `processPubrel`, `if pk.ReasonCode >= ErrUnspecifiedError.Code || !pk.ReasonCodeValid()`) -/
theorem C07_pubrel_failure_code_unanswered :
    answers (init {}) [.connect 1 r07P, .recv 1 (.publish 2 false false 9 [116] [97] 0 none),
        .recv 1 (.pubrel 9 0x80)] =
      [[.wrote 1 (.connack 5 false 0 1024 2 none)], [.wrote 1 (.ack 5 5 9 0)], []] := by decide +kernel

/-- PUBREC with a failure reason code for a known identifier (an outbound QoS 2 delivery, identifier 1): the exchange
    ends, no PUBREL — correct MQTT behaviour -/
theorem C07_pubrec_failure_code_unanswered :
    answers (init {}) [.connect 1 r07P, .recv 1 (.subscribe 1 0 [{ filter := [116], qos := 2 }]),
        .recv 1 (.publish 2 false false 9 [116] [97] 0 none), .recv 1 (.pubrec 1 0x80)] =
      [[.wrote 1 (.connack 5 false 0 1024 2 none)], [.wrote 1 (.suback 5 1 [2])], [.wrote 1 (.ack 5 5 9 0)], []] := by
  decide +kernel

/-- **every request gets its response on the same connection, or the connection is closed** — for every state
    reachable by a sequential history (interleaved with configuration changes) and every `Live` client: the conjunction
    of the clauses above.  (`ReachSeq` is not needed by the proofs: they hold in EVERY state with a `Live` client.) -/
theorem C07_every_request_answered_seq (caps : Caps) (s : Server) (_hr : ReachSeq caps s) (conn i : Nat)
    (L : Live s conn i) :
    -- SUBSCRIBE
    (∀ id subId fs, fs ≠ [] → ∃ rcs rest, (step s (.recv conn (.subscribe id subId fs))).2 =
        .wrote conn (.suback (getObj s i).ver id rcs) :: rest ∧ rcs.length = fs.length ∧
        rcs = fs.map (subCode s i id)) ∧
    -- UNSUBSCRIBE
    (∀ id fs, fs ≠ [] → ∃ rcs rest, (step s (.recv conn (.unsubscribe id fs))).2 =
        .wrote conn (.unsuback (getObj s i).ver id rcs) :: rest ∧ rcs.length = fs.length ∧
        (∀ rc ∈ rcs, if (flGet (getObj s i) id).isSome then rc = 0x91 else (rc = 0x00 ∨ rc = 0x11))) ∧
    -- PUBLISH QoS 1 / QoS 2 / QoS 0
    (∀ dup retain id topic payload me alias, 1 ≤ s.caps.maximumQos →
      ((flGet (getObj s i) id).map (·.type)) ≠ some 5 →
      assocGet s.pubHook (pubTopic s i topic alias) ≠ some "reject" →
      Out.closed conn ∈ (step s (.recv conn (.publish 1 dup retain id topic payload me alias))).2 ∨
      ∃ rc rest, (step s (.recv conn (.publish 1 dup retain id topic payload me alias))).2 =
        .wrote conn (.ack (getObj s i).ver 4 id rc) :: rest) ∧
    (∀ dup retain id topic payload me alias, 2 ≤ s.caps.maximumQos →
      assocGet s.pubHook (pubTopic s i topic alias) ≠ some "reject" →
      Out.closed conn ∈ (step s (.recv conn (.publish 2 dup retain id topic payload me alias))).2 ∨
      ∃ rc rest, (step s (.recv conn (.publish 2 dup retain id topic payload me alias))).2 =
        .wrote conn (.ack (getObj s i).ver 5 id rc) :: rest) ∧
    (∀ id topic alias, ((flGet (getObj s i) id).map (·.type)) ≠ some 5 →
      ∀ t rc, pubVerdict s i 0 id topic alias ≠ .ack t rc) ∧
    -- PUBREL / PUBREC / PINGREQ
    (∀ id rc, ((flGet (getObj s i) id).isSome = true → rc < 0x80 ∧ reasonValid 6 rc = true) →
      ∃ rest, (step s (.recv conn (.pubrel id rc))).2 =
        .wrote conn (.ack (getObj s i).ver 7 id (if (flGet (getObj s i) id).isNone then 0x92 else 0)) :: rest) ∧
    (∀ id rc, ((flGet (getObj s i) id).isSome = true → rc < 0x80 ∧ reasonValid 5 rc = true) →
      ∃ rest, (step s (.recv conn (.pubrec id rc))).2 =
        .wrote conn (.ack (getObj s i).ver 6 id (if (flGet (getObj s i) id).isNone then 0x92 else 0)) :: rest) ∧
    (∃ rest, (step s (.recv conn .pingreq)).2 = .wrote conn .pingresp :: rest) := by
  refine ⟨fun id subId fs h => C07_subscribe_answered s conn i id subId fs L h,
    fun id fs h => C07_unsubscribe_answered s conn i id fs L h,
    C07_publish_qos1_answered_partial s conn i L,
    C07_publish_qos2_answered_partial s conn i L,
    fun id topic alias h t rc g => ?_,
    fun id rc h => C07_pubrel_answered_partial s conn i id rc L h,
    fun id rc h => C07_pubrec_answered_partial s conn i id rc L h,
    C07_pingreq_answered s conn i L⟩
  rcases pubVerdict_qos0 s i id topic alias h with e | e <;> rw [e] at g <;> cases g

end Mochi.Broker

#print axioms Mochi.Broker.C07_subscribe_answered
#print axioms Mochi.Broker.C07_unsubscribe_answered
#print axioms Mochi.Broker.C07_publish_every_exit
#print axioms Mochi.Broker.C07_publish_qos1_answered_partial
#print axioms Mochi.Broker.C07_publish_qos2_answered_partial
#print axioms Mochi.Broker.C07_publish_qos0_no_ack
#print axioms Mochi.Broker.C07_pubrel_answered_partial
#print axioms Mochi.Broker.C07_pubrec_answered_partial
#print axioms Mochi.Broker.C07_pingreq_answered
#print axioms Mochi.Broker.C07_every_request_answered_seq
#print axioms Mochi.Broker.C07_demo_answers
#print axioms Mochi.Broker.C07_demo_reach
#print axioms Mochi.Broker.C07_F07c_counterexample
#print axioms Mochi.Broker.C07_F07d_counterexample

/-! ## An acknowledgement that does not fit the client's Maximum Packet Size (M15, `Model/AckFit.lean`)

The one way a well-formed request can be left without its acknowledgement by a broker that works: the client
announced a Maximum Packet Size the SUBACK / UNSUBACK exceeds, and `WritePacket` refuses it. "Answered or closed"
then rests on `receivePacket` returning the error (tie A: `C07_receive_packet_order_tied`; tie B: the `ackfit`
suite runs the scenario on the real broker on both sides of the boundary `5 + n ≤ mps`). -/

open Mochi.AckFit in
/-- for every Maximum Packet Size and every number of filters: the request is acknowledged with exactly one reason
    code per filter, or the connection is closed — never neither; and it is acknowledged exactly when the
    acknowledgement fits -/
theorem C07_ack_fits_or_closed (mps n : Nat) :
    (answer mps n = .ack n ∨ answer mps n = .closed) ∧ answer mps n ≠ .silent ∧
    (answer mps n = .ack n ↔ (mps = 0 ∨ ackSize5 n ≤ mps)) := by
  unfold answer
  by_cases h : mps = 0 ∨ ackSize5 n ≤ mps <;> simp [h]

open Mochi.AckFit in
/-- the boundary for fewer than 125 filters: the acknowledgement takes `5 + n` bytes -/
theorem C07_ack_size_small (n : Nat) (h : n < 125) : ackSize5 n = 5 + n := by
  unfold ackSize5 varintLen
  have : 3 + n < 128 := by omega
  simp [this]; omega

open Mochi.AckFit in
example : answer 40 35 = .ack 35 ∧ answer 40 36 = .closed ∧ answer 0 500 = .ack 500 := by decide +kernel

#print axioms C07_ack_fits_or_closed
#print axioms C07_ack_size_small

