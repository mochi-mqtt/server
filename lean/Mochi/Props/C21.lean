import Mochi.Lemmas.Storage
import Mochi.Model.Restart
/-!
# C21 — A crash never loses acknowledged state or resurrects discarded state

*If the broker process dies between any two storage writes during any history, a broker restarted on that store
still has every subscription, retained message and in-flight message that was acknowledged to a client before the
crash and not removed before it. A client connecting with Clean Start 1 after the restart never receives messages
because of subscriptions from a session that was clean, expired or taken over before the crash. Storage writes
issued for a superseded session never delete state belonging to the live session with the same client identifier.*

A crash is a prefix of the write log: `applyWrites kv₀ (pre ++ w :: post)` with `post` arbitrary is the store at
EVERY crash point after the write `w`; the theorems quantify over `post` (induction on the log), i.e. over all crash
points at once. The engines are trusted atomic and durable per call (pebble's default `NoSync` against process death
and torn OS writes are outside the model).

What holds (proved): a record written and not touched again is in the store at every later crash point, a key deleted
and not written again is absent at every later crash point; every stored subscription is restored and every restored
subscription was stored; the writes of an event only touch keys of its own client id.
What does not (counterexamples, each replayed on the real broker by `sr.crashsweep`, corpus/C21): F21a the superseded
object's `OnQosDropped` deletes the live session's stored in-flight message; F21b subscriptions of a clean / ended
session are restored without the session and deliver to a Clean Start 1 connection; F21c a refused subscription is
never deleted; F21d the publisher is acknowledged before the subscribers' in-flight records are written.
-/
namespace Mochi.Storage

def Write.key : Write → PKey
  | .set k _ => k
  | .del k => k

def KV.get (kv : KV) (k : PKey) : Option Record := (kv.find? (fun e => e.1 == k)).map (·.2)

/-- the write log of a history -/
def writeLog (b : Backend) (evs : List Event) : List Write := evs.flatMap (interp b)

/-- the store when the process dies after the first `n` writes -/
def crashStore (b : Backend) (evs : List Event) (n : Nat) : KV := applyWrites [] ((writeLog b evs).take n)

theorem applyWrites_append (kv : KV) (a b : List Write) : applyWrites kv (a ++ b) = applyWrites (applyWrites kv a) b := by
  simp [applyWrites, List.foldl_append]

/-- no crash = the whole log -/
theorem C21_run_is_full_log (b : Backend) (evs : List Event) : run b evs = crashStore b evs (writeLog b evs).length := by
  unfold crashStore
  rw [List.take_length]
  exact List.foldl_flatMap.symm

theorem get_filter_ne (kv : KV) (k k' : PKey) (h : k' ≠ k) : KV.get (kv.filter (fun e => e.1 != k')) k = KV.get kv k := by
  unfold KV.get
  rw [List.find?_filter]
  congr 2
  funext e
  by_cases he : e.1 = k
  · simp [he, Ne.symm h]
  · simp [he]

theorem get_filter_self (kv : KV) (k : PKey) : KV.get (kv.filter (fun e => e.1 != k)) k = none := by
  unfold KV.get
  rw [List.find?_filter, List.find?_eq_none.2 fun e _ => by simp]
  rfl

theorem get_applyWrite_other (kv : KV) (w : Write) (k : PKey) (h : w.key ≠ k) : (applyWrite kv w).get k = kv.get k := by
  cases w with
  | set k' r =>
    have hk : k' ≠ k := h
    refine Eq.trans ?_ (get_filter_ne kv k k' hk)
    simp only [applyWrite, KV.set, KV.get, List.find?_cons, beq_eq_false_iff_ne.2 hk]
  | del k' => exact get_filter_ne kv k k' h

theorem get_applyWrites_other (kv : KV) (ws : List Write) (k : PKey) (h : ∀ w ∈ ws, w.key ≠ k) :
    (applyWrites kv ws).get k = kv.get k :=
  ws.foldlRecOn applyWrite (motive := fun kv' => kv'.get k = kv.get k) rfl
    fun kv' h' w hw => (get_applyWrite_other kv' w k (h w hw)).trans h'

/-- **C21 no loss, partial**: at every crash point after a record was written and before its key is touched again the
    record is in the store — whatever the earlier writes `pre` and the later writes `post` to other keys were (and, for
    a subscription, in the restarted broker's topic index: `C21_no_loss_subscription`).
    Not covered: acknowledged state whose record is written only AFTER the acknowledgement (`C21_no_loss_counterexample`). -/
theorem C21_no_loss_partial (kv₀ : KV) (pre post : List Write) (k : PKey) (r : Record) (h : ∀ w ∈ post, w.key ≠ k) :
    (applyWrites kv₀ (pre ++ .set k r :: post)).get k = some r := by
  rw [applyWrites_append]
  show (applyWrites (applyWrite (applyWrites kv₀ pre) (.set k r)) post).get k = some r
  rw [get_applyWrites_other _ _ _ h]
  simp [applyWrite, KV.set, KV.get]

/-- **No resurrection (store).** A key deleted is absent at every later crash point before the next write to it. -/
theorem C21_no_resurrection_store (kv₀ : KV) (pre post : List Write) (k : PKey) (h : ∀ w ∈ post, w.key ≠ k) :
    (applyWrites kv₀ (pre ++ .del k :: post)).get k = none := by
  rw [applyWrites_append]
  show (applyWrites (applyWrite (applyWrites kv₀ pre) (.del k)) post).get k = none
  rw [get_applyWrites_other _ _ _ h]
  exact get_filter_self _ k

/-! ## from the store to the restarted broker -/

theorem get_mem (kv : KV) (k : PKey) (r : Record) (h : kv.get k = some r) : (k, r) ∈ kv := by
  obtain ⟨e, hf, rfl⟩ := Option.map_eq_some_iff.1 h
  have hk : e.1 = k := eq_of_beq (List.find?_some (p := fun e : PKey × Record => e.1 == k) hf)
  exact hk ▸ List.mem_of_find?_eq_some hf

theorem stored_sub_of_get (b : Backend) (kv : KV) (id f : Str) (s : SubRec)
    (h : kv.get (subscriptionKey b id f) = some (.sub s)) : s ∈ storedSubscriptions b kv := by
  have hm := get_mem _ _ _ h
  unfold storedSubscriptions
  rw [List.mem_filterMap]
  refine ⟨_, hm, ?_⟩
  have hs : scans b .sub (subscriptionKey b id f) = true := by rw [subscriptionKey_enc, scans_enc]; rfl
  simp [hs, Record.asSub]

def hasEntry (idx : List SubEntry) (c f : Str) : Prop := ∃ e ∈ idx, e.client = c ∧ e.filter = f

/-- one step of `loadSubscriptions` on the index -/
def idxStep (idx : List SubEntry) (sub : SubRec) : List SubEntry :=
  idx.filter (fun e => !(e.client == sub.client && e.filter == sub.filter && e.kind == kindOf sub.filter)) ++
    [{ client := sub.client, filter := sub.filter, kind := kindOf sub.filter, opts := optsOf sub }]

theorem loadSubscriptions_idx (ss : List Session) (v : List SubRec) (acc : List SubEntry × List (Str × Str × SubOpts)) :
    (v.foldl (fun (acc : List SubEntry × List (Str × Str × SubOpts)) sub =>
      let kind := kindOf sub.filter
      let existed := acc.1.any fun e => e.client == sub.client && e.filter == sub.filter && e.kind == kind
      let idx := acc.1.filter (fun e => !(e.client == sub.client && e.filter == sub.filter && e.kind == kind)) ++
                 [{ client := sub.client, filter := sub.filter, kind := kind, opts := optsOf sub }]
      let cs := if !existed && knownClient ss sub.client
                then acc.2.filter (fun e => !(e.1 == sub.client && e.2.1 == sub.filter)) ++ [(sub.client, sub.filter, optsOf sub)]
                else acc.2
      (idx, cs)) acc).1 = v.foldl idxStep acc.1 := by
  induction v generalizing acc with
  | nil => rfl
  | cons s vs ih => simp only [List.foldl_cons]; rw [ih]; rfl

theorem restart_subs (rb : ReadBack) : (restart rb).subs = rb.subs.foldl idxStep [] := by
  simp only [restart, loadSubscriptions]
  exact loadSubscriptions_idx _ _ ([], [])

/-- loading one record keeps every (client, filter) pair of the index and adds the record's own: the entry it
    replaces, if any, has the same pair -/
theorem hasEntry_idxStep (idx : List SubEntry) (s : SubRec) (c f : Str) :
    hasEntry (idxStep idx s) c f ↔ hasEntry idx c f ∨ (s.client = c ∧ s.filter = f) := by
  simp only [hasEntry, idxStep, List.mem_append, List.mem_filter, List.mem_singleton]
  constructor
  · rintro ⟨e, ⟨he, -⟩ | rfl, hc, hf⟩
    · exact Or.inl ⟨e, he, hc, hf⟩
    · exact Or.inr ⟨hc, hf⟩
  · rintro (⟨e, he, hc, hf⟩ | ⟨hc, hf⟩)
    · cases hb : (e.client == s.client && e.filter == s.filter && e.kind == kindOf s.filter) with
      | false => exact ⟨e, Or.inl ⟨he, by rw [hb]; rfl⟩, hc, hf⟩
      | true =>
        simp only [Bool.and_eq_true, beq_iff_eq] at hb
        exact ⟨_, Or.inr rfl, hb.1.1 ▸ hc, hb.1.2 ▸ hf⟩
    · exact ⟨_, Or.inr rfl, hc, hf⟩

theorem hasEntry_foldl_idxStep (v : List SubRec) (idx : List SubEntry) (c f : Str) :
    hasEntry (v.foldl idxStep idx) c f ↔ hasEntry idx c f ∨ ∃ s ∈ v, s.client = c ∧ s.filter = f := by
  induction v generalizing idx with
  | nil => simp
  | cons s vs ih => simp only [List.foldl_cons, ih, hasEntry_idxStep, List.mem_cons, exists_eq_or_imp, or_assoc]

theorem hasEntry_restart_iff (rb : ReadBack) (c f : Str) :
    hasEntry (restart rb).subs c f ↔ ∃ s ∈ rb.subs, s.client = c ∧ s.filter = f := by
  rw [restart_subs, hasEntry_foldl_idxStep]
  simp [hasEntry]

/-- **No loss (restart).** Every subscription record the store returns is in the restarted broker's topic index. -/
theorem C21_stored_subscription_restored (rb : ReadBack) (s : SubRec) (h : s ∈ rb.subs) :
    hasEntry (restart rb).subs s.client s.filter :=
  (hasEntry_restart_iff rb _ _).2 ⟨s, h, rfl, rfl⟩

/-- a subscription acknowledged (written by `OnSubscribed`) and not touched again is in the topic index of a broker
    restarted at any later crash point -/
theorem C21_no_loss_subscription (b : Backend) (kv₀ : KV) (pre post : List Write) (id f : Str) (s : SubRec)
    (h : ∀ w ∈ post, w.key ≠ subscriptionKey b id f) :
    hasEntry (restart (readback b (applyWrites kv₀ (pre ++ .set (subscriptionKey b id f) (.sub s) :: post)))).subs s.client s.filter :=
  C21_stored_subscription_restored _ s (stored_sub_of_get b _ id f s (C21_no_loss_partial kv₀ pre post _ _ h))

/-- **No resurrection (restart).** Every subscription of the restarted broker's index comes from a stored subscription
    record: once the records of a session are deleted (and stay deleted, `C21_no_resurrection_store`), nothing of it
    is subscribed again. -/
theorem C21_restored_subscription_was_stored (rb : ReadBack) (e : SubEntry) (h : e ∈ (restart rb).subs) :
    ∃ s ∈ rb.subs, s.client = e.client ∧ s.filter = e.filter :=
  (hasEntry_restart_iff rb _ _).1 ⟨e, h, rfl, rfl⟩

/-- **C21 no resurrection, partial**: the restarted broker's index holds only subscriptions whose records are in the store,
    and a deleted record stays absent at every later crash point. Not covered: sessions whose subscription records are
    still in the store when the session is gone (`C21_no_resurrection_counterexample`). -/
theorem C21_no_resurrection_partial (b : Backend) (kv₀ : KV) (pre post : List Write) (id f : Str)
    (h : ∀ w ∈ post, w.key ≠ subscriptionKey b id f) :
    (applyWrites kv₀ (pre ++ .del (subscriptionKey b id f) :: post)).get (subscriptionKey b id f) = none ∧
    ∀ e ∈ (restart (readback b (applyWrites kv₀ (pre ++ .del (subscriptionKey b id f) :: post)))).subs,
      ∃ s ∈ (readback b (applyWrites kv₀ (pre ++ .del (subscriptionKey b id f) :: post))).subs, s.client = e.client ∧ s.filter = e.filter :=
  ⟨C21_no_resurrection_store kv₀ pre post _ h, fun e he => C21_restored_subscription_was_stored _ e he⟩

/-! ## writes of a superseded object -/

/-- the client of an event (none for `OnRetainedExpired`, `OnSysInfoTick`) -/
def Event.client? : Event → Option Client
  | .established c | .willSent c | .clientExpired c | .disconnect c _ | .subscribed c _ _ | .unsubscribed c _
  | .retain c _ _ | .qosPublish c _ _ _ | .qosComplete c _ | .qosDropped c _ => some c
  | _ => none

/-- the keys an event of client id `id` may delete: its client record, its subscriptions, its in-flight messages, and
    (`OnRetainMessage` with r = -1) a retained topic -/
def ownKey (b : Backend) (id : Str) (k : PKey) : Prop :=
  k = clientKey b id ∨ (∃ f, k = subscriptionKey b id f) ∨ (∃ p, k = inflightKey b id p) ∨ (∃ t, k = retainedKey b t)

/-- **C21 superseded harmless, partial**: whatever object issues an event (live or superseded), the deletes it causes
    are keyed by ITS client id: they can never remove the state of a session with another client identifier.  Not
    covered: the live session with the SAME identifier (`C21_superseded_harmless_counterexample`). -/
theorem C21_superseded_harmless_partial (b : Backend) (e : Event) (cl : Client) (hc : e.client? = some cl) (k : PKey)
    (h : Write.del k ∈ interp b e) : ownKey b cl.id k := by
  cases e <;> simp [Event.client?] at hc <;> subst hc
  case established => simp [interp, updateClient] at h
  case willSent => simp [interp, updateClient] at h
  case clientExpired => simp [interp] at h; exact Or.inl h
  case disconnect expire =>
    simp only [interp, onDisconnect, updateClient, List.mem_append] at h
    rcases h with h | h
    · split at h <;> simp at h
    · split at h
      · simp at h
      · split at h
        · simp at h
        · simp at h; exact Or.inl h
  case subscribed fs codes => simp [interp, onSubscribed] at h
  case unsubscribed fs =>
    simp only [interp, onUnsubscribed, List.mem_map] at h
    obtain ⟨f, _, hf⟩ := h
    simp at hf
    exact Or.inr (Or.inl ⟨f.filter, hf.symm⟩)
  case retain pk del =>
    simp only [interp, onRetainMessage] at h
    split at h
    · simp at h; exact Or.inr (Or.inr (Or.inr ⟨pk.topic, h⟩))
    · simp at h
  case qosPublish pk sent resends => simp [interp, onQosPublish] at h
  case qosComplete pk => simp [interp, onQosComplete] at h; exact Or.inr (Or.inr (Or.inl ⟨pk.pid, h⟩))
  case qosDropped pk => simp [interp, onQosComplete] at h; exact Or.inr (Or.inr (Or.inl ⟨pk.pid, h⟩))

/-! ## counterexamples (logs printed by `sr.crashsweep` on the real broker, corpus/C21) -/

def a4 : Client := { id := [97], pv := 4, listener := [116] }                    -- persistent session "a" (MQTT 3.1.1)
def a4clean : Client := { id := [97], pv := 4, clean := true, listener := [116] }
def bPub : Client := { id := [98], pv := 4, clean := true, listener := [116] }
def msg1 : Packet := { topic := [116], payload := [112], qos := 1, type := 3, pid := 1, created := 1000 }

/-- **F21a.** The deletes of a superseded object DO remove the state of the live session with the SAME identifier: take-over of `a` with one
    in-flight message. Log of the real broker: `OnQosPublish(a, 1)`; then, for the take-over, `OnQosDropped(old a, 1)`
    (from `existing.ClearInflights()`), `OnDisconnect(old a)`, and only then `OnQosPublish(new a, 1)` (resend) and
    `OnSessionEstablished(new a)`. A crash after the superseded object's delete loses the message although the live
    session holds it before and after. -/
theorem C21_superseded_harmless_counterexample :
    let old : Client := { a4 with stop := .takenOver }
    let evs : List Event := [.established a4, .subscribed a4 [{ filter := [116], qos := 1 }] [1], .qosPublish a4 msg1 1000 0,
                             .qosDropped old msg1, .disconnect old false, .qosPublish a4 msg1 1000 0, .established a4]
    ∀ b ∈ [badger, pebble],
      ((restart (readback b (run b (evs.take 3)))).inflight.map (·.2.1)) = [1] ∧
      ((restart (readback b (run b (evs.take 4)))).inflight.map (·.2.1)) = [] ∧
      ((restart (readback b (run b (evs.take 5)))).inflight.map (·.2.1)) = [] ∧
      ((restart (readback b (run b evs))).inflight.map (·.2.1)) = [1] := by
  decide +kernel

/-- **F21b.** A clean-session client subscribes; the broker dies while it is connected (or after `OnDisconnect` deleted
    the client record and before `OnUnsubscribed` deleted the subscriptions): the restarted broker has no session `a`
    but subscribes the id `a` to the filter — a later Clean Start 1 connection `a` is delivered its messages. -/
theorem C21_no_resurrection_counterexample :
    let gone : Client := { a4clean with stop := .other }
    let evs : List Event := [.established a4clean, .subscribed a4clean [{ filter := [99] }] [0], .disconnect gone true,
                             .unsubscribed gone [{ filter := [99] }]]
    ∀ b ∈ backends,
      (restart (readback b (run b (evs.take 2)))).sessions = [] ∧
      ((restart (readback b (run b (evs.take 2)))).subs.map (fun e => (e.client, e.filter))) = [([97], [99])] ∧
      (restart (readback b (run b (evs.take 3)))).sessions = [] ∧
      ((restart (readback b (run b (evs.take 3)))).subs.map (fun e => (e.client, e.filter))) = [([97], [99])] ∧
      (restart (readback b (run b evs))).subs = [] := by
  decide +kernel

/-- **F21c.** A refused subscription (SUBACK 0x82 for No Local on a share) is written, is not in the session's own list,
    hence is not deleted when the clean session ends: it is in the restarted broker's index after the complete log. -/
theorem C21_refused_subscription_counterexample :
    let share : Str := [36, 115, 104, 97, 114, 101, 47, 103, 47, 99]   -- "$share/g/c"
    let gone : Client := { a4clean with stop := .other }
    let evs : List Event := [.established a4clean, .subscribed a4clean [{ filter := share, qos := 1, nl := true }] [130],
                             .disconnect gone true, .unsubscribed gone []]
    ∀ b ∈ backends,
      ((restart (readback b (run b evs))).subs.map (fun e => (e.client, e.kind, e.opts.qos))) = [([97], SubKind.shared, 130)] ∧
      (restart (readback b (run b evs))).sessions = [] := by
  decide +kernel

/-- an item of the real broker's log: a storage event or an acknowledgement written to a client -/
inductive LogItem where
  | ev (e : Event)
  | ack (client : Str) (ptype pid : Nat)
deriving DecidableEq, Repr

def eventsOf (l : List LogItem) : List Event := l.filterMap fun | .ev e => some e | _ => none
def acksOf (l : List LogItem) : List (Str × Nat × Nat) := l.filterMap fun | .ack c t p => some (c, t, p) | _ => none

/-- **F21d.** QoS 1 publish of `b` to the persistent subscriber `a`: the real log is `OnQosPublish(b, PUBACK 5)`,
    PUBACK written to `b`, `OnQosComplete(b, 5)`, and only then `OnQosPublish(a, 1)`. At the crash point after the
    PUBACK the publisher has been acknowledged and the restarted broker has no message for `a`. -/
theorem C21_no_loss_counterexample :
    let ackPk : Packet := { type := 4, pid := 5, created := 1000 }
    let log : List LogItem := [.ev (.established a4), .ev (.subscribed a4 [{ filter := [116], qos := 1 }] [1]), .ev (.established bPub),
                               .ev (.qosPublish bPub ackPk 1000 0), .ack [98] 4 5, .ev (.qosComplete bPub ackPk),
                               .ev (.qosPublish a4 msg1 1000 0)]
    ∀ b ∈ [badger, pebble],
      acksOf (log.take 5) = [([98], 4, 5)] ∧
      ((restart (readback b (run b (eventsOf (log.take 5))))).inflight.filter (·.1 == [97])) = [] ∧
      ((restart (readback b (run b (eventsOf (log.take 6))))).inflight.filter (·.1 == [97])) = [] ∧
      (((restart (readback b (run b (eventsOf log)))).inflight.filter (·.1 == [97])).map (·.2.1)) = [1] := by
  decide +kernel

/-- `C21_no_loss_subscription` applies to a real log: the subscription of `a` written by `OnSubscribed`, followed by
    writes of another client, at every one of the later crash points -/
example :
    let b := badger
    let pre := interp b (.established a4)
    let post := interp b (.established bPub) ++ interp b (.qosPublish bPub msg1 0 0)
    (∀ w ∈ post, w.key ≠ subscriptionKey b [97] [99]) ∧
    (∀ n ≤ post.length, ∃ e ∈ (restart (readback b (applyWrites [] (pre ++ interp b (.subscribed a4 [{ filter := [99] }] [0]) ++ post.take n)))).subs,
        e.client = [97] ∧ e.filter = [99]) := by
  decide +kernel

end Mochi.Storage
