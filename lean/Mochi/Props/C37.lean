import Mochi.Model.Keepalive
/-!
# C37 — Idle connections are closed after one and a half keepalive periods

Model: `deadlineNs` (clients.go `refreshDeadline`, after the repair "fix: keepalive deadline is one
and a half times the keepalive…").  For every `uint16` keepalive.
Partial: that `net.Conn` honours the deadline it is given is trusted (runtime behaviour).
-/
namespace Mochi.Keepalive

/-- for every keepalive K in 1 … 65535 the deadline is exactly 1.5·K seconds (no truncation, no
    wrap-around) -/
theorem C37_deadline (k : Nat) (h0 : 0 < k) (h : k < 65536) :
    deadlineNs k = some (some (1500000000 * k)) := by
  have h1 : k * second ≤ int64Max := by unfold second int64Max; omega
  have h2 : k * second * 3 ≤ int64Max := by unfold second int64Max; omega
  have e1 : mulNoWrap k second = some (k * second) := by unfold mulNoWrap; rw [if_pos h1]
  have e2 : mulNoWrap (k * second) 3 = some (k * second * 3) := by unfold mulNoWrap; rw [if_pos h2]
  have e3 : k * second * 3 / 2 = 1500000000 * k := by unfold second; omega
  unfold deadlineNs
  rw [if_pos h0, e1, Option.bind_some, e2, Option.map_some, e3]

/-- keepalive 0 disables the deadline -/
theorem C37_zero_disables : deadlineNs 0 = none := by decide

/-- closed for inactivity exactly when some gap reaches 1.5·K seconds -/
theorem C37_closed_iff (k : Nat) (h0 : 0 < k) (h : k < 65536) (gaps : List Nat) :
    closedForInactivity k gaps = true ↔ ∃ g ∈ gaps, g ≥ 1500 * k := by
  unfold closedForInactivity
  rw [C37_deadline k h0 h]
  simp only [List.any_eq_true, decide_eq_true_eq]
  exact exists_congr fun g => and_congr_right fun _ => by omega

/-- never closed while keepalive is 0 -/
theorem C37_never_when_zero (gaps : List Nat) : closedForInactivity 0 gaps = false := by
  unfold closedForInactivity; rw [C37_zero_disables]

/-- the formerly wrong points: K = 1 gives 1.5 s (was 1.0 s), K = 3 gives 4.5 s (was 4.0 s),
    K = 50000 gives 75000 s (wrapped before) -/
example : deadlineMs 1 = "1500" := by decide +kernel
example : deadlineMs 3 = "4500" := by decide +kernel
example : deadlineNs 50000 = some (some 75000000000000) := by decide +kernel
example : closedForInactivity 1 [1250] = false ∧ closedForInactivity 1 [1750] = true := by decide +kernel

end Mochi.Keepalive
