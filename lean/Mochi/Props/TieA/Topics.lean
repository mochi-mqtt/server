import Mochi.Model.Topics
import Mochi.Gen.Programs
/-!
# Tie A — the two walks of the topic trie the matching theorems rest on

`Model/Topics.lean` (M2) says: `trim` cuts a particle, walking upwards, only while it has no children, no
subscriptions of any kind AND no retained message (`retainPath == ""` is part of the loop condition, so every
ancestor is tested — seeded change C02-r3 hoists it out of the loop); `scanSubscribers` follows, per level, the
literal key and `+`, and at the last level gathers the particle's own subscribers and those of its `#` child for
BOTH of them (`filter/#` matches `filter`, MQTT 4.7.1.2 — seeded change C03-r3 keeps the clause for the literal
key only), then the `#` child of the current particle. Both functions of topics.go are reduced to their statement
lists on every run and compared with the lists the model was written against. The `topics` / `broker` suites
(tie B) sample histories; this obligation ties the loop header and the nesting themselves.
-/
namespace Mochi.TieA

def topicsTrimExpected : List String := [
  "for n.parent != nil && n.retainPath == \"\" && n.particles.len() + n.subscriptions.Len() + n.shared.Len() + n.inlineSubscriptions.Len() == 0 {",
  "key := n.key",
  "n = n.parent",
  "n.particles.delete(key)",
  "}"]

def topicsScanSubscribersExpected : List String := [
  "if len(topic) == 0 {", "return subs", "}",
  "isolateParticle(topic, d)",
  "range []string{…} {",                                   -- {key, "+"}
  "n.particles.get(partKey)", "particle := n.particles.get(partKey)",
  "if particle != nil {",
  "if hasNext {",
  "x.scanSubscribers(topic, d + 1, particle, subs)",
  "} else {",
  "x.gatherSubscriptions(topic, particle, subs)",
  "x.gatherSharedSubscriptions(topic, particle, subs)",
  "x.gatherInlineSubscriptions(topic, particle, subs)",
  "particle.particles.get(\"#\")", "wild := particle.particles.get(\"#\")",   -- inside the loop: for key AND "+"
  "if wild != nil {",
  "x.gatherSubscriptions(topic, wild, subs)",
  "x.gatherSharedSubscriptions(topic, wild, subs)",
  "x.gatherInlineSubscriptions(topic, wild, subs)",
  "}", "}", "}", "}",
  "n.particles.get(\"#\")", "particle := n.particles.get(\"#\")",
  "if particle != nil {",
  "x.gatherSubscriptions(topic, particle, subs)",
  "x.gatherSharedSubscriptions(topic, particle, subs)",
  "x.gatherInlineSubscriptions(topic, particle, subs)",
  "}",
  "return subs"]

/-- **C02 / C05 (tie A).** `TopicsIndex.trim` tests the retained message of EVERY particle it is about to cut. -/
theorem C02_trim_order_tied : Mochi.Gen.topicsTrimOrder = topicsTrimExpected := rfl

/-- **C01 / C03 (tie A).** `TopicsIndex.scanSubscribers` applies the parent-level clause under the literal key and under `+`. -/
theorem C01_scanSubscribers_order_tied : Mochi.Gen.topicsScanSubscribersOrder = topicsScanSubscribersExpected := rfl

end Mochi.TieA

#print axioms Mochi.TieA.C02_trim_order_tied
#print axioms Mochi.TieA.C01_scanSubscribers_order_tied
