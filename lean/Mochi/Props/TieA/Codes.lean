import Mochi.Model.Broker
import Mochi.Gen.Codes
/-!
# Tie A — the reason codes of the broker model are the ones in packets/codes.go

`Mochi.Gen.Codes` is regenerated from `/repo` on every `bin/check` run (`go/cmd/vextract/tables.go`):
every `packets.Code` variable with its code byte, the map `V5CodesToV3` and the map `QosCodes`.

The broker model (`Model/Broker.lean`, `Model/Session.lean`) writes reason codes as hex literals. The
obligations below say, per literal, which Go constant it stands for and that the constant still has that
value; for the pure functions of the model that produce codes (`refuseCode`, `publishValidate`, `v3code`)
the statement is about the function itself. Used by C07 (which acknowledgement / reason code answers a
request) and C23 (what an MQTT 3 client is sent). They stop building when a constant changes its value,
is renamed, or an entry of one of the two maps changes.
-/
namespace Mochi.TieA
open Mochi.Broker Mochi.Topics

/-- the code byte of the Go variable `packets.<n>` (999 if there is no such variable) -/
def codeOf (n : String) : Nat := (Mochi.Gen.codeConsts.lookup n).getD 999

/-- what `SendConnack` sends to an MQTT 3 client for the Go variable `packets.<n>`: `V5CodesToV3[n]` if `n`
    is a key (the map is keyed by the whole struct, i.e. by variable, not by byte), else the code itself -/
def v3Of (n : String) : Nat :=
  match Mochi.Gen.v5CodesToV3.find? (·.1 == n) with
  | some e => e.2.2
  | none => codeOf n

/-! ## `V5CodesToV3` and the model's `v3code` -/

/-- keys of `V5CodesToV3` that never reach `SendConnack`: they are returned by `ConnectDecode`, and
    `readConnectionPacket` then fails before any CONNACK is written. The model's `v3code` (keyed by byte)
    leaves their byte 0x81 alone. -/
def v3DecodeOnly : List String := ["ErrMalformedUsername", "ErrMalformedPassword"]

/-- the reason codes `attachClient` can pass to `SendConnack` (Go variables named in `attachClient` /
    `validateConnect` / `ConnectValidate`): the model's `refuseCode` and `Session.connectDecoded` -/
def connackCodes : List String :=
  ["CodeSuccess", "ErrServerUnavailable", "ErrServerBusy", "ErrUnspecifiedError", "ErrUnsupportedProtocolVersion",
   "ErrQosNotSupported", "ErrRetainNotSupported", "ErrBadUsernameOrPassword",
   "ErrProtocolViolationProtocolName", "ErrProtocolViolationProtocolVersion", "ErrProtocolViolationReservedBit",
   "ErrProtocolViolationUsernameNoFlag", "ErrProtocolViolationFlagNoPassword", "ErrProtocolViolationPasswordNoFlag",
   "ErrProtocolViolationWillFlagNoPayload", "ErrProtocolViolationQosOutOfRange",
   "ErrProtocolViolationWillFlagSurplusRetain"]

/-- outside the key bytes of `V5CodesToV3`, `Broker.v3code` is the identity (every code < 256) -/
theorem C23_v3_identity_tied :
    ∀ c ∈ List.range 256, c ∈ Mochi.Gen.v5CodesToV3.map (·.2.1) ∨ v3code c = c := by
  decide +kernel

/-- the map itself, as the model's comment and the independent decoder's "CONNACK 0–5" rule read it -/
theorem C23_v3_map_tied :
    Mochi.Gen.v5CodesToV3 =
      [("ErrUnsupportedProtocolVersion", 0x84, 1), ("ErrClientIdentifierNotValid", 0x85, 2),
       ("ErrServerUnavailable", 0x88, 3), ("ErrMalformedUsername", 0x81, 4), ("ErrMalformedPassword", 0x81, 4),
       ("ErrBadUsernameOrPassword", 0x86, 5)] := rfl

/-! ## the literals of the model -/

/-- (Go variable, the literal the model writes, where the model writes it) -/
def modelLiterals : List (String × Nat × String) := [
  /- 0 -/ ("CodeSuccess", 0x00, "Broker: admitConnack, ack of processPubrec/processPubrel, processUnsubscribe, reasonValid"),
  ("CodeGrantedQos2", 0x02, "Broker.processSubscribe: `rc > 2` MQTT 3 downgrade"),
  ("CodeDisconnectWillMessage", 0x04, "Broker.processDisconnect"),
  ("CodeNoMatchingSubscribers", 0x10, "Broker.reasonValid (PUBREC)"),
  ("CodeNoSubscriptionExisted", 0x11, "Broker.processUnsubscribe"),
  /- 5 -/ ("CodeContinueAuthentication", 0x18, "Session.recvAuth"),
  ("CodeReAuthenticate", 0x19, "Session.recvAuth"),
  ("ErrUnspecifiedError", 0x80, "Broker: `≥ 0x80` tests (receivePacket, processPubrec/processPubrel, retained loop of processSubscribe, CONNACK rendering), refuseCode, processSubscribe"),
  ("ErrProtocolViolationNoPacketID", 0x82, "Broker.publishValidate; Session.recvSubscribe/recvUnsubscribe"),
  ("ErrProtocolViolationSurplusPacketID", 0x82, "Broker.publishValidate"),
  /- 10 -/ ("ErrProtocolViolationSurplusWildcard", 0x82, "Broker.publishValidate"),
  ("ErrProtocolViolationNoTopic", 0x82, "Broker.publishValidate"),
  ("ErrProtocolViolationSurplusSubID", 0x82, "Session.recvPublish"),
  ("ErrProtocolViolationInvalidSharedNoLocal", 0x82, "Broker.processSubscribe"),
  ("ErrProtocolViolationNoFilters", 0x82, "Broker.receivePacket (SUBSCRIBE/UNSUBSCRIBE without filters)"),
  /- 15 -/ ("ErrProtocolViolationZeroNonZeroExpiry", 0x82, "Broker.processDisconnect"),
  ("ErrProtocolViolationSecondConnect", 0x82, "Session.recvSecondConnect"),
  ("ErrProtocolViolationInvalidReason", 0x82, "Session.recvAuth"),
  ("ErrProtocolViolationProtocolName", 0x82, "Session.connectDecoded (ConnectValidate)"),
  ("ErrProtocolViolationProtocolVersion", 0x82, "Session.connectDecoded (ConnectValidate)"),
  /- 20 -/ ("ErrProtocolViolationReservedBit", 0x82, "Session.connectDecoded (ConnectValidate)"),
  ("ErrProtocolViolationUsernameNoFlag", 0x82, "Session.connectDecoded (ConnectValidate)"),
  ("ErrProtocolViolationFlagNoPassword", 0x82, "Session.connectDecoded (ConnectValidate)"),
  ("ErrProtocolViolationPasswordNoFlag", 0x82, "Session.connectDecoded (ConnectValidate)"),
  ("ErrProtocolViolationWillFlagNoPayload", 0x82, "Session.connectDecoded (ConnectValidate)"),
  /- 25 -/ ("ErrProtocolViolationQosOutOfRange", 0x82, "Session.connectDecoded (ConnectValidate)"),
  ("ErrProtocolViolationWillFlagSurplusRetain", 0x82, "Session.connectDecoded (ConnectValidate)"),
  ("ErrImplementationSpecificError", 0x83, "Broker.reasonValid (PUBREC)"),
  ("ErrUnsupportedProtocolVersion", 0x84, "Broker.refuseCode, v3code"),
  ("ErrClientIdentifierNotValid", 0x85, "Broker.v3code"),
  /- 30 -/ ("ErrBadUsernameOrPassword", 0x86, "Broker.refuseCode, connectHold, v3code"),
  ("ErrNotAuthorized", 0x87, "Broker.processPublish (ACL), processSubscribe (ACL), reasonValid; the harness's OnPublish `err` outcome"),
  ("ErrServerUnavailable", 0x88, "Broker.refuseCode (client limit, MQTT 3), v3code"),
  ("ErrServerBusy", 0x89, "Broker.refuseCode (client limit, MQTT 5)"),
  ("ErrSessionTakenOver", 0x8E, "Broker.admitA (inheritClientSession)"),
  /- 35 -/ ("ErrTopicFilterInvalid", 0x8F, "Broker.processSubscribe"),
  ("ErrTopicNameInvalid", 0x90, "Broker.processPublish, reasonValid"),
  ("ErrPacketIdentifierInUse", 0x91, "Broker.processPublish, processSubscribe, processUnsubscribe, reasonValid"),
  ("ErrPacketIdentifierNotFound", 0x92, "Broker.processPubrec, processPubrel, reasonValid"),
  ("ErrReceiveMaximum", 0x93, "Broker.processPublish"),
  /- 40 -/ ("ErrTopicAliasInvalid", 0x94, "Broker.publishValidate"),
  ("ErrQuotaExceeded", 0x97, "Broker.reasonValid (PUBREC)"),
  ("ErrPayloadFormatInvalid", 0x99, "Broker.reasonValid (PUBREC)"),
  ("ErrRetainNotSupported", 0x9A, "Broker.refuseCode"),
  ("ErrQosNotSupported", 0x9B, "Broker.refuseCode"),
  /- 45 -/ ("Err3UnsupportedProtocolVersion", 1, "Broker.v3code"),
  ("Err3ClientIdentifierNotValid", 2, "Broker.v3code"),
  ("Err3ServerUnavailable", 3, "Broker.v3code"),
  ("Err3NotAuthorized", 5, "Broker.v3code")]

/-- The two obligations that search `Gen.codeConsts` by name, evaluated together. To compare two string
    literals the kernel encodes both to UTF-8 byte lists, which is slow, and it shares that work only inside one
    evaluation: so the table is walked in ONE evaluation, here and nowhere else, and what follows cites rows of
    `modelLiterals` by index (`codeOf_row`). -/
theorem codes_evaluated :
    (∀ e ∈ modelLiterals, codeOf e.1 = e.2.1) ∧
   ((∀ e ∈ Mochi.Gen.v5CodesToV3, e.1 ∈ v3DecodeOnly ∨ v3code e.2.1 = e.2.2) ∧
    (∀ n ∈ connackCodes, v3code (codeOf n) = v3Of n) ∧
    (Mochi.Gen.codeConsts.filter (fun e => e.2 != 0x81 && (Mochi.Gen.v5CodesToV3.map (·.2.1)).contains e.2
        && !(Mochi.Gen.v5CodesToV3.map (·.1)).contains e.1)) = [("ErrClientIdentifierTooLong", 0x85)]) := by
  decide +kernel

/-- every literal of the model is the current value of the Go variable it stands for -/
theorem C07_reason_codes_tied : ∀ e ∈ modelLiterals, codeOf e.1 = e.2.1 := codes_evaluated.1

/-- row `i` of `modelLiterals`, read as an equation (`rfl` finds the row: equal literals cost nothing) -/
theorem codeOf_row {i : Nat} {n : String} {v : Nat} {w : String} (h : modelLiterals[i]? = some (n, v, w)) :
    codeOf n = v :=
  C07_reason_codes_tied _ (List.mem_of_getElem? h)

/-- `Broker.v3code` is `V5CodesToV3`:
    1. on every key (except the two decode-only ones) it gives the map's value;
    2. for every Go variable `attachClient` can hand to `SendConnack`, the by-byte `v3code` gives what the
       by-variable Go lookup gives;
    3. the only variable that shares a byte with a key without being a key (other than the 0x81 family) is
       `ErrClientIdentifierTooLong` — a decode error like the 0x85 key itself, never passed to `SendConnack`. -/
theorem C23_v3_codes_tied :
    (∀ e ∈ Mochi.Gen.v5CodesToV3, e.1 ∈ v3DecodeOnly ∨ v3code e.2.1 = e.2.2) ∧
    (∀ n ∈ connackCodes, v3code (codeOf n) = v3Of n) ∧
    (Mochi.Gen.codeConsts.filter (fun e => e.2 != 0x81 && (Mochi.Gen.v5CodesToV3.map (·.2.1)).contains e.2
        && !(Mochi.Gen.v5CodesToV3.map (·.1)).contains e.1)) = [("ErrClientIdentifierTooLong", 0x85)] := codes_evaluated.2

/-! ## `QosCodes` -/

/-- `QosCodes[q].Code = q` for q = 0, 1, 2 and there is no other key. `processPublish` answers a QoS 1
    PUBLISH with `buildAck(…, Puback, …, QosCodes[pk.FixedHeader.Qos])` and a QoS 2 PUBLISH with
    `buildAck(…, Pubrec, …, CodeSuccess)` (tied by `C07_publish_order_tied`); the model's
    `ackRC := if pk.qos == 2 then 0 else pk.qos` is that. -/
theorem C07_qos_codes_tied :
    Mochi.Gen.qosCodes = [(0, "CodeGrantedQos0", 0), (1, "CodeGrantedQos1", 1), (2, "CodeGrantedQos2", 2)] ∧
    (∀ q ∈ [1, 2], (if q == 2 then codeOf "CodeSuccess" else ((Mochi.Gen.qosCodes.lookup q).map (·.2)).getD 999)
        = (if q == 2 then 0 else q)) := by
  rw [codeOf_row (i := 0) rfl]
  exact ⟨rfl, by decide⟩

/-! ## the code-producing functions of the model, stated with the Go names -/

/-- `refuseCode` = the refusals of `attachClient` in order: client limit (`ErrServerUnavailable` to MQTT 3,
    `ErrServerBusy` to MQTT 5), then `validateConnect` (`ErrUnspecifiedError`,
    `ErrUnsupportedProtocolVersion`, `ErrQosNotSupported`, `ErrRetainNotSupported`), then the
    authentication hook (`ErrBadUsernameOrPassword`) -/
theorem C13_refuse_codes_tied (s : Server) (k : Connect) (c : Client) :
    refuseCode s k c =
      if s.info.connected ≥ s.caps.maximumClients then
        some (if k.ver < 5 then codeOf "ErrServerUnavailable" else codeOf "ErrServerBusy")
      else if k.ver < 5 && !k.clean && k.id.isEmpty then some (codeOf "ErrUnspecifiedError")
      else if k.ver < s.caps.minimumProtocolVersion then some (codeOf "ErrUnsupportedProtocolVersion")
      else if c.will.flag && c.will.qos > s.caps.maximumQos then some (codeOf "ErrQosNotSupported")
      else if c.will.flag && c.will.retain && s.caps.retainAvailable == 0 then some (codeOf "ErrRetainNotSupported")
      else if !authAllows s k.id then some (codeOf "ErrBadUsernameOrPassword")
      else none := by
  rw [codeOf_row (i := 32) rfl, codeOf_row (i := 33) rfl, codeOf_row (i := 7) rfl, codeOf_row (i := 28) rfl,
    codeOf_row (i := 44) rfl, codeOf_row (i := 43) rfl, codeOf_row (i := 30) rfl]
  rfl

/-- `publishValidate` = `Packet.PublishValidate` (without its last test), with the Go names -/
theorem C07_publish_validate_codes_tied (s : Server) (qos id : Nat) (topic : Str) (alias : Option Nat) :
    publishValidate s qos id topic alias =
      if qos > 0 && id == 0 then some (codeOf "ErrProtocolViolationNoPacketID")
      else if qos == 0 && id > 0 then some (codeOf "ErrProtocolViolationSurplusPacketID")
      else if topic.contains plus || topic.contains hash then some (codeOf "ErrProtocolViolationSurplusWildcard")
      else if (alias.getD 0) > s.caps.topicAliasMaximum then some (codeOf "ErrTopicAliasInvalid")
      else if topic.isEmpty && (alias.getD 0) == 0 then some (codeOf "ErrProtocolViolationNoTopic")
      else if alias == some 0 then some (codeOf "ErrTopicAliasInvalid")
      else none := by
  rw [codeOf_row (i := 8) rfl, codeOf_row (i := 9) rfl, codeOf_row (i := 10) rfl, codeOf_row (i := 40) rfl,
    codeOf_row (i := 11) rfl]
  rfl

/-- `reasonValid` = `Packet.ReasonCodeValid` for PUBREC and PUBREL/PUBCOMP, with the Go names -/
theorem C07_reason_valid_tied (rc : Nat) :
    reasonValid 5 rc = (["CodeSuccess", "CodeNoMatchingSubscribers", "ErrUnspecifiedError",
        "ErrImplementationSpecificError", "ErrNotAuthorized", "ErrTopicNameInvalid", "ErrPacketIdentifierInUse",
        "ErrQuotaExceeded", "ErrPayloadFormatInvalid"].map codeOf).contains rc ∧
    reasonValid 6 rc = (["CodeSuccess", "ErrPacketIdentifierNotFound"].map codeOf).contains rc ∧
    reasonValid 7 rc = (["CodeSuccess", "ErrPacketIdentifierNotFound"].map codeOf).contains rc := by
  simp only [List.map, codeOf_row (i := 0) rfl, codeOf_row (i := 3) rfl, codeOf_row (i := 7) rfl,
    codeOf_row (i := 27) rfl, codeOf_row (i := 31) rfl, codeOf_row (i := 36) rfl, codeOf_row (i := 37) rfl,
    codeOf_row (i := 41) rfl, codeOf_row (i := 42) rfl, codeOf_row (i := 38) rfl]
  exact ⟨rfl, rfl, rfl⟩

end Mochi.TieA
