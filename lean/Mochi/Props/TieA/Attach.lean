import Mochi.Gen.Programs
/-!
# Tie A — the statement order of `attachClient` and `inheritClientSession` the schedule model assumes

`Mochi.Gen.Programs` is regenerated from `/repo` on every `bin/check` run (`go/cmd/vextract/order.go`): per
function, the marker statements in source order, inside the `if`/`for`/`select` skeleton they sit in (token
grammar in order.go). The lists below are the order the broker model (`Model/Broker.lean`) was written
against, cut into the pieces that correspond to model functions. A marker that moves across another one,
into or out of a branch, disappears or is duplicated makes the generated list differ and these
obligations stop building.

What the model takes from the order (ops `connectHold`/`connectRelease`/`dropHold`/`dropHoldEarly`/`release`):
* `connectHold` stage 1 parks the handler in the authentication hook: the `MaximumClients` test and
  `validateConnect` are behind it, the `ClientsConnected` increment, `inheritClientSession`, `Clients.Add`
  and the CONNACK are ahead (`refuseCode` is evaluated at park time, `admitClient` at release).
* `connectHold` stage 2 parks at `attach.afterClientsAdd`: `admitA` (increment, inherit, `Clients.Add`) is
  behind, `admitConnack` (`SendConnack`) and `admitC` (`willDelayed.Delete`, `ResendInflightMessages`) ahead;
  a failed `SendConnack` returns before the read loop, only the deferred decrement runs (`connectRelease`).
* `dropHoldEarly` parks at `attach.afterRead` (before `detachA`: `sendLWT`, `Stop`), `dropHold` at
  `attach.beforeCleanup` (between `detachA` and `detachB`: `OnDisconnect`, the `expire && !IsTakenOver`
  clean-up, the deferred decrement).
-/
namespace Mochi.TieA

/-- `attachClient` (server.go), as the model reads it -/
def attachClientExpected : List String :=
  -- set-up; the deferred `cl.Stop(nil)` / `ClientsWg.Done` run at every return
  ["defer s.Listeners.ClientsWg.Done",
   "s.Listeners.ClientsWg.Add",
   "go cl.WriteLoop",
   "defer cl.Stop(nil)",
   -- Session.connectDecoded / Reader: the CONNECT is read first; a read error ends the handler silently
   "s.readConnectionPacket",
   "if err != nil {", "return _", "}",
   "yield attach.afterReadConnect",
   -- Broker.connect / connectHold: `parseConnect`, then `refuseCode` in this order:
   "cl.ParseConnect",
   "yield attach.beforeLimitCheck",
   -- (1) refuseCode, first test: the client limit, read BEFORE the increment below (C35);
   --     0x88→0x03 to MQTT 3, 0x89 to MQTT 5
   "atomic.LoadInt64(&s.Info.ClientsConnected)",
   "if atomic.LoadInt64(&s.Info.ClientsConnected) >= s.Options.Capabilities.MaximumClients {",
   "if cl.Properties.ProtocolVersion < 5 {",
   "s.SendConnack(cl, packets.ErrServerUnavailable, false, nil)",
   "} else {",
   "s.SendConnack(cl, packets.ErrServerBusy, false, nil)",
   "}",
   "return packets.ErrServerBusy",
   "}",
   -- (2) refuseCode, tests 2–5: validateConnect; refused with its code and no session
   "s.validateConnect",
   "if code != packets.CodeSuccess {",
   "s.SendConnack(cl, code, false, nil)",
   "if err != nil {", "return _", "}",
   "return code",
   "}",
   "s.hooks.OnConnect",
   "if err != nil {", "return err", "}",
   -- (3) refuseCode, last test: the authentication hook — where `connectHold` stage 1 parks
   "s.hooks.OnConnectAuthenticate",
   "if !s.hooks.OnConnectAuthenticate(cl, pk) {",
   "s.SendConnack(cl, packets.ErrBadUsernameOrPassword, false, nil)",
   "if err != nil {", "return _", "}",
   "return packets.ErrBadUsernameOrPassword",
   "}",
   -- Broker.admitA: increment (its decrement deferred: runs at every later return, `detachB` /
   -- `connectRelease`), inheritClientSession, Clients.Add
   "atomic.AddInt64(&s.Info.ClientsConnected, 1)",
   "defer atomic.AddInt64(&s.Info.ClientsConnected, -1)",
   "yield attach.afterCountIncrement",
   "s.inheritClientSession",
   "yield attach.afterInherit",
   "s.Clients.Add(cl)",
   -- `connectHold` stage 2 parks here (known finding F13: the session is routable before its CONNACK)
   "yield attach.afterClientsAdd",
   -- Broker.admitConnack; `connectRelease`: a failed write returns before the read loop
   "s.SendConnack(cl, code, sessionPresent, nil)",
   "if err != nil {", "return _", "}",
   "yield attach.afterConnack",
   -- Broker.admitC: delayed will removed AFTER the CONNACK, then the resend (session present only)
   "s.loop.willDelayed.Delete(cl.ID)",
   "yield attach.afterWillDelete",
   "if sessionPresent {",
   "cl.ResendInflightMessages(true)",
   "if err != nil {", "return _", "}",
   "}",
   "yield attach.beforeRead",
   -- the read loop (Broker.recvOn → receivePacket)
   "cl.Read(s.receivePacket)",
   -- `dropHoldEarly` parks here
   "yield attach.afterRead",
   -- Broker.detachA: will + Stop on error, will discarded on a normal end
   "if err != nil {",
   "s.sendLWT(cl)",
   "cl.Stop(err)",
   "} else {",
   "cl.Properties.Will = Will{}",
   "}",
   -- `dropHold` parks here
   "yield attach.beforeCleanup",
   -- Broker.detachB: `expire`, clean-up unless taken over, then (deferred) the decrement
   "expire := (cl.Properties.ProtocolVersion == 5 && cl.Properties.Props.SessionExpiryInterval == 0) || (cl.Properties.ProtocolVersion < 5 && cl.Properties.Clean)",
   "s.hooks.OnDisconnect",
   "cl.IsTakenOver",
   "if expire && !cl.IsTakenOver() {",
   "cl.ClearInflights",
   "s.UnsubscribeClient(cl)",
   "s.Clients.Delete(cl.ID)",
   "}",
   "return err"]

/-- **`attachClient` has the statement order the schedule model was written against** (C13: `Clients.Add`
    before `SendConnack`; C35: limit test before the increment, both before `Clients.Add`; C16: the delayed
    will is removed after the CONNACK, `sendLWT` only on the error path and before the clean-up; C14: the
    clean-up is skipped for a taken-over client) -/
theorem C13_attach_order_tied : Mochi.Gen.attachClientOrder = attachClientExpected := rfl

/-- `inheritClientSession` (server.go), as `Broker.admitA` reads it -/
def inheritClientSessionExpected : List String :=
  ["s.Clients.Get(cl.ID)",
   "if ok {",
   -- the old connection is disconnected (0x8E) BEFORE either branch (C14: it receives nothing afterwards)
   "s.DisconnectClient(existing, packets.ErrSessionTakenOver)",
   -- clean start, or the old session was an MQTT 3 clean session: nothing survives, session present 0;
   -- isTakenOver is set only after the unsubscribe (so that UnsubscribeClient really unsubscribes)
   "if pk.Connect.Clean || (existing.Properties.Clean && existing.Properties.ProtocolVersion < 5) {",
   "yield inherit.afterDisconnectExisting",
   "s.UnsubscribeClient(existing)",
   "existing.ClearInflights",
   "existing.State.isTakenOver.Store(true)",
   "return false",
   "}",
   -- resume: isTakenOver first (the later UnsubscribeClient(existing) then leaves the topic index alone),
   -- inflight cloned, subscriptions re-added under the same id, then the old object is emptied
   "yield inherit.afterDisconnectExisting",
   "existing.State.isTakenOver.Store(true)",
   "if existing.State.Inflight.Len() > 0 {",
   "cl.State.Inflight = existing.State.Inflight.Clone()",
   "atomic.AddInt64(&s.Info.Inflight, int64(cl.State.Inflight.Len()))",
   "if cl.State.Inflight.maximumReceiveQuota == 0 && cl.ops.options.Capabilities.ReceiveMaximum != 0 {",
   "cl.State.Inflight.ResetReceiveQuota",
   "cl.State.Inflight.ResetSendQuota",
   "}",
   "}",
   "existing.State.Subscriptions.GetAll",
   "range existing.State.Subscriptions.GetAll() {",
   "s.Topics.Subscribe(cl.ID, sub)",
   "if !existed {",
   "atomic.AddInt64(&s.Info.Subscriptions, 1)",
   "}",
   "cl.State.Subscriptions.Add(sub.Filter, sub)",
   "}",
   "s.UnsubscribeClient(existing)",
   "existing.ClearInflights",
   "return true",
   "}",
   -- no session for the id: session present 0 (the ClientsMaximum statistic is not in the model)
   "if atomic.LoadInt64(&s.Info.ClientsConnected) > atomic.LoadInt64(&s.Info.ClientsMaximum) {",
   "atomic.AddInt64(&s.Info.ClientsMaximum, 1)",
   "}",
   "return false"]

/-- **`inheritClientSession` has the statement order `Broker.admitA` was written against** (also C09: the
    in-flight transfer; C21: the superseded client's in-flight records and subscriptions are cleared — through
    the storage hooks — after the new client's were written) -/
theorem C14_inherit_order_tied : Mochi.Gen.inheritClientSessionOrder = inheritClientSessionExpected := rfl

end Mochi.TieA
