import Mochi.Model.Codec
import Mochi.Gen.Programs
/-!
# Tie A — the statement order of `Properties.Decode` the codec model assumes

`Model/Codec.lean` (`propsDecode`, `propsLoop`, `decodePropValue`): the property length is read first (an error or a
zero length returns at once); each iteration reads the identifier byte (error: return), checks it against
`validPacketProperties` for the packet type (not permitted: return), decodes the value of that kind with the helper
of its wire type, the cursor moving with every helper call; a user property is two strings and a failure of the KEY
returns before the value is read; the error of the value decode is checked once after the `switch`. Every early
return is part of the list: dropping one (e.g. the return after a failed user-property key, after which the value
decode would restart from the cursor a failed `decodeString` leaves at 0) changes it.
-/
namespace Mochi.TieA

def propertiesDecodeExpected : List String := [
  "if p == nil {",
  "return 0, nil",
  "}",
  "DecodeLength",
  "if err != nil {",
  "return n + bu, err",
  "}",
  "if n == 0 {",
  "return n + bu, nil",
  "}",
  "offset := 0",
  "for offset < n {",
  "decodeByte",
  "offset = decodeByte(bt, offset)",
  "if err != nil {",
  "return n + bu, err",
  "}",
  "if !ok {",
  "return n + bu, _",
  "}",
  "switch k {",
  "case PropPayloadFormat {",
  "decodeByte",
  "offset = decodeByte(bt, offset)",
  "}",
  "case PropMessageExpiryInterval {",
  "decodeUint32",
  "offset = decodeUint32(bt, offset)",
  "}",
  "case PropContentType {",
  "decodeString",
  "offset = decodeString(bt, offset)",
  "}",
  "case PropResponseTopic {",
  "decodeString",
  "offset = decodeString(bt, offset)",
  "}",
  "case PropCorrelationData {",
  "decodeBytes",
  "offset = decodeBytes(bt, offset)",
  "}",
  "case PropSubscriptionIdentifier {",
  "DecodeLength",
  "if err != nil {",
  "return n + bu, err",
  "}",
  "offset += bu",
  "}",
  "case PropSessionExpiryInterval {",
  "decodeUint32",
  "offset = decodeUint32(bt, offset)",
  "}",
  "case PropAssignedClientID {",
  "decodeString",
  "offset = decodeString(bt, offset)",
  "}",
  "case PropServerKeepAlive {",
  "decodeUint16",
  "offset = decodeUint16(bt, offset)",
  "}",
  "case PropAuthenticationMethod {",
  "decodeString",
  "offset = decodeString(bt, offset)",
  "}",
  "case PropAuthenticationData {",
  "decodeBytes",
  "offset = decodeBytes(bt, offset)",
  "}",
  "case PropRequestProblemInfo {",
  "decodeByte",
  "offset = decodeByte(bt, offset)",
  "}",
  "case PropWillDelayInterval {",
  "decodeUint32",
  "offset = decodeUint32(bt, offset)",
  "}",
  "case PropRequestResponseInfo {",
  "decodeByte",
  "offset = decodeByte(bt, offset)",
  "}",
  "case PropResponseInfo {",
  "decodeString",
  "offset = decodeString(bt, offset)",
  "}",
  "case PropServerReference {",
  "decodeString",
  "offset = decodeString(bt, offset)",
  "}",
  "case PropReasonString {",
  "decodeString",
  "offset = decodeString(bt, offset)",
  "}",
  "case PropReceiveMaximum {",
  "decodeUint16",
  "offset = decodeUint16(bt, offset)",
  "}",
  "case PropTopicAliasMaximum {",
  "decodeUint16",
  "offset = decodeUint16(bt, offset)",
  "}",
  "case PropTopicAlias {",
  "decodeUint16",
  "offset = decodeUint16(bt, offset)",
  "}",
  "case PropMaximumQos {",
  "decodeByte",
  "offset = decodeByte(bt, offset)",
  "}",
  "case PropRetainAvailable {",
  "decodeByte",
  "offset = decodeByte(bt, offset)",
  "}",
  "case PropUser {",
  "decodeString",
  "offset = decodeString(bt, offset)",
  "if err != nil {",
  "return n + bu, err",
  "}",
  "decodeString",
  "offset = decodeString(bt, offset)",
  "}",
  "case PropMaximumPacketSize {",
  "decodeUint32",
  "offset = decodeUint32(bt, offset)",
  "}",
  "case PropWildcardSubAvailable {",
  "decodeByte",
  "offset = decodeByte(bt, offset)",
  "}",
  "case PropSubIDAvailable {",
  "decodeByte",
  "offset = decodeByte(bt, offset)",
  "}",
  "case PropSharedSubAvailable {",
  "decodeByte",
  "offset = decodeByte(bt, offset)",
  "}",
  "}",
  "if err != nil {",
  "return n + bu, err",
  "}",
  "}",
  "return n + bu, nil"
]

/-- **C27/C28 (tie A).** `Properties.Decode` in packets/properties.go has the statement order, the early returns and
    the per-kind helper calls the decoder model was written against. -/
theorem C27_properties_decode_order_tied : Mochi.Gen.propertiesDecodeOrder = propertiesDecodeExpected := rfl

end Mochi.TieA
