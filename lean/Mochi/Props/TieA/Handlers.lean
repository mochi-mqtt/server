import Mochi.Gen.Programs
/-!
# Tie A — the statement order of the packet handlers the broker model assumes

Same scheme as `TieA/Attach.lean`: `Mochi.Gen.Programs` is regenerated from `/repo` on every `bin/check` run
(`go/cmd/vextract/order.go`); the lists below are what `Model/Broker.lean` was written against.

* `processSubscribe` — the model stores every accepted filter (topic index, client's subscription map: the
  calls that reach the storage hook `OnSubscribed`) before the SUBACK is written, and publishes retained
  messages after it; a packet identifier in use answers 0x91 for every filter and `continue`s past the MQTT 3
  downgrade (C21: an acknowledged subscription is stored; C07/C23: the reason codes).
* `processPubrec` / `processPubrel` — the in-flight record of the answer is `Set` before the answer is written;
  the quota changes (C09: what a reconnection finds; C07: the answers to an unknown identifier).
* `processPublish` — the refusals in order, the in-flight `Set` of the acknowledgement before it is written,
  `QosCodes[qos]` for PUBACK and `CodeSuccess` for PUBREC (C07).
-/
namespace Mochi.TieA

/-- `processSubscribe` (server.go), as `Broker.processSubscribe` reads it -/
def processSubscribeExpected : List String :=
  ["s.hooks.OnSubscribe",
   -- `inUse`: decided once, before the loop
   "code := packets.CodeSuccess",
   "cl.State.Inflight.Get(pk.PacketID)",
   "if ok {",
   "code = packets.ErrPacketIdentifierInUse",
   "}",
   -- the fold over the filters: one reason code per filter, tests in this order
   "range pk.Filters {",
   "if code != packets.CodeSuccess {",
   "reasonCodes[i] = code.Code",                -- no `continue` (fix e36320d): the MQTT 3 downgrade at the end of the body applies
   "} else {",
   "IsValidFilter(sub.Filter, false)",
   "if !IsValidFilter(sub.Filter, false) {",
   "reasonCodes[i] = packets.ErrTopicFilterInvalid.Code",
   "} else {",
   "IsSharedFilter(sub.Filter)",
   "if sub.NoLocal && IsSharedFilter(sub.Filter) {",
   "reasonCodes[i] = packets.ErrProtocolViolationInvalidSharedNoLocal.Code",
   "} else {",
   "s.hooks.OnACLCheck(cl, sub.Filter, false)",
   "if !s.hooks.OnACLCheck(cl, sub.Filter, false) {",
   "reasonCodes[i] = packets.ErrNotAuthorized.Code",
   "if s.Options.Capabilities.Compatibilities.ObscureNotAuthorized {",
   "reasonCodes[i] = packets.ErrUnspecifiedError.Code",
   "}",
   "} else {",
   -- accepted: topic index, counter, the client's map; granted QoS
   "s.Topics.Subscribe(cl.ID, sub)",
   "if isNew {",
   "atomic.AddInt64(&s.Info.Subscriptions, 1)",
   "}",
   "cl.State.Subscriptions.Add(sub.Filter, sub)",
   "filterExisted[i] = !isNew",
   "reasonCodes[i] = sub.Qos",
   "}", "}", "}", "}",
   -- `fin`: the MQTT 3 downgrade
   "if reasonCodes[i] > packets.CodeGrantedQos2.Code && cl.Properties.ProtocolVersion < 5 {",
   "reasonCodes[i] = packets.ErrUnspecifiedError.Code",
   "}",
   "}",
   -- the storage hook runs BEFORE the SUBACK is written; a failed write ends the handler
   "s.hooks.OnSubscribed",
   "cl.WritePacket(ack)",
   "if err != nil {", "return err", "}",
   -- retained messages after the SUBACK, only for accepted filters
   "range pk.Filters {",
   "if reasonCodes[i] >= packets.ErrUnspecifiedError.Code {",
   "continue",
   "}",
   "s.publishRetainedToClient(cl, sub, filterExisted[i])",
   "}",
   "return nil"]

/-- **in `processSubscribe` every accepted filter is stored (topic index, client map, `OnSubscribed` hook)
    before the SUBACK is written**, and the rest of the handler has the order the model was written against -/
theorem C21_suback_after_store_tied : Mochi.Gen.processSubscribeOrder = processSubscribeExpected := rfl

/-- `processPubrec` (server.go), as `Broker.processPubrec` reads it -/
def processPubrecExpected : List String :=
  ["cl.State.Inflight.Get(pk.PacketID)",
   "if !ok {",
   "s.buildAck(pk.PacketID, packets.Pubrel, 1, pk.Properties, packets.ErrPacketIdentifierNotFound)",
   "cl.WritePacket",
   "return _",
   "}",
   "pk.ReasonCodeValid",
   "if pk.ReasonCode >= packets.ErrUnspecifiedError.Code || !pk.ReasonCodeValid() {",
   "cl.State.Inflight.Delete(pk.PacketID)",
   "if ok {",
   "atomic.AddInt64(&s.Info.Inflight, -1)",
   "}",
   "cl.ops.hooks.OnQosDropped",
   "return nil",
   "}",
   -- the PUBREL replaces the PUBLISH in the in-flight map BEFORE it is written (a reconnection resends PUBREL)
   "s.buildAck(pk.PacketID, packets.Pubrel, 1, pk.Properties, packets.CodeSuccess)",
   "cl.State.Inflight.DecreaseReceiveQuota",
   "cl.State.Inflight.Set(ack)",
   "cl.WritePacket",
   "return _"]

theorem C09_pubrec_order_tied : Mochi.Gen.processPubrecOrder = processPubrecExpected := rfl

/-- `processPubrel` (server.go), as `Broker.processPubrel` reads it -/
def processPubrelExpected : List String :=
  ["cl.State.Inflight.Get(pk.PacketID)",
   "if !ok {",
   "s.buildAck(pk.PacketID, packets.Pubcomp, 0, pk.Properties, packets.ErrPacketIdentifierNotFound)",
   "cl.WritePacket",
   "return _",
   "}",
   "pk.ReasonCodeValid",
   "if pk.ReasonCode >= packets.ErrUnspecifiedError.Code || !pk.ReasonCodeValid() {",
   "cl.State.Inflight.Delete(pk.PacketID)",
   "if ok {",
   "atomic.AddInt64(&s.Info.Inflight, -1)",
   "}",
   "cl.ops.hooks.OnQosDropped",
   "return nil",
   "}",
   -- PUBCOMP recorded, then written; on a failed write the record stays and no quota is returned
   "s.buildAck(pk.PacketID, packets.Pubcomp, 0, pk.Properties, packets.CodeSuccess)",
   "cl.State.Inflight.Set(ack)",
   "cl.WritePacket",
   "if err != nil {", "return err", "}",
   "cl.State.Inflight.IncreaseReceiveQuota",
   "cl.State.Inflight.IncreaseSendQuota",
   "cl.State.Inflight.Delete(pk.PacketID)",
   "if ok {",
   "atomic.AddInt64(&s.Info.Inflight, -1)",
   "s.hooks.OnQosComplete",
   "}",
   "return nil"]

theorem C09_pubrel_order_tied : Mochi.Gen.processPubrelOrder = processPubrelExpected := rfl

/-- `processPublish` (server.go), as `Broker.processPublish` reads it -/
def processPublishExpected : List String :=
  -- refusal 1: invalid topic — QoS 0 dropped, MQTT 3 disconnected, MQTT 5 answered 0x90 (PUBREC for QoS 2)
  ["IsValidFilter(pk.TopicName, true)",
   "if !cl.Net.Inline && !IsValidFilter(pk.TopicName, true) {",
   "if pk.FixedHeader.Qos == 0 {", "return nil", "}",
   "if cl.Properties.ProtocolVersion != 5 {",
   "s.DisconnectClient(cl, packets.ErrTopicNameInvalid)",
   "return _",
   "}",
   "ackType := packets.Puback",
   "if pk.FixedHeader.Qos == 2 {", "ackType = packets.Pubrec", "}",
   "s.buildAck(pk.PacketID, ackType, 0, pk.Properties, packets.ErrTopicNameInvalid)",
   "cl.WritePacket",
   "return _",
   "}",
   -- refusal 2: receive quota exhausted
   "atomic.LoadInt32(&cl.State.Inflight.receiveQuota)",
   "if atomic.LoadInt32(&cl.State.Inflight.receiveQuota) == 0 {",
   "s.DisconnectClient(cl, packets.ErrReceiveMaximum)",
   "return _",
   "}",
   -- refusal 3: ACL
   "s.hooks.OnACLCheck(cl, pk.TopicName, true)",
   "if !cl.Net.Inline && !s.hooks.OnACLCheck(cl, pk.TopicName, true) {",
   "if pk.FixedHeader.Qos == 0 {", "return nil", "}",
   "if cl.Properties.ProtocolVersion != 5 {",
   "s.DisconnectClient(cl, packets.ErrNotAuthorized)",
   "return _",
   "}",
   "ackType := packets.Puback",
   "if pk.FixedHeader.Qos == 2 {", "ackType = packets.Pubrec", "}",
   "s.buildAck(pk.PacketID, ackType, 0, pk.Properties, packets.ErrNotAuthorized)",
   "cl.WritePacket",
   "return _",
   "}",
   -- `pre`: an in-flight record under the packet id: PUBREC → 0x91, anything else is replaced
   "if !cl.Net.Inline {",
   "cl.State.Inflight.Get(pk.PacketID)",
   "if ok {",
   "if pki.FixedHeader.Type == packets.Pubrec {",
   "s.buildAck(pk.PacketID, packets.Pubrec, 0, pk.Properties, packets.ErrPacketIdentifierInUse)",
   "cl.WritePacket",
   "return _",
   "}",
   "cl.State.Inflight.Delete(pk.PacketID)",
   "if ok {", "atomic.AddInt64(&s.Info.Inflight, -1)", "}",
   "}",
   "}",
   -- inbound alias, QoS clamp, OnPublish outcomes (reject / ignore / error answered with a PUBACK to MQTT 5)
   "if pk.Properties.TopicAliasFlag && pk.Properties.TopicAlias > 0 {",
   "cl.State.TopicAliases.Inbound.Set",
   "}",
   -- an alias that is not bound on this connection: protocol error (model: the 0x82 exit of `processPublish`)
   "if !cl.Net.Inline && pk.TopicName == \"\" {",
   "s.DisconnectClient(cl, packets.ErrProtocolViolationNoTopic)",
   "return _",
   "}",
   "if pk.FixedHeader.Qos > s.Options.Capabilities.MaximumQos {",
   "pk.FixedHeader.Qos = s.Options.Capabilities.MaximumQos",
   "}",
   "s.hooks.OnPublish",
   "if err == nil {",
   "} else {",
   "if errors.Is(err, packets.ErrRejectPacket) {",
   "return nil",
   "} else {",
   "if errors.Is(err, packets.CodeSuccessIgnore) {",
   "pk.Ignore = true",
   "} else {",
   "if cl.Properties.ProtocolVersion == 5 && pk.FixedHeader.Qos > 0 && errors.As(err, new(packets.Code)) {",
   -- the refusal carries the hook's code in the acknowledgement OF THE PUBLISH'S QoS (PUBREC for QoS 2, fix cacb33b)
   "ackType := packets.Puback",
   "if pk.FixedHeader.Qos == 2 {",
   "ackType = packets.Pubrec",
   "}",
   "s.buildAck(pk.PacketID, ackType, 0, pk.Properties, err.(packets.Code))",
   "cl.WritePacket",
   "if err != nil {", "return err", "}",
   "return nil",
   "}",
   "}", "}", "}",
   -- retain, then QoS 0 / inline: fan-out and done
   "if pk.FixedHeader.Retain {", "s.retainMessage", "}",
   "if pk.FixedHeader.Qos == 0 || cl.Net.Inline {",
   "s.publishToSubscribers",
   "return nil",
   "}",
   -- QoS 1/2: quota, the acknowledgement (`ackRC`: QosCodes[qos] for PUBACK, success for PUBREC) is
   -- recorded BEFORE it is written; a failed write ends the handler before the fan-out
   "cl.State.Inflight.DecreaseReceiveQuota",
   "s.buildAck(pk.PacketID, packets.Puback, 0, pk.Properties, packets.QosCodes[pk.FixedHeader.Qos])",
   "if pk.FixedHeader.Qos == 2 {",
   "s.buildAck(pk.PacketID, packets.Pubrec, 0, pk.Properties, packets.CodeSuccess)",
   "}",
   "cl.State.Inflight.Set(ack)",
   "if ok {", "atomic.AddInt64(&s.Info.Inflight, 1)", "}",
   "cl.WritePacket",
   "if err != nil {", "return err", "}",
   "if pk.FixedHeader.Qos == 1 {",
   "cl.State.Inflight.Delete(ack.PacketID)",
   "if ok {", "atomic.AddInt64(&s.Info.Inflight, -1)", "}",
   "cl.State.Inflight.IncreaseReceiveQuota",
   "}",
   "s.publishToSubscribers",
   "return nil"]

theorem C07_publish_order_tied : Mochi.Gen.processPublishOrder = processPublishExpected := rfl

/-! ## `receivePacket` and the dispatch `processPacket` (C07)

The model's `receivePacket` ends the connection on every error a handler returns (`(s, o, some code)`: DISCONNECT with
the code for an MQTT 5 client when it is a failure code, then the read loop ends and the handler tears the connection
down): "answered or closed". In Go that is the `return err` of `receivePacket` — an added branch that returns nil for
some error (e.g. `ErrPacketTooLarge` from a refused acknowledgement) leaves the request unanswered on a connection
that is still served, which no history without a client Maximum Packet Size exhibits. The dispatch is tied too:
validation before the handler, the handler's error returned before the release of a deferred message. -/

def receivePacketExpected : List String := [
  "s.processPacket",
  "if err != nil {",
  "if ok && cl.Properties.ProtocolVersion == 5 && code.Code >= packets.ErrUnspecifiedError.Code {",
  "s.DisconnectClient(cl, code)",
  "}",
  "return err",
  "}",
  "return nil"
]

def processPacketExpected : List String := [
  "switch pk.FixedHeader.Type {",
  "case packets.Connect {",
  "s.processConnect",
  "}",
  "case packets.Disconnect {",
  "s.processDisconnect",
  "}",
  "case packets.Pingreq {",
  "s.processPingreq",
  "}",
  "case packets.Publish {",
  "pk.PublishValidate",
  "if code != packets.CodeSuccess {",
  "return code",
  "}",
  "s.processPublish",
  "}",
  "case packets.Puback {",
  "s.processPuback",
  "}",
  "case packets.Pubrec {",
  "s.processPubrec",
  "}",
  "case packets.Pubrel {",
  "s.processPubrel",
  "}",
  "case packets.Pubcomp {",
  "s.processPubcomp",
  "}",
  "case packets.Subscribe {",
  "pk.SubscribeValidate",
  "if code != packets.CodeSuccess {",
  "return code",
  "}",
  "s.processSubscribe",
  "}",
  "case packets.Unsubscribe {",
  "pk.UnsubscribeValidate",
  "if code != packets.CodeSuccess {",
  "return code",
  "}",
  "s.processUnsubscribe",
  "}",
  "case packets.Auth {",
  "pk.AuthValidate",
  "if code != packets.CodeSuccess {",
  "return code",
  "}",
  "s.processAuth",
  "}",
  "default {",
  "return _",
  "}",
  "}",
  "s.hooks.OnPacketProcessed",
  "if err != nil {",
  "return err",
  "}",
  "if cl.State.Inflight.Len() > 0 && atomic.LoadInt32(&cl.State.Inflight.sendQuota) > 0 {",
  "cl.State.Inflight.NextImmediate",
  "if ok {",
  "cl.WritePacket(next)",
  "cl.State.Inflight.Delete(next.PacketID)",
  "if ok {",
  "atomic.AddInt64(&s.Info.Inflight, -1)",
  "}",
  "cl.State.Inflight.DecreaseSendQuota",
  "}",
  "}",
  "return nil"
]

/-- **C07 (tie A).** `receivePacket` returns every handler error to the read loop. -/
theorem C07_receive_packet_order_tied : Mochi.Gen.receivePacketOrder = receivePacketExpected := rfl

/-- **C07 (tie A).** `processPacket`: validate, dispatch, return the handler's error, release one deferred message. -/
theorem C07_process_packet_order_tied : Mochi.Gen.processPacketOrder = processPacketExpected := rfl

end Mochi.TieA
