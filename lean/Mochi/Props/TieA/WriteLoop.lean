import Mochi.Model.WriteBuf
import Mochi.Gen.Programs
/-!
# Tie A — the statement order of `Client.WriteLoop` the write-path model assumes

`Model/WriteBuf.lean` (`step .dequeue`, `loopWrite true`): one iteration takes the oldest queued packet,
calls `WritePacket`, and when that fails flushes what earlier writes buffered if nothing further is queued
(under the client lock); `outboundQty` is decremented after the write, whatever its outcome.
-/
namespace Mochi.TieA

def writeLoopExpected : List String :=
  ["for {",
   "select {",
   "case pk := <-cl.State.outbound {",          -- WriteBuf.Op.dequeue
   "yield writeloop.afterDequeue",
   "cl.WritePacket(*pk)",                        -- WriteBuf.loopWrite: writePacket
   "if err != nil {",
   "cl.Lock",
   "if len(cl.State.outbound) == 0 {",           -- `flushOnRefusal && queue.length == 0`
   "cl.flushOutbuf",
   "}",
   "cl.Unlock",
   "}",
   "atomic.AddInt32(&cl.State.outboundQty, -1)", -- after the write and the flush
   "}",
   "case <-cl.State.open.Done() {",
   "return",
   "}",
   "}",
   "}"]

theorem C34_writeloop_order_tied : Mochi.Gen.writeLoopOrder = writeLoopExpected := rfl

end Mochi.TieA
