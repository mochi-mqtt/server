import Mochi.Model.Codec
import Mochi.Gen.PropTable
/-!
# Tie A — the property table of the codec model is the one in packets/properties.go

`Mochi.Gen.PropTable` is regenerated from `/repo` on every `bin/check` run (`go/cmd/vextract/tables.go`):
`validPacketProperties` with the constants evaluated by go/types, rows sorted by property id and packet
types sorted ascending (`WillProperties` is 99 in the Go code as in the model). The model's copy
(`Mochi.Codec.propTable`, read by `propAllowed`, hence by `propsLoop`/`Properties.Decode` and by the
encoder's `canEncode`) is written in the same normal form, so "equal modulo order" is plain equality.

Used by C26 (round trip of the property block), C27 (decoding is total: `propsLoop` rejects a property
that the table does not allow for the packet type) and C42 (every permitted encoding is decoded as meant).
These obligations stop building when a row, a packet type or a constant of the Go table changes.
-/
namespace Mochi.TieA
open Mochi.Codec

/-- the model's `propTable` IS `validPacketProperties`; and every entry of the Go table has the value 1,
    so that its two readers (`validPacketProperties[k][pkt] == 1` in `canEncode`, presence of the key in
    `Properties.Decode`) agree, as the single `propAllowed` of the model assumes -/
theorem C26_prop_table_tied :
    Mochi.Codec.propTable = Mochi.Gen.propTable ∧ Mochi.Gen.propTableOdd = [] := ⟨rfl, rfl⟩

/-- the packet type constants the models use (`Mochi.Codec.tConnect` …, and the bare numbers 1–15 of the
    broker model's `Msg.type`, `ackName`) are the values of the Go constants -/
theorem C26_packet_types_tied :
    Mochi.Gen.packetTypes =
      [("Reserved", 0), ("Connect", tConnect), ("Connack", tConnack), ("Publish", tPublish), ("Puback", tPuback),
       ("Pubrec", tPubrec), ("Pubrel", tPubrel), ("Pubcomp", tPubcomp), ("Subscribe", tSubscribe),
       ("Suback", tSuback), ("Unsubscribe", tUnsubscribe), ("Unsuback", tUnsuback), ("Pingreq", tPingreq),
       ("Pingresp", tPingresp), ("Disconnect", tDisconnect), ("Auth", tAuth), ("WillProperties", tWillProperties)] := rfl

/-- every declared `Prop*` constant has a row and every row is a declared constant (the model's
    `decodePropValue` switches on these numbers) -/
theorem C26_prop_ids_tied :
    Mochi.Gen.propIds.map (·.2) = Mochi.Codec.propTable.map (·.1) ∧
    Mochi.Gen.propIds.map (·.1) =
      ["PropPayloadFormat", "PropMessageExpiryInterval", "PropContentType", "PropResponseTopic",
       "PropCorrelationData", "PropSubscriptionIdentifier", "PropSessionExpiryInterval", "PropAssignedClientID",
       "PropServerKeepAlive", "PropAuthenticationMethod", "PropAuthenticationData", "PropRequestProblemInfo",
       "PropWillDelayInterval", "PropRequestResponseInfo", "PropResponseInfo", "PropServerReference",
       "PropReasonString", "PropReceiveMaximum", "PropTopicAliasMaximum", "PropTopicAlias", "PropMaximumQos",
       "PropRetainAvailable", "PropUser", "PropMaximumPacketSize", "PropWildcardSubAvailable",
       "PropSubIDAvailable", "PropSharedSubAvailable"] := ⟨rfl, rfl⟩

end Mochi.TieA
