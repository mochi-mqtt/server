import Mochi.Model.InflOrder
import Mochi.Gen.Programs
/-!
# Tie A — the order in which the in-flight store is handed out

`Model/InflOrder.lean` (M14) says: `getAll(immediate)` collects the records (all, or those with `Expiry < 0`) and
sorts them by `Created`, and `NextImmediate` is the first of `getAll(true)`. Both functions of inflight.go are
reduced to their statement lists on every run; the comparator of the sort is a `return` without a call and is
therefore part of the list AS WRITTEN: a comparator over another field (packet id, expiry), over a truncated value
(`uint16(m[i].Created)` — the code before fix 9f2c, which renders as `return _`) or a reversed one changes the list.
The `inflorder` suite (tie B) runs the same two functions on the real store with creation times at the 16/31/32-bit
boundaries; this obligation ties what no sampled store can: the comparator itself.
-/
namespace Mochi.TieA

def inflightGetAllExpected : List String := [
  "m := []packets.Packet{}",
  "range i.internal {",
  "if !immediate || (immediate && v.Expiry < 0) {",   -- `candidates`
  "m = append(m, v)",
  "}", "}",
  "func {",
  "return m[i].Created < m[j].Created",                -- the test `r.created ≤ x.created` of `ins` (strict here, ties either way: F12)
  "}",
  "sort.Slice",
  "return m"]

def inflightNextImmediateExpected : List String := [
  "i.RLock", "defer i.RUnlock",
  "i.getAll(true)", "m := i.getAll(true)",             -- `getAll s true`
  "if len(m) > 0 {", "return m[0], true", "}",         -- `.head?`
  "return packets.Packet{}, false"]

/-- **C12 (tie A).** `Inflight.getAll` filters the deferred records and sorts by the full creation time. -/
theorem C12_getAll_order_tied : Mochi.Gen.inflightGetAllOrder = inflightGetAllExpected := rfl

/-- **C12 (tie A).** `Inflight.NextImmediate` returns the first element of `getAll(true)`. -/
theorem C12_nextImmediate_order_tied : Mochi.Gen.inflightNextImmediateOrder = inflightNextImmediateExpected := rfl

end Mochi.TieA
