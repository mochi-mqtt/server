import Mochi.Model.Shutdown
import Mochi.Gen.Programs
/-!
# Tie A — the accept loop and `Close` of the TCP listener, as the shutdown model assumes them

`Model/Shutdown.lean` lets a listener hand a connection to the broker (`spawn`) only while the listener has not been
told to stop. In listeners/tcp.go that is: `Serve` reads the `end` flag before `Accept` AND AGAIN after `Accept`
returned — a connection accepted after `Close` raised the flag is not handed to `establish` —, and `Close` raises
the flag (compare-and-swap) BEFORE it disconnects the clients and closes the socket. Dropping the second read, or
raising the flag later, admits a client after shutdown has begun: `Server.Close` then waits for it for ever or
returns while its handler runs.
-/
namespace Mochi.TieA

def tcpServeExpected : List String := [
  "for {",
  "atomic.LoadUint32(&l.end)",
  "if atomic.LoadUint32(&l.end) == 1 {",
  "return",
  "}",
  "l.listen.Accept",
  "if err != nil {",
  "return",
  "}",
  "atomic.LoadUint32(&l.end)",
  "if atomic.LoadUint32(&l.end) == 0 {",
  "go func {",
  "establish",
  "}",
  "}",
  "}"
]

def tcpCloseExpected : List String := [
  "l.Lock",
  "defer l.Unlock",
  "atomic.CompareAndSwapUint32(&l.end, 0, 1)",
  "if atomic.CompareAndSwapUint32(&l.end, 0, 1) {",
  "closeClients(l.id)",
  "}",
  "if l.listen != nil {",
  "l.listen.Close",
  "if err != nil {",
  "return",
  "}",
  "}"
]

/-- **C36 (tie A).** The TCP listener's accept loop re-reads the end flag after `Accept` before it spawns a handler. -/
theorem C36_tcp_serve_order_tied : Mochi.Gen.tcpServeOrder = tcpServeExpected := rfl

/-- **C36 (tie A).** `TCP.Close` raises the end flag, then disconnects the clients, then closes the socket. -/
theorem C36_tcp_close_order_tied : Mochi.Gen.tcpCloseOrder = tcpCloseExpected := rfl

end Mochi.TieA
