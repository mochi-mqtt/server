import Mochi.Model.BufPool
import Mochi.Gen.Programs
/-!
# Tie A — the statement order of the buffer pool's `Put`

`Model/BufPool.lean` hands a buffer back in one atomic step: emptied, then available. In mempool/bufpool.go that is
two statements, and their order is what makes the model faithful under concurrency (C41 quantifies over schedules):
`Buffer.Put` calls `x.Reset()` BEFORE `b.pool.Put(x)` — once the buffer is in the pool it may already belong to
another goroutine, which a later `Reset` would wipe —, and `BufferWithCap.Put` tests the capacity before it keeps
the buffer. A stress run finds the swapped order only with luck (the window is two instructions wide); the order
itself is checked here on every run.
-/
namespace Mochi.TieA

def bufferPutExpected : List String := ["x.Reset", "b.pool.Put(x)"]

def bufferWithCapPutExpected : List String :=
  ["x.Cap", "if x.Cap() > b.max {", "return", "}", "b.bp.Put(x)"]

/-- **C41 (tie A).** `Buffer.Put` resets the buffer before it returns it to the pool. -/
theorem C41_put_order_tied : Mochi.Gen.bufferPutOrder = bufferPutExpected := rfl

/-- **C41 (tie A).** `BufferWithCap.Put` drops a buffer above the cap before anything else. -/
theorem C41_capped_put_order_tied : Mochi.Gen.bufferWithCapPutOrder = bufferWithCapPutExpected := rfl

end Mochi.TieA
