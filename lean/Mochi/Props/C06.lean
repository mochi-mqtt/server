import Mochi.Model.Broker
import Mochi.Props.C03
import Mochi.Lemmas.BrokerShared
/-!
# C06 — Each shared-subscription group receives each matching message exactly once

Model: `selectShared` (topics.go `Subscribers.SelectShared`), for **every** resolution `pickSeed` of
Go's map iteration.  One member is picked per *candidate map entry*; known finding F06 (recorded): the
candidate map is keyed by the full filter string, so one share name with two different matching
filters yields two entries and possibly two receivers (`C06_two_filters_counterexample`).

Over the broker model (lemmas: `Mochi/Lemmas/BrokerShared.lean`):
* `selectShared_exact` — for every seed the selection holds, per candidate entry, exactly one of its members, and
  nobody else;
* `publishToSubscribers_writes_exact_shared` — the delivery theorem of C03 WITHOUT the hypothesis that no shared
  subscription matches (QoS 0): who is written = `EntitledShared` (plain entry or picked member, No Local merged as in
  F03), at most once per connection; `C06_delivery_exact_reach_partial` on reachable states,
  `recv_publish_delivery_exact_shared` for the op;
* `C06_one_receiver_per_candidate_seq_partial` — every state reachable by a sequential history, every candidate entry
  whose members can all be served, EVERY `pickSeed`/`orderSeed`: exactly one member is picked and written; read as
  "share group" under `NoF06` (`C06_one_receiver_per_group_seq_partial`);
* `C06_full` (C06 as stated) is FALSE of the model and of the broker: `C06_full_false_F06` (finding F06);
* `C06_candidate_entries_exact` — the candidate entries are exactly the shared subscriptions of the index whose topic
  part `specMatch`es the topic.
Partial: QoS 0 only ("or queue", in-flight limits, packet ids not covered), sequential histories (no schedule ops).
-/
namespace Mochi.Broker
open Mochi.Topics

/-- at most one member is selected per candidate entry, whatever the map order -/
theorem C06_at_most_one_per_entry (seed : Nat) (r : Subscribers) :
    (selectShared seed r).length ≤ r.shared.length := by
  rw [selectShared_eq_picks]
  exact Nat.le_trans (length_mergeFold _ _) (by simpa using length_picks seed r.shared)

/-- no client appears twice in the selection (so it is merged into the subscriber map once) -/
theorem C06_selected_once (seed : Nat) (r : Subscribers) : ((selectShared seed r).map Prod.fst).Nodup := by
  rw [selectShared_eq_picks]
  exact C03_merge_one_entry [] _ List.nodup_nil

/-- F06 (recorded): one share name, two matching filters ⇒ two candidate entries ⇒ two members can be
    selected for one publish -/
theorem C06_two_filters_counterexample :
    (selectShared 0 { shared := [([36,115,104,97,114,101,47,103,47,97,47,43], [([99, 49], { filter := [36,115,104,97,114,101,47,103,47,97,47,43] })]),
                                 ([36,115,104,97,114,101,47,103,47,97,47,35], [([99, 50], { filter := [36,115,104,97,114,101,47,103,47,97,47,35] })])] }).length = 2 := by
  decide

/-! ## The delivery theorem with shared subscriptions (state level)

`selectShared_exact`, `EntitledShared`, `PickedWith`, `EntitledPicked`, `NoLocalMixedShared`,
`publishToSubscribers_writes_exact_shaped` (QoS 0 after shaping): `Mochi/Lemmas/BrokerShared.lean`; `subsMapOf`:
`Mochi/Lemmas/BrokerDelivery.lean`. -/

/-- **`publishToSubscribers_writes_exact` without the hypothesis `shared = []`.**  State `s` with
    well-formed tables (`WF`) and one connection per client object (`ConnDistinct`); `pk` an application message
    (PUBLISH, not marked "ignore") of QoS 0.  For every resolution `s.pickSeed`, `s.orderSeed` of Go's map order:

    1. a PUBLISH is written to connection `n` **iff** `EntitledShared s pk n`: `n` is the connection of a client
       object registered under its id `cid`, open, not inline, peer not gone, `cid` may read the topic; `cid` has an
       entry in the map of matching plain subscriptions OR is the member picked (`pickAt s.pickSeed`, entries
       visited in the order `permuteBy s.orderSeed`) for some matching candidate entry; and it is not the case that
       `cid` is the publisher and No Local is set on its merged plain entry or on a subscription it was picked with
       (**F03**: `Merge` ORs No Local over everything merged under one client id);
    2. whoever is written is entitled through its plain entry (`EntitledVia … subs`) or as a picked member
       (`EntitledPicked`); outside the F03 situation (`NoLocalMixedShared`) that disjunction is exact;
    3. connection `n` is written **at most one** PUBLISH, also when it is entitled both ways or picked for several
       entries (`C03_merge_one_entry`);
    4. every output is an inline delivery or a copy of the message.

    **F06** is explicit in "candidate entry": the candidate map is keyed by the full filter string, so one share
    name with two matching filters is two entries, each with its own pick (`C06_two_filters_counterexample`). -/
theorem publishToSubscribers_writes_exact_shared (s : Server) (hw : WF s) (hcd : ConnDistinct s) (pk : Msg)
    (hig : pk.ignore = false) (ht : pk.type = 3) (hq : pk.qos = 0) (n : Nat) :
    ((∃ ver m me, Out.wrote n (.publish ver m me) ∈ (publishToSubscribers s pk).2) ↔ EntitledShared s pk n) ∧
    (EntitledShared s pk n → EntitledVia s pk (subscribers s.topics pk.topic).subs n ∨ EntitledPicked s pk n) ∧
    (¬ NoLocalMixedShared s pk →
      (EntitledShared s pk n ↔ EntitledVia s pk (subscribers s.topics pk.topic).subs n ∨ EntitledPicked s pk n)) ∧
    ((publishToSubscribers s pk).2.filterMap pubConn).count n ≤ 1 ∧
    ∀ x ∈ (publishToSubscribers s pk).2, (∃ id, x = Out.inline id pk.topic pk.payload) ∨ IsCopy pk x :=
  publishToSubscribers_writes_exact_shaped s hw hcd pk hig ht (Or.inl hq) n

/-- with no matching shared subscription this is `publishToSubscribers_writes_exact` again -/
theorem entitledShared_of_no_shared (s : Server) (pk : Msg) (hsh : (subscribers s.topics pk.topic).shared = [])
    (n : Nat) : EntitledShared s pk n ↔ EntitledVia s pk (subscribers s.topics pk.topic).subs n :=
  entitledShared_iff_via s pk hsh n

/-- client `c` is the member picked for the candidate entry `g` (one FILTER of one share name) -/
def PickedFor (s : Server) (topic : Str) (g : Str × List (Str × Sub)) (c : Str) : Prop :=
  ∃ k, (visitOrder s topic)[k]? = some g ∧ ChosenAt s.pickSeed (visitOrder s topic) k c

/-- the connection of the client registered as `c` is written a PUBLISH by the publication of `pk` -/
def WrittenTo (s : Server) (pk : Msg) (c : Str) : Prop :=
  ∃ i, (c, i) ∈ s.clients ∧
    ∃ ver m me, Out.wrote (getObj s i).conn (.publish ver m me) ∈ (publishToSubscribers s pk).2

/-- member `c` can be served: registered, its connection open (not the inline client, peer not gone), authorised to
    read the topic, and — if `c` is the publisher itself — No Local is set on none of its matching subscriptions,
    plain or shared (F03: one of them would exclude it from all).  Independent of the seeds. -/
def Servable (s : Server) (pk : Msg) (c : Str) : Prop :=
  (∃ i, (c, i) ∈ s.clients ∧ (getObj s i).isOpen = true ∧ (getObj s i).inline = false ∧
    (getObj s i).peerGone = false) ∧
  aclOk s c pk.topic false = true ∧
  (pk.origin = c →
    (∀ sub, (c, sub) ∈ (subscribers s.topics pk.topic).subs → sub.noLocal = false) ∧
    ∀ g ∈ (subscribers s.topics pk.topic).shared, ∀ sub, (c, sub) ∈ g.2 → sub.noLocal = false)

theorem pickedFor_of_pickedWith {s : Server} {topic c : Str} {sub : Sub} (h : PickedWith s topic c sub) :
    ∃ g ∈ (subscribers s.topics topic).shared, PickedFor s topic g c := by
  obtain ⟨k, hk⟩ := h
  obtain ⟨g, hg, _⟩ := pickAt_mem _ _ _ _ hk
  exact ⟨g, (visitOrder_perm s topic).mem_iff.mp (List.mem_of_getElem? hg), k, hg, sub, hk⟩

/-- state level, on the invariants: for a matching candidate entry all of whose members can be served, exactly one
    member is picked for it and written the message -/
theorem C06_one_receiver_per_candidate_inv (s : Server) (hw : WF s) (hcd : ConnDistinct s) (pk : Msg)
    (hig : pk.ignore = false) (ht : pk.type = 3) (hq : pk.qos = 0)
    (g : Str × List (Str × Sub)) (hg : g ∈ (subscribers s.topics pk.topic).shared)
    (hserv : ∀ m ∈ g.2, Servable s pk m.1) :
    ExactlyOne fun c => c ∈ g.2.map Prod.fst ∧ PickedFor s pk.topic g c ∧ WrittenTo s pk c := by
  have hgv : g ∈ visitOrder s pk.topic := (visitOrder_perm s pk.topic).mem_iff.mpr hg
  obtain ⟨k, hk⟩ := List.getElem?_of_mem hgv
  obtain ⟨cs, hp, hm⟩ := pickAt_some s.pickSeed _ k g hk ((subscribers_sharedOK s.topics pk.topic).ne g hg)
  obtain ⟨⟨i, hreg, ho, hi, hpg⟩, hacl, hnl⟩ := hserv cs hm
  have hent : EntitledShared s pk (getObj s i).conn := by
    refine ⟨cs.1, i, hreg, rfl, ho, hi, hpg, hacl, Or.inr ⟨cs.2, k, hp⟩, ?_⟩
    rintro ⟨horig, hex⟩
    obtain ⟨n1, n2⟩ := hnl horig
    rcases hex with ⟨sub, h, hn⟩ | ⟨sub, h, hn⟩
    · rw [n1 sub h] at hn; cases hn
    · obtain ⟨g', hg', hmem⟩ := pickedWith_member h
      rw [n2 g' hg' sub hmem] at hn; cases hn
  have hwr := (publishToSubscribers_writes_exact_shared s hw hcd pk hig ht hq (getObj s i).conn).1.mpr hent
  refine ⟨cs.1, ⟨List.mem_map.mpr ⟨cs, hm, rfl⟩, ⟨k, hk, cs.2, hp⟩, i, hreg, hwr⟩, ?_⟩
  rintro c' ⟨_, ⟨k', hk', sub', hp'⟩, _⟩
  have hkk : k = k' := (List.getElem?_inj (List.getElem?_eq_some_iff.mp hk).1 (visitOrder_nodup s pk.topic)).mp
    (hk.trans hk'.symm)
  subst hkk
  rw [hp] at hp'
  cases hp'
  rfl

/-- a client that has no matching plain subscription and was picked for no candidate entry is written nothing -/
theorem C06_unpicked_receives_nothing (s : Server) (hw : WF s) (hcd : ConnDistinct s) (pk : Msg)
    (hig : pk.ignore = false) (ht : pk.type = 3) (hq : pk.qos = 0) (c : Str) (i : Nat)
    (hreg : (c, i) ∈ s.clients) (hin : (getObj s i).inline = false)
    (hplain : c ∉ (subscribers s.topics pk.topic).subs.map Prod.fst)
    (hnp : ¬ ∃ g ∈ (subscribers s.topics pk.topic).shared, PickedFor s pk.topic g c) :
    ¬ ∃ ver m me, Out.wrote (getObj s i).conn (.publish ver m me) ∈ (publishToSubscribers s pk).2 := by
  intro hwr
  obtain ⟨cid, i', h1, h2, _, h4, _, _, h6, _⟩ :=
    (publishToSubscribers_writes_exact_shared s hw hcd pk hig ht hq (getObj s i).conn).1.mp hwr
  have vi := hw.clients_valid _ _ hreg
  have vi' := hw.clients_valid _ _ h1
  have hii : i' = i := hcd i' i vi'.1 vi.1 h4 hin h2
  subst hii
  have hc : cid = c := vi'.2.symm.trans vi.2
  subst hc
  rcases h6 with ⟨sub, h⟩ | ⟨sub, h⟩
  · exact hplain (List.mem_map.mpr ⟨_, h, rfl⟩)
  · exact hnp (pickedFor_of_pickedWith h)

/-- the state with the resolution of Go's map order replaced -/
def withSeeds (s : Server) (pickSeed orderSeed : Nat) : Server :=
  { s with pickSeed := pickSeed, orderSeed := orderSeed }

theorem withSeeds_reach {caps : Caps} {s : Server} (hr : ReachSeq caps s) (p o : Nat) : ReachSeq caps (withSeeds s p o) :=
  hr.config ⟨rfl, rfl, rfl, rfl, rfl, rfl, rfl, rfl⟩

/-- `s`: any state reached from `init caps` by a
    sequential history (ops that are not schedule ops, connection numbers fresh, interleaved with configuration
    changes: `ReachSeq`).  `pk`: a QoS 0 publication.  `g`: a candidate entry matching the topic (an entry of
    `(subscribers s.topics pk.topic).shared`: one FILTER of one share name, with the member subscriptions filed under
    it) all of whose members can be served (`Servable`: registered, open, authorised; the publisher, if a member, has
    No Local nowhere).  Then for EVERY resolution `pickSeed`, `orderSeed` of Go's map order:

    1. exactly one client is a member of `g`, picked for `g`, and written the message;
    2. a registered network client without a matching plain subscription that was picked for NO candidate entry is
       written nothing — in particular the members of `g` that were not picked (unless they receive on another
       account: a plain subscription of their own, or another candidate entry);
    3. no connection is written more than one PUBLISH.

    Partial: QoS 0 (no in-flight bookkeeping: "or queue" is not covered), sequential histories, and "candidate
    entry" instead of "share group" (F06) — see `C06_one_receiver_per_group_seq_partial` and `C06_full`. -/
theorem C06_one_receiver_per_candidate_seq_partial (caps : Caps) (s : Server) (hr : ReachSeq caps s) (pk : Msg)
    (hig : pk.ignore = false) (ht : pk.type = 3) (hq : pk.qos = 0)
    (g : Str × List (Str × Sub)) (hg : g ∈ (subscribers s.topics pk.topic).shared)
    (hserv : ∀ m ∈ g.2, Servable s pk m.1) (pickSeed orderSeed : Nat) :
    (ExactlyOne fun c => c ∈ g.2.map Prod.fst ∧ PickedFor (withSeeds s pickSeed orderSeed) pk.topic g c ∧
      WrittenTo (withSeeds s pickSeed orderSeed) pk c) ∧
    (∀ c i, (c, i) ∈ s.clients → (getObj s i).inline = false →
      c ∉ (subscribers s.topics pk.topic).subs.map Prod.fst →
      (¬ ∃ g' ∈ (subscribers s.topics pk.topic).shared, PickedFor (withSeeds s pickSeed orderSeed) pk.topic g' c) →
      ¬ ∃ ver m me, Out.wrote (getObj s i).conn (.publish ver m me) ∈
        (publishToSubscribers (withSeeds s pickSeed orderSeed) pk).2) ∧
    ∀ n, ((publishToSubscribers (withSeeds s pickSeed orderSeed) pk).2.filterMap pubConn).count n ≤ 1 := by
  have hr' := withSeeds_reach hr pickSeed orderSeed
  have hw := hr'.inv.2.1
  have hcd := hr'.inv.2.2.1.distinct
  exact ⟨C06_one_receiver_per_candidate_inv _ hw hcd pk hig ht hq g hg hserv,
    C06_unpicked_receives_nothing _ hw hcd pk hig ht hq,
    fun n => (publishToSubscribers_writes_exact_shared _ hw hcd pk hig ht hq n).2.2.2.1⟩

/-- ¬F06 for this topic: each share name has at most one matching filter (decidable) -/
def NoF06 (r : Subscribers) : Prop :=
  ∀ g ∈ r.shared, ∀ g' ∈ r.shared, shareGroup g.1 = shareGroup g'.1 → g.1 = g'.1

instance (r : Subscribers) : Decidable (NoF06 r) := by unfold NoF06; infer_instance

/-- `c` holds a subscription of share group `G` that matches the topic -/
def GroupMember (r : Subscribers) (G c : Str) : Prop :=
  ∃ g ∈ r.shared, shareGroup g.1 = G ∧ c ∈ g.2.map Prod.fst

/-- `c` is the member picked for (a candidate entry of) share group `G` -/
def PickedForGroup (s : Server) (topic G c : Str) : Prop :=
  ∃ g ∈ (subscribers s.topics topic).shared, shareGroup g.1 = G ∧ PickedFor s topic g c

theorem entry_eq_of_key {m : List (Str × List (Str × Sub))} (h : SharedOK m) {g g' : Str × List (Str × Sub)}
    (hg : g ∈ m) (hg' : g' ∈ m) (e : g.1 = g'.1) : g = g' := by
  have a := assocGet_of_mem m g.1 g.2 h.keys hg
  have b := assocGet_of_mem m g'.1 g'.2 h.keys hg'
  rw [e, b] at a
  exact Prod.ext e (Option.some.inj a).symm

/-- **One receiver per share group.**  If each share name has at most one filter matching the topic (`NoF06`), "candidate
    entry" is "share group": for every share group `G` with a matching member subscription, all of whose matching
    members can be served, and every resolution of Go's map order, exactly one member of the group is picked for
    the group and written the message. -/
theorem C06_one_receiver_per_group_seq_partial (caps : Caps) (s : Server) (hr : ReachSeq caps s) (pk : Msg)
    (hig : pk.ignore = false) (ht : pk.type = 3) (hq : pk.qos = 0)
    (hno : NoF06 (subscribers s.topics pk.topic)) (G : Str)
    (hG : ∃ g ∈ (subscribers s.topics pk.topic).shared, shareGroup g.1 = G)
    (hserv : ∀ c, GroupMember (subscribers s.topics pk.topic) G c → Servable s pk c) (pickSeed orderSeed : Nat) :
    ExactlyOne fun c => GroupMember (subscribers s.topics pk.topic) G c ∧
      PickedForGroup (withSeeds s pickSeed orderSeed) pk.topic G c ∧ WrittenTo (withSeeds s pickSeed orderSeed) pk c := by
  obtain ⟨g, hg, hgG⟩ := hG
  have hok := subscribers_sharedOK s.topics pk.topic
  have huniq : ∀ g' ∈ (subscribers s.topics pk.topic).shared, shareGroup g'.1 = G → g' = g := by
    intro g' hg' e
    exact entry_eq_of_key hok hg' hg (hno g' hg' g hg (e.trans hgG.symm))
  obtain ⟨c, ⟨h1, h2, h3⟩, hu⟩ := (C06_one_receiver_per_candidate_seq_partial caps s hr pk hig ht hq g hg
    (fun m hm => hserv m.1 ⟨g, hg, hgG, List.mem_map.mpr ⟨m, hm, rfl⟩⟩) pickSeed orderSeed).1
  refine ⟨c, ⟨⟨g, hg, hgG, h1⟩, ⟨g, hg, hgG, h2⟩, h3⟩, ?_⟩
  rintro c' ⟨⟨g1, hg1, e1, m1⟩, ⟨g2, hg2, e2, p2⟩, w⟩
  have a1 := huniq g1 hg1 e1
  have a2 := huniq g2 hg2 e2
  subst a1
  subst a2
  exact hu c' ⟨m1, p2, w⟩

/-- **C06 as stated** (kept visible; NOT proved — false of the model and of the broker, `C06_full_false_F06`): in
    any history, for every published message (here: QoS 0, so "receive" is "is written"), every resolution of Go's
    map order and every share group with at least one member subscription matching the topic — all of them
    servable —, exactly one member of that GROUP receives the message. -/
def C06_full : Prop :=
  ∀ (caps : Caps) (ops : List Op), OpsFresh (init caps) ops →
    ∀ (pickSeed orderSeed : Nat) (pk : Msg), pk.type = 3 → pk.ignore = false → pk.qos = 0 →
      ∀ G : Str, (∃ g ∈ (subscribers (run (init caps) ops).topics pk.topic).shared, shareGroup g.1 = G) →
        (∀ c, GroupMember (subscribers (run (init caps) ops).topics pk.topic) G c →
          Servable (run (init caps) ops) pk c) →
        ExactlyOne fun c => GroupMember (subscribers (run (init caps) ops).topics pk.topic) G c ∧
          WrittenTo (withSeeds (run (init caps) ops) pickSeed orderSeed) pk c

/-- F06 as a history: `c1` holds `$share/g/a/+`, `c2` holds `$share/g/a/#` — one share name, two filters -/
def f06History : List Op :=
  [.connect 1 { ver := 5, id := [99, 49] },
   .recv 1 (.subscribe 1 0 [{ filter := [36,115,104,97,114,101,47,103,47,97,47,43] }]),
   .connect 2 { ver := 5, id := [99, 50] },
   .recv 2 (.subscribe 1 0 [{ filter := [36,115,104,97,114,101,47,103,47,97,47,35] }])]

/-- a third client publishes `a/b`, QoS 0 -/
def f06Msg : Msg := { topic := [97, 47, 98], payload := [1], origin := [112] }

/-- both members of share group `g` are written the message: **C06 as stated is false of the model (and of the
    broker: recorded finding F06)** -/
theorem C06_full_false_F06 : ¬ C06_full := by
  intro h
  have hmem : ∀ g ∈ (subscribers (run (init {}) f06History).topics f06Msg.topic).shared,
      ∀ c ∈ g.2.map Prod.fst, c = [99, 49] ∨ c = [99, 50] := by decide
  have hserv : ∀ c, GroupMember (subscribers (run (init {}) f06History).topics f06Msg.topic) [103] c →
      Servable (run (init {}) f06History) f06Msg c := by
    rintro c ⟨g, hg, _, hc⟩
    rcases hmem g hg c hc with rfl | rfl
    · exact ⟨⟨1, by decide, by decide, by decide, by decide⟩, by decide, fun e => absurd e (by decide)⟩
    · exact ⟨⟨2, by decide, by decide, by decide, by decide⟩, by decide, fun e => absurd e (by decide)⟩
  obtain ⟨c, _, hu⟩ := h {} f06History (by decide) 0 0 f06Msg rfl rfl rfl [103] (by decide) hserv
  have ho : (publishToSubscribers (withSeeds (run (init {}) f06History) 0 0) f06Msg).2.filterMap pubConn = [1, 2] := by
    decide
  -- both members are written, so both would be the one receiver
  have e := (hu [99, 49] ⟨by unfold GroupMember; decide, 1, by decide, mem_pubConns.mp (by rw [ho]; decide)⟩).trans
    (hu [99, 50] ⟨by unfold GroupMember; decide, 2, by decide, mem_pubConns.mp (by rw [ho]; decide)⟩).symm
  exact absurd e (by decide)

/-- … while the restricted theorem applies to that very state: the F06 situation is present (`NoF06` fails), and
    each of the two candidate entries has exactly one receiver -/
example : ¬ NoF06 (subscribers (run (init {}) f06History).topics f06Msg.topic) := by decide +kernel

/-- **`C03_delivery_exact_reach_partial` without the hypothesis `shared = []`.**  For every state `s` reached by a
    sequential history (`ReachSeq`), every QoS 0 application message and every connection `n`:

    1. a PUBLISH is written to `n` iff `EntitledShared s pk n` (plain entry or picked member; F03 merge explicit);
    2. whoever is written is entitled through a plain subscription — declaratively: `EntitledF03`, the index holds a
       plain subscription of the client whose filter `specMatch`es the topic — or as the picked member of a candidate
       entry (`EntitledPicked`); outside the F03 situation across plain and shared subscriptions
       (`NoLocalMixedShared`) this disjunction is exact;
    3. at most one PUBLISH per connection; 4. every output is an inline delivery or a copy of the message. -/
theorem C06_delivery_exact_reach_partial (caps : Caps) (s : Server) (hr : ReachSeq caps s)
    (pk : Msg) (hig : pk.ignore = false) (ht : pk.type = 3) (hq : pk.qos = 0)
    (hne : pk.topic ≠ []) (hnh : ∀ t ∈ splitLevels pk.topic, t ≠ [hash]) (n : Nat) :
    ((∃ ver m me, Out.wrote n (.publish ver m me) ∈ (publishToSubscribers s pk).2) ↔ EntitledShared s pk n) ∧
    (EntitledShared s pk n → EntitledF03 s pk n ∨ EntitledPicked s pk n) ∧
    (¬ NoLocalMixedShared s pk → (EntitledShared s pk n ↔ EntitledF03 s pk n ∨ EntitledPicked s pk n)) ∧
    ((publishToSubscribers s pk).2.filterMap pubConn).count n ≤ 1 ∧
    ∀ x ∈ (publishToSubscribers s pk).2, (∃ id, x = Out.inline id pk.topic pk.payload) ∨ IsCopy pk x := by
  obtain ⟨h1, h2, h3, h4, h5⟩ := publishToSubscribers_writes_exact_shared s hr.inv.2.1 hr.inv.2.2.1.distinct pk hig ht hq n
  have e := entitledVia_iff_F03 s hr.inv.1.idx pk hne hnh (C03_one_entry_per_client s.topics pk.topic) n
  rw [e] at h2 h3
  exact ⟨h1, h2, h3, h4, h5⟩

/-- **`recv_publish_delivery_exact` without the hypothesis `shared = []`**: the op
    `step s (.recv conn (PUBLISH QoS 0 …))` of client object `i`, accepted (`AcceptedQ0`), writes a PUBLISH to exactly
    the connections entitled (`EntitledShared`) in the state in which the message is routed (`retainedState`: the
    state before the op, the retained store updated if the retain flag is set), at most once each, and nothing else
    but inline deliveries. -/
theorem recv_publish_delivery_exact_shared (s : Server) (hs : SyncInv s) (hw : WF s) (hcm : ConnMap s)
    (conn i : Nat) (dup retain : Bool) (topic payload : Str) (me : Nat)
    (hc : assocGet s.connOf conn = some i) (h : AcceptedQ0 s i topic) (n : Nat) :
    ((∃ ver m mes, Out.wrote n (.publish ver m mes) ∈
        (step s (.recv conn (.publish 0 dup retain 0 topic payload me none))).2) ↔
      EntitledShared (retainedState s (inboundMsg s i 0 dup retain 0 topic payload me))
        (inboundMsg s i 0 dup retain 0 topic payload me) n) ∧
    ((step s (.recv conn (.publish 0 dup retain 0 topic payload me none))).2.filterMap pubConn).count n ≤ 1 ∧
    ∀ x ∈ (step s (.recv conn (.publish 0 dup retain 0 topic payload me none))).2,
      (∃ id, x = Out.inline id topic payload) ∨ IsCopy (inboundMsg s i 0 dup retain 0 topic payload me) x := by
  obtain ⟨_, iw, ic⟩ := retainedState_inv (inboundMsg s i 0 dup retain 0 topic payload me) hs hw hcm
  rw [step_recv_publish_accepted_shared s conn i dup retain topic payload me hc h]
  obtain ⟨h1, _, _, h4, h5⟩ := publishToSubscribers_writes_exact_shared _ iw ic.distinct
    (inboundMsg s i 0 dup retain 0 topic payload me) rfl rfl rfl n
  exact ⟨h1, h4, h5⟩

/-- **the candidate entries are exactly the matching shared subscriptions of the index** (`shared_candidates_iff`:
    C01's scan exactness for shared subscriptions, with the declarative matcher).  In every state reached by a
    sequential history, for a non-empty topic without `#` level:

    1. the candidate entry keyed by the filter string `f` holds `sub` for client `c` iff the index holds the shared
       subscription `sub` of `c`, its filter is `f`, and the topic part of `f` (after `$share/<group>/`)
       `specMatch`es the topic (`MatchingShared`);
    2. the candidate map has one entry per filter string, no entry is empty, every member is filed under its own
       filter, one member per client id (`SharedOK`);
    3. whoever is picked holds a matching shared subscription. -/
theorem C06_candidate_entries_exact (caps : Caps) (s : Server) (hr : ReachSeq caps s) (topic : Str)
    (hne : topic ≠ []) (hnh : ∀ t ∈ splitLevels topic, t ≠ [hash]) :
    (∀ f c sub, sharedGet (subscribers s.topics topic).shared f c = some sub ↔
      sub.filter = f ∧ MatchingShared s.topics topic c sub) ∧
    SharedOK (subscribers s.topics topic).shared ∧
    (∀ c sub, PickedWith s topic c sub → MatchingShared s.topics topic c sub) :=
  ⟨fun f c sub => shared_candidates_iff s.topics hr.inv.1.idx topic hne hnh f c sub,
   subscribers_sharedOK s.topics topic,
   fun c sub h => (mem_candidate_iff s.topics hr.inv.1.idx topic hne hnh c sub).mp (pickedWith_member h)⟩

/-! ## The theorems on one history

`c03History` (five network clients, an inline subscriber on `a/b`, a read denial) extended with two share groups —
`$share/g/a/#` with the two members `m1` (connection 6) and `m2` (connection 7), `$share/h/a/+` with the one member
`m3` (connection 8, MQTT 3.1.1) — and a second inline subscriber (identifier 9, `a/#`). -/

def c06History : List Op :=
  c03History ++
  [.connect 6 { ver := 5, id := [109, 49] },
   .recv 6 (.subscribe 1 0 [{ filter := [36,115,104,97,114,101,47,103,47,97,47,35] }]),
   .connect 7 { ver := 5, id := [109, 50] },
   .recv 7 (.subscribe 1 0 [{ filter := [36,115,104,97,114,101,47,103,47,97,47,35] }]),
   .connect 8 { ver := 4, id := [109, 51] },
   .recv 8 (.subscribe 1 0 [{ filter := [36,115,104,97,114,101,47,104,47,97,47,43] }]),
   .inlineSubscribe 9 [97, 47, 35]]

/-- the state after the history, with the read denial `(z, a/b)` of `c03State` configured -/
def c06State : Server := { run (init {}) c06History with aclDeny := [([122], [97, 47, 98], false)] }

theorem c06State_reach : ReachSeq {} c06State :=
  ((ReachSeq.init (caps := {})).run c06History (by decide +kernel) (by decide +kernel)).withAclDeny _

/-- the candidate entry of share group `g` -/
def c06EntryG : Str × List (Str × Sub) :=
  ([36,115,104,97,114,101,47,103,47,97,47,35],
   [([109, 49], { filter := [36,115,104,97,114,101,47,103,47,97,47,35] }),
    ([109, 50], { filter := [36,115,104,97,114,101,47,103,47,97,47,35] })])

/-- two candidate entries match `a/b`: `$share/h/a/+` (one member) and `$share/g/a/#` (two members); no share name
    has two matching filters -/
example : (subscribers c06State.topics c03Msg.topic).shared.map (fun g => (g.1, g.2.map Prod.fst)) =
    [([36,115,104,97,114,101,47,104,47,97,47,43], [[109, 51]]),
     ([36,115,104,97,114,101,47,103,47,97,47,35], [[109, 49], [109, 50]])] ∧
    NoF06 (subscribers c06State.topics c03Msg.topic) := by decide +kernel

set_option maxRecDepth 4000 in
/-- `p` publishes `a/b`, QoS 0.  Entries visited in the order `h`, `g` (`orderSeed = 0`): `pickSeed = 0` picks `m1`
    for `g`, `pickSeed = 3` (second base-3 digit 1) picks `m2`; in the order `g`, `h` (`orderSeed = 1`):
    `pickSeed = 0` picks `m1`, `pickSeed = 1` picks `m2`.  `m3` — the only member of `h` — always receives; so do
    the plain subscribers `y` (connection 2) and `x` (connection 1); each connection once. -/
example :
    (publishToSubscribers (withSeeds c06State 0 0) c03Msg).2.filterMap pubConn = [2, 1, 8, 6] ∧
    (publishToSubscribers (withSeeds c06State 3 0) c03Msg).2.filterMap pubConn = [2, 1, 8, 7] ∧
    (publishToSubscribers (withSeeds c06State 0 1) c03Msg).2.filterMap pubConn = [2, 1, 6, 8] ∧
    (publishToSubscribers (withSeeds c06State 1 1) c03Msg).2.filterMap pubConn = [2, 1, 7, 8] := by decide +kernel

set_option maxRecDepth 4000 in
/-- the two inline subscribers are reached too: six outputs -/
example : (publishToSubscribers (withSeeds c06State 0 0) c03Msg).2.length = 6 ∧
    Out.inline 7 [97, 47, 98] [1] ∈ (publishToSubscribers (withSeeds c06State 0 0) c03Msg).2 ∧
    Out.inline 9 [97, 47, 98] [1] ∈ (publishToSubscribers (withSeeds c06State 0 0) c03Msg).2 := by decide +kernel

set_option maxRecDepth 4000 in
/-- the hypotheses of `C06_one_receiver_per_candidate_seq_partial` hold for the entry of group `g`: it is a
    candidate entry, and both members can be served -/
theorem c06_hyps : c06EntryG ∈ (subscribers c06State.topics c03Msg.topic).shared ∧
    ∀ m ∈ c06EntryG.2, Servable c06State c03Msg m.1 := by
  refine ⟨by decide, ?_⟩
  intro m hm
  simp only [c06EntryG, List.mem_cons, List.not_mem_nil, or_false] at hm
  rcases hm with rfl | rfl
  · exact ⟨⟨6, by decide, by decide, by decide, by decide⟩, by decide, fun e => absurd e (by decide)⟩
  · exact ⟨⟨7, by decide, by decide, by decide, by decide⟩, by decide, fun e => absurd e (by decide)⟩

/-- by `C06_one_receiver_per_candidate_seq_partial`: for every resolution of Go's map order exactly one of `m1`, `m2`
    is picked for the entry of group `g` and written the message … -/
example (pickSeed orderSeed : Nat) :
    ExactlyOne fun c => c ∈ c06EntryG.2.map Prod.fst ∧ PickedFor (withSeeds c06State pickSeed orderSeed) c03Msg.topic c06EntryG c ∧
      WrittenTo (withSeeds c06State pickSeed orderSeed) c03Msg c :=
  (C06_one_receiver_per_candidate_seq_partial {} c06State c06State_reach c03Msg rfl rfl rfl c06EntryG c06_hyps.1
    c06_hyps.2 pickSeed orderSeed).1

/-- … and (`NoF06`) exactly one member of share group `g` -/
example (pickSeed orderSeed : Nat) :
    ExactlyOne fun c => GroupMember (subscribers c06State.topics c03Msg.topic) [103] c ∧
      PickedForGroup (withSeeds c06State pickSeed orderSeed) c03Msg.topic [103] c ∧
      WrittenTo (withSeeds c06State pickSeed orderSeed) c03Msg c := by
  refine C06_one_receiver_per_group_seq_partial {} c06State c06State_reach c03Msg rfl rfl rfl (by decide +kernel) [103]
    ⟨c06EntryG, c06_hyps.1, by decide +kernel⟩ ?_ pickSeed orderSeed
  rintro c ⟨g, hg, hgG, hc⟩
  obtain rfl := (by decide +kernel : ∀ g ∈ (subscribers c06State.topics c03Msg.topic).shared,
    shareGroup g.1 = [103] → g = c06EntryG) g hg hgG
  obtain ⟨m, hm, rfl⟩ := List.mem_map.mp hc
  exact c06_hyps.2 m hm

end Mochi.Broker

#print axioms Mochi.Broker.selectShared_exact
#print axioms Mochi.Broker.C06_one_receiver_per_candidate_seq_partial
#print axioms Mochi.Broker.C06_one_receiver_per_group_seq_partial
#print axioms Mochi.Broker.C06_full_false_F06
#print axioms Mochi.Broker.C06_candidate_entries_exact
#print axioms Mochi.Broker.C06_delivery_exact_reach_partial
#print axioms Mochi.Broker.recv_publish_delivery_exact_shared
#print axioms Mochi.Broker.c06State_reach
#print axioms Mochi.Broker.c06_hyps
#print axioms Mochi.Broker.publishToSubscribers_writes_exact_shared
