import Mochi.Lemmas.Storage
/-!
# C22 — All bundled storage backends behave identically

*For any sequence of storage hook events, the badger, pebble, bolt and redis backends return the same
clients, subscriptions, retained messages, in-flight messages and system info when the stored state is
read back, up to ordering.*

Model: `Mochi.Storage` (Model/Storage.lean): the hook methods of hooks/storage/{badger,pebble,bolt,redis}
as key-value writes over `KV`, per backend (`Backend` = the facts in which the four sources differ), and
the `Stored*` read-backs. `run b evs` is the store of backend `b` after the events `evs`;
`readback b kv` is everything `readStore` obtains.

"Up to ordering": the model's read-backs list the records in store order, and all theorems below give
*equality of these lists*, which is stronger than equality up to a permutation.
"Modulo the key namespace": the `ID` field of a stored subscription / message holds the physical key
string (`SUB_a:c` on the single-keyspace engines, `a:c` in redis' `mochi-SUB` hash);
`ReadBack.eraseIds` forgets exactly that field, and `C22_ids_are_keys` shows it carries nothing but the key.

Status: **false** between {badger, pebble} and {bolt, redis} — see the
`_counterexample` theorems (replayed on the real engines by the `storage` suite, signatures
`F22-packet_id-*`, `F22-disconnect-*`) — and true within each group.
-/
namespace Mochi.Storage

/-- **General.** Two backend descriptions that interpret every event of a sequence alike (over logical keys)
    return the same read-back after that sequence, whatever their key namespaces. -/
theorem C22_same_interpretation_same_readback (a b : Backend) (evs : List Event)
    (h : ∀ e ∈ evs, interpL a.facts e = interpL b.facts e) :
    (readback a (run a evs)).eraseIds = (readback b (run b evs)).eraseIds := by
  rw [readback_logical, readback_logical, runL_congr _ _ evs h]

/-- **General (fact records).** Backends with equal fact records behave identically on every event sequence. -/
theorem C22_equal_facts_equal_behaviour (a b : Backend) (h : a.facts = b.facts) (evs : List Event) :
    (readback a (run a evs)).eraseIds = (readback b (run b evs)).eraseIds :=
  C22_same_interpretation_same_readback a b evs (fun e _ => by rw [h])

/-- the erased `id` of a stored subscription is the physical key string: nothing else is forgotten -/
theorem C22_ids_are_keys (b : Backend) (e : Event) (k : PKey) (r : Record) (h : Write.set k r ∈ interp b e) :
    (∀ s, r = .sub s → s.id = k.key) ∧ (∀ m, r = .msg m → m.id = k.key) := by
  -- every write is the encoding of a logical write, and `encW` puts the key string into the `id`
  rw [interp_enc] at h
  obtain ⟨w, _, hw⟩ := List.mem_map.1 h
  cases w with
  | del lk => exact nomatch hw
  | set lk lr =>
    obtain ⟨rfl, rfl⟩ := Write.set.inj hw
    cases lr <;> exact ⟨fun _ hs => by cases hs <;> rfl, fun _ hm => by cases hm <;> rfl⟩

/-! ## badger = pebble (identical hook bodies, identical keys) -/

theorem C22_badger_pebble_equal (evs : List Event) : readback badger (run badger evs) = readback pebble (run pebble evs) := by
  rw [run_enc, run_enc]
  rfl

/-! ## bolt = redis modulo the key namespace -/

/-- **bolt and redis return the same read-back after every event sequence** (ids modulo the key namespace). -/
theorem C22_bolt_redis_equal (evs : List Event) :
    (readback bolt (run bolt evs)).eraseIds = (readback redis (run redis evs)).eraseIds :=
  C22_equal_facts_equal_behaviour bolt redis rfl evs

/-! ## {badger, pebble} versus {bolt, redis}: false, with the exact region where it holds -/

/-- the events on which the four hook implementations agree: anything but `OnDisconnect`
    (badger/pebble rewrite the client record first, and test the take-over cause with `errors.Is`),
    and `OnQosPublish` only for packet id 0 (bolt/redis do not store `PacketID`) -/
def agreeable : Event → Bool
  | .disconnect _ _ => false
  | .qosPublish _ pk _ _ => pk.pid == 0
  | _ => true

theorem interpL_agreeable (f g : Facts) (e : Event) (h : agreeable e = true) : interpL f e = interpL g e := by
  cases e with
  | disconnect cl expire => simp [agreeable] at h
  | qosPublish cl pk sent resends =>
    simp [agreeable] at h
    simp [interpL, h]
  | _ => rfl

/-- **Partial (all pairs).** On event sequences without `OnDisconnect` and with `OnQosPublish` only for packet id 0,
    any two of the four backends return the same read-back. -/
theorem C22_all_backends_partial (a b : Backend) (evs : List Event) (h : ∀ e ∈ evs, agreeable e = true) :
    (readback a (run a evs)).eraseIds = (readback b (run b evs)).eraseIds :=
  C22_same_interpretation_same_readback a b evs (fun e he => interpL_agreeable _ _ e (h e he))

theorem C22_badger_bolt_partial (evs : List Event) (h : ∀ e ∈ evs, agreeable e = true) :
    (readback badger (run badger evs)).eraseIds = (readback bolt (run bolt evs)).eraseIds :=
  C22_all_backends_partial badger bolt evs h

theorem C22_badger_redis_partial (evs : List Event) (h : ∀ e ∈ evs, agreeable e = true) :
    (readback badger (run badger evs)).eraseIds = (readback redis (run redis evs)).eraseIds :=
  C22_all_backends_partial badger redis evs h

theorem C22_pebble_bolt_partial (evs : List Event) (h : ∀ e ∈ evs, agreeable e = true) :
    (readback pebble (run pebble evs)).eraseIds = (readback bolt (run bolt evs)).eraseIds :=
  C22_all_backends_partial pebble bolt evs h

theorem C22_pebble_redis_partial (evs : List Event) (h : ∀ e ∈ evs, agreeable e = true) :
    (readback pebble (run pebble evs)).eraseIds = (readback redis (run redis evs)).eraseIds :=
  C22_all_backends_partial pebble redis evs h

/-- client `a` (MQTT 5, session expiry 60) -/
def wClient : Client := { id := [97], pv := 5, sei := 60, listener := [116] }
/-- a QoS 1 PUBLISH to topic `t` with packet id 7 -/
def wPublish : Packet := { topic := [116], payload := [112], qos := 1, type := 3, pid := 7, created := 1 }

/-- witness 1 (F22 packet id): one `OnQosPublish(a, pid 7)` -/
def witnessPacketId : List Event := [.qosPublish wClient wPublish 1 0]
/-- witness 2 (F22 disconnect): `OnDisconnect(a, expire=false)` of a client whose record was never written -/
def witnessDisconnect : List Event := [.disconnect wClient false]
/-- witness 3 (F22 disconnect, stale record): established with a will, then a clean DISCONNECT cleared the will -/
def witnessStaleWill : List Event :=
  [.established { wClient with will := { topic := [119], payload := [120], flag := 1 } }, .disconnect wClient false]

/-- badger stores packet id 7, bolt stores 0 -/
theorem C22_badger_bolt_counterexample :
    (readback badger (run badger witnessPacketId)).eraseIds ≠ (readback bolt (run bolt witnessPacketId)).eraseIds := by
  decide +kernel

theorem C22_badger_redis_counterexample :
    (readback badger (run badger witnessPacketId)).eraseIds ≠ (readback redis (run redis witnessPacketId)).eraseIds := by
  decide +kernel

theorem C22_pebble_bolt_counterexample :
    (readback pebble (run pebble witnessPacketId)).eraseIds ≠ (readback bolt (run bolt witnessPacketId)).eraseIds := by
  decide +kernel

theorem C22_pebble_redis_counterexample :
    (readback pebble (run pebble witnessPacketId)).eraseIds ≠ (readback redis (run redis witnessPacketId)).eraseIds := by
  decide +kernel

/-- `OnDisconnect` alone creates the client record in badger/pebble and nothing in bolt/redis -/
theorem C22_disconnect_counterexample :
    (readback badger (run badger witnessDisconnect)).clients.length = 1 ∧
    (readback pebble (run pebble witnessDisconnect)).clients.length = 1 ∧
    (readback bolt (run bolt witnessDisconnect)).clients = [] ∧
    (readback redis (run redis witnessDisconnect)).clients = [] := by
  decide +kernel

/-- after a clean DISCONNECT badger/pebble hold the will-less record, bolt/redis the stale one with the will -/
theorem C22_stale_will_counterexample :
    ((readback badger (run badger witnessStaleWill)).clients.map (·.will.flag)) = [0] ∧
    ((readback bolt (run bolt witnessStaleWill)).clients.map (·.will.flag)) = [1] ∧
    ((readback redis (run redis witnessStaleWill)).clients.map (·.will.flag)) = [1] := by
  decide +kernel

/-- a take-over cause wrapped by `fmt.Errorf("%w")`: badger/pebble (`errors.Is`) keep the record, bolt/redis (`==`) delete it -/
theorem C22_wrapped_takeover_counterexample :
    let evs : List Event := [.established wClient, .disconnect { wClient with stop := .wrappedTakenOver } true]
    (readback badger (run badger evs)).clients.length = 1 ∧ (readback bolt (run bolt evs)).clients = [] := by
  decide +kernel

/-- the partial theorem's hypothesis is satisfiable by a history that stores one record of every kind -/
example :
    let evs : List Event := [.established wClient, .subscribed wClient [{ filter := [99], qos := 1 }] [1],
      .retain wClient wPublish false, .qosPublish wClient { wPublish with pid := 0 } 1 0, .sysInfo { version := [50], nums := [1] }]
    (∀ e ∈ evs, agreeable e = true) ∧
    (readback redis (run redis evs)).clients.length = 1 ∧ (readback redis (run redis evs)).subs.length = 1 ∧
    (readback redis (run redis evs)).retained.length = 1 ∧ (readback redis (run redis evs)).inflight.length = 1 ∧
    (readback redis (run redis evs)).sys.info.version = [50] := by
  decide +kernel

/-- the ids differ between the namespaces exactly by the kind prefix -/
example : ((readback bolt (run bolt [.subscribed wClient [{ filter := [99] }] [0]])).subs.map (·.id)) = [[83, 85, 66, 95, 97, 58, 99]] ∧
          ((readback redis (run redis [.subscribed wClient [{ filter := [99] }] [0]])).subs.map (·.id)) = [[97, 58, 99]] := by
  decide +kernel

end Mochi.Storage
