import Mochi.Lemmas.BrokerInbound
/-!
# C08 — a concrete history, and the cases behind the clauses of `InEnds` / `RetransmitGates`

* `c08History`: a subscriber S on "t"; a persistent publisher P sends QoS 2 PUBLISH 7 "a", retransmits it (DUP) on
  the same connection, loses the connection, reconnects (session present), retransmits again on the NEW connection,
  sends PUBREL 7 and gets PUBCOMP 7.  S receives exactly ONE copy.  Everything is checked by evaluation.
* `C08_pubrec_from_client_counterexample` (F10): a PUBREC 7 FROM the client (success code) while its inbound exchange 7
  is open replaces the PUBREC record by a PUBREL record (and is answered PUBREL 7); the next retransmission of
  PUBLISH 7 is then forwarded a SECOND time.  This is why `InEnds` lists PUBREC `k` whatever its reason code.
* `C08_quota_counterexample`: with Receive Maximum 1 the retransmission is answered DISCONNECT 0x93 — the quota test of
  `processPublish` (server.go:890-892) comes before the duplicate test (server.go:920-925).  This is why
  `RetransmitGates` asks for receive quota.
* `C08_qos1_same_id`: a QoS 1 PUBLISH under the identifier of the open exchange is answered PUBREC 0x91 too and
  dropped (the duplicate test does not look at the QoS).
-/
namespace Mochi.Broker
open Mochi.Topics

/-- the publisher's CONNECT: MQTT 5, Clean Start 0, Session Expiry Interval 100 -/
def c08P : Connect := { ver := 5, clean := false, id := [112], sei := some 100 }

def c08History : List Op :=
  [.connect 1 { ver := 5, id := [115] },                              -- 0  S connects
   .recv 1 (.subscribe 1 0 [{ filter := [116], qos := 0 }]),          -- 1  S subscribes to "t"
   .connect 2 c08P,                                                   -- 2  P connects (object 2)
   .recv 2 (.publish 2 false false 7 [116] [97] 0 none),              -- 3  P: PUBLISH q2 id 7 "a" — PUBREC 0x00, S gets "a"
   .recv 2 (.publish 2 true false 7 [116] [97] 0 none),               -- 4  P retransmits (DUP): PUBREC 0x91, nothing to S
   .drop 2,                                                           -- 5  P's connection is lost
   .connect 3 c08P,                                                   -- 6  P reconnects: session present (object 3)
   .recv 3 (.publish 2 true false 7 [116] [97] 0 none),               -- 7  P retransmits on the new connection: PUBREC 0x91
   .recv 3 (.pubrel 7 0)]                                             -- 8  P: PUBREL 7 — PUBCOMP 7, the exchange is closed

/-- the state after the first `n` ops -/
def c08St (n : Nat) : Server := run (init {}) (c08History.take n)

/-- all outputs of a history, op by op -/
def q08_outs (s : Server) : List Op → List Out
  | [] => []
  | op :: ops => (step s op).2 ++ q08_outs (step s op).1 ops

/-- is this output a PUBLISH with payload `p` written to connection `conn`? -/
def q08_isCopy (conn : Nat) (p : Str) : Out → Bool
  | .wrote c (.publish _ m _) => c == conn && m.payload == p
  | _ => false

theorem C08_demo_fresh : OpsFresh (init {}) c08History := by decide +kernel

theorem C08_demo_schedOK : OpsSchedOK (init {}) c08History := by decide +kernel

/-- the first PUBLISH (op 3) is an accepted one: the hypotheses of `C08_accepted_qos2_shape` hold -/
theorem C08_demo_accepted :
    assocGet (c08St 3).connOf 2 = some 2 ∧ assocGet (c08St 3).clients [112] = some 2 ∧
    AcceptedQ2 (c08St 3) 2 7 [116] := by decide +kernel

/-- the exchange is open from after the PUBLISH (prefix 4) to just before the PUBREL (prefix 8) — through the lost
    connection and the resumption — and only then -/
theorem C08_demo_open :
    ¬ InOpen (c08St 3) [112] 7 ∧
    InOpen (c08St 4) [112] 7 ∧ InOpen (c08St 5) [112] 7 ∧ InOpen (c08St 6) [112] 7 ∧ InOpen (c08St 7) [112] 7 ∧
    InOpen (c08St 8) [112] 7 ∧
    ¬ InOpen (c08St 9) [112] 7 := by decide +kernel

/-- no op between the PUBLISH and the PUBREL is in `InEnds` (the two retransmissions, the drop, the resumption):
    the hypothesis `hmid` of `C08_forwarded_exactly_once` -/
theorem C08_demo_noEnds : InNoEnds (c08St 4) [112] 7 ((c08History.drop 4).take 4) := by decide +kernel

/-- … and the PUBREL is -/
theorem C08_demo_pubrel_ends : InEnds (c08St 8) [112] 7 (.recv 3 (.pubrel 7 0)) := by decide +kernel

/-- the retransmissions (ops 4 and 7) pass `RetransmitGates` on the connection of the session's object -/
theorem C08_demo_retransmit_gates :
    assocGet (c08St 4).connOf 2 = some 2 ∧ assocGet (c08St 4).clients [112] = some 2 ∧
    RetransmitGates (c08St 4) 2 7 [116] ∧
    assocGet (c08St 7).connOf 3 = some 3 ∧ assocGet (c08St 7).clients [112] = some 3 ∧
    RetransmitGates (c08St 7) 3 7 [116] := by decide +kernel

/-- what the ops write: PUBREC 0x00 and the copy for S; PUBREC 0x91 alone, twice (on connection 2, then 3); the
    reconnect's CONNACK has session present and the PUBREC record is resent; PUBCOMP -/
theorem C08_demo_outputs :
    (step (c08St 3) (.recv 2 (.publish 2 false false 7 [116] [97] 0 none))).2.take 1 = [.wrote 2 (.ack 5 5 7 0)] ∧
    ((step (c08St 3) (.recv 2 (.publish 2 false false 7 [116] [97] 0 none))).2.drop 1).map (q08_isCopy 1 [97]) = [true] ∧
    (step (c08St 4) (.recv 2 (.publish 2 true false 7 [116] [97] 0 none))).2 = [.wrote 2 (.ack 5 5 7 0x91)] ∧
    (step (c08St 6) (.connect 3 c08P)).2 =
      [.wrote 3 (.connack 5 true 0 1024 2 none), .wrote 3 (.ack 5 5 7 0)] ∧
    (step (c08St 7) (.recv 3 (.publish 2 true false 7 [116] [97] 0 none))).2 = [.wrote 3 (.ack 5 5 7 0x91)] ∧
    (step (c08St 8) (.recv 3 (.pubrel 7 0))).2 = [.wrote 3 (.ack 5 7 7 0)] := by decide +kernel

/-- **the subscriber receives exactly one copy** over the whole history -/
theorem C08_demo_exactly_one_copy :
    ((q08_outs (init {}) c08History).filter (q08_isCopy 1 [97])).length = 1 := by decide +kernel

/-- the retransmissions change nothing at all in the broker -/
theorem C08_demo_retransmit_state :
    (step (c08St 4) (.recv 2 (.publish 2 true false 7 [116] [97] 0 none))).1.rmsgs = (c08St 4).rmsgs ∧
    (step (c08St 4) (.recv 2 (.publish 2 true false 7 [116] [97] 0 none))).1.objs.map (·.inflight) =
      (c08St 4).objs.map (·.inflight) := by decide +kernel

/-! ### the cases behind the definitions -/

/-- F10, inbound face: the client sends PUBREC 7 (success) while ITS exchange 7 is open — the broker answers PUBREL 7,
    the PUBREC record is replaced by a PUBREL record (`InOpen` is lost without a PUBREL from the client), and the next
    retransmission of PUBLISH 7 is accepted as new: S gets a SECOND copy.  Go: `processPubrec` (server.go:1218-1235)
    looks the identifier up in the one in-flight map and `Set`s the PUBREL over whatever is there. -/
theorem C08_pubrec_from_client_counterexample :
    InOpen (c08St 4) [112] 7 ∧
    InEnds (c08St 4) [112] 7 (.recv 2 (.pubrec 7 0)) ∧
    (step (c08St 4) (.recv 2 (.pubrec 7 0))).2 = [.wrote 2 (.ack 5 6 7 0)] ∧
    ¬ InOpen (step (c08St 4) (.recv 2 (.pubrec 7 0))).1 [112] 7 ∧
    ((q08_outs (c08St 4) [.recv 2 (.pubrec 7 0), .recv 2 (.publish 2 true false 7 [116] [97] 0 none)]).filter
      (q08_isCopy 1 [97])).length = 1 := by decide +kernel

/-- the history of `C08_quota_counterexample`: Receive Maximum 1 -/
def c08QuotaHistory : List Op :=
  [.connect 1 c08P,
   .recv 1 (.publish 2 false false 7 [116] [97] 0 none),
   .recv 1 (.publish 2 true false 7 [116] [97] 0 none)]

/-- with Receive Maximum 1 the open exchange holds the only unit of receive quota: the retransmission is answered
    DISCONNECT 0x93 (receive maximum exceeded), the connection is closed — the exchange stays open (the session
    persists) and nothing is forwarded.  Go: server.go:890-892 precedes server.go:920-925. -/
theorem C08_quota_counterexample :
    (step (run (init { receiveMaximum := 1 }) (c08QuotaHistory.take 1)) (.recv 1 (.publish 2 false false 7 [116] [97] 0 none))).2 =
      [.wrote 1 (.ack 5 5 7 0)] ∧
    InOpen (run (init { receiveMaximum := 1 }) (c08QuotaHistory.take 2)) [112] 7 ∧
    (getObj (run (init { receiveMaximum := 1 }) (c08QuotaHistory.take 2)) 1).recvQuota = 0 ∧
    (step (run (init { receiveMaximum := 1 }) (c08QuotaHistory.take 2)) (.recv 1 (.publish 2 true false 7 [116] [97] 0 none))).2 =
      [.wrote 1 (.disconnect 5 0x93), .closed 1] ∧
    InOpen (run (init { receiveMaximum := 1 }) c08QuotaHistory) [112] 7 := by decide +kernel

/-- a QoS 1 PUBLISH "b" under the identifier of the open exchange: answered PUBREC 0x91 (not PUBACK), not forwarded —
    the duplicate test of `processPublish` does not look at the QoS (server.go:920-925) -/
theorem C08_qos1_same_id :
    ¬ InEnds (c08St 4) [112] 7 (.recv 2 (.publish 1 false false 7 [116] [98] 0 none)) ∧
    (step (c08St 4) (.recv 2 (.publish 1 false false 7 [116] [98] 0 none))).2 = [.wrote 2 (.ack 5 5 7 0x91)] ∧
    InOpen (step (c08St 4) (.recv 2 (.publish 1 false false 7 [116] [98] 0 none))).1 [112] 7 := by decide +kernel

end Mochi.Broker
