import Mochi.Lemmas.Topics
/-!
# C30 — Filter and topic-name validation follows the MQTT rules

Model: `isValidFilter` (topics.go `IsValidFilter`, after the repairs "fix: IsValidFilter enforces
whole-level wildcards…" and "fix: IsValidFilter does not apply share-filter rules to publish topic
names").  Spec: `specFilterOK`, `specTopicOK` (Spec/Topics.lean).  Both theorems are for every byte
string.  The `$share`/`$SYS` prefixes are compared as the code compares them (Unicode simple case
folding), which is the reading fixed in DESIGN.md §7.
-/
namespace Mochi.Topics

/-- A subscription filter is accepted exactly when it is non-empty, `#` occupies only the whole last
    level, `+` occupies only whole levels, and a `$share` filter has a non-empty wildcard-free share
    name followed by a non-empty filter. -/
theorem C30_filter_iff (f : Str) : isValidFilter f false = specFilterOK f := by
  unfold isValidFilter specFilterOK
  simp only [Bool.not_false, Bool.true_and, Bool.false_and, Bool.false_eq_true, if_false]
  by_cases hf : f.isEmpty = true
  · simp [hf]
  · simp only [hf, Bool.not_false, Bool.true_and]
    rw [levelsOK_eq]
    have hj := join_split f
    cases hs : splitLevels f with
    | nil => exact absurd hs (splitLevels_ne_nil f)
    | cons l0 rest =>
      cases hok : specLevelsOK (l0 :: rest)
      · simp
      · simp only [Bool.not_true, Bool.false_eq_true, if_false, Bool.true_and]
        cases rest with
        | nil =>
          simp only [isolate]
          by_cases hsh : isShare l0 = true <;> simp [hsh]
        | cons g r =>
          cases r with
          | nil =>
            simp only [isolate]
            by_cases hsh : isShare l0 = true <;> simp [hsh]
          | cons r2 r3 =>
            simp only [isolate]
            by_cases hsh : isShare l0 = true
            · simp only [hsh, Bool.not_true, Bool.false_and, Bool.false_eq_true, if_false, Bool.true_and, if_true]
              rw [hs] at hj
              have hlen : f.length = l0.length + g.length + 2 + (joinLevels (r2 :: r3)).length := by
                rw [← hj]; simp [joinLevels]; omega
              by_cases hw : (g.isEmpty || g.contains plus || g.contains hash) = true
              · simp only [hw, if_true]
                simp only [Bool.or_eq_true] at hw
                rcases hw with (hw | hw) | hw
                · simp [hw]
                · have : plus ∈ g := by simpa using hw
                  simp; intro _ h; exact absurd this h
                · have : hash ∈ g := by simpa using hw
                  simp; intro _ _ h; exact absurd this h
              · simp only [hw]
                simp only [Bool.or_eq_true, not_or, Bool.not_eq_true] at hw
                obtain ⟨⟨h1, h2⟩, h3⟩ := hw
                rw [h1, h2, h3, hlen]
                cases hjn : joinLevels (r2 :: r3) with
                | nil => simp
                | cons a b =>
                  have : ¬ (l0.length + g.length + 2 + (b.length + 1) ≤ l0.length + g.length + 2) := by omega
                  simp [this]
            · simp [hsh]

/-- A client publish topic is accepted exactly when it contains no wildcard and does not start with
    `$SYS`. -/
theorem C30_topic_iff (t : Str) : isValidFilter t true = specTopicOK t := by
  unfold isValidFilter specTopicOK
  cases (decide (t.length ≥ 4) && (t.take 4).map upper == sysUpper) <;>
  cases t.contains plus <;> cases t.contains hash <;> rfl

/-- non-vacuity / the formerly accepted malformed filters are rejected -/
example : isValidFilter [97, 47, 98, 35] false = false := by decide +kernel            -- "a/b#"
example : isValidFilter [97, 43] false = false := by decide +kernel                    -- "a+"
example : isValidFilter [36,115,104,97,114,101,47,103,47] false = false := by decide +kernel     -- "$share/g/"
example : isValidFilter [36,115,104,97,114,101,47,47,97] false = false := by decide +kernel      -- "$share//a"
example : isValidFilter [36,115,104,97,114,101,47,103,47,97,47,35] false = true := by decide +kernel -- "$share/g/a/#"
example : isValidFilter [43, 47, 35] false = true := by decide +kernel                  -- "+/#"

end Mochi.Topics
