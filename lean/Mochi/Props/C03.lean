import Mochi.Model.Broker
import Mochi.Lemmas.Gather
import Mochi.Lemmas.BrokerDelivery
import Mochi.Lemmas.BrokerPublishOp
import Mochi.Lemmas.BrokerQosDelivery
import Mochi.Lemmas.BrokerShared
/-!
# C03 — Every published message reaches exactly the entitled subscribers, once each

Proved over the model:
* (any index, topic, selection of shared members) the subscriber map `publishToSubscribers` iterates has **one entry
  per client id** — after gathering over any number of overlapping subscriptions and after merging the selected shared
  subscriptions — and each entry makes at most one write; the two gates of `publishToClient` (No Local, read permission);
* **the delivery theorem** (lemmas in `Mochi/Lemmas/BrokerDelivery.lean`): for a message that
  is QoS 0 after shaping and whose topic no shared subscription matches, the connections written a PUBLISH are exactly
  the entitled ones, each at most once — at state level (`publishToSubscribers_writes_exact`), with the subscriber map
  replaced by the declarative matcher over the index entries (`C03_delivery_exact_state_partial`), and in every state
  reached by ops without schedule ops and configuration changes (`C03_delivery_exact_reach_partial`,
  `C03_delivery_exact_seq_partial`), where "holds a matching entry" is also read off the session.
The statement is made with the model's merge of No Local (`EntitledF03`); C03 as stated (`C03_delivery_full`, with
`EntitledSpec`) is FALSE of the model and of the broker — `C03_delivery_full_false_F03`, recorded finding F03:
`Subscription.Merge` ORs No Local, so a client holding a No Local and a plain subscription that both match its own
publish gets nothing.  Outside that situation both notions agree (`C03_delivery_exact_reach_spec_partial`), and
soundness needs no proviso (`C03_delivery_sound_reach_partial`).
* **from the op to the recipients** (lemmas in `Mochi/Lemmas/BrokerPublishOp.lean`): the op a
  client performs — `step s (.recv conn (.publish 0 …))`, i.e. `recvOn` → `receivePacket` → `publishValidate` →
  `processPublish` (topic validity, receive quota, write ACL, in-flight bookkeeping, hook mode, retain) →
  `publishToSubscribers` → `nextImmediate` → barrier PINGREQ — and `step s (.inlinePublish …)`: for an ACCEPTED
  publish (`AcceptedQ0` / `AcceptedInline`, decidable hypotheses on the state before the op) the whole op IS that one
  call (`step_recv_publish_accepted`, `step_inlinePublish_accepted`), so it writes a PUBLISH to exactly the entitled
  connections, entitlement read in the state before the op (`recv_publish_delivery_exact`,
  `inline_publish_delivery_exact`, `C03_publish_op_exact_reach_partial`, `C03_publish_op_exact_seq_partial`); without
  the hypothesis that the publisher holds no deferred message the op writes, after these deliveries, at most two
  releases of the publisher's own deferred messages to the publisher (`recv_publish_delivery_exact_releases`).
Excluded (partial): shared subscriptions matching the topic, deliveries of QoS > 0 (in-flight limit, packet ids, send
quota), the topic bytes under topic aliases, schedule ops (concurrent handlers); for the op theorems also: an
inbound topic alias, a publish-hook mode for the topic, an in-flight record under the packet id, a publisher that
itself holds a deferred message (the op would then also release one to the publisher: `nextImmediate`).
End to end the correspondence oracle checks the same on every run.
-/
namespace Mochi.Broker
open Mochi.Topics

/-- the gathered subscriber map has one entry per client, however many of its subscriptions match -/
theorem C03_one_entry_per_client (x : Index) (topic : Str) : ((subscribers x topic).subs.map Prod.fst).Nodup :=
  subscribers_subs_nodup x topic

/-- merging the selected shared subscriptions keeps one entry per client -/
theorem C03_merge_one_entry (subs sel : List (Str × Sub)) (h : (subs.map Prod.fst).Nodup) :
    ((mergeSharedSelected subs sel).map Prod.fst).Nodup :=
  mergeSharedSelected_nodup subs sel h

/-- one delivery call writes at most one packet -/
theorem C03_write_at_most_one (s : Server) (i : Nat) (m : Msg) : (writeMsg s i m).length ≤ 1 :=
  writeMsg_length_le_one s i m

/-- No Local: the publisher's own message is not delivered through a No Local subscription -/
theorem C03_no_local (s : Server) (i : Nat) (sub : Sub) (fwd : Bool) (pk : Msg)
    (hnl : sub.noLocal = true) (ho : pk.origin = (getObj s i).id) : publishToClient s i sub fwd pk = (s, []) := by
  unfold publishToClient; simp [hnl, ho]

/-- F03 (recorded): merging ORs No Local -/
theorem C03_merge_nolocal_counterexample :
    (({ filter := [97, 47, 35], noLocal := true } : Sub).merge { filter := [97, 47, 98] }).noLocal = true ∧
    (({ filter := [97, 47, 98] } : Sub).merge { filter := [97, 47, 35], noLocal := true }).noLocal = true := by decide

/-- F06d (fixed in `TopicsIndex.Unsubscribe`): a shared filter without a topic part (`$share`, `$share/group`)
    names no subscription — `Unsubscribe` leaves the index alone and reports that nothing existed (before the fix it
    sought the particle named like the group and deleted the member entry of `$share/<group>/<group>`) -/
theorem C03_unsubscribe_share_without_topic_is_noop (x : Index) (filter client : Str)
    (hs : isShare (isolate (splitLevels filter) 0).1 = true) (hn : (isolate (splitLevels filter) 1).2 = false) :
    unsubscribe x filter client = (x, false) := by
  unfold unsubscribe
  simp only [hs, hn, Bool.not_false, Bool.and_self, if_true]

/-- client `x` holds `$share/g/g`; `Unsubscribe("$share/g", "x")` reports `false` and the index still
    holds the entry (same particles, same member of group `g`) -/
example :
    let t := (subscribe {} [120] { filter := [36, 115, 104, 97, 114, 101, 47, 103, 47, 103] }).1
    (unsubscribe t [36, 115, 104, 97, 114, 101, 47, 103] [120]).2 = false ∧
    (unsubscribe t [36, 115, 104, 97, 114, 101, 47, 103] [120]).1.nodes = t.nodes ∧
    (unsubscribe t [36, 115, 104, 97, 114, 101, 47, 103] [120]).1.retained = t.retained ∧
    t.nodes.map (fun n => (n.path, n.shared.map (fun g => (g.1, g.2.map (·.1))))) = [([[103]], [([103], [[120]])])] ∧
    -- the full filter does remove it
    (unsubscribe t [36, 115, 104, 97, 114, 101, 47, 103, 47, 103] [120]).2 = true ∧
    (unsubscribe t [36, 115, 104, 97, 114, 101, 47, 103, 47, 103] [120]).1.nodes = [] := by decide +kernel

/-! ## Exactly the entitled connections are written a publish (state level)

`EntitledVia s pk subs n`, `IsCopy`, `pubConn`, `ConnDistinct`: `Mochi/Lemmas/BrokerDelivery.lean`. -/

/-- For a state `s` with the tables well-formed (`WF`, kept by every history) and one connection per
    client object (`ConnDistinct`), an application message `pk` (PUBLISH, not marked "ignore" by the publish hook) that
    is QoS 0 after shaping (its QoS is 0, or that of every entry of the subscriber map is) and no shared subscription
    matching its topic:

    * a PUBLISH is written to connection `n` **iff** `n` is the connection of a client object registered under its
      id that is open, not inline, whose peer is not gone, that has an entry in the subscriber map
      `(subscribers s.topics pk.topic).subs`, may read the topic, and whose MERGED subscription does not exclude it
      by No Local (`EntitledVia`; the merge ORs No Local over all matching subscriptions of the client: F03);
    * connection `n` is written **at most one** PUBLISH;
    * every output is an inline delivery or a copy of the message (payload, QoS 0, origin; the topic bytes may be
      replaced by a topic alias). -/
theorem publishToSubscribers_writes_exact (s : Server) (hw : WF s) (hcd : ConnDistinct s) (pk : Msg)
    (hig : pk.ignore = false) (ht : pk.type = 3)
    (hq : pk.qos = 0 ∨ ∀ cs ∈ (subscribers s.topics pk.topic).subs, cs.2.qos = 0)
    (hsh : (subscribers s.topics pk.topic).shared = []) (n : Nat) :
    ((∃ ver m me, Out.wrote n (.publish ver m me) ∈ (publishToSubscribers s pk).2) ↔
      EntitledVia s pk (subscribers s.topics pk.topic).subs n) ∧
    ((publishToSubscribers s pk).2.filterMap pubConn).count n ≤ 1 ∧
    ∀ x ∈ (publishToSubscribers s pk).2, (∃ id, x = Out.inline id pk.topic pk.payload) ∨ IsCopy pk x := by
  rw [← subsMapOf_of_shared_nil s _ hsh] at hq
  obtain ⟨h1, _, _, h4, h5⟩ := publishToSubscribers_writes_exact_shaped s hw hcd pk hig ht hq n
  exact ⟨h1.trans (entitledShared_iff_via s pk hsh n), h4, h5⟩

/-- a statement "connection `n` is written a PUBLISH iff `P n`" read against the evaluated list of connections written -/
theorem iff_mem_pubConns {out : List Out} {P : Nat → Prop} {L : List Nat} (ho : out.filterMap pubConn = L)
    (h : ∀ n, (∃ ver m me, Out.wrote n (.publish ver m me) ∈ out) ↔ P n) (n : Nat) : P n ↔ n ∈ L := by
  rw [← ho, mem_pubConns]
  exact (h n).symm

/-! ## … lifted to the declarative matcher (state level)

`EntitledF03`, `EntitledSpec`, `MixedNoLocal`, `MatchingSub`: `Mochi/Lemmas/BrokerDelivery.lean`. -/

/-- "has an entry in the subscriber map" becomes "the index holds a plain subscription of the client
    whose filter `specMatch`es the topic" (C01's scan exactness, re-proved for every structurally sound index
    `IdxOK` — `hasSub_subscribers_idx`), and the No Local option of the merged subscription becomes "SOME matching
    subscription of the client has No Local" (F03): `EntitledF03`.  Topic: non-empty, no level `#` (PUBLISH topics
    contain no wildcard: `publishValidate`). -/
theorem C03_delivery_exact_state_partial (s : Server) (hw : WF s) (hcd : ConnDistinct s) (hx : IdxOK s.topics)
    (pk : Msg) (hig : pk.ignore = false) (ht : pk.type = 3)
    (hq : pk.qos = 0 ∨ ∀ cs ∈ (subscribers s.topics pk.topic).subs, cs.2.qos = 0) (hne : pk.topic ≠ [])
    (hnh : ∀ t ∈ splitLevels pk.topic, t ≠ [hash]) (hsh : (subscribers s.topics pk.topic).shared = []) (n : Nat) :
    ((∃ ver m me, Out.wrote n (.publish ver m me) ∈ (publishToSubscribers s pk).2) ↔ EntitledF03 s pk n) ∧
    ((publishToSubscribers s pk).2.filterMap pubConn).count n ≤ 1 ∧
    ∀ x ∈ (publishToSubscribers s pk).2, (∃ id, x = Out.inline id pk.topic pk.payload) ∨ IsCopy pk x := by
  obtain ⟨h1, h2, h3⟩ := publishToSubscribers_writes_exact s hw hcd pk hig ht hq hsh n
  exact ⟨h1.trans (entitledVia_iff_F03 s hx pk hne hnh (C03_one_entry_per_client s.topics pk.topic) n), h2, h3⟩

/-- the same with the hypothesis of C01: the index is the result of a history of index operations -/
theorem C03_delivery_exact_runOps_partial (s : Server) (hw : WF s) (hcd : ConnDistinct s) (iops : List IOp)
    (hx : s.topics = runOps iops)
    (pk : Msg) (hig : pk.ignore = false) (ht : pk.type = 3)
    (hq : pk.qos = 0 ∨ ∀ cs ∈ (subscribers s.topics pk.topic).subs, cs.2.qos = 0) (hne : pk.topic ≠ [])
    (hnh : ∀ t ∈ splitLevels pk.topic, t ≠ [hash]) (hsh : (subscribers s.topics pk.topic).shared = []) (n : Nat) :
    ((∃ ver m me, Out.wrote n (.publish ver m me) ∈ (publishToSubscribers s pk).2) ↔ EntitledF03 s pk n) ∧
    ((publishToSubscribers s pk).2.filterMap pubConn).count n ≤ 1 :=
  let h := C03_delivery_exact_state_partial s hw hcd (hx ▸ idxOK_runOps iops) pk hig ht hq hne hnh hsh n
  ⟨h.1, h.2.1⟩

/-! ## … in every history without schedule ops

`SeqOps`: connects, inbound packets (SUBSCRIBE, UNSUBSCRIBE, PUBLISH, acks, DISCONNECT), dropped connections,
housekeeping ticks and the inline API — everything except the four schedule ops that park a handler. -/

/-- **C03 as stated** (kept visible; NOT proved — it is false of the model, see `C03_delivery_full_false_F03`):
    in any history, for every application message, a PUBLISH carrying it is written to connection `n` exactly when
    `n` is a connected client holding at least one matching subscription that it may read and whose No Local option
    does not exclude it (`EntitledSpec`), and at most once. -/
def C03_delivery_full : Prop :=
  ∀ (caps : Caps) (ops : List Op), OpsFresh (init caps) ops →
    ∀ (pk : Msg) (n : Nat), pk.type = 3 → pk.ignore = false →
      ((∃ ver m me, Out.wrote n (.publish ver m me) ∈ (publishToSubscribers (run (init caps) ops) pk).2) ↔
        EntitledSpec (run (init caps) ops) pk n) ∧
      ((publishToSubscribers (run (init caps) ops) pk).2.filterMap pubConn).count n ≤ 1

/-- **On the invariants.**  The statement of `C03_delivery_exact_state_partial` in every state that satisfies the three
    all-history invariants `SyncInv` (index and sessions agree), `WF` (the tables are maps), `ConnMap` (one connection per
    client object), plus the session reading of "holds a matching entry". -/
theorem C03_delivery_exact_inv_partial (s : Server) (hs : SyncInv s) (hw : WF s) (hcm : ConnMap s)
    (pk : Msg) (hig : pk.ignore = false) (ht : pk.type = 3)
    (hq : pk.qos = 0 ∨ ∀ c sub, MatchingSub s.topics pk.topic c sub → sub.qos = 0)
    (hne : pk.topic ≠ []) (hnh : ∀ t ∈ splitLevels pk.topic, t ≠ [hash])
    (hsh : (subscribers s.topics pk.topic).shared = []) (n : Nat) :
    ((∃ ver m me, Out.wrote n (.publish ver m me) ∈ (publishToSubscribers s pk).2) ↔ EntitledF03 s pk n) ∧
    (EntitledF03 s pk n ↔ EntitledSession s pk n) ∧
    ((publishToSubscribers s pk).2.filterMap pubConn).count n ≤ 1 ∧
    ∀ x ∈ (publishToSubscribers s pk).2, (∃ id, x = Out.inline id pk.topic pk.payload) ∨ IsCopy pk x :=
  deliversExactly_inv s hs hw hcm pk hig ht hq hne hnh hsh n

/-- **C03 in every reachable state, restricted (hence `_partial`).**  For every state `s` reached from
    `init caps` by ops that are not schedule ops (connection numbers fresh), interleaved with configuration changes
    (ACL denials, publish hook, authentication mode, seeds: `ReachSeq`), and every application message `pk` that is
    QoS 0 after shaping and whose topic no shared subscription of the index matches:

    1. a PUBLISH is written to connection `n` **iff** `EntitledF03 s pk n` — `n` is the connection of a client
       object registered under its id, open, not inline, peer not gone; the index holds a plain subscription of that
       id whose filter `specMatch`es the topic; the id may read the topic; and it is not the case that the id is the
       publisher and some matching subscription of it has No Local (the merge of F03);
    2. "the index holds a matching plain subscription of the id" is equivalent to "the registered session lists a
       plain filter that `specMatch`es the topic" (`EntitledSession`; `IndexSync` and `IndexSyncPlain`);
    3. connection `n` is written at most one PUBLISH;
    4. every output is an inline delivery or a copy of the message (payload, QoS 0, origin).

    Excluded: shared subscriptions matching the topic (`hsh`), deliveries of QoS > 0 (in-flight limit, packet
    identifiers, send quota — `hq`: the message is QoS 0, or every matching subscription of the index is), topic
    aliases as far as the topic BYTES of the copy go (conclusion 4 does not mention them), schedule ops (`ReachSeq`),
    and the No Local merge (1. states what the model does, not what C03 asks: F03). -/
theorem C03_delivery_exact_reach_partial (caps : Caps) (s : Server) (hr : ReachSeq caps s)
    (pk : Msg) (hig : pk.ignore = false) (ht : pk.type = 3)
    (hq : pk.qos = 0 ∨ ∀ c sub, MatchingSub s.topics pk.topic c sub → sub.qos = 0)
    (hne : pk.topic ≠ []) (hnh : ∀ t ∈ splitLevels pk.topic, t ≠ [hash])
    (hsh : (subscribers s.topics pk.topic).shared = []) (n : Nat) :
    ((∃ ver m me, Out.wrote n (.publish ver m me) ∈ (publishToSubscribers s pk).2) ↔ EntitledF03 s pk n) ∧
    (EntitledF03 s pk n ↔ EntitledSession s pk n) ∧
    ((publishToSubscribers s pk).2.filterMap pubConn).count n ≤ 1 ∧
    ∀ x ∈ (publishToSubscribers s pk).2, (∃ id, x = Out.inline id pk.topic pk.payload) ∨ IsCopy pk x :=
  C03_delivery_exact_inv_partial s hr.inv.1 hr.inv.2.1 hr.inv.2.2.1 pk hig ht hq hne hnh hsh n

/-- the same for `s := run (init caps) ops`, `ops` a history without schedule ops (no configuration change: no
    ACL denial is ever in force in such a state — use `C03_delivery_exact_reach_partial` for those) -/
theorem C03_delivery_exact_seq_partial (caps : Caps) (ops : List Op) (hseq : SeqOps ops)
    (hf : OpsFresh (init caps) ops) (pk : Msg) (hig : pk.ignore = false) (ht : pk.type = 3)
    (hq : pk.qos = 0 ∨ ∀ c sub, MatchingSub (run (init caps) ops).topics pk.topic c sub → sub.qos = 0)
    (hne : pk.topic ≠ []) (hnh : ∀ t ∈ splitLevels pk.topic, t ≠ [hash])
    (hsh : (subscribers (run (init caps) ops).topics pk.topic).shared = []) (n : Nat) :
    ((∃ ver m me, Out.wrote n (.publish ver m me) ∈ (publishToSubscribers (run (init caps) ops) pk).2) ↔
      EntitledF03 (run (init caps) ops) pk n) ∧
    (EntitledF03 (run (init caps) ops) pk n ↔ EntitledSession (run (init caps) ops) pk n) ∧
    ((publishToSubscribers (run (init caps) ops) pk).2.filterMap pubConn).count n ≤ 1 ∧
    ∀ x ∈ (publishToSubscribers (run (init caps) ops) pk).2,
      (∃ id, x = Out.inline id pk.topic pk.payload) ∨ IsCopy pk x :=
  C03_delivery_exact_reach_partial caps _ (ReachSeq.init.run ops hseq hf) pk hig ht hq hne hnh hsh n

/-- outside the F03 situation (the publisher holds a matching subscription with No Local AND a matching one without)
    the recipients are exactly those C03 names -/
theorem C03_delivery_exact_reach_spec_partial (caps : Caps) (s : Server) (hr : ReachSeq caps s)
    (pk : Msg) (hig : pk.ignore = false) (ht : pk.type = 3)
    (hq : pk.qos = 0 ∨ ∀ c sub, MatchingSub s.topics pk.topic c sub → sub.qos = 0)
    (hne : pk.topic ≠ []) (hnh : ∀ t ∈ splitLevels pk.topic, t ≠ [hash])
    (hsh : (subscribers s.topics pk.topic).shared = []) (hmix : ¬ MixedNoLocal s pk) (n : Nat) :
    ((∃ ver m me, Out.wrote n (.publish ver m me) ∈ (publishToSubscribers s pk).2) ↔ EntitledSpec s pk n) ∧
    ((publishToSubscribers s pk).2.filterMap pubConn).count n ≤ 1 := by
  obtain ⟨h1, _, h3, _⟩ := C03_delivery_exact_reach_partial caps s hr pk hig ht hq hne hnh hsh n
  exact ⟨h1.trans (entitledF03_iff_spec hmix n), h3⟩

/-- soundness holds without the F03 proviso: whoever is written the message is entitled in the sense of C03 -/
theorem C03_delivery_sound_reach_partial (caps : Caps) (s : Server) (hr : ReachSeq caps s)
    (pk : Msg) (hig : pk.ignore = false) (ht : pk.type = 3)
    (hq : pk.qos = 0 ∨ ∀ c sub, MatchingSub s.topics pk.topic c sub → sub.qos = 0)
    (hne : pk.topic ≠ []) (hnh : ∀ t ∈ splitLevels pk.topic, t ≠ [hash])
    (hsh : (subscribers s.topics pk.topic).shared = []) (n : Nat)
    (h : ∃ ver m me, Out.wrote n (.publish ver m me) ∈ (publishToSubscribers s pk).2) : EntitledSpec s pk n :=
  ((C03_delivery_exact_reach_partial caps s hr pk hig ht hq hne hnh hsh n).1.mp h).spec

/-! ## The theorems on one history

Three kinds of subscriber (an MQTT 3.1.1 client, MQTT 5 clients, an inline subscriber), overlapping plain
subscriptions (`a/#`, `a/+`, `a/b`), a No Local subscription of the publisher, a read-ACL denial, a closed session. -/

/-- `x` (MQTT 3.1.1, connection 1): `a/#`.  `y` (MQTT 5, connection 2): `a/+` and `a/b` — two matches, one copy.
    Inline subscriber 7: `a/b`.  `p` (connection 3, the publisher): `a/b` with No Local.  `z` (connection 4): `a/#`, but
    denied to read `a/b` (configured in `c03State`).  `w` (connection 5, session expiry 100): `a/b`, then its connection
    is lost — the session stays, closed. -/
def c03History : List Op :=
  [.connect 1 { ver := 4, id := [120] },
   .recv 1 (.subscribe 1 0 [{ filter := [97, 47, 35] }]),
   .connect 2 { ver := 5, id := [121] },
   .recv 2 (.subscribe 1 0 [{ filter := [97, 47, 43] }, { filter := [97, 47, 98] }]),
   .inlineSubscribe 7 [97, 47, 98],
   .connect 3 { ver := 5, id := [112] },
   .recv 3 (.subscribe 1 0 [{ filter := [97, 47, 98], noLocal := true }]),
   .connect 4 { ver := 5, id := [122] },
   .recv 4 (.subscribe 1 0 [{ filter := [97, 47, 35] }]),
   .connect 5 { ver := 5, id := [119], clean := false, sei := some 100 },
   .recv 5 (.subscribe 1 0 [{ filter := [97, 47, 98] }]),
   .drop 5]

/-- the state after the history, with the read denial `(z, a/b)` configured (`bk.acl` of the harness) -/
def c03State : Server := { run (init {}) c03History with aclDeny := [([122], [97, 47, 98], false)] }

/-- `p` publishes `a/b`, QoS 0 -/
def c03Msg : Msg := { topic := [97, 47, 98], payload := [1], origin := [112] }

/-- configuring a denial between ops keeps a state reachable (stated for any `s`: between two evaluated states each
    `rfl` of `SameTables` would compare the whole tables) -/
theorem ReachSeq.withAclDeny {caps : Caps} {s : Server} (h : ReachSeq caps s) (d : List (Str × Str × Bool)) :
    ReachSeq caps { s with aclDeny := d } :=
  h.config ⟨rfl, rfl, rfl, rfl, rfl, rfl, rfl, rfl⟩

theorem c03State_reach : ReachSeq {} c03State :=
  ((ReachSeq.init (caps := {})).run c03History (by decide +kernel) (by decide +kernel)).withAclDeny _

/-- the hypotheses of `C03_delivery_exact_reach_partial` hold … -/
example : c03Msg.ignore = false ∧ c03Msg.type = 3 ∧ c03Msg.qos = 0 ∧ c03Msg.topic ≠ [] ∧
    (∀ t ∈ splitLevels c03Msg.topic, t ≠ [hash]) ∧ (subscribers c03State.topics c03Msg.topic).shared = [] := by decide +kernel
/-- … all six sessions are registered, five entries of the subscriber map (one per client id, `y` once) … -/
example : c03State.clients.map (·.1) = [inlineID, [120], [121], [112], [122], [119]] := by decide +kernel
example : (subscribers c03State.topics c03Msg.topic).subs.map (·.1) = [[121], [112], [119], [120], [122]] := by decide +kernel
/-- … and the publish reaches exactly connections 2 and 1, each once, and the inline subscriber: three outputs -/
example : (publishToSubscribers c03State c03Msg).2.filterMap pubConn = [2, 1] := by decide +kernel
example : (publishToSubscribers c03State c03Msg).2.length = 3 ∧
    Out.inline 7 [97, 47, 98] [1] ∈ (publishToSubscribers c03State c03Msg).2 := by decide +kernel

/-- a QoS 1 message is covered too: every matching subscription is QoS 0 -/
example : (∀ cs ∈ (subscribers c03State.topics c03Msg.topic).subs, cs.2.qos = 0) ∧
    (publishToSubscribers c03State { c03Msg with qos := 1, id := 9 }).2.filterMap pubConn = [2, 1] := by decide +kernel

/-- by `C03_delivery_exact_reach_partial`: `x` and `y` are entitled (read off the outputs), the publisher (No Local),
    `z` (read denial) and `w` (closed) are not -/
example : EntitledF03 c03State c03Msg 1 ∧ EntitledF03 c03State c03Msg 2 ∧ ¬ EntitledF03 c03State c03Msg 3 ∧
    ¬ EntitledF03 c03State c03Msg 4 ∧ ¬ EntitledF03 c03State c03Msg 5 := by
  have h := iff_mem_pubConns (by decide +kernel : (publishToSubscribers c03State c03Msg).2.filterMap pubConn = [2, 1])
    fun n => (C03_delivery_exact_reach_partial {} c03State c03State_reach c03Msg rfl rfl (Or.inl rfl) (by decide +kernel)
      (by decide +kernel) (by decide +kernel) n).1
  simp only [h]
  decide

/-- F03, as a history: `p` holds `a/#` with No Local and `a/b` without; it publishes `a/b` -/
def f03History : List Op :=
  [.connect 1 { ver := 5, id := [112] },
   .recv 1 (.subscribe 1 0 [{ filter := [97, 47, 35], noLocal := true }]),
   .recv 1 (.subscribe 2 0 [{ filter := [97, 47, 98] }])]

/-- `p` is entitled in the sense of C03 (through `a/b`), and is written nothing: **C03 as stated is false of the model
    (and of the broker: recorded finding F03)** -/
theorem C03_delivery_full_false_F03 : ¬ C03_delivery_full := by
  intro h
  have h1 := (h {} f03History (by decide) c03Msg 1 rfl rfl).1
  have hs : EntitledSpec (run (init {}) f03History) c03Msg 1 :=
    ⟨[112], 1, by decide, by decide, by decide, by decide, by decide, by decide, { filter := [97, 47, 98] },
      ⟨by decide, by decide⟩, by decide⟩
  obtain ⟨ver, m, me, hm⟩ := h1.mpr hs
  have ho : (publishToSubscribers (run (init {}) f03History) c03Msg).2 = [] := by decide
  rw [ho] at hm
  cases hm

/-- … while the restricted theorem applies to that very state and says so: the F03 situation is present, `p` is not
    entitled in the model's sense -/
example : MixedNoLocal (run (init {}) f03History) { topic := [97, 47, 98], payload := [1], origin := [112] } :=
  ⟨{ filter := [97, 47, 35], noLocal := true }, { filter := [97, 47, 98] }, ⟨by decide +kernel, by decide +kernel⟩, rfl,
    ⟨by decide +kernel, by decide +kernel⟩, rfl⟩

/-! ## From the OPERATION to the recipients

Not the call `publishToSubscribers s pk` but the op a client performs: `step s (.recv conn (.publish …))` and
`step s (.inlinePublish …)`.
Lemmas: `Mochi/Lemmas/BrokerPublishOp.lean` (`processPublish_accepted_shape`, `step_recv_publish_accepted`);
`DeliversExactly`, `retainedState_deliversExactly`: `Mochi/Lemmas/BrokerShared.lean`. -/

/-- **From the op to the recipients.**  `s`: any state satisfying the three all-history invariants
    (`SyncInv`, `WF`, `ConnMap`: every `ReachSeq` state does).  The op: client object `i`, on connection `conn`, sends
    `PUBLISH(QoS 0, dup, retain, topic, payload, message expiry me)`, no topic alias, and the publish is accepted
    (`AcceptedQ0`: connection alive, topic valid, receive quota, write permission, no in-flight record under id 0, no
    publish-hook mode for the topic, the publisher has no deferred message).  No shared subscription of the index
    matches the topic.  Then, with `pk = inboundMsg …` (origin = the publisher's client id) and `out` = everything
    the op writes:

    1. connection `n` is written a PUBLISH by the op **iff** `EntitledF03 s pk n` — entitlement in the state BEFORE
       the op (retaining does not change it);
    2. … iff the registered session lists a matching plain filter (`EntitledSession`);
    3. connection `n` is written at most one PUBLISH;
    4. every output of the op is an inline delivery of `(topic, payload)` or a copy of the message (PUBLISH, type 3,
       the payload, QoS 0, the publisher's id as origin, dup 0, packet id 0) — nothing else: no ack, no release of a
       deferred message, no PINGRESP in the projection, no `closed`. -/
theorem recv_publish_delivery_exact (s : Server) (hs : SyncInv s) (hw : WF s) (hcm : ConnMap s)
    (conn i : Nat) (dup retain : Bool) (topic payload : Str) (me : Nat)
    (hc : assocGet s.connOf conn = some i) (h : AcceptedQ0 s i topic)
    (hsh : (subscribers s.topics topic).shared = []) (n : Nat) :
    ((∃ ver m mes, Out.wrote n (.publish ver m mes) ∈
        (step s (.recv conn (.publish 0 dup retain 0 topic payload me none))).2) ↔
      EntitledF03 s (inboundMsg s i 0 dup retain 0 topic payload me) n) ∧
    (EntitledF03 s (inboundMsg s i 0 dup retain 0 topic payload me) n ↔
      EntitledSession s (inboundMsg s i 0 dup retain 0 topic payload me) n) ∧
    ((step s (.recv conn (.publish 0 dup retain 0 topic payload me none))).2.filterMap pubConn).count n ≤ 1 ∧
    ∀ x ∈ (step s (.recv conn (.publish 0 dup retain 0 topic payload me none))).2,
      (∃ id, x = Out.inline id topic payload) ∨ IsCopy (inboundMsg s i 0 dup retain 0 topic payload me) x := by
  have hnh := no_hash_level topic h.valid
  have hsh' := (retainedState_shared s (inboundMsg s i 0 dup retain 0 topic payload me) hs.idx topic).mpr hsh
  rw [step_recv_publish_accepted s conn i dup retain topic payload me hc h hsh']
  exact retainedState_deliversExactly s hs hw hcm _ rfl rfl (Or.inl rfl) h.nonempty hnh hsh' n

/-- **The inline API.**  `step s (.inlinePublish topic payload retain qos)` (`Server.Publish`): the inline
    client (object 0) passes the topic-validity and write-ACL gates unexamined; `AcceptedInline` asks for what still
    applies (no wildcard, non-empty topic, its receive quota, no publish-hook mode, no deferred message of its own).
    The message must be QoS 0 after shaping: `qos = 0`, or every matching plain subscription of the index is QoS 0.
    Conclusions as in `recv_publish_delivery_exact`, for `inlineMsg …` (origin = the inline client's id). -/
theorem inline_publish_delivery_exact (s : Server) (hs : SyncInv s) (hw : WF s) (hcm : ConnMap s)
    (topic payload : Str) (retain : Bool) (qos : Nat) (h : AcceptedInline s topic)
    (hq : qos = 0 ∨ ∀ c sub, MatchingSub s.topics topic c sub → sub.qos = 0)
    (hsh : (subscribers s.topics topic).shared = []) (n : Nat) :
    ((∃ ver m mes, Out.wrote n (.publish ver m mes) ∈ (step s (.inlinePublish topic payload retain qos)).2) ↔
      EntitledF03 s (inlineMsg s topic payload retain qos) n) ∧
    (EntitledF03 s (inlineMsg s topic payload retain qos) n ↔
      EntitledSession s (inlineMsg s topic payload retain qos) n) ∧
    ((step s (.inlinePublish topic payload retain qos)).2.filterMap pubConn).count n ≤ 1 ∧
    ∀ x ∈ (step s (.inlinePublish topic payload retain qos)).2,
      (∃ id, x = Out.inline id topic payload) ∨ IsCopy (inlineMsg s topic payload retain qos) x := by
  have hnh := no_hash_level_of_noWild topic h.noWild
  have hsh' := (retainedState_shared s (inlineMsg s topic payload retain qos) hs.idx topic).mpr hsh
  obtain ⟨is, _, _⟩ := retainedState_inv (inlineMsg s topic payload retain qos) hs hw hcm
  have hq' : (inlineMsg s topic payload retain qos).qos = 0 ∨
      ∀ c sub, MatchingSub (retainedState s (inlineMsg s topic payload retain qos)).topics topic c sub → sub.qos = 0 :=
    hq.imp (inlineMsg_fields s topic payload retain qos).2.2.2.2.2
      (fun g c sub hm => g c sub ((matchingSub_congr (retainedState_quiet s _).plain topic c sub).mp hm))
  rw [step_inlinePublish_accepted s topic payload retain qos h
    (hq'.imp id (merged_qos_zero _ is.idx topic h.nonempty hnh (C03_one_entry_per_client _ topic))) hsh']
  exact retainedState_deliversExactly s hs hw hcm _ rfl rfl hq' h.nonempty hnh hsh' n

/-- **`recv_publish_delivery_exact` without the hypothesis on deferred messages** (`PublishGates` instead of
    `AcceptedQ0`): the outputs of the op are `o ++ r` where `o` is delivered exactly as there and `r` — at most two
    outputs — are releases of deferred messages of the PUBLISHER: possible only if the publisher has send quota and holds, before the op, an
    in-flight message `m` with `expiry < 0`; the output is `writeMsg` of `m` on the publisher's own connection. -/
theorem recv_publish_delivery_exact_releases (s : Server) (hs : SyncInv s) (hw : WF s) (hcm : ConnMap s)
    (conn i : Nat) (dup retain : Bool) (topic payload : Str) (me : Nat)
    (hc : assocGet s.connOf conn = some i) (h : PublishGates s i topic)
    (hsh : (subscribers s.topics topic).shared = []) :
    ∃ o r, (step s (.recv conn (.publish 0 dup retain 0 topic payload me none))).2 = o ++ r ∧
      (∀ n, DeliversExactly s (inboundMsg s i 0 dup retain 0 topic payload me) o n) ∧ r.length ≤ 2 ∧
      ∀ x ∈ r, (getObj s i).sendQuota > 0 ∧ ∃ m ∈ (getObj s i).inflight, m.expiry < 0 ∧ x ∈ writeMsg s i m := by
  have hnh := no_hash_level topic h.valid
  have hsh' := (retainedState_shared s (inboundMsg s i 0 dup retain 0 topic payload me) hs.idx topic).mpr hsh
  obtain ⟨r, h1, h2, h3⟩ := step_recv_publish_releases s conn i dup retain topic payload me hc h
  exact ⟨_, r, h1, fun n => retainedState_deliversExactly s hs hw hcm _ rfl rfl (Or.inl rfl) h.nonempty hnh hsh' n, h2, h3⟩

/-- **On reachable states.**  In every state `s` reached from `init caps` by ops that are not schedule ops,
    interleaved with configuration changes (`ReachSeq`): the NEXT op, if it is an accepted QoS 0 PUBLISH of a network
    client (`AcceptedQ0`) or an accepted inline publish that is QoS 0 after shaping (`AcceptedInline`), on a topic that
    no shared subscription matches, writes a PUBLISH to exactly the entitled connections, once each, and nothing
    else but inline deliveries. -/
theorem C03_publish_op_exact_reach_partial (caps : Caps) (s : Server) (hr : ReachSeq caps s) :
    (∀ (conn i : Nat) (dup retain : Bool) (topic payload : Str) (me : Nat),
      assocGet s.connOf conn = some i → AcceptedQ0 s i topic → (subscribers s.topics topic).shared = [] →
      ∀ n, DeliversExactly s (inboundMsg s i 0 dup retain 0 topic payload me)
        (step s (.recv conn (.publish 0 dup retain 0 topic payload me none))).2 n) ∧
    (∀ (topic payload : Str) (retain : Bool) (qos : Nat),
      AcceptedInline s topic → (qos = 0 ∨ ∀ c sub, MatchingSub s.topics topic c sub → sub.qos = 0) →
      (subscribers s.topics topic).shared = [] →
      ∀ n, DeliversExactly s (inlineMsg s topic payload retain qos)
        (step s (.inlinePublish topic payload retain qos)).2 n) :=
  ⟨fun conn i dup retain topic payload me hc h hsh n =>
     recv_publish_delivery_exact s hr.inv.1 hr.inv.2.1 hr.inv.2.2.1 conn i dup retain topic payload me hc h hsh n,
   fun topic payload retain qos h hq hsh n =>
     inline_publish_delivery_exact s hr.inv.1 hr.inv.2.1 hr.inv.2.2.1 topic payload retain qos h hq hsh n⟩

/-- **Restricted (hence `_partial`).**  For every history `ops` from `init caps` without schedule ops (connection
    numbers fresh), the statement of `recv_publish_delivery_exact` and `inline_publish_delivery_exact` for the op applied
    NEXT, in the state `run (init caps) ops`.  Restrictions: QoS 0 after shaping; no topic alias on the inbound
    packet; no shared subscription matching the topic; the publish-hook mode of the topic is none; the publisher
    holds no deferred message of its own; no schedule ops in the history; entitlement with the No Local merge of F03. -/
theorem C03_publish_op_exact_seq_partial (caps : Caps) (ops : List Op) (hseq : SeqOps ops)
    (hf : OpsFresh (init caps) ops) :
    (∀ (conn i : Nat) (dup retain : Bool) (topic payload : Str) (me : Nat),
      assocGet (run (init caps) ops).connOf conn = some i → AcceptedQ0 (run (init caps) ops) i topic →
      (subscribers (run (init caps) ops).topics topic).shared = [] →
      ∀ n, DeliversExactly (run (init caps) ops) (inboundMsg (run (init caps) ops) i 0 dup retain 0 topic payload me)
        (step (run (init caps) ops) (.recv conn (.publish 0 dup retain 0 topic payload me none))).2 n) ∧
    (∀ (topic payload : Str) (retain : Bool) (qos : Nat),
      AcceptedInline (run (init caps) ops) topic →
      (qos = 0 ∨ ∀ c sub, MatchingSub (run (init caps) ops).topics topic c sub → sub.qos = 0) →
      (subscribers (run (init caps) ops).topics topic).shared = [] →
      ∀ n, DeliversExactly (run (init caps) ops) (inlineMsg (run (init caps) ops) topic payload retain qos)
        (step (run (init caps) ops) (.inlinePublish topic payload retain qos)).2 n) :=
  C03_publish_op_exact_reach_partial caps _ (ReachSeq.init.run ops hseq hf)

/-! ### The op theorems on `c03History`: `p` (connection 3, object 3) publishes `a/b` as the NEXT op -/

/-- the op: PUBLISH QoS 0 `a/b`, payload `01`, on connection 3 -/
def c03Op (retain : Bool) : Op := .recv 3 (.publish 0 false retain 0 [97, 47, 98] [1] 0 none)

/-- connection 3 is client object 3, and the publish is accepted -/
theorem c03_accepted : assocGet c03State.connOf 3 = some 3 ∧ AcceptedQ0 c03State 3 [97, 47, 98] :=
  ⟨by decide, ⟨by decide, by decide, by decide, by decide, by decide, by decide, by decide, by decide, by decide⟩,
    by decide⟩

/-- the message the op routes is `c03Msg` up to the stamps `processPublish` puts on it (creation time, MQTT version,
    expiry time from the broker's maximum message expiry) -/
example : inboundMsg c03State 3 0 false false 0 [97, 47, 98] [1] 0 =
    { c03Msg with created := NOW, ver := 5, expiry := NOW + 86400 } := by decide +kernel

/-- the op writes a PUBLISH to connections 2 and 1, once each, and delivers to the inline subscriber: three
    outputs, nothing else (no PINGRESP of the barrier in the projection, no release) — with and without retain; with
    retain the message is stored -/
example : (step c03State (c03Op false)).2.filterMap pubConn = [2, 1] ∧ (step c03State (c03Op false)).2.length = 3 ∧
    Out.inline 7 [97, 47, 98] [1] ∈ (step c03State (c03Op false)).2 ∧
    (step c03State (c03Op true)).2.filterMap pubConn = [2, 1] ∧ (step c03State (c03Op true)).2.length = 3 ∧
    (step c03State (c03Op false)).1.rmsgs.map (·.1) = [] ∧
    (step c03State (c03Op true)).1.rmsgs.map (·.1) = [[97, 47, 98]] := by decide +kernel

/-- by `C03_publish_op_exact_reach_partial`: `x`, `y` entitled; the publisher (No Local), `z` (read denial),
    `w` (closed) not -/
example : ∀ retain, EntitledF03 c03State (inboundMsg c03State 3 0 false retain 0 [97, 47, 98] [1] 0) 1 ∧
    EntitledF03 c03State (inboundMsg c03State 3 0 false retain 0 [97, 47, 98] [1] 0) 2 ∧
    ¬ EntitledF03 c03State (inboundMsg c03State 3 0 false retain 0 [97, 47, 98] [1] 0) 3 ∧
    ¬ EntitledF03 c03State (inboundMsg c03State 3 0 false retain 0 [97, 47, 98] [1] 0) 4 ∧
    ¬ EntitledF03 c03State (inboundMsg c03State 3 0 false retain 0 [97, 47, 98] [1] 0) 5 := by
  intro retain
  have h := iff_mem_pubConns
    (by cases retain <;> decide :
      (step c03State (.recv 3 (.publish 0 false retain 0 [97, 47, 98] [1] 0 none))).2.filterMap pubConn = [2, 1])
    fun n => ((C03_publish_op_exact_reach_partial {} c03State c03State_reach).1 3 3 false retain [97, 47, 98]
      [1] 0 c03_accepted.1 c03_accepted.2 (by decide +kernel) n).1
  simp only [h]
  decide

/-- the hypothesis "every matching plain subscription is QoS 0" can be checked on the (computable) subscriber map -/
theorem matching_qos_zero_of_merged (x : Index) (hx : IdxOK x) (topic : Str) (hne : topic ≠ [])
    (hnh : ∀ t ∈ splitLevels topic, t ≠ [hash]) (h : ∀ cs ∈ (subscribers x topic).subs, cs.2.qos = 0) :
    ∀ c sub, MatchingSub x topic c sub → sub.qos = 0 := by
  intro c sub hm
  by_cases hz : sub.qos = 0
  · exact hz
  · obtain ⟨sub', hg, hq⟩ := (hasSub_subscribers_idx mergeOr_qosPos x hx topic hne hnh c).mpr
      ⟨sub, hm, Nat.pos_of_ne_zero hz⟩
    have h0 : sub'.qos = 0 := h _ (assocGet_mem _ _ _ hg)
    have hq' : sub'.qos > 0 := hq
    omega

/-- the inline publish as the next op: accepted, same recipients (the inline client is nobody's No Local origin) -/
theorem c03_inline_accepted : AcceptedInline c03State [97, 47, 98] :=
  ⟨by decide, by decide, by decide, by decide, by decide, by decide⟩

/-- QoS 0 and QoS 1 (every matching subscription is QoS 0): connections 2, 3 (`p` itself: the origin is the inline
    client, No Local does not apply) and 1 -/
example : (step c03State (.inlinePublish [97, 47, 98] [1] false 0)).2.filterMap pubConn = [2, 3, 1] ∧
    (step c03State (.inlinePublish [97, 47, 98] [1] false 1)).2.filterMap pubConn = [2, 3, 1] ∧
    EntitledF03 c03State (inlineMsg c03State [97, 47, 98] [1] false 1) 3 ∧
    ¬ EntitledF03 c03State (inlineMsg c03State [97, 47, 98] [1] false 1) 4 := by
  have hq : ∀ c sub, MatchingSub c03State.topics [97, 47, 98] c sub → sub.qos = 0 :=
    matching_qos_zero_of_merged _ c03State_reach.inv.1.idx _ (by decide +kernel) (by decide +kernel) (by decide +kernel)
  have ho : (step c03State (.inlinePublish [97, 47, 98] [1] false 1)).2.filterMap pubConn = [2, 3, 1] := by decide +kernel
  have h := iff_mem_pubConns ho fun n => ((C03_publish_op_exact_reach_partial {} c03State c03State_reach).2
    [97, 47, 98] [1] false 1 c03_inline_accepted (Or.inr hq) (by decide +kernel) n).1
  exact ⟨by decide +kernel, ho, (h 3).mpr (by decide), mt (h 4).mp (by decide)⟩

/-! ## Publications of ANY QoS: who is written, and what excuses a missing receiver

Lemmas: `Mochi/Lemmas/BrokerQosDelivery.lean` (namespace `Q1`).  `Q1.verdict s i` classifies a delivery of QoS > 0 to
client object `i` on the state BEFORE the publish: `limit` (in-flight limit reached), `exhausted` (no packet identifier),
`deferred pid` (send quota 0 under a Receive Maximum: stored, `expiry = -1`), `sent pid` (stored and written) —
`publishToClientCore_qos_shape` (`Props/C10.lean`).  `Q1.ServedVia s pk subs n`: `EntitledVia s pk subs n` through an
entry `(cid, sub)` whose copy is QoS 0 or whose delivery is in case `sent`.  `Q1.entryObj s i sub pk`: the receiving
object after its entry (unchanged / the deferred record appended / the sent record appended and one unit of send quota
taken).  `Q1.NoAliases s`: no registered client has outbound topic aliases. -/

/-- `WF s`, `ConnDistinct s`, no matching shared subscription, no outbound aliases; `pk` an application
    message of ANY QoS.  1. connection `n` is written a PUBLISH **iff** it is entitled (`EntitledVia`) AND (the copy is
    QoS 0 OR the delivery is in case (d)): `Q1.ServedVia`;  2. at most one PUBLISH per connection;  3. the object of
    every registered entry of the subscriber map ends exactly as its verdict says (`Q1.entryObj`, computed on the state
    BEFORE the publish: each entry sees its own object untouched by the others), every other object is unchanged;
    4. every output is an inline delivery or an output of a registered entry, and every output of an entry is there. -/
theorem publishToSubscribers_writes_exact_qos (s : Server) (hw : WF s) (hcd : ConnDistinct s) (hna : Q1.NoAliases s)
    (pk : Msg) (hig : pk.ignore = false) (ht : pk.type = 3)
    (hsh : (subscribers s.topics pk.topic).shared = []) (n : Nat) :
    ((∃ ver m me, Out.wrote n (.publish ver m me) ∈ (publishToSubscribers s pk).2) ↔
      Q1.ServedVia s pk (subscribers s.topics pk.topic).subs n) ∧
    ((publishToSubscribers s pk).2.filterMap pubConn).count n ≤ 1 ∧
    (∀ cid i sub, (cid, i) ∈ s.clients → (cid, sub) ∈ (subscribers s.topics pk.topic).subs →
      getObj (publishToSubscribers s pk).1 i = Q1.entryObj s i sub (stamped s pk) ∧
      ∀ x ∈ Q1.entryOut s i sub (stamped s pk), x ∈ (publishToSubscribers s pk).2) ∧
    (∀ k, (∀ cs ∈ (subscribers s.topics pk.topic).subs, assocGet s.clients cs.1 ≠ some k) →
      getObj (publishToSubscribers s pk).1 k = getObj s k) ∧
    (∀ x ∈ (publishToSubscribers s pk).2, (∃ id, x = Out.inline id pk.topic pk.payload) ∨
      ∃ cid i sub, (cid, i) ∈ s.clients ∧ (cid, sub) ∈ (subscribers s.topics pk.topic).subs ∧
        x ∈ Q1.entryOut s i sub (stamped s pk)) := by
  rw [← subsMapOf_of_shared_nil s _ hsh]
  exact Q1.writes_exact_shared s hw hcd hna pk hig ht n

/-- **the excuses, spelled out.**  An ENTITLED client (registered as `(cid, i)`, live, entry `(cid, sub)` of the
    subscriber map passing No Local and the read permission) whose copy has QoS > 0:
    (a)/(b) verdict `limit` / `exhausted`: its object is unchanged — nothing stored, nothing written by its entry;
    (c) verdict `deferred pid`: nothing written by its entry; the copy is the LAST record of its in-flight list, with
        `expiry = -1`, send quota unchanged;
    (d) verdict `sent pid`: its entry writes exactly the copy; the copy is the last record of its in-flight list; send
        quota − 1.  ("No missing receiver unless a flow-control / limit excuse applies": the oracle's rule.) -/
theorem C03_missing_receiver_excused (s : Server) (hw : WF s) (hcd : ConnDistinct s) (hna : Q1.NoAliases s)
    (pk : Msg) (hig : pk.ignore = false) (ht : pk.type = 3)
    (hsh : (subscribers s.topics pk.topic).shared = [])
    (cid : Str) (i : Nat) (sub : Sub) (hm : (cid, i) ∈ s.clients) (hs : (cid, sub) ∈ (subscribers s.topics pk.topic).subs)
    (hp : Q1.passes s i sub pk = true) (hq : shapeQos s.caps sub pk.qos > 0) :
    match Q1.verdict s i with
    | .limit => getObj (publishToSubscribers s pk).1 i = getObj s i ∧ Q1.entryOut s i sub (stamped s pk) = []
    | .exhausted => getObj (publishToSubscribers s pk).1 i = getObj s i ∧
        (Q1.entryOut s i sub (stamped s pk)).filterMap pubConn = []
    | .deferred pid => Q1.entryOut s i sub (stamped s pk) = [] ∧
        (getObj (publishToSubscribers s pk).1 i).inflight =
          (getObj s i).inflight ++ [{ Q1.copyOf s i sub (stamped s pk) pid with expiry := -1 }] ∧
        (getObj (publishToSubscribers s pk).1 i).sendQuota = (getObj s i).sendQuota
    | .sent pid =>
        (Q1.liveB s i = true → Q1.entryOut s i sub (stamped s pk) =
          [.wrote (getObj s i).conn (.publish (getObj s i).ver (Q1.copyOf s i sub (stamped s pk) pid)
            (decide ((Q1.copyOf s i sub (stamped s pk) pid).expiry > 0) ||
             decide ((Q1.copyOf s i sub (stamped s pk) pid).msgExpiry > 0)))]) ∧
        (getObj (publishToSubscribers s pk).1 i).inflight =
          (getObj s i).inflight ++ [Q1.copyOf s i sub (stamped s pk) pid] ∧
        (getObj (publishToSubscribers s pk).1 i).sendQuota = (getObj s i).sendQuota - 1 := by
  obtain ⟨ho, _⟩ := (publishToSubscribers_writes_exact_qos s hw hcd hna pk hig ht hsh 0).2.2.1 cid i sub hm hs
  have hp' : Q1.passes s i sub (stamped s pk) = true := by
    unfold Q1.passes at hp ⊢
    rw [(stamped_fields s pk).1, (stamped_fields s pk).2.2.2.2]; exact hp
  have hq' : shapeQos s.caps sub (stamped s pk).qos > 0 := by rw [(stamped_fields s pk).2.2.1]; exact hq
  rw [ho]
  unfold Q1.entryObj Q1.entryOut
  simp only [if_pos hp', if_pos hq']
  cases Q1.verdict s i with
  | limit => exact ⟨rfl, by cases Q1.liveB s i <;> rfl⟩
  | exhausted => exact ⟨rfl, by cases Q1.liveB s i <;> rfl⟩
  | deferred pid => exact ⟨by cases Q1.liveB s i <;> rfl, rfl, rfl⟩
  | sent pid => exact ⟨fun hl => by rw [if_pos hl]; rfl, rfl, rfl⟩

/-- `x` (MQTT 3.1.1, connection 1), `y` (MQTT 5, connection 2, Receive Maximum 1), `z` (MQTT 5, connection 3)
    subscribe `a/b` at QoS 1 (`z` also `c`); `p` (connection 4) publishes `a/b` at QoS 1: all three hold the copy in
    flight; `x` acknowledges; `p` publishes `c` at QoS 1: `z` holds two.  The broker's in-flight limit is 2. -/
def q1History : List Op :=
  [.connect 1 { ver := 4, id := [120] },
   .recv 1 (.subscribe 1 0 [{ filter := [97, 47, 98], qos := 1 }]),
   .connect 2 { ver := 5, id := [121], rm := some 1 },
   .recv 2 (.subscribe 1 0 [{ filter := [97, 47, 98], qos := 1 }]),
   .connect 3 { ver := 5, id := [122] },
   .recv 3 (.subscribe 1 0 [{ filter := [97, 47, 98], qos := 1 }, { filter := [99], qos := 1 }]),
   .connect 4 { ver := 5, id := [112] },
   .recv 4 (.publish 1 false false 1 [97, 47, 98] [1] 0 none),
   .recv 1 (.puback 1 0),
   .recv 4 (.publish 1 false false 2 [99] [2] 0 none)]

def q1State : Server := run (init { maximumInflight := 2 }) q1History

/-- the next publication: `a/b`, QoS 1, by `p` -/
def q1Msg : Msg := { topic := [97, 47, 98], payload := [3], qos := 1, id := 3, origin := [112] }

theorem q1State_reach : ReachSeq { maximumInflight := 2 } q1State :=
  ReachSeq.init.run q1History (by decide +kernel) (by decide +kernel)

/-- `Q1.NoAliases` in the form that evaluates: a bounded quantifier over the client map -/
theorem Q1.noAliases_of_all {s : Server} (h : ∀ e ∈ s.clients, (getObj s e.2).tam = 0) : Q1.NoAliases s :=
  fun id i hm => h (id, i) hm

theorem q1State_noAliases : Q1.NoAliases q1State :=
  Q1.noAliases_of_all (by decide +kernel)

/-- the hypotheses of `publishToSubscribers_writes_exact_qos` hold in `q1State` for `q1Msg` … -/
example : q1Msg.ignore = false ∧ q1Msg.type = 3 ∧ (subscribers q1State.topics q1Msg.topic).shared = [] ∧
    (subscribers q1State.topics q1Msg.topic).subs.map (fun cs => (cs.1, cs.2.qos)) = [([120], 1), ([121], 1), ([122], 1)] ∧
    q1State.clients = [(inlineID, 0), ([120], 1), ([121], 2), ([122], 3), ([112], 4)] := by decide +kernel

/-- … the three deliveries are in cases (d), (c) and (a): `x` is served under identifier 2, `y` has used its Receive
    Maximum of 1 (send quota 0), `z` holds 2 = `maximumInflight` records … -/
example : Q1.verdict q1State 1 = .sent 2 ∧ Q1.verdict q1State 2 = .deferred 2 ∧ Q1.verdict q1State 3 = .limit ∧
    (getObj q1State 2).sendQuota = 0 ∧ (getObj q1State 2).maxSend = 1 ∧ (getObj q1State 3).inflight.length = 2 := by
  decide +kernel

/-- … only connection 1 is written; `y`'s copy is stored deferred (`expiry = -1`) under the fresh identifier 2 next to
    its record 1; `z`'s object is unchanged and the dropped counter moved; `x` holds the copy under identifier 2 -/
example : (publishToSubscribers q1State q1Msg).2.filterMap pubConn = [1] ∧
    (getObj (publishToSubscribers q1State q1Msg).1 2).inflight.map (fun m => (m.id, m.qos, decide (m.expiry = -1))) =
      [(1, 1, false), (2, 1, true)] ∧
    (getObj (publishToSubscribers q1State q1Msg).1 3).inflight.map (·.id) = (getObj q1State 3).inflight.map (·.id) ∧
    (publishToSubscribers q1State q1Msg).1.info.inflightDropped = q1State.info.inflightDropped + 1 ∧
    (getObj (publishToSubscribers q1State q1Msg).1 1).inflight.map (fun m => (m.id, m.qos, m.dup)) = [(2, 1, false)] := by
  decide +kernel

/-- by `publishToSubscribers_writes_exact_qos`: connection 1 is served; 2 and 3 are ENTITLED but not served -/
example : Q1.ServedVia q1State q1Msg (subscribers q1State.topics q1Msg.topic).subs 1 ∧
    ¬ Q1.ServedVia q1State q1Msg (subscribers q1State.topics q1Msg.topic).subs 2 ∧
    ¬ Q1.ServedVia q1State q1Msg (subscribers q1State.topics q1Msg.topic).subs 3 ∧
    EntitledVia q1State q1Msg (subscribers q1State.topics q1Msg.topic).subs 2 ∧
    EntitledVia q1State q1Msg (subscribers q1State.topics q1Msg.topic).subs 3 := by
  have hr := q1State_reach.inv
  have h := iff_mem_pubConns (by decide +kernel : (publishToSubscribers q1State q1Msg).2.filterMap pubConn = [1])
    fun n => (publishToSubscribers_writes_exact_qos q1State hr.2.1 hr.2.2.1.distinct q1State_noAliases q1Msg
      rfl rfl (by decide +kernel) n).1
  exact ⟨(h 1).mpr (by decide), mt (h 2).mp (by decide), mt (h 3).mp (by decide),
    ⟨[121], 2, { filter := [97, 47, 98], qos := 1, idents := some [([97, 47, 98], 0)] }, by decide +kernel⟩,
    ⟨[122], 3, { filter := [97, 47, 98], qos := 1, idents := some [([97, 47, 98], 0)] }, by decide +kernel⟩⟩

/-- the routing theorem for any QoS, applied in the state with the retained store updated -/
theorem retainedState_servedVia (s : Server) (hs : SyncInv s) (hw : WF s) (hcm : ConnMap s) (hna : Q1.NoAliases s)
    (pk : Msg) (hig : pk.ignore = false) (ht : pk.type = 3)
    (hsh : (subscribers (retainedState s pk).topics pk.topic).shared = []) (n : Nat) :
    ((∃ ver m me, Out.wrote n (.publish ver m me) ∈ (publishToSubscribers (retainedState s pk) pk).2) ↔
      Q1.ServedVia (retainedState s pk) pk (subscribers (retainedState s pk).topics pk.topic).subs n) ∧
    ((publishToSubscribers (retainedState s pk) pk).2.filterMap pubConn).count n ≤ 1 := by
  obtain ⟨_, iw, ic⟩ := retainedState_inv pk hs hw hcm
  obtain ⟨g1, g2, _⟩ := publishToSubscribers_writes_exact_qos _ iw ic.distinct (q1_noAliases_retainedState pk hna)
    pk hig ht hsh n
  exact ⟨g1, g2⟩

/-- **Any QoS, restricted (hence `_partial`).**  In every state `s` reached by ops without schedule ops and
    configuration changes (`ReachSeq`) in which no registered client has outbound aliases, with `rs` the state with the
    retained store updated (`retainedState s m`; it IS `s` when the retain flag is off) and `m = inboundMsg …`:
    1. the accepted QoS 0 PUBLISH op (`AcceptedQ0`, `step_recv_publish_accepted`) writes a PUBLISH to connection `n`
       iff `n` is served (`Q1.ServedVia`: entitled, and the copy — QoS 0 here — needs no excuse), at most once;
    2. the accepted QoS 1 PUBLISH (`processPublish_accepted_qos1`: live network client, valid topic, receive quota
       within its maximum, write permission, no record under the identifier, no hook mode, the broker grants QoS 1):
       the handler writes the PUBACK to the publisher FIRST, then a PUBLISH to connection `n` iff `n` is entitled AND
       (its copy is QoS 0 OR its delivery is in case (d)), at most once; entitled clients in cases (a)–(c) are
       accounted for by `C03_missing_receiver_excused` applied to `rs`.
    Not covered: the release tail of the QoS 1 op (`nextImmediate` for the publisher after the routing and
    after the barrier PINGREQ), the QoS 2 op (`C08_accepted_qos2_shape`: the routing state is `pubrecFiled rs i id`),
    and reading the subscriber map of `rs` off the index of `s` (`EntitledF03`). -/
theorem C03_publish_op_exact_any_qos_partial (caps : Caps) (s : Server) (hr : ReachSeq caps s) (hna : Q1.NoAliases s) :
    (∀ (conn i : Nat) (dup retain : Bool) (topic payload : Str) (me : Nat),
      assocGet s.connOf conn = some i → AcceptedQ0 s i topic → (subscribers s.topics topic).shared = [] →
      ∀ n, ((∃ ver m mes, Out.wrote n (.publish ver m mes) ∈
              (step s (.recv conn (.publish 0 dup retain 0 topic payload me none))).2) ↔
            Q1.ServedVia (retainedState s (inboundMsg s i 0 dup retain 0 topic payload me))
              (inboundMsg s i 0 dup retain 0 topic payload me)
              (subscribers (retainedState s (inboundMsg s i 0 dup retain 0 topic payload me)).topics topic).subs n) ∧
          ((step s (.recv conn (.publish 0 dup retain 0 topic payload me none))).2.filterMap pubConn).count n ≤ 1) ∧
    (∀ (i : Nat) (dup retain : Bool) (id : Nat) (topic payload : Str) (me : Nat),
      (getObj s i).isOpen = true → (getObj s i).peerGone = false → (getObj s i).inline = false →
      isValidFilter topic true = true → (getObj s i).recvQuota ≠ 0 → (getObj s i).recvQuota ≤ (getObj s i).maxRecv →
      aclOk s (getObj s i).id topic true = true → flGet (getObj s i) id = none → topic ≠ [] →
      assocGet s.pubHook topic = none → 1 ≤ s.caps.maximumQos → (subscribers s.topics topic).shared = [] →
      (∃ rest, (processPublish s i 1 dup retain id topic payload me none).2.1 =
          Out.wrote (getObj s i).conn (.ack (getObj s i).ver 4 id 1) :: rest ∧
        ∀ n, ((∃ ver m mes, Out.wrote n (.publish ver m mes) ∈ rest) ↔
            Q1.ServedVia (retainedState s (inboundMsg s i 1 dup retain id topic payload me))
              (inboundMsg s i 1 dup retain id topic payload me)
              (subscribers (retainedState s (inboundMsg s i 1 dup retain id topic payload me)).topics topic).subs n) ∧
          (rest.filterMap pubConn).count n ≤ 1)) := by
  obtain ⟨hs, hw, hcm, _⟩ := hr.inv
  refine ⟨fun conn i dup retain topic payload me hc h hsh n => ?_,
    fun i dup retain id topic payload me hopen hpeer hin hv hrq hmax hacl hfl hne hhook hmq hsh => ?_⟩
  · have hnh := no_hash_level topic h.valid
    have hsh' := (retainedState_shared s (inboundMsg s i 0 dup retain 0 topic payload me) hs.idx topic).mpr hsh
    rw [step_recv_publish_accepted s conn i dup retain topic payload me hc h hsh']
    exact retainedState_servedVia s hs hw hcm hna _ rfl rfl hsh' n
  · have hnh := no_hash_level topic hv
    have hsh' := (retainedState_shared s (inboundMsg s i 1 dup retain id topic payload me) hs.idx topic).mpr hsh
    rw [processPublish_accepted_qos1 s i dup retain id topic payload me hopen hpeer hin hv hrq hmax hacl hfl hne hhook hmq]
    exact ⟨_, rfl, retainedState_servedVia s hs hw hcm hna _ rfl rfl hsh'⟩

/-- in `q1State` the NEXT op of `p` — PUBLISH QoS 1 `a/b` — writes the PUBACK, then one PUBLISH, to
    connection 1 only (`y` deferred, `z` at the limit) -/
example : (step q1State (.recv 4 (.publish 1 false false 3 [97, 47, 98] [3] 0 none))).2.map
      (fun o => match o with | .wrote n p => (n, p.render) | _ => (0, "")) =
    [(4, "PUBACK:id3:rc01"), (1, "PUB:q1:d0:r0:id2:t=612f62:p=03:si=:ta=-:me0")] := by decide +kernel

end Mochi.Broker

#print axioms Mochi.Broker.publishToSubscribers_writes_exact
#print axioms Mochi.Broker.C03_delivery_exact_state_partial
#print axioms Mochi.Broker.C03_delivery_exact_runOps_partial
#print axioms Mochi.Broker.C03_delivery_exact_inv_partial
#print axioms Mochi.Broker.C03_delivery_exact_reach_partial
#print axioms Mochi.Broker.C03_delivery_exact_seq_partial
#print axioms Mochi.Broker.C03_delivery_exact_reach_spec_partial
#print axioms Mochi.Broker.C03_delivery_sound_reach_partial
#print axioms Mochi.Broker.C03_delivery_full_false_F03
#print axioms Mochi.Broker.c03State_reach
#print axioms Mochi.Broker.recv_publish_delivery_exact
#print axioms Mochi.Broker.inline_publish_delivery_exact
#print axioms Mochi.Broker.C03_publish_op_exact_reach_partial
#print axioms Mochi.Broker.C03_publish_op_exact_seq_partial
#print axioms Mochi.Broker.c03_accepted
#print axioms Mochi.Broker.recv_publish_delivery_exact_releases
#print axioms Mochi.Broker.publishToSubscribers_writes_exact_qos
#print axioms Mochi.Broker.C03_missing_receiver_excused
#print axioms Mochi.Broker.C03_publish_op_exact_any_qos_partial
