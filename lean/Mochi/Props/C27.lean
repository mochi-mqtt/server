import Mochi.Lemmas.CodecNoPanic
/-!
# C27 — Packet decoding is total: no input makes it panic or overread

Model: `Mochi.Codec.decodeBody` and the decode helpers (packets/codec.go, properties.go, packets.go
after the repair "fix: SubscribeDecode reads the subscription options byte with a bounds check").
Every raw index or slice expression of the Go decoders is an explicit `DErr.panic` outcome of the
model (`sliceFrom`, `rawIndex`); the theorems say that outcome is unreachable — for **every** byte
string, every protocol version byte, every header byte and every (possibly wrong) remaining length.
-/
namespace Mochi.Codec

theorem decodePropsAt_spec (name : String) (pkt : Nat) (buf : Str) (off : Nat) (p0 : Props)
    (hoff : off ≤ buf.length) : Within off buf.length (decodePropsAt name pkt buf off p0) := by
  unfold decodePropsAt
  rw [show sliceFrom buf off = .ok (buf.drop off) from if_pos hoff]
  refine ((propsDecode_spec pkt (buf.drop off) p0).wrap name).bind fun r hn => ?_
  have := hn.2
  rw [List.length_drop] at this
  exact .ok ⟨Nat.le_add_right _ _, by omega⟩

/-- the `if v5 then decodePropsAt … else pure` block of the MQTT 5 packets -/
theorem propsBlock_within {c : Prop} [Decidable c] {name : String} {pkt : Nat} {buf : Str} {off : Nat} {p0 : Props}
    {k : Props × Nat → Packet} {pk : Packet} (hoff : off ≤ buf.length) :
    Within off buf.length
      (if c then decodePropsAt name pkt buf off p0 >>= fun x => pure (k x, x.2) else pure (pk, off)) :=
  .ite ((decodePropsAt_spec name pkt buf off p0 hoff).bind fun _ b => .ok b) (.ok ⟨Nat.le_refl _, hoff⟩)

/-! the two rules in the form the tactic below applies them: the continuation learns what `x` returned -/

theorem noPanic_wrap {α} (n : String) (x : Dec α) (hx : NoPanic x) : NoPanic (wrapErr n x) := hx.wrap n

theorem noPanic_bind {α β} (x : Dec α) (f : α → Dec β) (hx : NoPanic x) (hf : ∀ a, x = .ok a → NoPanic (f a)) :
    NoPanic (x >>= f) := by
  cases x with
  | error e => exact hx
  | ok a => exact hf a rfl

/-- tactic: peel one `wrapErr n (helper …) >>= fun (v, off) => …` layer -/
macro "peel " np:term ", " ok:term : tactic =>
  `(tactic| (apply noPanic_bind _ _ (noPanic_wrap _ _ $np); rintro ⟨_, _⟩ h; have := $ok _ _ _ _ (wrap_ok _ _ _ h); simp only []))

/-! The walks: a helper's `Within` gives the next helper its cursor inside the buffer; what ends a packet needs no
cursor any more. -/

theorem connectDecode_np (pk : Packet) (buf : Str) : NoPanic (connectDecode pk buf) := by
  unfold connectDecode
  refine ((decodeBytes_within buf 0).wrap _).bind fun r1 b1 => ?_
  refine ((decodeByte_within buf r1.2).wrap _).bind fun r2 b2 => ?_
  refine ((decodeByte_within buf r2.2).wrap _).bind fun r3 b3 => ?_
  refine ((decodeUint16_within buf r3.2).wrap _).bind fun r4 b4 => ?_
  refine (propsBlock_within b4.2).bind fun r5 b5 => ?_
  refine ((decodeString_within buf r5.2).wrap _).bind fun r6 b6 => ?_
  refine Post.bind (.ite ?will (noPanic_pure _)) fun _ _ => ?_
  case will =>
    refine (propsBlock_within b6.2).bind fun r7 _ => ?_
    refine ((decodeString_within buf r7.2).wrap _).bind fun r8 _ => ?_
    exact ((decodeBytes_within buf r8.2).wrap _).bind fun _ _ => noPanic_pure _
  -- user name and password: `decodeBytes` checks its own bounds, so the cursor no longer matters
  refine Post.bind (.ite (.ite (Safe.err _) ?_) (noPanic_pure _)) fun _ _ => ?_
  · exact ((decodeBytes_within buf _).wrap _).bind fun _ _ => noPanic_pure _
  · exact .ite (((decodeBytes_within buf _).wrap _).bind fun _ _ => noPanic_pure _) (noPanic_pure _)

theorem connackDecode_np (pk : Packet) (buf : Str) : NoPanic (connackDecode pk buf) := by
  unfold connackDecode
  refine ((decodeByteBool_within buf 0).wrap _).bind fun r1 b1 => ?_
  refine ((decodeByte_within buf r1.2).wrap _).bind fun r2 b2 => ?_
  exact .ite ((decodePropsAt_spec _ _ _ _ _ b2.2).bind fun _ _ => noPanic_pure _) (noPanic_pure _)

theorem disconnectDecode_np (pk : Packet) (buf : Str) : NoPanic (disconnectDecode pk buf) := by
  unfold disconnectDecode
  refine .ite (((decodeByte_within buf 0).wrap _).bind fun r1 b1 => ?_) (noPanic_pure _)
  exact .ite ((decodePropsAt_spec _ _ _ _ _ b1.2).bind fun _ _ => noPanic_pure _) (noPanic_pure _)

theorem authDecode_np (pk : Packet) (buf : Str) : NoPanic (authDecode pk buf) := by
  unfold authDecode
  refine .ite (noPanic_pure _) (((decodeByte_within buf 0).wrap _).bind fun r1 b1 => ?_)
  exact .ite ((decodePropsAt_spec _ _ _ _ _ b1.2).bind fun _ _ => noPanic_pure _) (noPanic_pure _)

theorem ackDecode_np (pk : Packet) (buf : Str) : NoPanic (ackDecode pk buf) := by
  unfold ackDecode
  refine ((decodeUint16_within buf 0).wrap _).bind fun r1 b1 => ?_
  refine .ite (((decodeByte_within buf r1.2).wrap _).bind fun r2 b2 => ?_) (noPanic_pure _)
  exact .ite ((decodePropsAt_spec _ _ _ _ _ b2.2).bind fun _ _ => noPanic_pure _) (noPanic_pure _)

theorem publishDecode_np (pk : Packet) (buf : Str) : NoPanic (publishDecode pk buf) := by
  unfold publishDecode
  refine ((decodeString_within buf 0).wrap _).bind fun r1 b1 => ?_
  refine Post.bind (Q := fun r : Packet × Nat => r.2 ≤ buf.length)
    (.ite (((decodeUint16_within buf r1.2).wrap _).bind fun _ b => .ok b.2) (.ok b1.2)) fun r2 b2 => ?_
  refine (propsBlock_within b2).bind fun r3 b3 => ?_
  exact (sliceFrom_np _ _ b3.2).bind fun _ _ => noPanic_pure _

theorem subackDecode_np (pk : Packet) (buf : Str) : NoPanic (subackDecode pk buf) := by
  unfold subackDecode
  refine ((decodeUint16_within buf 0).wrap _).bind fun r1 b1 => ?_
  refine (propsBlock_within b1.2).bind fun r3 b3 => ?_
  exact (sliceFrom_np _ _ b3.2).bind fun _ _ => noPanic_pure _

theorem unsubackDecode_np (pk : Packet) (buf : Str) : NoPanic (unsubackDecode pk buf) := by
  unfold unsubackDecode
  refine ((decodeUint16_within buf 0).wrap _).bind fun r1 b1 => ?_
  refine .ite ((decodePropsAt_spec _ _ _ _ _ b1.2).bind fun r2 b2 => ?_) (noPanic_pure _)
  exact (sliceFrom_np _ _ b2.2).bind fun _ _ => noPanic_pure _

theorem subscribeFilters_np (ver ident : Nat) (buf : Str) (fuel off : Nat) (acc : List Subscription) :
    NoPanic (subscribeFilters ver ident buf fuel off acc) := by
  induction fuel generalizing off acc with
  | zero => exact .ok trivial
  | succ fuel ih =>
    unfold subscribeFilters
    refine .ite ?_ (.ok trivial)
    split
    · next e he => exact .error (((decodeString_within buf off).wrap _).of_error he)
    · next filter o1 _ =>
      split
      · next e he => exact .error (((decodeByte_within buf o1).wrap _).of_error he)
      · exact .ite (Safe.err _) (ih _ _)

theorem unsubscribeFilters_np (buf : Str) (fuel off : Nat) (acc : List Subscription) :
    NoPanic (unsubscribeFilters buf fuel off acc) := by
  induction fuel generalizing off acc with
  | zero => exact .ok trivial
  | succ fuel ih =>
    unfold unsubscribeFilters
    refine .ite ?_ (.ok trivial)
    split
    · next e he => exact .error (((decodeString_within buf off).wrap _).of_error he)
    · exact ih _ _

theorem subscribeDecode_np (pk : Packet) (buf : Str) : NoPanic (subscribeDecode pk buf) := by
  unfold subscribeDecode
  refine ((decodeUint16_within buf 0).wrap _).bind fun r1 b1 => ?_
  refine (propsBlock_within b1.2).bind fun r3 _ => ?_
  exact (subscribeFilters_np _ _ _ _ _ _).bind fun _ _ => noPanic_pure _

theorem unsubscribeDecode_np (pk : Packet) (buf : Str) : NoPanic (unsubscribeDecode pk buf) := by
  unfold unsubscribeDecode
  refine ((decodeUint16_within buf 0).wrap _).bind fun r1 b1 => ?_
  refine (propsBlock_within b1.2).bind fun r3 _ => ?_
  exact (unsubscribeFilters_np _ _ _ _).bind fun _ _ => noPanic_pure _

/-- **Decoding never panics** — for every protocol version, every fixed header (its `remaining` need
    not equal the body length) and every byte string. -/
theorem C27_no_panic (ver : Nat) (fh : FixedHeader) (buf : Str) : decodeBody ver fh buf ≠ .error .panic := by
  unfold decodeBody
  exact Safe.ne_panic <| .ite (connectDecode_np _ _) <| .ite (connackDecode_np _ _) <|
    .ite (publishDecode_np _ _) <| .ite (ackDecode_np _ _) <| .ite (subscribeDecode_np _ _) <|
    .ite (subackDecode_np _ _) <| .ite (unsubscribeDecode_np _ _) <| .ite (unsubackDecode_np _ _) <|
    .ite (noPanic_pure _) <| .ite (disconnectDecode_np _ _) <| .ite (authDecode_np _ _) (Safe.err _)

/-- `Properties.Decode` never reads outside the supplied bytes: its reported consumption is bounded
    by the input, so every caller's `buf[offset:]` is in range. -/
theorem C27_no_overread (pkt : Nat) (b : Str) (p0 p : Props) (m : Nat)
    (h : propsDecode pkt b p0 = .ok (p, m)) : m ≤ b.length :=
  ((propsDecode_spec pkt b p0).of_ok h).2

/-- a declared length exceeding the available bytes is rejected (strings and binary data) -/
theorem C27_length_rejected_bytes (buf : Str) (off : Nat) (v : Str) (o : Nat)
    (h : decodeBytes buf off = .ok (v, o)) : o ≤ buf.length ∧ off + 2 ≤ o :=
  ((decodeBytes_within buf off).of_ok h).symm

/-- a declared property-block length exceeding the available bytes is rejected -/
theorem C27_length_rejected_props (pkt : Nat) (b : Str) (p0 : Props) (n bu : Nat)
    (hd : Mochi.Varint.decodeLength b = .ok (n, bu)) (hbig : n + bu > b.length) :
    ∃ e, propsDecode pkt b p0 = .error e := by
  cases h : propsDecode pkt b p0 with
  | error e => exact ⟨e, rfl⟩
  | ok r =>
    obtain ⟨p, m⟩ := r
    have hm := ((propsDecode_spec pkt b p0).of_ok h).2
    unfold propsDecode at h
    simp only [hd] at h
    split at h
    · injection h with h; injection h with _ h2; omega
    · split at h
      · simp at h
      · injection h with h; injection h with _ h2; omega

/-- the formerly panicking input: v5 SUBSCRIBE `00 01 00 00 01 61` now yields an error -/
example : decodeBody 5 { type := 8, qos := 1, remaining := 6 } [0, 1, 0, 0, 1, 0x61] = err "ErrMalformedQos" := by
  rfl

end Mochi.Codec
