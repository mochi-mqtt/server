import Mochi.Lemmas.Shutdown
/-!
# C36 — Shutdown closes every connection and waits for all handlers

"When the server is closed, every connected client is disconnected (MQTT 5 clients receive DISCONNECT
0x8B) and its connection closed, every listener stops accepting, and the close call returns only after
every connection handler has finished. This holds for any schedule of connections being established
concurrently with shutdown."

Model M4b (`Model/Shutdown.lean`): the closer executes `Server.Close` → `Listeners.CloseAll` → per
listener `TCP.Close` (`end` flag, `closeListenerClients`: snapshot `Clients.GetByListener`, then
`DisconnectClient` = write DISCONNECT, `cl.Stop`), `ClientsWg.Wait()`, hooks; each accepted connection
executes `TCP.Serve`'s `end` test and `attachClient` statement by statement; peers may close connections
at any time. Everything below is for **every** number of listeners (visited in any order), **every**
number of connections of any protocol version on any listener and **every** schedule (`List Ev`).

Proved (invariant `Inv`, `Lemmas/Shutdown.lean`, by induction over the schedule):
* `C36_registered_before_snapshot_closed` — a handler that executed `Clients.Add` before the closer
  enumerated its listener's clients is, when `Close` has returned, stopped (connection closed,
  MQTT 5: written DISCONNECT 0x8B unless its peer had closed the connection first) and finished;
* `C36_returns_only_when_counted_done` — when `Close` has returned, every handler that executed
  `ClientsWg.Add(1)` before `Wait` returned has executed `ClientsWg.Done()` and finished;
* `C36_listeners_stopped` — when `Close` has returned every listener has `end = 1` and its net listener
  closed, and a connection still waiting at the `end` test is dropped, never served;
* `C36_full_safety_partial` — the property's safety half for every handler outside the two findings.

The full property is **false** of the code, in three ways (F36a and F36b are replayed on the real broker
by forced schedules of the `shutdown` correspondence suite on every run; F36c by a race loop):
* `C36_late_registration_counterexample` (F36a) — `ClientsWg.Add(1)` … `Clients.Add` are executed inside
  the handler, not under any lock shared with `Close`: a handler that passes `Clients.Add` after the
  snapshot is never disconnected. `Close` blocks in `Wait` for as long as that client chooses to stay,
  and the client is being served (CONNACK written) by a broker whose `done` channel is closed and whose
  listeners have ended. No step of the broker changes that state.
* `C36_uncounted_handler_counterexample` (F36b) — `TCP.Serve` spawns the goroutine, the goroutine adds
  itself to the wait group: `Wait` succeeds while a spawned handler has not yet executed `Add(1)`;
  `Close` returns (hooks stopped) and the handler then runs its whole program against the closed server.
* `C36_wait_reuse_panic_counterexample` (F36c) — the same uncounted handler executing `Add(1)` between
  the `Done` that releases the sleeping `Wait` and `Wait` waking up: the Go runtime panics inside
  `Server.Close` ("WaitGroup is reused before previous Wait has returned"). Reproduced on the real
  broker by the `sd.race` stress op (a race, not a forced schedule).
-/
namespace Mochi.Shutdown

/-- connections as `TCP.Serve` obtains them from `Accept`: (listener, protocol version) -/
def conns (cs : List (Nat × Nat)) : List H := cs.map fun c => { lis := c.1, ver := c.2 }

/-- the system at the moment nothing has run: listeners `order` (in the order `CloseAll` will visit
    them), connections `cs` -/
def boot (order : List Nat) (cs : List (Nat × Nat)) : Sys := start order (conns cs)

theorem inv_boot (order : List Nat) (cs : List (Nat × Nat)) : Inv order (boot order cs) := by
  apply inv_start
  intro h hh
  simp only [conns, List.mem_map] at hh
  obtain ⟨c, _, rfl⟩ := hh
  simp

theorem inv_reach (order : List Nat) (cs : List (Nat × Nat)) (sched : List Ev) :
    Inv order (run (boot order cs) sched) := inv_run order sched _ (inv_boot order cs)

theorem returned_waitPassed {order : List Nat} {s : Sys} (hI : Inv order s) (hr : s.cpc = .returned) :
    s.waitPassed = true := by rw [hI.waitLate, hr]; rfl

/-- a handler that executed `ClientsWg.Add(1)` before `Wait` returned has, when `Close` has returned, finished
    with its connection closed — by the closer after a DISCONNECT, or after its peer had closed it -/
theorem counted_before_wait_closed (order : List Nat) (cs : List (Nat × Nat)) (sched : List Ev)
    (hr : (run (boot order cs) sched).cpc = .returned) {h : H} (hh : h ∈ (run (boot order cs) sched).hs)
    (hab : h.addBeforeWait = true) : h.stopped = true ∧ h.pc = .finished ∧ good h := by
  have hI := inv_reach order cs sched
  obtain ⟨i, hi⟩ := List.mem_iff_getElem?.1 hh
  have hH := hI.hinv i h hi
  have hfin := hH.waitF (returned_waitPassed hI hr) hab
  have hst := hH.fin (Or.inr hfin)
  exact ⟨hst, hfin, hH.goodS hst⟩

/-- **Clients registered before the snapshot are disconnected, closed and waited for.** -/
theorem C36_registered_before_snapshot_closed (order : List Nat) (cs : List (Nat × Nat)) (sched : List Ev) :
    let s := run (boot order cs) sched
    s.cpc = .returned → ∀ h ∈ s.hs, h.lis ∈ order → h.regBeforeSnap = true →
      h.stopped = true ∧
      (h.ver ≥ 5 → Out.disconnect 0x8B ∈ h.out ∨ h.peerClosed = true) ∧
      h.pc = .finished := by
  intro s hr h hh hl hreg
  obtain ⟨i, hi⟩ := List.mem_iff_getElem?.1 hh
  -- registered before the snapshot on a listener of `order` means counted before `Wait` (`regAdd`)
  obtain ⟨hst, hfin, hg⟩ := counted_before_wait_closed order cs sched hr hh
    (((inv_reach order cs sched).hinv i h hi).regAdd hreg hl)
  exact ⟨hst, hg, hfin⟩

/-- **`Close` returns only after every handler that had counted itself has finished.** -/
theorem C36_returns_only_when_counted_done (order : List Nat) (cs : List (Nat × Nat)) (sched : List Ev) :
    let s := run (boot order cs) sched
    s.cpc = .returned → ∀ h ∈ s.hs, h.addBeforeWait = true → h.pc = .finished :=
  fun hr _ hh hab => (counted_before_wait_closed order cs sched hr hh hab).2.1

/-- **Every listener has stopped accepting**: `end` is set, the net listener is closed, and a
    connection that `Accept` had already returned is dropped at the `end` test (no handler is spawned). -/
theorem C36_listeners_stopped (order : List Nat) (cs : List (Nat × Nat)) (sched : List Ev) :
    let s := run (boot order cs) sched
    s.cpc = .returned → ∀ l ∈ order, l ∈ s.ended ∧ l ∈ s.netClosed ∧
      ∀ i h, s.hs[i]? = some h → h.lis = l → h.pc = .endTest →
        ((stepHandler s i).hs[i]?.map (·.pc)) = some .dropped := by
  intro s hr l hl
  have hI : Inv order s := inv_reach order cs sched
  have hall := hI.allClosed (returned_waitPassed hI hr) l hl
  refine ⟨hall.2.1, hall.2.2, ?_⟩
  intro i h hi hlis hpc
  have hlt := lt_of_getElem? hi
  have hc : s.ended.contains h.lis = true := by
    rw [hlis]; simpa using hall.2.1
  have hstep : stepHandler s i = { s with hs := s.hs.set i { h with pc := .dropped } } := by
    unfold stepHandler
    rw [hi]
    simp only [hpc, hc, if_true]
  rw [hstep]
  simp [hlt]

/-- the clause of the property about one connection: closed, handler finished, MQTT 5 told why -/
def ClosedOne (h : H) : Prop :=
  h.stopped = true ∧ h.pc = .finished ∧
  (h.ver ≥ 5 → Out.connack ∈ h.out → Out.disconnect 0x8B ∈ h.out ∨ h.peerClosed = true)

/-- **C36 as its text states it, safety half**: when `Close` has returned every spawned handler has
    finished with its connection closed (MQTT 5 clients that were connected: DISCONNECT 0x8B) and every
    listener has stopped. -/
def C36_full_safety (order : List Nat) (cs : List (Nat × Nat)) (sched : List Ev) : Prop :=
  let s := run (boot order cs) sched
  s.cpc = .returned → (∀ h ∈ s.hs, h.pc.spawned = true → ClosedOne h) ∧ (∀ l ∈ order, l ∈ s.ended ∧ l ∈ s.netClosed)

/-- **C36 as its text states it, progress half**: once `Close` has been called, the broker's own steps
    (no peer has to leave) bring it to return with every client disconnected. -/
def C36_full_progress (order : List Nat) (cs : List (Nat × Nat)) (sched : List Ev) : Prop :=
  let s := run (boot order cs) sched
  s.cpc ≠ .closeDone → ∃ ext : List Ev, (∀ e ∈ ext, e.isPeer = false) ∧ (run s ext).cpc = .returned

/-- what holds outside the two findings: a handler that counted itself before `Wait` returned
    (not F36b) and, if it registered, registered before the snapshot (not F36a) -/
theorem C36_full_safety_partial (order : List Nat) (cs : List (Nat × Nat)) (sched : List Ev) :
    let s := run (boot order cs) sched
    s.cpc = .returned → ∀ h ∈ s.hs, h.lis ∈ order →
      h.addBeforeWait = true → (h.registered = true → h.regBeforeSnap = true) →
      h.stopped = true ∧ h.pc = .finished ∧
      (h.ver ≥ 5 → h.registered = true → Out.disconnect 0x8B ∈ h.out ∨ h.peerClosed = true) := by
  intro s hr h hh _ hab _
  obtain ⟨hst, hfin, hg⟩ := counted_before_wait_closed order cs sched hr hh hab
  exact ⟨hst, hfin, fun hv _ => hg hv⟩

/-! ## Non-vacuity: the hypotheses are reached, with real interleaving -/

/-- two listeners closed in the order 1, 0; an MQTT 5 client on listener 0 and an MQTT 3.1.1 client on
    listener 1 are established while `Close` is already under way (listener 1 being closed), a third
    connection arrives too late and is dropped; `Close` returns, both clients registered before their
    snapshot, were written DISCONNECT (0x8B for MQTT 5), are stopped and finished -/
def okSched : List Ev :=
  [.handler 0, .handler 0, .handler 0, .handler 0, .handler 0, .handler 0, .handler 0,    -- c0 up to Clients.Add
   .handler 1, .handler 1,                                                                -- c1: end test, Add(1)
   .closer, .closer,                                                                      -- close(done); end[1] = 1
   .handler 1, .handler 1, .handler 1, .handler 1, .handler 1, .handler 1, .handler 1,    -- c1 registered, CONNACK, reading
   .handler 2,                                                                            -- c2 on listener 1: dropped
   .closer, .closer, .closer,                                                             -- snapshot [1]; DISCONNECT; Stop
   .handler 0, .handler 0,                                                                -- c0: CONNACK, reading
   .closer, .closer, .closer,                                                             -- net close 1; end[0] = 1; snapshot [0]
   .handler 1, .handler 1,                                                                -- c1: read loop ends, teardown
   .closer, .closer, .closer, .closer, .closer, .closer, .closer,                         -- DISCONNECT c0; Stop; net close; Wait: blocked
   .handler 1, .handler 0, .handler 0, .handler 0,                                        -- Done, Done
   .closer, .closer]                                                                      -- Wait returns; hooks; return

example :
    let s := run (boot [1, 0] [(0, 5), (1, 4), (1, 5)]) okSched
    s.cpc = .returned ∧ s.wg = 0 ∧
    s.hs.map (fun h => (h.pc, h.regBeforeSnap, h.addBeforeWait, h.stopped, h.out)) =
      [(.finished, true, true, true, [.connack, .disconnect 0x8B]),
       (.finished, true, true, true, [.connack, .disconnect 0]),
       (.dropped, false, false, false, [])] := by decide +kernel

/-- the same run satisfies the full statement: the findings need their particular windows -/
example : C36_full_safety [1, 0] [(0, 5), (1, 4), (1, 5)] okSched := by
  unfold C36_full_safety ClosedOne; decide +kernel

/-- `Wait` really blocks: one step before the last `Done` the closer is still waiting -/
example : (run (boot [1, 0] [(0, 5), (1, 4), (1, 5)]) (okSched.take 39 ++ [.closer, .closer])).cpc = .wgBlocked := by decide +kernel

/-! ## F36a — a client registered after the snapshot is never disconnected -/

/-- handler parked inside the authentication hook (counted, not yet registered) while `Close` runs to
    `Wait`; then it registers, is acknowledged and reads -/
def lateSched : List Ev :=
  [.handler 0, .handler 0, .handler 0,                                  -- end test, Add(1), CONNECT read
   .closer, .closer, .closer, .closer, .closer, .closer, .closer,       -- close(done) … snapshot [] … net close; Wait: blocked
   .handler 0, .handler 0, .handler 0, .handler 0, .handler 0,          -- auth, counter, inherit, Clients.Add, CONNACK
   .handler 0, .closer]                                                 -- read loop: blocked; Wait: blocked

def lateState : Sys := run (boot [0] [(0, 5)]) lateSched

def lateLit : Sys :=
    { cpc := .wgBlocked, todoL := [], done := true, ended := [0], netClosed := [0], wg := 1, waiting := true,
      hooksStopped := false,
      hs := [{ lis := 0, ver := 5, pc := .readLoop, registered := true, stopped := false, peerClosed := false,
               out := [.connack], regBeforeSnap := false, addBeforeWait := true }],
      snapshotted := [0], waitPassed := false }

theorem lateState_eq : lateState = lateLit := by decide +kernel

theorem run_cons (s : Sys) (e : Ev) (rest : List Ev) : run s (e :: rest) = run (step s e) rest := rfl

/-- no step of the broker moves the late state: the closer waits for the handler, the handler waits for
    its client -/
theorem lateState_stuck (ext : List Ev) (hext : ∀ e ∈ ext, e.isPeer = false) : run lateState ext = lateState := by
  rw [lateState_eq]
  refine ext.foldlRecOn step (motive := (· = lateLit)) rfl fun s hs e he => ?_
  have hp := hext e he
  subst hs
  cases e with
  | closer => decide +kernel
  | peerClose i => simp [Ev.isPeer] at hp
  | closerNext c => simp [step, closerNext, lateLit]
  | handler i =>
    cases i with
    | zero => decide +kernel
    | succ n => simp [step, stepHandler, lateLit]

/-- **F36a.** The progress half of C36 fails: after `lateSched` the MQTT 5 client holds a CONNACK from a
    broker whose `done` channel is closed and whose listener has ended, it was never written a
    DISCONNECT, its connection is open, and whatever the broker does from here `Close` does not return —
    it returns only if the client itself leaves. -/
theorem C36_late_registration_counterexample :
    ¬ C36_full_progress [0] [(0, 5)] lateSched ∧
    (lateState.done = true ∧ lateState.ended = [0] ∧ lateState.cpc = .wgBlocked ∧
     lateState.hs.map (fun h => (h.pc, h.registered, h.regBeforeSnap, h.stopped, h.out)) =
       [(.readLoop, true, false, false, [.connack])]) ∧
    (∀ ext : List Ev, (∀ e ∈ ext, e.isPeer = false) → run lateState ext = lateState) ∧
    (run lateState [.peerClose 0, .handler 0, .handler 0, .handler 0, .closer, .closer]).cpc = .returned := by
  refine ⟨?_, by decide +kernel, lateState_stuck, by decide +kernel⟩
  intro hp
  obtain ⟨ext, hext, hret⟩ := hp (by decide +kernel)
  have hstuck : run (run (boot [0] [(0, 5)]) lateSched) ext = lateState := lateState_stuck ext hext
  rw [hstuck] at hret
  revert hret
  decide +kernel

/-! ## F36b — `Close` returns while a spawned handler has not yet counted itself -/

/-- the listener's `end` test passes and the goroutine is spawned; `Close` runs from start to return
    before that goroutine executes its first statement, `ClientsWg.Add(1)` -/
def uncountedSched : List Ev :=
  [.handler 0,                                                                   -- end test passed: goroutine spawned
   .closer, .closer, .closer, .closer, .closer, .closer, .closer, .closer, .closer]  -- … Wait: counter 0; hooks; return

/-- **F36b.** The safety half of C36 fails: `Close` has returned (hooks stopped) and the handler of an
    accepted connection has not finished — it has not even started; run on, it executes its whole
    program against the closed server: the client is acknowledged and served, nothing will disconnect it. -/
theorem C36_uncounted_handler_counterexample :
    ¬ C36_full_safety [0] [(0, 5)] uncountedSched ∧
    (let s := run (boot [0] [(0, 5)]) uncountedSched
     s.cpc = .returned ∧ s.hooksStopped = true ∧ s.wg = 0 ∧
     s.hs.map (fun h => (h.pc, h.addBeforeWait, h.stopped)) = [(.wgAdd, false, false)]) ∧
    (let s := run (boot [0] [(0, 5)]) (uncountedSched ++
        [.handler 0, .handler 0, .handler 0, .handler 0, .handler 0, .handler 0, .handler 0, .handler 0, .closer])
     s.cpc = .returned ∧ s.wg = 1 ∧
     s.hs.map (fun h => (h.pc, h.registered, h.addBeforeWait, h.stopped, h.out)) =
       [(.readLoop, true, false, false, [.connack])]) := by
  refine ⟨?_, by decide +kernel, by decide +kernel⟩
  unfold C36_full_safety ClosedOne
  decide +kernel

/-! ## F36c — the same window makes `Close` panic -/

theorem stepHandler_cpc (s : Sys) (i : Nat) : (stepHandler s i).cpc = s.cpc := by
  unfold stepHandler
  cases s.hs[i]? with
  | none => rfl
  | some h =>
    simp only
    cases h.pc <;> simp only <;> (try split) <;> rfl

theorem panicked_absorbing (s : Sys) (h : s.cpc = .panicked) (ext : List Ev) : (run s ext).cpc = .panicked := by
  refine ext.foldlRecOn step (motive := (·.cpc = .panicked)) h fun s h e _ => ?_
  cases e with
  | closer => simp [step, stepCloser, h]
  | handler i => simp [step, stepHandler_cpc, h]
  | peerClose i =>
    simp only [step, peerClose]
    cases s.hs[i]? with
    | none => exact h
    | some u => simp only; split <;> exact h
  | closerNext c => simp [step, closerNext, h]

/-- an established client and a second connection whose goroutine is spawned but has not yet counted
    itself; `Close` disconnects the first and sleeps in `Wait`; the first handler's `Done` brings the
    counter to 0 and releases the waiter; before the waiter runs, the second handler executes `Add(1)` -/
def reuseSched : List Ev :=
  [.handler 0, .handler 0, .handler 0, .handler 0, .handler 0, .handler 0, .handler 0, .handler 0,   -- c0 established, reading
   .handler 1,                                                                                       -- c1: end test passed, spawned
   .closer, .closer, .closer, .closer, .closer, .closer, .closer, .closer, .closer,                   -- … DISCONNECT c0, Stop … Wait: asleep
   .handler 0, .handler 0, .handler 0,                                                                -- c0: teardown, Done: counter 0, waiter released
   .handler 1,                                                                                        -- c1: Add(1)
   .closer]                                                                                           -- Wait wakes: counter 1

/-- **F36c.** `Server.Close` panics ("sync: WaitGroup is reused before previous Wait has returned"): the
    uncounted handler of F36b adds itself between the `Done` that releases `Wait` and `Wait` waking up.
    The process dies inside `Close`; hooks are never stopped. (Reproduced on the real broker by a race
    loop, not by a forced schedule: the window is inside `sync.WaitGroup`.) -/
theorem C36_wait_reuse_panic_counterexample :
    (let s := run (boot [0] [(0, 5), (0, 5)]) reuseSched
     s.cpc = .panicked ∧ s.hooksStopped = false ∧ s.wg = 1 ∧
     s.hs.map (fun h => (h.pc, h.addBeforeWait, h.out)) =
       [(.finished, true, [.connack, .disconnect 0x8B]), (.readConnect, true, [])]) ∧
    ¬ C36_full_progress [0] [(0, 5), (0, 5)] reuseSched := by
  refine ⟨by decide +kernel, ?_⟩
  intro hp
  obtain ⟨ext, _, hret⟩ := hp (by decide +kernel)
  have := panicked_absorbing (run (boot [0] [(0, 5), (0, 5)]) reuseSched) (by decide +kernel) ext
  rw [this] at hret
  exact absurd hret (by decide +kernel)

/-- both findings need the window: the same connection established before `Close` is called is
    disconnected with 0x8B, closed and waited for -/
example :
    let s := run (boot [0] [(0, 5)])
      ([.handler 0, .handler 0, .handler 0, .handler 0, .handler 0, .handler 0, .handler 0, .handler 0, .handler 0] ++
       [.closer, .closer, .closer, .closer, .closer, .closer, .closer] ++ [.handler 0, .handler 0, .handler 0] ++
       [.closer, .closer, .closer])
    s.cpc = .returned ∧ s.hs.map (fun h => (h.pc, h.stopped, h.out)) = [(.finished, true, [.connack, .disconnect 0x8B])] := by
  decide +kernel

end Mochi.Shutdown

#print axioms Mochi.Shutdown.C36_registered_before_snapshot_closed
#print axioms Mochi.Shutdown.C36_returns_only_when_counted_done
#print axioms Mochi.Shutdown.C36_listeners_stopped
#print axioms Mochi.Shutdown.C36_full_safety_partial
#print axioms Mochi.Shutdown.C36_late_registration_counterexample
#print axioms Mochi.Shutdown.C36_uncounted_handler_counterexample
#print axioms Mochi.Shutdown.C36_wait_reuse_panic_counterexample
