import Mochi.Model.Broker
import Mochi.Lemmas.BrokerSurvive
import Mochi.Lemmas.BrokerResend
import Mochi.Props.C09Demo
/-!
# C09 — Unacknowledged QoS 1/2 messages survive reconnection until acknowledged

Model: the in-flight store (`flSet`/`flGet`/`flDelete`), `processPubrec`, the resend loop of `admitClient`.
Proved: a stored message stays retrievable under its identifier until deleted; after PUBREC the
record under the identifier is of type PUBREL (so PUBREL, not PUBLISH, is resent); an acknowledged
message is gone.
Known finding F09 (recorded): after a message deferred by flow control is finally written,
`processPacket` deletes its in-flight record (`nextImmediate`), so it is neither awaited nor
redelivered.  Partial: schedules.

## The record of an unacknowledged exchange survives every op that does not end it (all 12 op kinds)

Definitions (`Mochi/Lemmas/BrokerSurviveDefs.lean`): `Holds s cid k payload` — the object REGISTERED under `cid` has an
in-flight record under packet identifier `k` that is the PUBLISH (type 3) with that payload or the PUBREL (type 6)
`processPubrec` put in its place, and is not a record deferred by flow control (`0 ≤ expiry`; F09);
`Ends s cid k op` (decidable) — the ops that may legitimately end the exchange in state `s`.
Theorems: `C09_record_survives_step` (every op kind, schedule ops included — no `SchedOK` needed for the step
itself; `SyncInv` is only used for `release` of a CONNECT parked in the authentication hook),
`C09_record_survives_run` / `C09_record_survives_history` (op lists), `C09_resume_resends` (what a resumption
resends: PUBLISH with DUP for a PUBLISH record; PUBREL — and, in the resend loop, no PUBLISH with that identifier — for a
PUBREL record).  A concrete history and the F09 counterexample, by evaluation: `Mochi/Props/C09Demo.lean`.
Go behaviour behind the two clauses of the definitions that are not in the property text: F09 — `processPacket`
(server.go:732-741) writes the next deferred message (`NextImmediate`, inflight.go:85/100: `Expiry < 0`) and then
`Inflight.Delete`s it; F10 — `processPublish` (server.go:920-929) looks the CLIENT's packet identifier up in the same
`cl.State.Inflight` map that holds the server's outbound records and deletes whatever is there (unless it is a PUBREC);
`processPubrel` (server.go:1239-1261) likewise.  Both are faithful to the Go code, not model artefacts.
-/
namespace Mochi.Broker
open Mochi.Topics

/-- a stored message is retrievable under its identifier -/
theorem C09_stored (c : Client) (m : Msg) : flGet (flSet c m).1 m.id = some m := flGet_flSet_self_sv c m

/-- after PUBREC (non-failure reason) the record under that identifier is a PUBREL -/
theorem C09_after_pubrec (s : Server) (i id rc : Nat) (m : Msg) (hi : i < s.objs.length)
    (hk : flGet (getObj s i) id = some m) (hrc : rc < 0x80) (hv : reasonValid 5 rc = true) :
    (flGet (getObj (processPubrec s i id rc).1 i) id).map (·.type) = some 6 := by
  unfold processPubrec
  have h1 : ¬ rc ≥ 0x80 := by omega
  simp only [hk, Option.isNone_some, Bool.false_eq_true, if_false, h1, decide_false, hv, Bool.not_true, Bool.or_self]
  have key : ∀ (c : Client) (a : Msg), a.id = id → a.type = 6 → (flGet (flSet c a).1 id).map (·.type) = some 6 := by
    intro c a hid ht
    rw [← hid, C09_stored]; simp [ht]
  -- the PUBREL write may fail (dead connection): the record is stored either way
  split <;> (rw [getObj_setObj_eq _ _ _ hi]; exact key _ _ rfl rfl)

/-- an acknowledged message is removed and therefore never resent -/
theorem C09_acked_gone (c : Client) (id : Nat) : flGet (flDelete c id).1 id = none := flGet_flDelete_self c id

/-! ### the record survives every op that does not end the exchange -/

/-- **C09, one op.**  In a well-formed state, the session registered under `cid` holds the record of exchange `k`
    (payload `p`) after EVERY op — of any of the 12 kinds — that is not one of the ops `Ends s cid k` lists: after a
    resumption / take-over (`connect … {clean := false}`) the record is in the NEW object; publishes by other clients,
    drops, ticks and the schedule ops leave it where it is. -/
theorem C09_record_survives_step (s : Server) (op : Op) (cid : Str) (k : Nat) (p : Str) (hw : WF s)
    (hsync : SyncInv s) (hf : OpFresh s op) (h : Holds s cid k p) (hne : ¬ Ends s cid k op) :
    Holds (step s op).1 cid k p :=
  RecWalk.step_holds recOk k (outboundKind k) p cid s op hw hsync hf h (fun e => hne (.of_walk e))

/-- no op of the history ends exchange `k` of `cid` in the state it is applied to (threaded like `OpsFresh`) -/
def NoEnds (s : Server) (cid : Str) (k : Nat) : List Op → Prop
  | [] => True
  | op :: ops => ¬ Ends s cid k op ∧ NoEnds (step s op).1 cid k ops

theorem NoEnds_iff {s : Server} {cid : Str} {k : Nat} {ops : List Op} :
    NoEnds s cid k ops ↔ OpsOK (fun s op => ¬ Ends s cid k op) s ops :=
  OpsOK.of_rec (P := fun s ops => NoEnds s cid k ops) (fun _ => trivial) (fun _ _ _ => Iff.rfl) s ops

instance instDecidableNoEnds (s : Server) (cid : Str) (k : Nat) (ops : List Op) : Decidable (NoEnds s cid k ops) :=
  decidable_of_iff _ NoEnds_iff.symm

/-- **C09, op lists.** -/
theorem C09_record_survives_run (s : Server) (ops : List Op) (cid : Str) (k : Nat) (p : Str) (hw : WF s)
    (hsync : SyncInv s) (hf : OpsFresh s ops) (hok : OpsSchedOK s ops) (h : Holds s cid k p)
    (hne : NoEnds s cid k ops) : Holds (run s ops) cid k p :=
  run_kept (fun s op => C09_record_survives_step s op cid k p) hw hsync hf hok h (NoEnds_iff.mp hne)

/-- **C09, histories from the initial state**: once the session holds the record (after `pre`), it holds it after any
    continuation `ops` none of whose ops ends the exchange — through disconnections, resumptions and take-overs. -/
theorem C09_record_survives_history (caps : Caps) (pre ops : List Op) (cid : Str) (k : Nat) (p : Str)
    (hf : OpsFresh (init caps) (pre ++ ops)) (hok : OpsSchedOK (init caps) (pre ++ ops))
    (h : Holds (run (init caps) pre) cid k p) (hne : NoEnds (run (init caps) pre) cid k ops) :
    Holds (run (init caps) (pre ++ ops)) cid k p := by
  rw [run_append_rk]
  obtain ⟨f1, f2⟩ := OpsFresh_app hf
  obtain ⟨o1, o2⟩ := OpsSchedOK_app hok
  exact C09_record_survives_run _ ops cid k p (WF_run caps pre f1) (SyncInv_run caps pre f1 o1) f2 o2 h hne

/-- `Ends` identifies "a connection of `cid`" by the client id of the connection's object.  In every state of a
    history (`SyncInv`) and for a connection whose handler is not parked (`FreeConn`, what `SchedOK` asks of `recv`),
    such a connection that is still open IS the registered session's: an inbound packet `Ends` counts acts on the
    object that holds the record. -/
theorem C09_ends_recv_is_registered (s : Server) (cid : Str) (k conn : Nat) (pk : InPk) (b : Bool) (hw : WF s)
    (hsync : SyncInv s) (hfree : FreeConn s conn) (h : EndsRecv s cid k conn pk b) :
    ∃ j, assocGet s.connOf conn = some j ∧ assocGet s.clients cid = some j := by
  unfold EndsRecv at h
  cases hc : assocGet s.connOf conn with
  | none => rw [hc] at h; exact h.elim
  | some j =>
    rw [hc] at h
    obtain ⟨hid, hopen, _⟩ := h
    have hj : j < s.objs.length := hw.conn_valid conn j (assocGet_mem _ _ _ hc)
    have hst : (getObj s j).stopped = false := by
      have := hsync.os j
      rw [hopen] at this
      cases hs : (getObj s j).stopped with
      | false => rfl
      | true => rw [hs] at this; cases this
    have := hsync.registered_of_live hj (hfree.free hc) (fun x => x) hst
    rw [hid] at this
    exact ⟨j, rfl, this⟩

/-! ### what a resumption resends -/

/-- **C09, the resend.**  A `connect` op for `cid` that is admitted and does not discard the session (no Clean Start,
    the old session not an MQTT 3 clean one), in a state where the session holds the record `m` of exchange `k`:
    * `m` a PUBLISH (type 3): its payload is `p`, and the op's outputs contain, on the NEW connection, that PUBLISH with
      the DUP flag set (same packet identifier, same payload — `{ m with dup := true }`);
    * `m` a PUBREL (type 6): the op's outputs contain `PUBREL k` on the new connection; and the outputs of
      `attachClient` are `pre ++ resent`, `resent` being the outputs of `ResendInflightMessages`, which contain NO
      PUBLISH with packet identifier `k` (`pre` — DISCONNECT to the taken-over connection, CONNACK, what the taken-over
      handler's will publishes — is not analysed here: a will delivered to the resuming session gets a fresh packet
      identifier). -/
theorem C09_resume_resends (s : Server) (conn : Nat) (k' : Connect) (cid : Str) (k : Nat) (p : Str) (hw : WF s)
    (hf : OpFresh s (.connect conn k')) (h : Holds s cid k p) (hid : k'.id = cid)
    (hadm : refuseCode s k' (parseConnect s conn k') = none) (hne : ¬ EndsTakeover s cid k') :
    ∃ i m, assocGet s.clients cid = some i ∧ flGet (getObj s i) k = some m ∧
      (m.type = 3 → m.payload = p ∧
        Out.wrote conn (.publish k'.ver { m with dup := true } (m.expiry > 0 || m.msgExpiry > 0)) ∈
          (step s (.connect conn k')).2) ∧
      (m.type = 6 →
        Out.wrote conn (.ack k'.ver 6 k m.reasonCode) ∈ (step s (.connect conn k')).2 ∧
        ∃ pre s3, (connect s conn k').2 = pre ++ (admitC s3 s.objs.length k' true).2 ∧
          ∀ c ver m' me, Out.wrote c (.publish ver m' me) ∈ (admitC s3 s.objs.length k' true).2 → m'.id ≠ k) := by
  obtain ⟨i, hi, m, hm, hok⟩ := h
  have hE : ¬ (k'.clean = true ∨ ((getObj s i).clean && decide ((getObj s i).ver < 5)) = true) :=
    fun x => hne ⟨hid, x.imp id fun y => by rw [hi]; exact y⟩
  have hcl : k'.clean = false := Bool.eq_false_iff.mpr (fun e => hE (Or.inl e))
  have h3 : ((getObj s i).clean && decide ((getObj s i).ver < 5)) = false :=
    Bool.eq_false_iff.mpr (fun e => hE (Or.inr e))
  obtain ⟨pre, s3, hsplit, hm3, hwf3, ho, hin, hpg, hconn, hver⟩ :=
    connect_resend_split k s conn k' i m hw hf (by rw [hid]; exact hi) hm hadm hcl h3
  have R := admitC_resends s3 s.objs.length k' k m hm3 ho hin hpg
  rw [hconn, hver] at R
  refine ⟨i, m, hi, hm, fun ht => ⟨?_, ?_⟩, fun ht => ⟨?_, pre, s3, hsplit, ?_⟩⟩
  · have : recOk m p = true := hok
    simp [recOk, ht] at this
    exact this.2
  · exact step_connect_out_sub _ _ _ _ (by rw [hsplit]; exact List.mem_append_right _ (R.1 ht))
  · have h6 : m.type ≠ 3 := by rw [ht]; decide
    have := R.2 h6
    rw [ht] at this
    exact step_connect_out_sub _ _ _ _ (by rw [hsplit]; exact List.mem_append_right _ this)
  · exact admitC_no_publish s3 s.objs.length k' k m hwf3 hm3 (by rw [ht]; decide)

/-- the history of `Mochi/Props/C09Demo.lean` is an instance: from the delivery (op 3) to just before the PUBCOMP
    (op 9) no op ends the exchange -/
theorem C09_demo_noEnds : NoEnds (run (init {}) (c09History.take 4)) [115] 1 ((c09History.drop 4).take 5) := by
  decide +kernel

end Mochi.Broker
