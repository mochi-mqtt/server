import Mochi.Lemmas.Storage
import Mochi.Model.Restart
/-!
# C20 — Persistent state is restored faithfully after a restart

*After any history followed by a broker shutdown, a broker restarted on the same store has the same
non-expired sessions, with their expiry settings; the same subscriptions with their options; the same retained
messages, with payload, properties and expiry behaviour; and the same unacknowledged in-flight messages. For
all four backends and any client identifiers, filters and topics, including ones containing separator
characters.*

Model: the hook methods write records (`Model/Storage.lean`), `restart` reads them back (`Model/Restart.lean`:
`loadClients`, `loadSubscriptions`, `loadInflight`, `loadRetained`, `Message.ToPacket`). The statement splits into
(1) **every live object has its own slot**: the key functions are injective — false for subscriptions when a
    client id contains `:` (F20a), proved where it holds;
(2) **a slot gives the object back**: `fromStorage ∘ toStorage` per record kind, field by field — with the exact
    list of fields that do not survive (F20b–d, f, h);
(3) one-event end-to-end lemmas through `restart ∘ readback ∘ run` for every backend, and concrete
    counterexample histories (replayed on the real broker by the `restart` suite).
Status: **false** of /repo; what holds is stated with its hypothesis.
-/
namespace Mochi.Storage

/-! ## (1) keys -/

/-- client keys are injective: distinct client ids have distinct slots (any bytes) -/
theorem C20_client_key_injective (b : Backend) (id1 id2 : Str) (h : clientKey b id1 = clientKey b id2) : id1 = id2 := by
  rw [clientKey_enc, clientKey_enc] at h
  have := enc_injective _ h
  simpa [lClient] using this

/-- retained keys are injective: distinct topics have distinct slots (any bytes) -/
theorem C20_retained_key_injective (b : Backend) (t1 t2 : Str) (h : retainedKey b t1 = retainedKey b t2) : t1 = t2 := by
  rw [retainedKey_enc, retainedKey_enc] at h
  have := enc_injective _ h
  simpa [lRet] using this

/-- splitting at a separator that the left part does not contain is unique -/
theorem split_at_sep {s : Nat} : ∀ (l1 l2 r1 r2 : Str), l1 ++ s :: r1 = l2 ++ s :: r2 → s ∉ l1 → s ∉ l2 → l1 = l2 ∧ r1 = r2
  | [], [], r1, r2, h, _, _ => by simpa using h
  | [], b :: l2, r1, r2, h, _, h2 => by
    simp at h; exact absurd h.1 (by intro hs; exact h2 (by simp [hs]))
  | a :: l1, [], r1, r2, h, h1, _ => by
    simp at h; exact absurd h.1.symm (by intro hs; exact h1 (by simp [hs]))
  | a :: l1, b :: l2, r1, r2, h, h1, h2 => by
    simp at h
    have ih := split_at_sep l1 l2 r1 r2 h.2 (fun hm => h1 (by simp [hm])) (fun hm => h2 (by simp [hm]))
    exact ⟨by rw [h.1, ih.1], ih.2⟩

/-- **Partial.** For client ids without `:` the subscription keys are injective on (client, filter) pairs. -/
theorem C20_subscription_key_injective_partial (b : Backend) (id1 f1 id2 f2 : Str)
    (h1 : colon ∉ id1) (h2 : colon ∉ id2) (h : subscriptionKey b id1 f1 = subscriptionKey b id2 f2) :
    id1 = id2 ∧ f1 = f2 := by
  rw [subscriptionKey_enc, subscriptionKey_enc] at h
  have := enc_injective _ h
  simp only [lSub, LKey.mk.injEq, true_and] at this
  exact split_at_sep _ _ _ _ this h1 h2

/-- **Counterexample (F20a).** Client `a:b` + filter `c` and client `a` + filter `b:c` share one storage key,
    on every backend. -/
theorem C20_keys_injective_counterexample (b : Backend) :
    subscriptionKey b [97, 58, 98] [99] = subscriptionKey b [97] [98, 58, 99] ∧ ([97, 58, 98], [99]) ≠ (([97] : Str), ([98, 58, 99] : Str)) := by
  constructor
  · unfold subscriptionKey; cases b.hashed <;> simp [colon]
  · decide

theorem formatID_no_colon (n : Nat) : colon ∉ formatID n := by
  unfold formatID
  intro h
  obtain ⟨c, hc, hcv⟩ := List.mem_map.mp h
  have hd := Nat.isDigit_of_mem_toDigits (by decide) (by decide) hc
  simp [Char.isDigit] at hd
  have h1 : c.val.toNat = 58 := hcv
  have h2 : c.val.toNat ≤ 57 := hd.2
  omega

theorem formatID_injective {a b : Nat} (h : formatID a = formatID b) : a = b := by
  unfold formatID at h
  have hinj : (Nat.toDigits 10 a) = (Nat.toDigits 10 b) :=
    (List.map_inj_right (fun x y hxy => Char.toNat_inj.mp hxy)).mp h
  have ha := @Nat.ofDigitChars_ten_toDigits a
  have hb := @Nat.ofDigitChars_ten_toDigits b
  rw [hinj] at ha
  omega

/-- in-flight keys are injective on (client, packet id) pairs for ANY client id: the decimal packet id contains
    no `:`, so the last `:` of the key is the separator -/
theorem C20_inflight_key_injective (b : Backend) (id1 id2 : Str) (p1 p2 : Nat)
    (h : inflightKey b id1 p1 = inflightKey b id2 p2) : id1 = id2 ∧ p1 = p2 := by
  rw [inflightKey_enc, inflightKey_enc] at h
  have := enc_injective _ h
  simp only [lIfl, LKey.mk.injEq, true_and] at this
  have hr := congrArg List.reverse this
  simp only [List.reverse_append, List.reverse_cons, List.append_assoc, List.singleton_append] at hr
  have hs := split_at_sep (s := colon) _ _ _ _ hr
    (by simpa using formatID_no_colon p1) (by simpa using formatID_no_colon p2)
  refine ⟨by simpa using hs.2, formatID_injective (by simpa using hs.1)⟩

/-! ## (2) what a slot gives back -/

/-- the session view of a live client -/
def liveSession (cl : Client) : Session :=
  { id := cl.id, pv := cl.pv, clean := cl.clean, sei := cl.sei, seiFlag := cl.seiFlag, user := cl.user, recvMax := cl.recvMax,
    taMax := cl.taMax, maxPkt := cl.maxPkt, reqProb := cl.reqProb, reqProbFlag := cl.reqProbFlag, reqResp := cl.reqResp, will := cl.will }

/-- the message view of a live packet (`Expiry` relative to `Created`) -/
def liveMsg (pk : Packet) : Msg :=
  { type := pk.type, qos := pk.qos, dup := pk.dup, retain := pk.retain, topic := pk.topic, payload := pk.payload,
    created := pk.created, expiry := pk.expiry - pk.created, origin := pk.origin, pv := pk.pv, pid := pk.pid, corr := pk.corrData,
    subIds := pk.subIds, users := pk.users, ctype := pk.contentType, resp := pk.respTopic, msgExpiry := pk.msgExpiry,
    alias := pk.topicAlias, pf := pk.payloadFormat, pfFlag := pk.pfFlag }

def liveOpts (f : Filter) : SubOpts := { qos := f.qos, nl := f.nl, rap := f.rap, rh := f.rh, ident := f.ident }

/-- **Sessions.** Every session field survives `updateClient` + `loadClients` except the two flags. -/
theorem C20_session_roundtrip (cl : Client) :
    sessionOf (clientRecord cl) = { liveSession cl with seiFlag := false, reqProbFlag := false } := rfl

theorem C20_session_preserved_partial (cl : Client) (h1 : cl.seiFlag = false) (h2 : cl.reqProbFlag = false) :
    sessionOf (clientRecord cl) = liveSession cl := by
  rw [C20_session_roundtrip]; simp [liveSession, h1, h2]

/-- the session-expiry test of `clearExpiredClients` -/
def effectiveExpiry (maximum : Nat) (s : Session) : Nat := if s.pv == 5 && s.seiFlag then s.sei else maximum

/-- **Counterexample (F20b).** An MQTT 5 session with Session Expiry Interval 60: after the restart the flag is
    gone and the session lives for the server maximum instead of 60 s. -/
theorem C20_session_expiry_counterexample :
    let cl : Client := { id := [97], pv := 5, sei := 60, seiFlag := true }
    sessionOf (clientRecord cl) ≠ liveSession cl ∧
    effectiveExpiry 4294967295 (liveSession cl) = 60 ∧ effectiveExpiry 4294967295 (sessionOf (clientRecord cl)) = 4294967295 := by
  decide +kernel

/-- **Messages.** `ToPacket ∘ (the stored literal)`: everything survives except `Expiry`, `ProtocolVersion`,
    `PayloadFormatFlag` and the topic alias; the packet id survives iff the backend stores it. -/
theorem C20_message_roundtrip (key : PKey) (t : Str) (cl : Client) (pk : Packet) (sent pid : Nat) :
    toPacket (msgRecord key t cl pk sent pid) = { liveMsg pk with expiry := 0, pv := 0, pfFlag := false, alias := 0, pid := pid } := rfl

theorem C20_message_preserved_partial (key : PKey) (t : Str) (cl : Client) (pk : Packet) (sent : Nat)
    (h1 : pk.expiry ≤ pk.created) (h2 : pk.pv = 0) (h3 : pk.pfFlag = false) (h4 : pk.topicAlias = 0) :
    toPacket (msgRecord key t cl pk sent pk.pid) = liveMsg pk := by
  rw [C20_message_roundtrip]
  simp [liveMsg, h2, h3, h4, Nat.sub_eq_zero_of_le h1]

/-- the retained-message expiry test of `clearExpiredRetainedMessages` (first disjunct) at time `now` after creation -/
def expiresByOwnInterval (m : Msg) (elapsed : Nat) : Bool := m.pv == 5 && m.expiry > 0 && m.expiry < elapsed

/-- **Counterexample (F20c).** A retained MQTT 5 message with Message Expiry Interval 30 expires after 30 s on the
    live broker and never by its own interval after a restart; `PayloadFormatFlag` is lost as well. -/
theorem C20_retained_expiry_counterexample :
    let pk : Packet := { topic := [116], payload := [112], retain := true, type := 3, created := 1000, expiry := 1030, pv := 5,
                         msgExpiry := 30, payloadFormat := 1, pfFlag := true }
    let restored := toPacket (msgRecord ⟨[], []⟩ RET {} pk 0 0)
    expiresByOwnInterval (liveMsg pk) 31 = true ∧ (∀ t, expiresByOwnInterval restored t = false) ∧
    (liveMsg pk).pfFlag = true ∧ restored.pfFlag = false ∧ restored.msgExpiry = 30 := by
  refine ⟨by decide, ?_, by decide, by decide, by decide⟩
  intro t; simp [expiresByOwnInterval, toPacket]

/-- **Subscriptions.** The options survive; the stored QoS is the SUBACK reason code, not the requested QoS. -/
theorem C20_subscription_roundtrip (b : Backend) (cl : Client) (f : Filter) (code : Nat) :
    optsOf (subRecord b cl f code) = { liveOpts f with qos := code } := rfl

theorem C20_subscription_preserved_partial (b : Backend) (cl : Client) (f : Filter) :
    optsOf (subRecord b cl f f.qos) = liveOpts f := rfl

/-! ## (3) end to end, one event, every backend -/

theorem run_single (b : Backend) (e : Event) : run b [e] = applyWrites [] (interp b e) := rfl

/-- a non-expiring session written by `OnSessionEstablished` is restored, with every field but the two flags -/
theorem C20_restart_session (b : Backend) (cl : Client) (h : expires cl.pv cl.sei cl.clean = false) :
    (restart (readback b (run b [.established cl]))).sessions = [{ liveSession cl with seiFlag := false, reqProbFlag := false }] := by
  have hs : scans b .client (clientKey b cl.id) = true := by rw [clientKey_enc, scans_enc]; rfl
  have hx : expires (clientRecord cl).pv (clientRecord cl).sei (clientRecord cl).clean = false := h
  simp [run_single, interp, updateClient, applyWrites, applyWrite, KV.set, restart, readback, storedClients, hs,
    Record.asClient, loadClients, hx, addSession, C20_session_roundtrip]

/-- a session that expires at disconnect (`expire` of `loadClients`) is not restored -/
theorem C20_restart_expired_session (b : Backend) (cl : Client) (h : expires cl.pv cl.sei cl.clean = true) :
    (restart (readback b (run b [.established cl]))).sessions = [] := by
  have hs : scans b .client (clientKey b cl.id) = true := by rw [clientKey_enc, scans_enc]; rfl
  have hx : expires (clientRecord cl).pv (clientRecord cl).sei (clientRecord cl).clean = true := h
  simp [run_single, interp, updateClient, applyWrites, applyWrite, KV.set, restart, readback, storedClients, hs,
    Record.asClient, loadClients, hx]

/-- a retained message written by `OnRetainMessage` is restored with the fields of `C20_message_roundtrip` -/
theorem C20_restart_retained (b : Backend) (cl : Client) (pk : Packet) (h : pk.payload ≠ []) :
    (restart (readback b (run b [.retain cl pk false]))).retained =
      [(pk.topic, { liveMsg pk with expiry := 0, pv := 0, pfFlag := false, alias := 0, pid := 0 })] := by
  have hs : scans b .retained (retainedKey b pk.topic) = true := by rw [retainedKey_enc, scans_enc]; rfl
  have hp : (msgRecord (retainedKey b pk.topic) RET cl pk 0 0).payload = pk.payload := rfl
  have ht : (msgRecord (retainedKey b pk.topic) RET cl pk 0 0).topic = pk.topic := rfl
  simp [run_single, interp, onRetainMessage, applyWrites, applyWrite, KV.set, restart, readback, storedRetained, hs,
    Record.asMsg, loadRetained, hp, ht, h, C20_message_roundtrip]

/-! ## counterexample histories (each replayed on the real broker by the `restart` suite) -/

def cA : Client := { id := [97], pv := 5, sei := 60, seiFlag := true }            -- "a"
def cAB : Client := { id := [97, 58, 98], pv := 5, sei := 60, seiFlag := true }   -- "a:b"

/-- **F20a.** `a:b` subscribes to `c`, then `a` subscribes to `b:c`: one of the two subscriptions is gone after
    the restart, on every backend. -/
theorem C20_key_collision_counterexample :
    let evs : List Event := [.established cAB, .established cA, .subscribed cAB [{ filter := [99], qos := 1 }] [1],
                             .subscribed cA [{ filter := [98, 58, 99], qos := 2 }] [2]]
    (restart (readback badger (run badger evs))).subs.length = 1 ∧ (restart (readback pebble (run pebble evs))).subs.length = 1 ∧
    (restart (readback bolt (run bolt evs))).subs.length = 1 ∧ (restart (readback redis (run redis evs))).subs.length = 1 := by
  decide +kernel

/-- **F20d.** bolt / redis: two in-flight messages (packet ids 1 and 2) collapse into one message with packet id 0;
    badger restores both. -/
theorem C20_packetid_counterexample :
    let evs : List Event := [.established cA, .qosPublish cA { topic := [116], payload := [112], qos := 1, type := 3, pid := 1 } 0 0,
                             .qosPublish cA { topic := [116], payload := [113], qos := 1, type := 3, pid := 2 } 0 0]
    ((restart (readback badger (run badger evs))).inflight.map (·.2.1)) = [2, 1] ∧
    ((restart (readback bolt (run bolt evs))).inflight.map (·.2.1)) = [0] ∧
    ((restart (readback redis (run redis evs))).inflight.map (·.2.1)) = [0] := by
  decide +kernel

/-- **F20f.** A refused subscription (SUBACK 0x87, not authorised) is written by `OnSubscribed` and comes back as a
    subscription with "QoS" 135 after the restart. -/
theorem C20_refused_subscription_counterexample :
    let evs : List Event := [.established cA, .subscribed cA [{ filter := [120], qos := 1 }] [135]]
    ((restart (readback badger (run badger evs))).subs.map (·.opts.qos)) = [135] ∧
    ((restart (readback redis (run redis evs))).csubs.map (·.2.2.qos)) = [135] := by
  decide +kernel

/-- **F20h.** Requested QoS 2 granted as 1 (server Maximum QoS 1): the live index holds 2, the restored one 1. -/
theorem C20_granted_qos_counterexample :
    optsOf (subRecord badger cA { filter := [120], qos := 2 } 1) ≠ liveOpts { filter := [120], qos := 2 } := by
  decide +kernel

/-- a history whose restart is faithful on every backend (no flags, no expiry, packet id 0) -/
example :
    let cl : Client := { id := [97, 58, 98], pv := 4, listener := [116] }
    let evs : List Event := [.established cl, .subscribed cl [{ filter := [120, 47, 43], qos := 1, rap := true }] [1],
                             .retain cl { topic := [120, 47, 121], payload := [112], retain := true, type := 3, created := 5 } false]
    ∀ b ∈ backends,
      (restart (readback b (run b evs))).sessions = [liveSession cl] ∧
      ((restart (readback b (run b evs))).subs.map (·.opts)) = [liveOpts { filter := [120, 47, 43], qos := 1, rap := true }] ∧
      ((restart (readback b (run b evs))).retained.map (·.2)) = [liveMsg { topic := [120, 47, 121], payload := [112], retain := true, type := 3, created := 5 }] := by
  decide +kernel

end Mochi.Storage
