import Mochi.Lemmas.Reader
import Mochi.Lemmas.SessionFrame
import Mochi.Props.C27
import Mochi.Props.C07
/-!
# C28 — No client byte stream can crash the broker or disturb other clients

"Whatever bytes one network client sends, at any point of its session, the broker process keeps
running, and that connection is either served or closed. Concurrently connected well-behaved clients
keep receiving correct service. A packet larger than the configured maximum packet size is refused
before its body is processed."

Models: the reader (`Model/Reader.lean`: `Client.ReadFixedHeader`, `Client.ReadPacket`, the loop of
`Client.Read`, `Server.readConnectionPacket`) over the codec M1 and the variable byte integer M7; the
sequential broker M3 (`receivePacket`, `recvOn`) for what happens to a decoded packet.

"Keeps running" is: no modelled Go panic site (raw index / slice expression) is reachable from the bytes
of a connection — `attachClient` has no `recover()`, so a panic in a connection goroutine would end the
process.  Memory exhaustion, goroutine leaks, scheduler starvation and runtime faults are not modelled.

The broker-side theorems (namespace `Mochi.Broker`) are over M3 and `Model/Session.lean` (the glue from
decoded packets of ANY type and from raw byte chunks into M3); they are frame theorems: who can change
what.  `SessEq a b` (`Lemmas/BrokerFrame.lean`) says two client objects agree on everything except the
five fields a PUBLISH delivered TO the client may change (`inflight`, `sendQuota`, `packetID`, `aliasOut`,
`aliasCursor`).  Not covered (what keeps `C28_isolation` short of "the session of c' is untouched"): the
topic index entries of the other client (M2's trie) — only the object's own `subs` list and its
Clients-map entry are shown unchanged — and everything that is not sequential (M4).

The size clause is proved at full strength (`C28_size_before_body`): the size test of `ReadFixedHeader`
is `Remaining + bu + 1 > MaximumPacketSize`, the packet's total encoded size (`bu` = the 1…4 length
bytes).  (Former finding F28, repaired in the code: the test was `Remaining + 1 > MaximumPacketSize`
and packets of up to `MaximumPacketSize + 4` bytes were accepted and their bodies read.)
-/
namespace Mochi.Reader
open Mochi.Codec Mochi.Varint

theorem fixedHeaderDecode_np (b : Nat) : fixedHeaderDecode b ≠ .error .panic := by
  unfold fixedHeaderDecode
  let P := fun x : Dec FixedHeader => x ≠ .error .panic
  have e : ∀ m, P (err m) := fun _ h => nomatch h
  have k : ∀ fh, P (.ok fh) := fun _ h => nomatch h
  exact iteInduction (motive := P)
    (fun _ => iteInduction (motive := P) (fun _ => e _) fun _ => iteInduction (motive := P) (fun _ => e _) fun _ => k _)
    (fun _ => iteInduction (motive := P) (fun _ => iteInduction (motive := P) (fun _ => e _) fun _ => k _)
      fun _ => iteInduction (motive := P) (fun _ => e _) fun _ => k _)

/-- the event is the Go-panic outcome -/
def ReadEvent.isPanic : ReadEvent → Bool
  | .error (.header .panic) => true
  | .error (.body .panic) => true
  | _ => false

theorem readErr_np_of_fh (m : Nat) (bs : List Nat) (e : ReadErr) (h : readFixedHeader m bs = .error e) :
    (ReadEvent.error e).isPanic = false := by
  cases bs with
  | nil => cases h
  | cons b rest =>
    simp only [readFixedHeader] at h
    split at h
    · rename_i d hd
      injection h with h; subst h
      cases d with
      | panic => exact absurd hd (fixedHeaderDecode_np b)
      | code n => rfl
    · split at h
      · cases h
      · injection h with h; subst h; rfl
      · split at h
        · injection h with h; subst h; rfl
        · cases h

theorem readBodyErr_np (ver : Nat) (fh : FixedHeader) (bs : List Nat) (d : DErr) (h : readPacket ver fh bs = .error d) :
    (ReadEvent.error (.body d)).isPanic = false := by
  cases d with
  | code n => rfl
  | panic =>
    unfold readPacket at h
    split at h
    · cases h
    · split at h
      · cases h
      · rename_i e he
        injection h with h
        exact absurd (he.trans (congrArg _ h)) (C27_no_panic ver fh _)

theorem readStreamFuel_np (cfg : Cfg) (ver : Nat) (fuel : Nat) (bs : List Nat) :
    ∀ ev ∈ (readStreamFuel cfg ver fuel bs).1, ev.isPanic = false := by
  induction fuel generalizing bs with
  | zero => exact List.forall_mem_singleton.mpr rfl
  | succ fuel ih =>
    simp only [readStreamFuel]
    cases hfh : readFixedHeader cfg.maxPacketSize bs with
    | needMore => exact List.forall_mem_singleton.mpr rfl
    | error e => exact List.forall_mem_singleton.mpr (readErr_np_of_fh _ _ _ hfh)
    | ok fh used =>
      simp only []
      cases hpk : readPacket ver fh (bs.drop used) with
      | needMore => exact List.forall_mem_singleton.mpr rfl
      | error e => exact List.forall_mem_singleton.mpr (readBodyErr_np _ _ _ _ hpk)
      | ok pk => exact List.forall_mem_cons.mpr ⟨rfl, ih _⟩

/-- **C28 (reader): no byte stream makes the read loop panic** — for every configuration, every protocol
    version and every byte stream, none of the events of `Client.Read` is a Go panic (from
    `C27_no_panic` for the body decoders; the reader's own slice `p[:]` is always in range). -/
theorem C28_reader_no_panic (cfg : Cfg) (ver : Nat) (bs : List Nat) :
    ∀ ev ∈ (readStream cfg ver bs).1, ev.isPanic = false :=
  readStreamFuel_np cfg ver bs.length bs

theorem readConnection_np (cfg : Cfg) (bs : List Nat) (e : ReadErr) (h : readConnection cfg bs = .error e) :
    (ReadEvent.error e).isPanic = false := by
  unfold readConnection at h
  cases hfh : readFixedHeader cfg.maxPacketSize bs with
  | needMore => simp [hfh] at h
  | error e' =>
    simp only [hfh] at h
    injection h with h; subst h
    exact readErr_np_of_fh _ _ _ hfh
  | ok fh used =>
    simp only [hfh] at h
    split at h
    · injection h with h; subst h; rfl
    · cases hpk : readPacket defaultVersion fh (bs.drop used) with
      | needMore => simp [hpk] at h
      | ok pk => simp [hpk] at h
      | error d =>
        simp only [hpk] at h
        injection h with h; subst h
        exact readBodyErr_np _ _ _ _ hpk

/-- the same for the first packet of a connection (`readConnectionPacket`) and the whole session -/
theorem C28_session_no_panic (cfg : Cfg) (bs : List Nat) :
    ∀ ev ∈ (readSession cfg bs).1, ev.isPanic = false := by
  unfold readSession
  cases hc : readConnection cfg bs with
  | needMore => exact List.forall_mem_singleton.mpr rfl
  | error e => exact List.forall_mem_singleton.mpr (readConnection_np cfg bs e hc)
  | connect pk rest => exact List.forall_mem_cons.mpr ⟨rfl, C28_reader_no_panic cfg _ _⟩

/-- **C28 (reader): progress and framing.** The events of the read loop are the `packet` events of a
    list of frames followed by exactly one final event (`needMore` or `error` — so nothing follows an
    error: the connection is closed); each frame is `[type/flags] ++ varint(remaining) ++ body` with
    `body.length = remaining`, decoding to the packet handed to the handler; and the stream is exactly
    the concatenation of the frames followed by the unconsumed tail (no overread, no byte skipped). -/
theorem C28_reader_progress (cfg : Cfg) (ver : Nat) (bs : List Nat) :
    ∃ (frames : List Frame) (last : ReadEvent),
      (readStream cfg ver bs).1 = frames.map (fun f => ReadEvent.packet f.pk) ++ [last] ∧
      last.isFinal = true ∧ (∀ f ∈ frames, f.Decodes ver) ∧
      bs = frames.flatMap Frame.bytes ++ (readStream cfg ver bs).2 :=
  readStreamFuel_frames cfg ver bs.length bs

/-- the loop always terminates: any fuel ≥ the stream length gives the same result (each packet
    consumes at least two bytes, `readFixedHeader_used`) -/
theorem C28_reader_terminates (cfg : Cfg) (ver : Nat) (fuel : Nat) (bs : List Nat) (h : bs.length ≤ fuel) :
    readStreamFuel cfg ver fuel bs = readStream cfg ver bs :=
  readStreamFuel_stable cfg ver fuel bs h

/-- non-vacuity: a PINGREQ, a v4 PUBLISH "a"/"hi" and a truncated SUBSCRIBE: two frames, then `needMore`
    with the three bytes of the incomplete packet left -/
example : (readStream {} 4 [0xC0, 0, 0x30, 5, 0, 1, 0x61, 0x68, 0x69, 0x82, 9, 0]).2 = [0x82, 9, 0] ∧
    ((readStream {} 4 [0xC0, 0, 0x30, 5, 0, 1, 0x61, 0x68, 0x69, 0x82, 9, 0]).1.map ReadEvent.isFinal) = [false, false, true] := by
  decide +kernel

/-- a malformed header ends the stream: nothing after `F3` is looked at -/
example : (readStream {} 4 [0xC0, 0, 0xF3, 0, 0xC0, 0]).1.map ReadEvent.isFinal = [false, true] ∧
    (readStream {} 4 [0xC0, 0, 0xF3, 0, 0xC0, 0]).2 = [0xF3, 0, 0xC0, 0] := by
  decide +kernel

/-- the property's sentence, at full strength, for one packet at the head of the stream: header byte
    `hb`, length bytes `lenBytes` (a complete variable byte integer `n`), anything after: if the
    packet's TOTAL size `1 + lenBytes.length + n` exceeds a configured maximum, `ReadFixedHeader`
    answers `ErrPacketTooLarge`. -/
def SizeBeforeBody (max hb : Nat) (lenBytes rest : List Nat) : Prop :=
  ∀ fh n, fixedHeaderDecode hb = .ok fh → decodeLength lenBytes = .ok (n, lenBytes.length) →
    max > 0 → 1 + lenBytes.length + n > max →
    readFixedHeader max (hb :: (lenBytes ++ rest)) = .error .tooLarge

/-- **C28 (size), at full strength**: a packet whose TOTAL encoded size — header byte, length bytes and
    `remaining` — exceeds the configured maximum is refused by `ReadFixedHeader` with
    `ErrPacketTooLarge`, whatever follows the fixed header: the body bytes are not looked at, they need
    not even have arrived.  (`uint32(Remaining+bu+1)` cannot wrap: `Remaining ≤ 268435455`, `bu ≤ 4`.) -/
theorem C28_size_before_body (max hb : Nat) (lenBytes rest : List Nat) : SizeBeforeBody max hb lenBytes rest := by
  intro fh n hfh hlen hmax hbig
  obtain ⟨_, hb4, _, hn, _⟩ := decodeLength_spec lenBytes n _ hlen
  simp only [readFixedHeader, hfh, decodeLength_append lenBytes rest _ hlen]
  rw [toUint32_of_le n _ hn hb4]
  have hbig' : n + lenBytes.length + 1 > max := by omega
  simp [hmax, hbig']

/-- … and the read loop then ends with that error as its only event: no packet is delivered -/
theorem C28_size_refused_stream (cfg : Cfg) (ver hb : Nat) (lenBytes rest : List Nat) (fh : FixedHeader) (n : Nat)
    (hfh : fixedHeaderDecode hb = .ok fh) (hlen : decodeLength lenBytes = .ok (n, lenBytes.length))
    (hmax : cfg.maxPacketSize > 0) (hbig : 1 + lenBytes.length + n > cfg.maxPacketSize) :
    (readStream cfg ver (hb :: (lenBytes ++ rest))).1 = [.error .tooLarge] := by
  rw [readStream_step, C28_size_before_body _ hb lenBytes rest fh n hfh hlen hmax hbig]

/-- the converse, the exact bound: an accepted fixed header announces a packet whose whole size
    (`used` header bytes + `remaining`) is at most the configured maximum. -/
theorem C28_size_accepted_bound (max : Nat) (bs : List Nat) (fh : FixedHeader) (used : Nat)
    (h : readFixedHeader max bs = .ok fh used) (hmax : max > 0) :
    used + fh.remaining ≤ max := by
  obtain ⟨b, rest, fh0, n, bu, rfl, _, hd, rfl, rfl, hsz⟩ := readFixedHeader_ok max bs fh used h
  simp only []
  omega

/-- the former witness of F28: with `MaximumPacketSize = 4` the five-byte PUBLISH `30 03 00 01 61` (the old
    test compared `Remaining + 1 = 4` with the limit) is now refused, as an instance of the theorem … -/
example : readFixedHeader 4 (0x30 :: ([3] ++ [0, 1, 0x61])) = .error .tooLarge :=
  C28_size_before_body 4 0x30 [3] [0, 1, 0x61] { type := 3 } 3 rfl rfl (by decide +kernel) (by decide +kernel)

/-- … the read loop delivers nothing … -/
example : (readStream { maxPacketSize := 4 } 4 [0x30, 3, 0, 1, 0x61]).1 = [.error .tooLarge] := by
  decide +kernel

/-- … and non-vacuity of the bound: a packet of EXACTLY the limit (the same five bytes, limit 5) is accepted,
    read and handed to the handler -/
example : readFixedHeader 5 [0x30, 3, 0, 1, 0x61] = .ok { type := 3, remaining := 3 } 2 ∧
    (readStream { maxPacketSize := 5 } 4 [0x30, 3, 0, 1, 0x61]).1.map ReadEvent.isFinal = [false, true] := by
  decide +kernel

/-- padded length bytes count: remaining length 3 written in four bytes is an 8-byte packet — accepted with
    limit 8, refused with limit 7 (the unrepaired test accepted it with limit 4) -/
example : readFixedHeader 8 [0x30, 0x83, 0x80, 0x80, 0x00, 0, 1, 0x61] = .ok { type := 3, remaining := 3 } 5 ∧
    readFixedHeader 7 [0x30, 0x83, 0x80, 0x80, 0x00, 0, 1, 0x61] = .error .tooLarge := by
  decide +kernel

/-- refused before the body: limit 4, remaining length 4 is refused although no body byte follows -/
example : readFixedHeader 4 (0x30 :: ([4] ++ [])) = .error .tooLarge :=
  C28_size_before_body 4 0x30 [4] [] { type := 3 } 4 rfl rfl (by decide +kernel) (by decide +kernel)

/-- without a configured maximum nothing is refused for its size -/
example : readFixedHeader 0 [0x30, 0xFF, 0xFF, 0xFF, 0x7F] = .ok { type := 3, remaining := 268435455 } 5 := by
  decide +kernel

end Mochi.Reader

namespace Mochi.Broker
open Mochi.Topics Mochi.Session Mochi.Reader

/-- **C28: served or closed** — one inbound packet on an open network connection `c` (client object `i`)
    leaves the connection open, or a `closed c` output is emitted: never a half-dead connection. -/
theorem C28_served_or_closed (s : Server) (c : Nat) (pk : InPk) (b : Bool) (i : Nat)
    (hc : assocGet s.connOf c = some i) (hconn : (getObj s i).conn = c) (hin : (getObj s i).inline = false)
    (hopen : (getObj s i).isOpen = true) :
    (getObj (recvOn s c pk b).1 i).isOpen = true ∨ Out.closed c ∈ (recvOn s c pk b).2 :=
  recvOn_served_or_closed' s c pk b i hc hconn hin hopen

/-- … and when the handler returns an error (`receivePacket`'s error path: refused packet, protocol
    violation, quota exceeded …) the connection IS closed -/
theorem C28_error_closes (s : Server) (c : Nat) (pk : InPk) (b : Bool) (i : Nat) (code : Nat)
    (hc : assocGet s.connOf c = some i) (hconn : (getObj s i).conn = c) (hin : (getObj s i).inline = false)
    (hopen : (getObj s i).isOpen = true) (hst : (getObj s i).stopped = false)
    (herr : (receivePacket s i pk).2.2 = some code) : Out.closed c ∈ (recvOn s c pk b).2 :=
  recvOn_error_closes s c pk b i code hc hconn hin hopen hst herr

/-- … and a served connection gets its required response: PINGREQ → PINGRESP (the other request types:
    `Props/C07.lean`, handler by handler) -/
theorem C28_served_ping (s : Server) (i : Nat) (hopen : (getObj s i).isOpen = true)
    (hpg : (getObj s i).peerGone = false) :
    ∃ rest, (receivePacket s i .pingreq).2.1 = .wrote (getObj s i).conn .pingresp :: rest :=
  C07_pingreq s i hopen hpg

/-- **C28: isolation** — one inbound packet on connection `c` (object `i`) does not create or remove a
    client object, does not touch the connection table, and leaves every OTHER client object `j`
    unchanged up to the five delivery fields: in particular its `isOpen`, `stopped`, `subs`, `will`, `id`,
    `ver`, receive quota and inbound aliases — whatever the packet is; and the Clients-map entry of every
    other client id stays what it was (so no packet on `c` can take over or expire another client's
    session; a CONNECT takeover is a different op, `connect`). -/
theorem C28_isolation (s : Server) (c : Nat) (pk : InPk) (b : Bool) (i j : Nat)
    (hc : assocGet s.connOf c = some i) (hij : j ≠ i) :
    SessEq (getObj s j) (getObj (recvOn s c pk b).1 j) ∧
    (recvOn s c pk b).1.objs.length = s.objs.length ∧
    (recvOn s c pk b).1.connOf = s.connOf ∧
    ((getObj s j).id ≠ (getObj s i).id →
      assocGet (recvOn s c pk b).1.clients (getObj s j).id = assocGet s.clients (getObj s j).id) :=
  ⟨recvOn_isolation s c pk b i j hc hij, recvOn_objs_length s c pk b, recvOn_connOf s c pk b,
   fun hid => recvOn_clients_other s c pk b i _ hc (Ne.symm hid)⟩

/-- the fields the property names, spelled out -/
theorem C28_isolation_fields (s : Server) (c : Nat) (pk : InPk) (b : Bool) (i j : Nat)
    (hc : assocGet s.connOf c = some i) (hij : j ≠ i) :
    let s' := (recvOn s c pk b).1
    (getObj s' j).isOpen = (getObj s j).isOpen ∧ (getObj s' j).stopped = (getObj s j).stopped ∧
    (getObj s' j).subs = (getObj s j).subs ∧ (getObj s' j).will = (getObj s j).will ∧
    (getObj s' j).id = (getObj s j).id ∧ (getObj s' j).conn = (getObj s j).conn ∧
    (getObj s' j).recvQuota = (getObj s j).recvQuota := by
  have h := recvOn_isolation s c pk b i j hc hij
  exact ⟨h.isOpen.symm, h.stopped.symm, h.subs.symm, h.will.symm, h.id.symm, h.conn.symm, h.recvQuota.symm⟩

/-- **C28, from bytes**: the same for a whole chunk of ARBITRARY BYTES arriving on connection `c` — read
    by the reader model at the client's protocol version, every decoded packet of every type (second
    CONNECT, AUTH and the server-only types included) handled as `receivePacket`/`processPacket` do, a
    read error ending the connection as `attachClient` does: every other client object is unchanged up
    to the delivery fields, no object appears or disappears, other ids keep their Clients-map entry. -/
theorem C28_stream_isolation (cfg : Cfg) (s : Server) (c : Nat) (bytes : List Nat) (i j : Nat)
    (hc : assocGet s.connOf c = some i) (hij : j ≠ i) :
    SessEq (getObj s j) (getObj (feed cfg s c bytes).1 j) ∧
    (feed cfg s c bytes).1.objs.length = s.objs.length ∧
    (feed cfg s c bytes).1.connOf = s.connOf ∧
    ((getObj s j).id ≠ (getObj s i).id →
      assocGet (feed cfg s c bytes).1.clients (getObj s j).id = assocGet s.clients (getObj s j).id) :=
  have h := feed_frame cfg s c bytes i hc
  ⟨h.other j hij, h.len, h.connOf, fun hid => h.clients _ hid⟩

/-- **C28, from bytes: served or closed** — after any chunk of bytes the connection is as open as it
    was, or `closed c` was emitted -/
theorem C28_stream_served_or_closed (cfg : Cfg) (s : Server) (c : Nat) (bytes : List Nat) (i : Nat)
    (hc : assocGet s.connOf c = some i) (hconn : (getObj s i).conn = c) (hin : (getObj s i).inline = false)
    (hopen : (getObj s i).isOpen = true) :
    (getObj (feed cfg s c bytes).1 i).isOpen = true ∨ Out.closed c ∈ (feed cfg s c bytes).2 := by
  rcases (feed_frame cfg s c bytes i hc).live_or_closed hin with ⟨h1, _⟩ | h
  · exact Or.inl (h1.trans hopen)
  · exact Or.inr (hconn ▸ h)

/-! non-vacuity: two MQTT 5 clients `a` (connection 1, object 1) and `b` (connection 2, object 2) -/

def twoClients : Server :=
  (connect (connect (init {}) 1 { ver := 5, id := [97] }).1 2 { ver := 5, id := [98] }).1

example : assocGet twoClients.connOf 1 = some 1 ∧ (getObj twoClients 1).conn = 1 ∧
    (getObj twoClients 1).inline = false ∧ (getObj twoClients 1).isOpen = true ∧
    (getObj twoClients 1).stopped = false ∧ (getObj twoClients 2).id ≠ (getObj twoClients 1).id := by
  decide +kernel

/-- the error path is inhabited: a PUBLISH with a wildcard topic name is refused (0x82) … -/
example : (receivePacket twoClients 1 (.publish 0 false false 0 [97, 47, 35] [120] 0 none)).2.2 = some 0x82 := by
  decide +kernel

/-- … and, from bytes: client `a` sends a CONNACK (`20 02 00 00`): its connection is closed, `b` stays open -/
example : Out.closed 1 ∈ (feed {} twoClients 1 [0x20, 2, 0, 0]).2 ∧
    (getObj (feed {} twoClients 1 [0x20, 2, 0, 0]).1 2).isOpen = true := by
  decide +kernel

/-- a served chunk: PINGREQ + SUBSCRIBE `x` from `a`: PINGRESP and SUBACK written, connection open -/
example : (feed {} twoClients 1 [0xC0, 0, 0x82, 7, 0, 1, 0, 0, 1, 120, 0]).2 =
    [.wrote 1 .pingresp, .wrote 1 (.suback 5 1 [0])] ∧
    (getObj (feed {} twoClients 1 [0xC0, 0, 0x82, 7, 0, 1, 0, 0, 1, 120, 0]).1 1).isOpen = true := by
  decide +kernel

end Mochi.Broker
