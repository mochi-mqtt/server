import Mochi.Spec.Ledger
import Mochi.Lemmas.Topics
import Mochi.Lemmas.Scan
/-!
# C18 — Auth ledger decisions are deterministic and use MQTT level semantics

Model: `rmatches`, `matchTopic`, `authOk`, `aclOk` (hooks/auth/ledger.go after the repairs
"fix: ledger MatchTopic requires every topic level to be consumed by the filter" and
"fix: ledger user ACL decision no longer depends on map iteration order").
Go's `Users` and `Filters` maps are association lists in an arbitrary iteration order; determinism is
invariance of the decision under every permutation of those lists.
-/
namespace Mochi.Ledger
open Mochi.Topics

/-- **Level semantics.** For a filter whose `#` (if any) is its last level, `MatchTopic` is the
    level-by-level rule. -/
theorem C18_match_levels (fs ts : Path) (h : hashOnlyLast fs = true) :
    matchLoop fs ts = specLedgerMatch fs ts := by
  induction fs generalizing ts with
  | nil => cases ts <;> simp [matchLoop, specLedgerMatch]
  | cons f rest ih =>
    cases ts with
    | nil => simp [matchLoop, specLedgerMatch]
    | cons t ts =>
      have hrest : hashOnlyLast rest = true := by
        cases rest with
        | nil => simp [hashOnlyLast]
        | cons r rs => simp [hashOnlyLast] at h; exact h.2
      simp only [matchLoop, specLedgerMatch]
      by_cases hp : f = [plus]
      · subst hp
        simp [ih ts hrest]
      · by_cases hh : f = [hash]
        · subst hh
          have : rest = [] := by
            cases rest with
            | nil => rfl
            | cons r rs => simp [hashOnlyLast] at h
          subst this; simp
        · by_cases ht : f = t
          · subst ht; simp [hp, hh, ih ts hrest]
          · simp [hp, hh, ht]

/-- a filter without wildcards matches only the identical topic -/
theorem C18_literal_identical (f t : Str)
    (hw : ∀ l ∈ splitLevels f, l ≠ [plus] ∧ l ≠ [hash]) :
    matchTopic f t = true ↔ f = t := by
  unfold matchTopic
  have key : ∀ (fs ts : Path), (∀ l ∈ fs, l ≠ [plus] ∧ l ≠ [hash]) → (matchLoop fs ts = true ↔ fs = ts) := by
    intro fs
    induction fs with
    | nil => intro ts _; cases ts <;> simp [matchLoop]
    | cons a rest ih =>
      intro ts hl
      cases ts with
      | nil => simp [matchLoop]
      | cons b ts =>
        have ha := hl a (by simp)
        simp only [matchLoop]
        simp only [beq_iff_eq, ha.1, ha.2, if_false, bne_iff_ne, ne_eq, ite_not]
        by_cases hab : a = b
        · subst hab
          simp only [if_true]
          rw [ih ts (fun l hl' => hl l (by simp [hl']))]
          simp
        · simp [hab]
  rw [key _ _ hw]
  constructor
  · intro h
    have := congrArg joinLevels h
    rwa [join_split, join_split] at this
  · intro h; rw [h]

theorem assocGet_perm {β} (m m' : List (Str × β)) (hp : m.Perm m') (hn : (m.map Prod.fst).Nodup) (k : Str) :
    assocGet m k = assocGet m' k := by
  induction hp with
  | nil => rfl
  | cons x _ ih =>
    obtain ⟨a, b⟩ := x
    simp only [assocGet]
    split
    · rfl
    · exact ih (by simp at hn; exact hn.2)
  | swap x y l =>
    obtain ⟨a, b⟩ := x
    obtain ⟨c, d⟩ := y
    simp only [assocGet]
    simp only [List.map_cons, List.nodup_cons, List.mem_cons, not_or] at hn
    by_cases h1 : c = k <;> by_cases h2 : a = k <;> simp [h1, h2]
    exfalso; exact hn.1.1 (h1.trans h2.symm)
  | trans p1 p2 ih1 ih2 =>
    rw [ih1 hn, ih2]
    exact (p1.map Prod.fst).nodup_iff.mp hn

theorem userDecision_perm (u u' : UserRule) (hp : u.acl.Perm u'.acl) (t : Str) (w : Bool) :
    userDecision u t w = userDecision u' t w := by
  unfold userDecision
  rw [hp.isEmpty_eq, hp.any_eq, hp.any_eq]

theorem aclRuleDecision_perm (r r' : ACLRule) (h1 : r.client = r'.client) (h2 : r.username = r'.username)
    (h3 : r.remote = r'.remote) (hp : r.filters.Perm r'.filters) (cl : Cl) (t : Str) (w : Bool) :
    aclRuleDecision r cl t w = aclRuleDecision r' cl t w := by
  unfold aclRuleDecision
  rw [h1, h2, h3, hp.isEmpty_eq, hp.any_eq, hp.any_eq]

/-- two global rule lists that agree rule by rule up to the order of each rule's `Filters` map -/
inductive RulesPerm : List ACLRule → List ACLRule → Prop
  | nil : RulesPerm [] []
  | cons (r r' : ACLRule) (rs rs' : List ACLRule) (h1 : r.client = r'.client) (h2 : r.username = r'.username)
      (h3 : r.remote = r'.remote) (hp : r.filters.Perm r'.filters) (hr : RulesPerm rs rs') :
      RulesPerm (r :: rs) (r' :: rs')

theorem aclRules_perm (rs rs' : List ACLRule) (h : RulesPerm rs rs') (cl : Cl) (t : Str) (w : Bool) (n : Nat) :
    aclRules cl t w rs n = aclRules cl t w rs' n := by
  induction h generalizing n with
  | nil => rfl
  | cons r r' rs rs' h1 h2 h3 hp _ ih =>
    simp only [aclRules]
    rw [aclRuleDecision_perm r r' h1 h2 h3 hp]
    cases aclRuleDecision r' cl t w with
    | some ok => rfl
    | none => exact ih (n + 1)

/-- **Determinism of global rules**: the decision is the same for every iteration order of every
    rule's filter map. -/
theorem C18_deterministic_global (l : Ledger) (acl' : List ACLRule) (h : RulesPerm l.acl acl')
    (hu : l.users = none) (cl : Cl) (t : Str) (w : Bool) :
    aclOk l cl t w = aclOk { l with acl := acl' } cl t w := by
  unfold aclOk
  simp only [hu]
  exact aclRules_perm _ _ h cl t w 0

/-- **Determinism of a user's own rules**: the decision is the same for every iteration order of the
    `Users` map (unique user names) and of that user's filter map. -/
theorem C18_deterministic_user (l : Ledger) (us us' : List (Str × UserRule))
    (hus : l.users = some us) (hp : us.Perm us') (hn : (us.map Prod.fst).Nodup)
    (cl : Cl) (t : Str) (w : Bool) :
    aclOk l cl t w = aclOk { l with users := some us' } cl t w := by
  unfold aclOk
  simp only [hus]
  rw [assocGet_perm us us' hp hn]

/-- … and for every iteration order of that user's own filter map. -/
theorem C18_deterministic_user_acl (l l' : Ledger) (us us' : List (Str × UserRule)) (u u' : UserRule)
    (hus : l.users = some us) (hus' : l'.users = some us') (hacl : l.acl = l'.acl) (cl : Cl)
    (hget : assocGet us cl.username = some u) (hget' : assocGet us' cl.username = some u')
    (hp : u.acl.Perm u'.acl) (t : Str) (w : Bool) :
    aclOk l cl t w = aclOk l' cl t w := by
  unfold aclOk
  simp only [hus, hus', hget, hget', Option.bind_some, hacl]
  rw [userDecision_perm u u' hp]

/-- **First matching rule decides** (global rules, list order). -/
theorem C18_first_rule (cl : Cl) (t : Str) (w : Bool) (pre post : List ACLRule) (r : ACLRule) (ok : Bool)
    (hpre : ∀ r' ∈ pre, aclRuleDecision r' cl t w = none) (hr : aclRuleDecision r cl t w = some ok) (n : Nat) :
    aclRules cl t w (pre ++ r :: post) n = (n + pre.length, ok) := by
  induction pre generalizing n with
  | nil => simp [aclRules, hr]
  | cons p rest ih =>
    simp only [List.cons_append, aclRules]
    rw [hpre p (by simp)]
    simp only
    rw [ih (fun r' h => hpre r' (by simp [h])) (n + 1)]
    simp; omega

/-- no rule decides ⇒ allowed (the ledger's default) -/
theorem C18_default_allow (cl : Cl) (t : Str) (w : Bool) (rules : List ACLRule)
    (h : ∀ r ∈ rules, aclRuleDecision r cl t w = none) (n : Nat) : aclRules cl t w rules n = (0, true) := by
  induction rules generalizing n with
  | nil => rfl
  | cons p rest ih =>
    simp only [aclRules]; rw [h p (by simp)]; exact ih (fun r hr => h r (by simp [hr])) (n + 1)

/-- **A user's own rules take precedence** over every global rule. -/
theorem C18_user_first (l : Ledger) (us : List (Str × UserRule)) (u : UserRule) (cl : Cl) (t : Str) (w ok : Bool)
    (hus : l.users = some us) (hget : assocGet us cl.username = some u) (hd : userDecision u t w = some ok) :
    aclOk l cl t w = (0, ok) := by
  unfold aclOk; simp [hus, hget, hd]

/-- the user's decision: granted iff some matching filter grants; refused iff filters match and none grants -/
theorem C18_user_decision (u : UserRule) (t : Str) (w : Bool) (hne : u.acl ≠ []) :
    userDecision u t w =
      if (∃ fa ∈ u.acl, matchTopic fa.1 t = true ∧ grants fa.2 w = true) then some true
      else if (∃ fa ∈ u.acl, matchTopic fa.1 t = true) then some false else none := by
  unfold userDecision
  have : u.acl.isEmpty = false := by cases h : u.acl <;> simp_all
  simp only [this, Bool.false_eq_true, if_false, List.any_eq_true, Bool.and_eq_true]

/-- witnesses of the repaired defects: a filter must consume every topic level; a user's decision is the same for
    both orders of its filter map -/
example : matchTopic [97] [97, 47, 98] = false := by decide +kernel                 -- "a" vs "a/b"
example : matchTopic [97, 47, 43] [97, 47, 98, 47, 99] = false := by decide +kernel  -- "a/+" vs "a/b/c"
example : matchTopic [97, 47, 35] [97, 47, 98, 47, 99] = true := by decide +kernel   -- "a/#" vs "a/b/c"
example : matchTopic [97, 47, 35] [97] = false := by decide +kernel                  -- "a/#" needs a further level
example : userDecision { acl := [([97, 47, 35], .deny), ([97, 47, 98], .readWrite)] } [97, 47, 98] true = some true ∧
          userDecision { acl := [([97, 47, 98], .readWrite), ([97, 47, 35], .deny)] } [97, 47, 98] true = some true := by decide +kernel

end Mochi.Ledger
