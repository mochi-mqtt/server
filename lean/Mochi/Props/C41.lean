import Mochi.Model.BufPool
/-!
# C41 — Pooled buffers are never shared or returned dirty

Model: `Mochi.BufPool` (mempool/bufpool.go).  For **every** op sequence and every choice `sync.Pool`
may make.  Partial: `sync.Pool` itself is trusted to be a linearizable bag (it may drop items, never
duplicate them); callers' discipline *get … defer put, no use after put* is a generated fact
(tie A) checked at every `GetBuffer` call site.
-/
namespace Mochi.BufPool

def ids (p : Pool) : List Nat := p.pooled.map (·.id) ++ p.held.map (·.2.id)

structure Inv (p : Pool) : Prop where
  empty : ∀ b ∈ p.pooled, b.len = 0
  capped : p.max > 0 → ∀ b ∈ p.pooled, b.cap ≤ p.max
  exclusive : (ids p).Nodup
  fresh : ∀ i ∈ ids p, i < p.nextId
  users : (p.held.map (·.1)).Nodup

theorem inv_init (m : Nat) : Inv { max := m } := by
  constructor <;> simp [ids]

theorem heldBy_mem (p : Pool) (u : Nat) (b : Buf) (h : heldBy p u = some b) : (u, b) ∈ p.held := by
  obtain ⟨ub, hf, rfl⟩ := Option.map_eq_some_iff.1 h
  have hk : ub.1 = u := eq_of_beq (List.find?_some (p := fun ub : Nat × Buf => ub.1 == u) hf)
  exact hk ▸ List.mem_of_find?_eq_some hf

/-- whatever `sync.Pool` chooses to hand out was in the pool -/
theorem choice_mem {p : Pool} {choice : Option Nat} {b : Buf} (h : choice.bind (fun i => p.pooled[i]?) = some b) :
    b ∈ p.pooled := by
  obtain ⟨i, _, hi⟩ := Option.bind_eq_some_iff.1 h
  exact List.mem_of_getElem? hi

theorem heldBy_none (p : Pool) (u : Nat) (h : (heldBy p u).isSome = false) : u ∉ p.held.map (·.1) := by
  unfold heldBy at h
  simp at h
  intro hm
  simp at hm
  obtain ⟨b, hb⟩ := hm
  exact h u b hb rfl

theorem nodup_erase_map {α β} [DecidableEq α] [DecidableEq β] (f : α → β) (l : List α) (a : α)
    (h : (l.map f).Nodup) : ((l.erase a).map f).Nodup :=
  List.Nodup.sublist ((List.erase_sublist).map f) h

theorem run_max (ops : List Op) (p : Pool) : (ops.foldl step p).max = p.max := by
  induction ops generalizing p with
  | nil => rfl
  | cons op rest ih =>
    simp only [List.foldl_cons]
    rw [ih]
    cases op <;> simp only [step] <;> (repeat' split) <;> rfl

/-- **ids only move or disappear**: if the buffers of `p'` are, up to their order, among those of `p`, they are still
    pairwise different and older than `nextId`.  Every op but a `Get` that makes a new buffer is of this kind. -/
theorem Inv.ids_sub {p p' : Pool} (h : Inv p) {l : List Nat} (hp : l.Perm (ids p)) (hs : (ids p').Sublist l)
    (hn : p.nextId ≤ p'.nextId) : (ids p').Nodup ∧ ∀ i ∈ ids p', i < p'.nextId :=
  ⟨(hp.nodup_iff.2 h.exclusive).sublist hs, fun i hi => Nat.lt_of_lt_of_le (h.fresh i (hp.mem_iff.1 (hs.subset hi))) hn⟩

theorem inv_step (p : Pool) (h : Inv p) (op : Op) : Inv (step p op) := by
  cases op with
  | get u choice =>
    simp only [step]
    split
    · exact h
    · rename_i hnh
      have hu : u ∉ p.held.map (·.1) := heldBy_none p u (by simpa using hnh)
      have husers : ∀ b : Buf, (((u, b) :: p.held).map (·.1)).Nodup := fun _ => List.nodup_cons.2 ⟨hu, h.users⟩
      split
      · rename_i b hb
        have hbm := choice_mem hb
        -- the buffer moves from the pooled to the held: the ids are permuted
        have hp : (ids { p with pooled := p.pooled.erase b, held := (u, b) :: p.held }).Perm (ids p) := by
          simp only [ids, List.map_cons]
          have h2 := (List.perm_cons_erase hbm).map (·.id)
          simp only [List.map_cons] at h2
          refine List.Perm.trans ?_ (List.Perm.append_right _ h2.symm)
          simp only [List.cons_append]
          exact List.perm_middle
        have hi := h.ids_sub hp (List.Sublist.refl _) (Nat.le_refl _)
        exact ⟨fun x hx => h.empty x (List.mem_of_mem_erase hx), fun hm x hx => h.capped hm x (List.mem_of_mem_erase hx),
          hi.1, hi.2, husers b⟩
      · -- a new buffer: its id is `nextId`, above every id in use
        have hp : (ids { p with held := (u, ⟨p.nextId, 0, 0⟩) :: p.held, nextId := p.nextId + 1 }).Perm (p.nextId :: ids p) :=
          List.perm_middle
        refine ⟨h.empty, h.capped, ?_, fun i hi => ?_, husers _⟩
        · rw [hp.nodup_iff, List.nodup_cons]
          exact ⟨fun hm => Nat.lt_irrefl _ (h.fresh _ hm), h.exclusive⟩
        · rcases List.mem_cons.1 (hp.mem_iff.1 hi) with rfl | hi
          · exact Nat.lt_succ_self _
          · exact Nat.lt_succ_of_lt (h.fresh i hi)
  | write u n grow =>
    simp only [step]
    have hids : ids { p with held := p.held.map (fun ub =>
        if ub.1 == u then (ub.1, { ub.2 with len := ub.2.len + n, cap := Nat.max ub.2.cap (Nat.max grow (ub.2.len + n)) })
        else ub) } = ids p := by
      simp only [ids, List.map_map]
      congr 1
      apply List.map_congr_left
      intro ub _
      simp only [Function.comp]
      split <;> rfl
    have husers : (p.held.map (fun ub =>
        if ub.1 == u then (ub.1, ({ ub.2 with len := ub.2.len + n, cap := Nat.max ub.2.cap (Nat.max grow (ub.2.len + n)) } : Buf))
        else ub)).map (·.1) = p.held.map (·.1) := by
      simp only [List.map_map]
      apply List.map_congr_left
      intro ub _
      simp only [Function.comp]
      split <;> rfl
    exact ⟨h.empty, h.capped, hids ▸ h.exclusive, hids ▸ h.fresh, husers ▸ h.users⟩
  | put u =>
    simp only [step]
    split
    · exact h
    · rename_i b hb
      have hbm := heldBy_mem p u b hb
      have hsub : (p.held.filter (fun ub => ub.1 != u)).Sublist p.held := List.filter_sublist
      have husers := List.Nodup.sublist (hsub.map (·.1)) h.users
      split
      · -- not kept: the buffer's id disappears
        have hi := h.ids_sub (p' := { p with held := p.held.filter (fun ub => ub.1 != u) }) (List.Perm.refl _)
          (List.Sublist.append_left (hsub.map _) _) (Nat.le_refl _)
        exact ⟨h.empty, h.capped, hi.1, hi.2, husers⟩
      · rename_i hcap
        -- kept: the buffer moves from the held to the pooled; the other entries of its user (there are none) go
        have hnot : (u, b) ∉ p.held.filter (fun ub => ub.1 != u) := by simp
        have hs2 : (p.held.filter (fun ub => ub.1 != u)).Sublist (p.held.erase (u, b)) := by
          have := hsub.erase (u, b)
          rwa [List.erase_of_not_mem hnot] at this
        have hp : (b.id :: (p.pooled.map (·.id) ++ (p.held.erase (u, b)).map (·.2.id))).Perm (ids p) := by
          have h2 := (List.perm_cons_erase hbm).map (·.2.id)
          simp only [List.map_cons] at h2
          exact List.perm_middle.symm.trans (List.Perm.append_left _ h2.symm)
        have hi := h.ids_sub
          (p' := { p with held := p.held.filter (fun ub => ub.1 != u), pooled := { b with len := 0 } :: p.pooled })
          hp ((List.Sublist.append_left (hs2.map _) _).cons_cons _) (Nat.le_refl _)
        refine ⟨fun x hx => ?_, fun hm x hx => ?_, hi.1, hi.2, husers⟩
        · rcases List.mem_cons.mp hx with rfl | hx
          · rfl
          · exact h.empty x hx
        · rcases List.mem_cons.mp hx with rfl | hx
          · simp only [hm, decide_true, Bool.true_and, decide_eq_true_eq] at hcap
            simp only; omega
          · exact h.capped hm x hx
  | drop i =>
    simp only [step]
    split
    · rename_i b hb
      have hi := h.ids_sub (p' := { p with pooled := p.pooled.erase b }) (List.Perm.refl _)
        (List.Sublist.append_right ((List.erase_sublist).map _) _) (Nat.le_refl _)
      exact ⟨fun x hx => h.empty x (List.mem_of_mem_erase hx), fun hm x hx => h.capped hm x (List.mem_of_mem_erase hx),
        hi.1, hi.2, h.users⟩
    · exact h

/-- the invariant holds after every op sequence, for every choice `sync.Pool` makes -/
theorem C41_invariant (m : Nat) (ops : List Op) : Inv (run { max := m } ops) := by
  exact ops.foldlRecOn step (inv_init m) fun p h op _ => inv_step p h op

/-- **never dirty**: a buffer handed out by `Get` is empty -/
theorem C41_empty (m : Nat) (ops : List Op) (u : Nat) (choice : Option Nat)
    (hfree : heldBy (run { max := m } ops) u = none) (b : Buf)
    (hget : heldBy (step (run { max := m } ops) (.get u choice)) u = some b) : b.len = 0 := by
  have hinv := C41_invariant m ops
  generalize run { max := m } ops = p at *
  simp only [step, hfree, Option.isSome_none, Bool.false_eq_true, if_false] at hget
  split at hget
  · rename_i b' hb'
    simp [heldBy] at hget
    subst hget
    exact hinv.empty b' (choice_mem hb')
  · simp [heldBy] at hget
    subst hget; rfl

/-- **never shared**: no buffer is held by two users, nor held and pooled at once -/
theorem C41_exclusive (m : Nat) (ops : List Op) : (ids (run { max := m } ops)).Nodup :=
  (C41_invariant m ops).exclusive

/-- **capped**: a capped pool keeps (hence hands out from the pool) only buffers with cap ≤ max -/
theorem C41_cap (m : Nat) (hm : m > 0) (ops : List Op) : ∀ b ∈ (run { max := m } ops).pooled, b.cap ≤ m := by
  have h := C41_invariant m ops
  have hmax : (run { max := m } ops).max = m := run_max ops _
  intro b hb
  have := h.capped (by rw [hmax]; exact hm) b hb
  rw [hmax] at this; exact this

/-- non-vacuity: a dirty big buffer put into a pool capped at 8 is not kept; a small one is kept clean -/
example : (run { max := 8 } [.get 1 none, .write 1 20 64, .put 1]).pooled = [] := by decide +kernel
example : (run { max := 8 } [.get 1 none, .write 1 5 8, .put 1]).pooled = [{ id := 0, len := 0, cap := 8 }] := by decide +kernel

end Mochi.BufPool
