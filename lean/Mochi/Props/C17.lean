import Mochi.Model.Broker
import Mochi.Lemmas.BrokerExitsPublish
/-!
# C17 — Authorisation is enforced on every route a message can take

Model: `publishToClient`, `processPublish`, `processSubscribe` with an **arbitrary** deny relation
`aclDeny` (the test hook of the quantifier).  Known findings (recorded): the will message is published
without a write check (`sendLWT`), and a will topic is not validated as a topic name at CONNECT.
-/
namespace Mochi.Broker
open Mochi.Topics

/-- **read**: nothing is written to, queued for or stored for a client whose read permission on the
    topic is denied — for live, retained-replay and will messages alike (all go through here) -/
theorem C17_read (s : Server) (i : Nat) (sub : Sub) (fwd : Bool) (pk : Msg)
    (hden : aclOk s (getObj s i).id pk.topic false = false) :
    publishToClient s i sub fwd pk = (s, []) := by
  unfold publishToClient
  split
  · rfl
  · simp [hden]

/-! ## A refused publish is not routed

The three gates at the head of `processPublish` — topic validity (`IsValidFilter(topic, true)`: wildcard, `$SYS`),
receive quota, write permission — each end the handler before `publishToSubscribers` and `retainMsg`: whatever the
handler writes goes to the publisher (an ack with a failure code, or a DISCONNECT), no PUBLISH is written to anybody
and the retained store and the index are unchanged.  (At the level of the whole op a DISCONNECT ends the connection
with an error, and `attachClient` then publishes the client's WILL — `sendLWT`, without a write check: recorded
finding — so the statement is about the handler, like `C17_write` / `C17_sys`.) -/

/-- no PUBLISH among the outputs -/
def NoPublishOut (o : List Out) : Prop := ∀ n ver m mes, Out.wrote n (.publish ver m mes) ∉ o

theorem NoPublishOut.nil : NoPublishOut [] := fun _ _ _ _ h => by cases h

theorem NoPublishOut.append {a b : List Out} (ha : NoPublishOut a) (hb : NoPublishOut b) : NoPublishOut (a ++ b) := by
  intro n ver m mes h
  rcases List.mem_append.mp h with h | h
  · exact ha n ver m mes h
  · exact hb n ver m mes h

theorem stopClient_keeps (s : Server) (i : Nat) :
    (stopClient s i).1.rmsgs = s.rmsgs ∧ (stopClient s i).1.topics = s.topics := by
  unfold stopClient
  extract_lets c
  split <;> exact ⟨rfl, rfl⟩

/-- `DisconnectClient` writes the DISCONNECT packet and closes the connection, nothing else -/
theorem disconnectClient_out (s : Server) (i code : Nat) : ∀ o ∈ (disconnectClient s i code).2,
    o = .wrote (getObj s i).conn (.disconnect (getObj s i).ver code) ∨ o = .closed (getObj s i).conn := by
  intro o h
  unfold disconnectClient stopClient at h
  simp only at h
  rcases List.mem_append.mp h with h | h
  · split at h
    · exact .inl (List.mem_singleton.mp h)
    · cases h
  · split at h
    · cases h
    · split at h
      · cases h
      · exact .inr (List.mem_singleton.mp h)

theorem disconnectClient_noPublish (s : Server) (i code : Nat) :
    NoPublishOut (disconnectClient s i code).2 ∧ (disconnectClient s i code).1.rmsgs = s.rmsgs ∧
    (disconnectClient s i code).1.topics = s.topics := by
  refine ⟨fun n ver m mes h => ?_, stopClient_keeps s i⟩
  rcases disconnectClient_out s i code _ h with e | e <;> cases e

/-- an ack (`type ≠ 3`) is written as an ack, if at all -/
theorem ackRes_wrote (s : Server) (i t id rc : Nat) (ht : t ≠ 3) :
    ∀ o ∈ (ackRes s i t id rc).2.1, o = .wrote (getObj s i).conn (.ack (getObj s i).ver t id rc) := by
  intro o h
  rcases ackRes_out s i t id rc with e | e <;> rw [e] at h
  · unfold writeAck writeMsg at h
    simp only at h
    split at h
    · cases h
    · rw [if_neg (by simpa using ht)] at h
      exact List.mem_singleton.mp h
  · cases h

/-- the publish is refused by one of the three gates at the head of `processPublish` -/
def RefusedPublish (s : Server) (i : Nat) (topic : Str) : Prop :=
  ((getObj s i).inline = false ∧ isValidFilter topic true = false) ∨ (getObj s i).recvQuota = 0 ∨
  ((getObj s i).inline = false ∧ aclOk s (getObj s i).id topic true = false)

/-- what a handler result `r` looks like when nothing was routed from state `s` -/
def NotRouted (s : Server) (r : HRes) : Prop :=
  NoPublishOut r.2.1 ∧ (∀ k t p, Out.inline k t p ∉ r.2.1) ∧ r.1.rmsgs = s.rmsgs ∧ r.1.topics = s.topics

theorem NotRouted.quiet (s : Server) (e : Option Nat) : NotRouted s (s, [], e) :=
  ⟨NoPublishOut.nil, (fun _ _ _ h => by cases h), rfl, rfl⟩

theorem NotRouted.disconnect (s : Server) (i code : Nat) :
    NotRouted s ((disconnectClient s i code).1, (disconnectClient s i code).2, some code) := by
  obtain ⟨h1, h2, h3⟩ := disconnectClient_noPublish s i code
  refine ⟨h1, fun k t p h => ?_, h2, h3⟩
  rcases disconnectClient_out s i code _ h with e | e <;> cases e

theorem NotRouted.ack (s : Server) (i t id rc : Nat) (ht : t ≠ 3) : NotRouted s (ackRes s i t id rc) :=
  ⟨fun _ _ _ _ h => (by cases ackRes_wrote s i t id rc ht _ h), fun _ _ _ h => (by cases ackRes_wrote s i t id rc ht _ h),
    by rw [ackRes_fst], by rw [ackRes_fst]⟩

theorem NotRouted.refuse (s : Server) (i q id code : Nat) : NotRouted s (pubRefuse s i q id code) :=
  pubRefuse_cases s i q id code (fun _ => NotRouted.quiet s none) (fun _ _ => NotRouted.disconnect s i code)
    (fun _ _ => NotRouted.ack s i _ id code (by split <;> decide))

theorem RefusedPublish.not_passed {s : Server} {i : Nat} {topic : Str} (h : RefusedPublish s i topic)
    (h1 : (!(getObj s i).inline && !isValidFilter topic true) = false) (h2 : ((getObj s i).recvQuota == 0) = false)
    (h3 : (!(getObj s i).inline && !aclOk s (getObj s i).id topic true) = false) : False := by
  rcases h with ⟨a, b⟩ | a | ⟨a, b⟩
  · rw [a, b] at h1; cases h1
  · rw [a] at h2; cases h2
  · rw [a, b] at h3; cases h3

/-- **a publish that fails the topic-validity, receive-quota or write-ACL gate is not routed**: the handler writes
    no PUBLISH to any connection (only an ack with a failure code or a DISCONNECT to the publisher, or nothing),
    makes no inline delivery, and leaves the retained store and the topic index unchanged -/
theorem C17_refused_publish_not_routed (s : Server) (i : Nat) (q : Nat) (d r : Bool) (id : Nat) (topic payload : Str)
    (me : Nat) (al : Option Nat) (h : RefusedPublish s i topic) :
    NoPublishOut (processPublish s i q d r id topic payload me al).2.1 ∧
    (∀ k t p, Out.inline k t p ∉ (processPublish s i q d r id topic payload me al).2.1) ∧
    (processPublish s i q d r id topic payload me al).1.rmsgs = s.rmsgs ∧
    (processPublish s i q d r id topic payload me al).1.topics = s.topics := by
  exact processPublish_cases (Q := NotRouted s) s i q d r id topic payload me al (fun _ => NotRouted.refuse s i q id _)
    (fun _ _ => NotRouted.disconnect s i 0x93) (fun _ _ _ => NotRouted.refuse s i q id _)
    (fun h1 h2 h3 _ => (h.not_passed h1 h2 h3).elim) (fun p => (h.not_passed p.valid p.quota p.acl).elim)

/-- **write**: a publish by a client whose write permission is denied is neither forwarded nor
    retained: the state is unchanged except for closing the connection (MQTT 3), and the only
    output goes to the publisher -/
theorem C17_write (s : Server) (i : Nat) (q : Nat) (d r : Bool) (id : Nat) (topic payload : Str) (me : Nat) (al : Option Nat)
    (hin : (getObj s i).inline = false) (hvalid : isValidFilter topic true = true)
    (hq : (getObj s i).recvQuota ≠ 0)
    (hden : aclOk s (getObj s i).id topic true = false) :
    (processPublish s i q d r id topic payload me al).1.topics = s.topics ∧
    (processPublish s i q d r id topic payload me al).1.rmsgs = s.rmsgs :=
  have h := C17_refused_publish_not_routed s i q d r id topic payload me al (Or.inr (Or.inr ⟨hin, hden⟩))
  ⟨h.2.2.2, h.2.2.1⟩

/-- clients cannot publish to `$SYS`: the publish is refused before any routing -/
theorem C17_sys (s : Server) (i : Nat) (q : Nat) (d r : Bool) (id : Nat) (topic payload : Str) (me : Nat) (al : Option Nat)
    (hin : (getObj s i).inline = false) (hsys : isValidFilter topic true = false) :
    (processPublish s i q d r id topic payload me al).1.topics = s.topics ∧
    (processPublish s i q d r id topic payload me al).1.rmsgs = s.rmsgs :=
  have h := C17_refused_publish_not_routed s i q d r id topic payload me al (Or.inl ⟨hin, hsys⟩)
  ⟨h.2.2.2, h.2.2.1⟩

end Mochi.Broker

#print axioms Mochi.Broker.C17_refused_publish_not_routed
