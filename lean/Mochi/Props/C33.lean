import Mochi.Lemmas.Access
import Mochi.Gen.Access
import Mochi.Gen.AccessKnown
/-!
# C33 — Concurrent broker operation is free of data races (lockset / happens-before abstraction) — PARTIAL

`Mochi.Gen.accessTable` is regenerated from the broker's source on every check (tie A,
`go/cmd/vextract`): one row per distinct (memory location, read/write, atomic?, role of the goroutine,
locks held on every path to the access) on the broker's shared structures.  `Mochi.Gen.accessKnown` is
regenerated from the C33 lines of `known-findings.txt` (location + role pair of every recorded race).

* `C33_roles`: the role numbering of the generated table is the one `Mochi.Access.conc` speaks about.
* `C33_lockset`: the executable checker accepts the generated table **up to the recorded findings**
  (kernel evaluation).  When the source gains an unsynchronised conflicting pair — or a recorded one gains a
  new role pair — this evaluates to `false` and the module stops building; `vextract -racereport` names
  the pair, the race detector scenarios of `go/cmd/vrace` replay it.
* `C33_no_unrecorded_race`: the semantic statement, from `locksetOkExcept_sound` (proved for every table):
  in every execution of goroutines that take and release the recorded locks, any two conflicting,
  not-both-atomic accesses of roles that can be concurrent which are enabled at the same time are one of
  the recorded (location, role pair) findings.  With an empty `known-findings` list this is
  `locksetOk_sound`: no such pair at all.

What this does **not** exhibit (DESIGN.md §7 C33): Go's memory model itself (the theorem is about the
lockset/happens-before abstraction), the completeness of the extractor's alias reasoning (objects are named
by variables and field paths; a row's role and locks are only as good as that naming), accesses made by
code in dependencies, and everything reached through dynamic dispatch (hooks, listeners, function values
the extractor cannot bind).  The happens-before edges are the role table `Mochi.Access.concList`; they are
justified in prose there, not derived.
-/
namespace Mochi.Access
open Mochi.Gen

/-- the generated table uses the role numbering of `Mochi.Access.conc` -/
theorem C33_roles : accessRoleNames = roleNames := rfl

/-- every pair of rows of the regenerated table is synchronised (not concurrent by role, not conflicting,
both atomic, or a common lock with a write hold) — except the recorded findings -/
theorem C33_lockset_grouped : groupedOkExcept accessGroups accessKnown = true := by decide +kernel

/-- the same statement about the flat table (`accessTable = rowsOf accessGroups`) -/
theorem C33_lockset : locksetOkExcept accessTable accessKnown = true :=
  groupedOkExcept_rows accessGroups accessKnown C33_lockset_grouped

/-- in every execution, a race of the abstraction is a recorded finding -/
theorem C33_no_unrecorded_race :
    ∀ role tr H, Exec accessTable role tr H →
      ∀ a b, Race conc accessTable role H a b → excused accessKnown a b = true :=
  locksetOkExcept_sound accessTable accessKnown C33_lockset

/-- … namely a recorded (location, role pair) whose location encloses both accesses -/
theorem C33_race_is_recorded :
    ∀ role tr H, Exec accessTable role tr H → ∀ a b, Race conc accessTable role H a b →
      ∃ k ∈ accessKnown, k.obj = a.obj ∧ k.path = pairPath a b ∧
        ((k.r1 = a.role ∧ k.r2 = b.role) ∨ (k.r1 = b.role ∧ k.r2 = a.role)) :=
  fun role tr H hex a b hr => excused_spec (C33_no_unrecorded_race role tr H hex a b hr)

/-! ## Non-vacuity: the checker rejects the defect patterns and accepts their repairs -/

/-- class 0, field 0 (`retainPath`), key 0 (`self` mutex) -/
private def wLocked (role : Nat) : Access := ⟨0, [0], true, false, role, [⟨0, .W⟩], false⟩
private def rUnlocked (role : Nat) : Access := ⟨0, [0], false, false, role, [], false⟩
private def rRLocked (role : Nat) : Access := ⟨0, [0], false, false, role, [⟨0, .R⟩], false⟩
private def wRLocked (role : Nat) : Access := ⟨0, [0], true, false, role, [⟨0, .R⟩], false⟩

/-- a write under the lock against a read without it (the `retainPath` pattern): rejected -/
example : locksetOk [wLocked 3, rUnlocked 3] = false := by decide +kernel
/-- the read takes the lock in read mode: accepted -/
example : locksetOk [wLocked 3, rRLocked 3] = true := by decide +kernel
/-- two *read* holds protect nothing when one side writes -/
example : locksetOk [wRLocked 3, rRLocked 3] = false := by decide +kernel
/-- a role that is concurrent with itself is checked against itself -/
example : locksetOk [⟨0, [0], true, false, 3, [], false⟩] = false := by decide +kernel
/-- … one handler per object is not -/
example : locksetOk [⟨0, [0], true, false, 2, [], false⟩] = true := by decide +kernel
/-- both atomic: accepted; atomic against plain: rejected (`Will.Flag` against `Will = Will{}`) -/
example : locksetOk [⟨0, [1, 2], true, true, 2, [], false⟩, ⟨0, [1, 2], false, true, 7, [], false⟩] = true := by decide +kernel
example : locksetOk [⟨0, [1, 2], false, true, 2, [], false⟩, ⟨0, [1], true, false, 7, [], false⟩] = false := by decide +kernel
/-- initialisation happens before publication: `init`/`preAdd` writes against any later reader -/
example : locksetOk [⟨0, [0], true, false, 0, [], false⟩, ⟨0, [0], true, false, 1, [], false⟩,
    rUnlocked 3, rUnlocked 5, rUnlocked 7] = true := by decide +kernel
/-- … but `preAdd` does run beside the write loop's idle `select` -/
example : locksetOk [⟨0, [0], true, false, 1, [], false⟩, rUnlocked 4] = false := by decide +kernel
/-- different fields, different classes: no conflict -/
example : locksetOk [⟨0, [0], true, false, 3, [], false⟩, ⟨0, [1], true, false, 3, [], false⟩,
    ⟨1, [0], true, false, 3, [⟨0, .W⟩], false⟩] = false := by decide +kernel
example : locksetOk [⟨0, [0], true, false, 2, [], false⟩, ⟨0, [1], true, false, 7, [], false⟩,
    ⟨1, [0], true, false, 7, [], false⟩] = true := by decide +kernel
/-- fail closed: an `unknown` row is rejected whatever else the table holds -/
example : locksetOk [⟨0, [], true, false, 10, [], true⟩] = false := by decide +kernel
/-- a recorded finding excuses exactly its location and role pair -/
example : locksetOkExcept [wLocked 3, rUnlocked 3] [⟨0, [0], 3, 3⟩] = true := by decide +kernel
example : locksetOkExcept [wLocked 3, rUnlocked 3, rUnlocked 7] [⟨0, [0], 3, 3⟩] = false := by decide +kernel
example : locksetOkExcept [wLocked 3, rUnlocked 3] [⟨0, [1], 3, 3⟩] = false := by decide +kernel

/-- the semantics is not empty: the rejected pair really reaches a race state — goroutine 0 takes the lock
and is about to write, goroutine 1 is about to read without it -/
example : ∃ H, Exec [wLocked 3, rUnlocked 3] (fun _ => 3) [(0, .acq 0 .W)] H ∧
    Race conc [wLocked 3, rUnlocked 3] (fun _ => 3) H (wLocked 3) (rUnlocked 3) := by
  refine ⟨[(0, 0, .W)], ?_, 0, 1, by decide +kernel, ?_, ?_, by decide +kernel, by decide +kernel, by decide +kernel⟩
  · exact Exec.acq (tr := []) Exec.nil (fun j m' h => by cases h)
  · exact ⟨by simp, rfl, fun h hh => by
      rcases List.mem_singleton.1 hh with rfl
      exact List.mem_singleton.2 rfl⟩
  · exact ⟨by simp, rfl, fun h hh => by cases hh⟩

/-- … and the accepted one does not: with the read lock listed, the reader is not enabled while the
writer holds the lock (it could not have acquired it) -/
example : ∀ tr H, Exec [wLocked 3, rRLocked 3] (fun _ => 3) tr H →
    ∀ a b, ¬ Race conc [wLocked 3, rRLocked 3] (fun _ => 3) H a b :=
  locksetOk_sound _ (by decide +kernel) _

end Mochi.Access
