import Mochi.Model.Broker
import Mochi.Props.C03
import Mochi.Lemmas.BrokerOrder
import Mochi.Lemmas.BrokerOrderQos
import Mochi.Lemmas.InflOrder
/-!
# C12 — Messages on one topic from one publisher arrive in publish order

Model: `publishToClientCore` (live delivery and deferral), `nextImmediate` (release of a deferred message
when quota returns, `Inflight.NextImmediate`), the resend loop of `admitClient`
(`ResendInflightMessages` over `Inflight.GetAll(false)`).  The Go code orders both the deferred queue
and the resends by `uint16(Created)` — whole seconds — and leaves ties to Go's map iteration; the model
makes that choice explicit (`nextSeed`, `resendSeed`) and the theorems quantify over it.

* `C12_live_immediate` — a message that is not deferred is written in the very step that publishes it
  (so live deliveries to one subscriber are in publish order: each step's output precedes the next
  step's).
* `C12_single_deferred_fifo` — with at most one deferred message there is nothing to reorder: the release
  picks it whatever the map order.
* `C12_deferred_release_counterexample`, `C12_resend_counterexample` — the full property is **false** of
  the code (known finding F12): two messages published in order within one second are released /
  resent in the opposite order under a map order Go may produce.  The `brokerorder` correspondence
  suite replays this on the real broker on every run (first transmissions observed out of publish
  order after flow-control deferral and after session resumption).
* History level (lemmas in `Lemmas/BrokerOrder.lean`, namespace `O12`) — the positive half of C12 for every history
  and everything outside F12: the first transmission of an immediate delivery is written by the publishing op itself,
  one copy per receiver, and the outputs of an earlier op precede those of a later one
  (`C12_history_order_partial` for QoS 0 publishes, the generic `C12_history_order_of_first_tx`; demo `h12History`).
* History level, publishes of QoS 1 and 2 (lemmas in `Lemmas/BrokerOrderQos.lean`, namespace `O12q`): the op is
  decomposed into the acknowledgement, ONE routing call and the publisher's own release tail
  (`C12_publish_qos1_op_outputs`, `C12_publish_qos2_op_outputs`), then ordered as before
  (`C12_history_order_qos1_partial`, `C12_history_order_qos2_partial`; demos `h12HistoryQ1`, `h12HistoryOwn` — the
  publisher receives its own messages —, `h12HistoryQ2`).
-/
namespace Mochi.Broker
open Mochi.Topics

/-- the client is not subject to deferral for this delivery -/
def notDeferred (c : Client) : Prop := c.maxSend = 0 ∨ c.sendQuota > 0

/-- **Live deliveries are immediate.** A QoS 0 delivery to an open, non-inline client is written in the
    publishing step itself. -/
theorem C12_live_immediate (s : Server) (i : Nat) (sub : Sub) (pk : Msg)
    (hopen : (getObj s i).isOpen = true) (hq : shapeQos s.caps sub pk.qos = 0) (htam : (getObj s i).tam = 0)
    (hinl : (getObj s i).inline = false) (hgone : (getObj s i).peerGone = false) (ht : pk.type = 3) :
    ∃ m, (publishToClientCore s i sub false pk).2 = [.wrote (getObj s i).conn (.publish (getObj s i).ver m (m.expiry > 0 || m.msgExpiry > 0))]
      ∧ m.payload = pk.payload ∧ m.topic = pk.topic := by
  have hc : getObj s i = coreClient (getObj s i) pk.topic := by unfold coreClient; rw [htam]; rfl
  have ho : shapeOut s.caps (getObj s i).ver sub false pk = coreOut s.caps (getObj s i) sub false pk := by
    unfold coreOut; rw [htam]; rfl
  have hz : ¬ (shapeOut s.caps (getObj s i).ver sub false pk).qos > 0 := fun h => Nat.lt_irrefl 0 (hq ▸ h)
  refine publishToClientCore_cases
    (Q := fun r => ∃ m, r.2 = [.wrote (getObj s i).conn (.publish (getObj s i).ver m (m.expiry > 0 || m.msgExpiry > 0))]
      ∧ m.payload = pk.payload ∧ m.topic = pk.topic) s i sub false pk hc ho
    (fun _ => ⟨shapeOut s.caps (getObj s i).ver sub false pk, ?_, rfl, rfl⟩) (fun h => absurd h hz) (fun h => absurd h hz) (fun _ h => absurd h hz)
    (fun _ h => absurd h hz)
  rw [setObj_getObj_self]
  unfold writeMsg
  simp only [hopen, hinl, hgone, show (shapeOut s.caps (getObj s i).ver sub false pk).type = 3 from ht]
  rfl
/-- **One deferred message: nothing to reorder.** Whatever the map order (`nextSeed`), if exactly one
    message is deferred the release writes that one. -/
theorem C12_single_deferred_fifo (s : Server) (i : Nat) (m : Msg) (seed : Nat)
    (hone : (getObj s i).inflight.filter (fun x => x.expiry < 0) = [m]) :
    (permuteBy (seed % 64) ((getObj s i).inflight.filter (fun x => x.expiry < 0))).head? = some m := by
  rw [hone]
  simp [permuteBy, permuteFuel, Nat.mod_one]

/-- a subscriber (object 1, connection 7) with Receive Maximum exhausted and two deferred copies: `m1`
    published first, then `m2`, same publisher, same topic, same QoS -/
def exDeferred : Server :=
  let m1 : Msg := { type := 3, id := 1, qos := 1, topic := [97], payload := [1], origin := [112], expiry := -1 }
  let m2 : Msg := { type := 3, id := 2, qos := 1, topic := [97], payload := [2], origin := [112], expiry := -1 }
  { (init {}) with
    objs := (init {}).objs ++ [{ conn := 7, id := [115], ver := 5, inflight := [m1, m2], sendQuota := 1, maxSend := 1 }],
    clients := (init {}).clients ++ [([115], 1)], connOf := [(7, 1)] }

/-- **F12 (deferred release).** Under the map order `nextSeed = 1` the release writes the message that was
    published second, while the first is still waiting: first transmissions out of publish order. -/
theorem C12_deferred_release_counterexample :
    (nextImmediate { exDeferred with nextSeed := 1 } 1).2.map
        (fun o => match o with | .wrote _ (.publish _ m _) => m.payload | _ => []) = [[2]] ∧
    (nextImmediate { exDeferred with nextSeed := 0 } 1).2.map
        (fun o => match o with | .wrote _ (.publish _ m _) => m.payload | _ => []) = [[1]] := by decide

/-- a stored session (object 1, stopped) holding two unacknowledged messages published in order -/
def exSession : Server :=
  let m1 : Msg := { type := 3, id := 1, qos := 1, topic := [97], payload := [1], origin := [112] }
  let m2 : Msg := { type := 3, id := 2, qos := 1, topic := [97], payload := [2], origin := [112] }
  { (init {}) with
    objs := (init {}).objs ++ [{ conn := 7, id := [115], ver := 4, inflight := [m1, m2], isOpen := false, stopped := true }],
    clients := (init {}).clients ++ [([115], 1)], connOf := [(7, 1)] }

def resentPayloads (outs : List Out) : List Str :=
  outs.filterMap fun o => match o with | .wrote _ (.publish _ m _) => some m.payload | _ => none

/-- **F12 (resend after resumption).** The same client id resumes its session: under the map order
    `resendSeed = 1` the second message is resent before the first; under `resendSeed = 0` in order. -/
theorem C12_resend_counterexample :
    resentPayloads (connect { exSession with resendSeed := 1 } 8 { ver := 4, clean := false, id := [115] }).2 = [[2], [1]] ∧
    resentPayloads (connect { exSession with resendSeed := 0 } 8 { ver := 4, clean := false, id := [115] }).2 = [[1], [2]] := by
  decide +kernel

/-! ## History level: first transmissions follow publish order (everything outside F12)

`O12.flat s ops`: everything the history `ops` writes from state `s`, in order; `O12.pubsTo c outs`: the PUBLISH
packets written to connection `c`, in order; `run s (ops.take i)`: the state before the `i`-th op. -/

/-- **C12 on histories — restricted (hence `_partial`).**  `s`: any state reached without schedule ops (`ReachSeq`);
    `ops`: ANY history without schedule ops (fresh connection numbers), of any length, with arbitrary ops of other
    clients in between.  If the `i`-th and the `j`-th op (`i < j`) are PUBLISH packets of QoS 0 on connection `p` to
    the same topic `t`, each accepted in the state before it (`O12.PubQ0`: gates of the publish, no shared
    subscription matching `t`, the publisher's own release tail cannot write to `c`), and the receiving connection `c`
    is entitled to each in the state before it (`EntitledF03`), then
    * op `i` writes `c` EXACTLY ONE PUBLISH `m₁`, op `j` exactly one `m₂` — in the publishing step itself;
    * they are the copies of the two messages (payload, the publisher's id as origin, QoS 0, dup 0: first
      transmissions);
    * on `c`'s stream `m₁` comes before `m₂`: `pubsTo c (flat s ops) = A ++ m₁ :: B ++ m₂ :: C`.

    COVERED: deliveries whose copy is QoS 0 because the PUBLISH is QoS 0 — they are never deferred.
    NOT covered here (full statement: any `q₁ q₂`, copies of QoS > 0 that are immediate in the sense of `notDeferred`):
    for PUBLISH packets of QoS 1 and 2 see `C12_history_order_qos1_partial` / `C12_history_order_qos2_partial`
    (the op decomposed: `C12_publish_qos1_op_outputs`, `C12_publish_qos2_op_outputs`); also proved: the routing call
    (`C12_routing_immediate_any_qos`: the served connection is written its copy by the call itself) and the generic
    order theorem `C12_history_order_of_first_tx`, which applies to ANY two ops once "the op writes `c` exactly this
    PUBLISH" is known.  DEFERRED deliveries and RESENDS are out by F12 (`C12_deferred_release_counterexample`,
    `C12_resend_counterexample`: the property is false there).  Also excluded: schedule ops, shared subscriptions
    matching the topic, inbound topic aliases, a publish-hook mode on the topic. -/
theorem C12_history_order_partial (caps : Caps) (s : Server) (hr : ReachSeq caps s) (ops : List Op) (hseq : SeqOps ops)
    (hf : OpsFresh s ops) (p c i j k₁ k₂ : Nat) (t : Str) (d₁ r₁ d₂ r₂ : Bool) (pay₁ pay₂ : Str) (me₁ me₂ : Nat)
    (hi : ops[i]? = some (.recv p (.publish 0 d₁ r₁ 0 t pay₁ me₁ none)))
    (hj : ops[j]? = some (.recv p (.publish 0 d₂ r₂ 0 t pay₂ me₂ none))) (hij : i < j)
    (g₁ : O12.PubQ0 (run s (ops.take i)) p k₁ c t) (g₂ : O12.PubQ0 (run s (ops.take j)) p k₂ c t)
    (e₁ : EntitledF03 (run s (ops.take i)) (inboundMsg (run s (ops.take i)) k₁ 0 d₁ r₁ 0 t pay₁ me₁) c)
    (e₂ : EntitledF03 (run s (ops.take j)) (inboundMsg (run s (ops.take j)) k₂ 0 d₂ r₂ 0 t pay₂ me₂) c) :
    ∃ m₁ m₂ A B C,
      O12.pubsTo c (step (run s (ops.take i)) (.recv p (.publish 0 d₁ r₁ 0 t pay₁ me₁ none))).2 = [m₁] ∧
      O12.pubsTo c (step (run s (ops.take j)) (.recv p (.publish 0 d₂ r₂ 0 t pay₂ me₂ none))).2 = [m₂] ∧
      O12.CopyQ0 m₁ pay₁ (getObj (run s (ops.take i)) k₁).id ∧
      O12.CopyQ0 m₂ pay₂ (getObj (run s (ops.take j)) k₂).id ∧
      O12.pubsTo c (O12.flat s ops) = A ++ m₁ :: B ++ m₂ :: C :=
  O12.history_order caps s hr ops hseq hf i j _ _ c hi hj hij
    (fun r => (O12.publish_q0_stream _ r.inv.1 r.inv.2.1 r.inv.2.2.1 p k₁ c t g₁ d₁ r₁ pay₁ me₁).1 e₁)
    (fun r => (O12.publish_q0_stream _ r.inv.1 r.inv.2.1 r.inv.2.2.1 p k₂ c t g₂ d₂ r₂ pay₂ me₂).1 e₂)

/-- **order, generic: ANY state, ANY history (schedule ops included), ANY two ops `i < j`, any QoS.**  If op `i` writes
    connection `c` exactly the PUBLISH `m₁` and op `j` exactly `m₂` — each in the state the earlier ops lead to —, `m₁`
    is transmitted before `m₂` on `c`.  This is the construction of the run; what makes it C12 is that the first
    transmission of an immediate delivery is written in the publishing step (`C12_live_immediate`,
    `C12_history_order_partial`, `C12_routing_immediate_any_qos`). -/
theorem C12_history_order_of_first_tx (s : Server) (ops : List Op) (i j : Nat) (op₁ op₂ : Op) (c : Nat) (m₁ m₂ : Msg)
    (hi : ops[i]? = some op₁) (hj : ops[j]? = some op₂) (hij : i < j)
    (h₁ : O12.pubsTo c (step (run s (ops.take i)) op₁).2 = [m₁])
    (h₂ : O12.pubsTo c (step (run s (ops.take j)) op₂).2 = [m₂]) :
    ∃ A B C, O12.pubsTo c (O12.flat s ops) = A ++ m₁ :: B ++ m₂ :: C :=
  O12.order_of_first_tx s ops i j op₁ op₂ c m₁ m₂ hi hj hij h₁ h₂

/-- **one copy per op**: the accepted QoS 0 PUBLISH op writes connection `c` at most one PUBLISH, in every state
    satisfying the all-history invariants — so "the" first transmission of the message to `c` is well defined.
    (Non-shared: `PubQ0.noShared`.) -/
theorem C12_per_op_single_copy (s : Server) (hs : SyncInv s) (hw : WF s) (hcm : ConnMap s)
    (p i c : Nat) (t : Str) (h : O12.PubQ0 s p i c t) (dup retain : Bool) (payload : Str) (me : Nat) :
    (O12.pubsTo c (step s (.recv p (.publish 0 dup retain 0 t payload me none))).2).length ≤ 1 := by
  obtain ⟨h1, h2⟩ := O12.publish_q0_stream s hs hw hcm p i c t h dup retain payload me
  by_cases he : EntitledF03 s (inboundMsg s i 0 dup retain 0 t payload me) c
  · obtain ⟨m, hm, _⟩ := h1 he
    rw [hm]; exact Nat.le_refl 1
  · rw [h2 he]; exact Nat.zero_le 1

/-- **one copy per routing call, a message of ANY QoS**: `publishToSubscribers` writes connection `c` at most one
    PUBLISH (`WF`, one connection per object, no outbound aliases, no shared subscription matching the topic). -/
theorem C12_routing_single_copy (s : Server) (hw : WF s) (hcd : ConnDistinct s) (hna : Q1.NoAliases s)
    (pk : Msg) (hig : pk.ignore = false) (ht : pk.type = 3)
    (hsh : (subscribers s.topics pk.topic).shared = []) (c : Nat) :
    (O12.pubsTo c (publishToSubscribers s pk).2).length ≤ 1 := by
  rw [O12.pubsTo_length]
  exact (publishToSubscribers_writes_exact_qos s hw hcd hna pk hig ht hsh c).2.1

/-- **an immediate delivery of ANY QoS is transmitted by the routing call itself.**  The client object `k` (id `cid`,
    connection `c`, live) is entitled through the entry `(cid, sub)` of the subscriber map, and its delivery is
    immediate: the copy is QoS 0, or the client is `notDeferred` (the hypothesis of `C12_live_immediate`: no Receive
    Maximum or send quota left), below the in-flight limit, with a packet identifier available.  Then
    `publishToSubscribers s pk` writes `c` exactly one PUBLISH: the copy of `pk` (payload, topic, origin, dup 0). -/
theorem C12_routing_immediate_any_qos (s : Server) (hw : WF s) (hcd : ConnDistinct s) (hna : Q1.NoAliases s)
    (pk : Msg) (hig : pk.ignore = false) (ht : pk.type = 3)
    (hsh : (subscribers s.topics pk.topic).shared = []) (cid : Str) (k : Nat) (sub : Sub) (pid : Nat)
    (hreg : (cid, k) ∈ s.clients) (hopen : (getObj s k).isOpen = true) (hinl : (getObj s k).inline = false)
    (hpeer : (getObj s k).peerGone = false) (hsub : (cid, sub) ∈ (subscribers s.topics pk.topic).subs)
    (hacl : aclOk s cid pk.topic false = true) (hnl : (sub.noLocal && pk.origin == cid) = false)
    (himm : shapeQos s.caps sub pk.qos = 0 ∨
      (notDeferred (getObj s k) ∧ (getObj s k).inflight.length < s.caps.maximumInflight ∧
        nextPacketID (getObj s k) s.caps.maximumPacketID = some pid)) :
    ∃ m, O12.pubsTo (getObj s k).conn (publishToSubscribers s pk).2 = [m] ∧ m.payload = pk.payload ∧
      m.topic = pk.topic ∧ m.origin = pk.origin ∧ m.dup = false :=
  (O12.routing_first_tx s hw hcd hna pk hig ht hsh (getObj s k).conn).1
    ⟨cid, k, sub, hreg, rfl, hopen, hinl, hpeer, hsub, hacl, hnl,
      himm.imp id (fun h => ⟨pid, O12.sent_of_notDeferred s k pid h.2.1 h.2.2 h.1⟩)⟩

/-- **the stream of QoS 0 flows.**  For a labelled history (`O12.Labelled c`: every op is an accepted QoS 0 PUBLISH
    to which `c` is entitled — label `some (publisher id, payload)` — or writes `c` no PUBLISH — label `none`) from a
    reachable state: the (origin, payload) pairs `c` is written are EXACTLY the labelled publishes in publish order,
    all QoS 0 first transmissions; and per publisher `o`, the payloads `c` is written from `o` are exactly the
    payloads of `o`'s publishes, in order. -/
theorem C12_qos0_stream_order (caps : Caps) (c : Nat) (s : Server) (ops : List Op) (ls : List (Option (Str × Str)))
    (h : O12.Labelled c s ops ls) (hr : ReachSeq caps s) (hseq : SeqOps ops) (hf : OpsFresh s ops) :
    (O12.pubsTo c (O12.flat s ops)).map (fun m => (m.origin, m.payload)) = ls.filterMap id ∧
    (∀ m ∈ O12.pubsTo c (O12.flat s ops), m.qos = 0 ∧ m.dup = false) ∧
    ∀ o : Str, ((O12.pubsTo c (O12.flat s ops)).filter (fun m => m.origin == o)).map (·.payload) =
      ((ls.filterMap id).filter (fun x => x.1 == o)).map (·.2) :=
  ⟨(O12.qos0_stream caps c s ops ls h hr hseq hf).1, (O12.qos0_stream caps c s ops ls h hr hseq hf).2,
    O12.qos0_stream_of caps c s ops ls h hr hseq hf⟩

/-- `s` (connection 1) subscribes `a`; `p` (connection 2) and `q` (connection 3) connect; `p` publishes `01`, `q`
    publishes `09`, `z` (connection 4) connects and subscribes `a` too, `p` publishes `02` — all QoS 0 on topic `a` -/
def h12History : List Op :=
  [.connect 1 { ver := 4, id := [115] },
   .recv 1 (.subscribe 1 0 [{ filter := [97] }]),
   .connect 2 { ver := 4, id := [112] },
   .connect 3 { ver := 5, id := [113] },
   .recv 2 (.publish 0 false false 0 [97] [1] 0 none),
   .recv 3 (.publish 0 false false 0 [97] [9] 0 none),
   .connect 4 { ver := 4, id := [122] },
   .recv 4 (.subscribe 1 0 [{ filter := [97] }]),
   .recv 2 (.publish 0 false false 0 [97] [2] 0 none)]

theorem h12_seq : SeqOps h12History ∧ OpsFresh (init {}) h12History := by decide +kernel

/-- the hypotheses of `C12_history_order_partial` hold for `p`'s two publishes (ops 4 and 8, client object 2) and the
    receiver `s` (connection 1) … -/
theorem h12_pub4 : O12.PubQ0 (run (init {}) (h12History.take 4)) 2 2 1 [97] :=
  ⟨by decide, ⟨by decide, by decide, by decide, by decide, by decide, by decide, by decide, by decide, by decide⟩,
    by decide, Or.inl (by decide)⟩

theorem h12_pub8 : O12.PubQ0 (run (init {}) (h12History.take 8)) 2 2 1 [97] :=
  ⟨by decide, ⟨by decide, by decide, by decide, by decide, by decide, by decide, by decide, by decide, by decide⟩,
    by decide, Or.inl (by decide)⟩

/-- … `s` is entitled to both (read off the outputs through `publish_q0_stream`), so the theorem applies: `01` is
    transmitted to `s` before `02` — with `q`'s `09` and `z`'s SUBSCRIBE in between -/
theorem h12_order : ∃ m₁ m₂ A B C, O12.CopyQ0 m₁ [1] [112] ∧ O12.CopyQ0 m₂ [2] [112] ∧
    O12.pubsTo 1 (O12.flat (init {}) h12History) = A ++ m₁ :: B ++ m₂ :: C := by
  obtain ⟨a1, a2, a3, _⟩ := (O12.reach_take (ReachSeq.init (caps := {})) h12History h12_seq.1 h12_seq.2 4).inv
  obtain ⟨b1, b2, b3, _⟩ := (O12.reach_take (ReachSeq.init (caps := {})) h12History h12_seq.1 h12_seq.2 8).inv
  obtain ⟨m₁, m₂, A, B, C, _, _, c1, c2, e⟩ := C12_history_order_partial {} (init {}) ReachSeq.init h12History
    h12_seq.1 h12_seq.2 2 1 4 8 2 2 [97] false false false false [1] [2] 0 0 rfl rfl (by decide) h12_pub4 h12_pub8
    (Classical.not_not.mp fun hn =>
      absurd ((O12.publish_q0_stream _ a1 a2 a3 2 2 1 [97] h12_pub4 false false [1] 0).2 hn) (by decide +kernel))
    (Classical.not_not.mp fun hn =>
      absurd ((O12.publish_q0_stream _ b1 b2 b3 2 2 1 [97] h12_pub8 false false [2] 0).2 hn) (by decide +kernel))
  exact ⟨m₁, m₂, A, B, C, c1, c2, e⟩

/-- the conclusion, visible: what `s` (connection 1) and `z` (connection 4) are written, in order -/
example : (O12.pubsTo 1 (O12.flat (init {}) h12History)).map (fun m => (m.origin, m.payload)) =
      [([112], [1]), ([113], [9]), ([112], [2])] ∧
    (O12.pubsTo 4 (O12.flat (init {}) h12History)).map (fun m => (m.origin, m.payload)) = [([112], [2])] ∧
    ((O12.pubsTo 1 (O12.flat (init {}) h12History)).filter (fun m => m.origin == [112])).map (·.payload) = [[1], [2]] := by
  decide +kernel

/-- `s` (connection 1, MQTT 3.1.1: no Receive Maximum, so `notDeferred`) subscribes `a` at QoS 1; `p` (connection 2)
    publishes `01` then `02` at QoS 1, a PINGREQ of `s` in between -/
def h12History1 : List Op :=
  [.connect 1 { ver := 4, id := [115] },
   .recv 1 (.subscribe 1 0 [{ filter := [97], qos := 1 }]),
   .connect 2 { ver := 4, id := [112] },
   .recv 2 (.publish 1 false false 1 [97] [1] 0 none),
   .recv 1 .pingreq,
   .recv 2 (.publish 1 false false 2 [97] [2] 0 none)]

theorem h12_singleton {α} (l : List α) (d : α) (h : l.length = 1) : l = [l.headD d] := by
  match l, h with
  | [x], _ => rfl

/-- each publishing op writes `s` exactly one PUBLISH, a QoS 1 first transmission (dup 0), so
    `C12_history_order_of_first_tx` applies: `01` before `02` on connection 1 -/
theorem h12_order_qos1 : ∃ m₁ m₂ A B C,
    (m₁.payload = [1] ∧ m₁.qos = 1 ∧ m₁.dup = false) ∧ (m₂.payload = [2] ∧ m₂.qos = 1 ∧ m₂.dup = false) ∧
    O12.pubsTo 1 (O12.flat (init {}) h12History1) = A ++ m₁ :: B ++ m₂ :: C := by
  obtain ⟨A, B, C, e⟩ := C12_history_order_of_first_tx (init {}) h12History1 3 5 _ _ 1 _ _ rfl rfl (by decide)
    (h12_singleton _ {} (by decide)) (h12_singleton _ {} (by decide))
  exact ⟨_, _, A, B, C, by decide, by decide, e⟩

example : (O12.pubsTo 1 (O12.flat (init {}) h12History1)).map (fun m => (m.payload, m.qos, m.id)) =
    [([1], 1, 1), ([2], 1, 2)] := by decide +kernel

end Mochi.Broker

#print axioms Mochi.Broker.C12_history_order_partial
#print axioms Mochi.Broker.C12_history_order_of_first_tx
#print axioms Mochi.Broker.C12_per_op_single_copy
#print axioms Mochi.Broker.C12_routing_single_copy
#print axioms Mochi.Broker.C12_routing_immediate_any_qos
#print axioms Mochi.Broker.C12_qos0_stream_order
#print axioms Mochi.Broker.h12_order
#print axioms Mochi.Broker.h12_order_qos1

/-! ## The in-flight store is handed out oldest first (M14, `Model/InflOrder.lean`)

The positive half of the boundary F12 draws: messages created in DIFFERENT seconds are resent (session resumption:
`GetAll`) and released (flow control: `NextImmediate`) in creation order, for every store — whatever the packet ids
(the 65535 → 1 wrap included) and however large the creation times. Before fix `fix: in-flight messages are ordered
by their full creation time` the comparator truncated `Created` to 16 bits and this failed across every multiple of
65536 seconds (`inflorder` suite: `Inflight.GetAll(0) returned packet 65534 (created 65536) before packet 65532
(created 65535)`). -/

open Mochi.InflOrder in
/-- for every store: two collected records with different creation times come out older first -/
theorem C12_inflight_older_first (s : Store) (imm : Bool) (a b : Rec)
    (ha : a ∈ candidates s imm) (hb : b ∈ candidates s imm) (hlt : a.created < b.created) :
    ∃ A B C, getAll s imm = A ++ a :: B ++ b :: C :=
  sorted_older_first _ (getAll_sorted s imm) a b ((mem_getAll s imm a).mpr ha) ((mem_getAll s imm b).mpr hb) hlt

open Mochi.InflOrder in
/-- for every store: `getAll` returns exactly the collected records, sorted by creation time -/
theorem C12_inflight_getAll_sorted_perm (s : Store) (imm : Bool) :
    (getAll s imm).Perm (candidates s imm) ∧ (getAll s imm).Pairwise (fun a b => a.created ≤ b.created) :=
  ⟨getAll_perm s imm, getAll_sorted s imm⟩

open Mochi.InflOrder in
/-- for every store: the deferred message released next is one than which no deferred message is older, and
    there is one whenever a message is deferred -/
theorem C12_next_immediate_is_oldest (s : Store) :
    (∀ r, nextImmediate s = some r → r ∈ candidates s true ∧ ∀ x ∈ candidates s true, r.created ≤ x.created) ∧
    (nextImmediate s = none ↔ candidates s true = []) :=
  ⟨fun r h => nextImmediate_minimal s r h, nextImmediate_none s⟩

open Mochi.InflOrder in
/-- a store at the boundary the code got wrong before the fix: ids straddle the packet-id wrap, creation times
    straddle 65536 -/
def inflWrapStore : Store := (set (set (set [] ⟨65535, 65535, -1⟩).1 ⟨1, 65536, -1⟩).1 ⟨2, 65534, 0⟩).1

open Mochi.InflOrder in
example : (getAll inflWrapStore false).map (·.id) = [2, 65535, 1] ∧
    (nextImmediate inflWrapStore).map (·.id) = some 65535 := by decide +kernel

open Mochi.InflOrder in
/-- the other side of the boundary, and the link to M3: when all collected records were created in the same second,
    EVERY permutation of them is sorted by creation time — the program leaves their order to Go's map iteration and
    an unstable sort, which is why M3 resolves the resend and the deferred release by a free seed there (F12) -/
theorem C12_equal_seconds_any_order (s : Store) (imm : Bool) (l : List Rec) (hp : l.Perm (candidates s imm))
    (heq : ∀ a ∈ candidates s imm, ∀ b ∈ candidates s imm, a.created = b.created) :
    l.Pairwise fun a b => a.created ≤ b.created := by
  apply List.pairwise_of_forall_mem_list
  intro a ha b hb
  have := heq a (hp.mem_iff.mp ha) b (hp.mem_iff.mp hb)
  omega

open Mochi.InflOrder in
/-- the store behaves like the Go map it models, for every sequence of `Set` / `Delete`: at most one record per packet
    id, `Set` replaces exactly the record of its id, `Delete` removes exactly that id -/
theorem C12_inflight_store_is_a_map (s : Store) (h : UniqueIds s) (r : Rec) (id : Nat) :
    UniqueIds (set s r).1 ∧ UniqueIds (del s id).1 ∧
    (∀ x, x ∈ (set s r).1 ↔ x = r ∨ (x ∈ s ∧ x.id ≠ r.id)) ∧ (∀ x, x ∈ (del s id).1 ↔ x ∈ s ∧ x.id ≠ id) :=
  ⟨set_unique s r h, del_unique s id h, mem_set s r, mem_del s id⟩

open Mochi.InflOrder in
/-- the boundary from the determined side: when the collected records were created in pairwise DIFFERENT seconds, the
    answer is unique — every list that is a permutation of the collected records and sorted by creation time (that is
    everything the correspondence driver accepts from `Inflight.GetAll` / `getAll`) IS the model's `getAll`. Together
    with `C12_equal_seconds_any_order`: the driver's acceptance set is a singleton exactly off F12's boundary. -/
theorem C12_distinct_seconds_unique_order (s : Store) (imm : Bool) (l : List Rec) (hp : l.Perm (candidates s imm))
    (hs : l.Pairwise fun a b => a.created ≤ b.created)
    (hne : ∀ a ∈ candidates s imm, ∀ b ∈ candidates s imm, a.created = b.created → a = b) :
    l = getAll s imm := by
  refine List.Perm.eq_of_pairwise (le := fun a b : Rec => a.created ≤ b.created) ?_ hs (getAll_sorted s imm)
    (hp.trans (getAll_perm s imm).symm)
  intro a b ha hb hab hba
  exact hne a (hp.mem_iff.mp ha) b ((mem_getAll s imm b).mp hb) (by omega)

open Mochi.InflOrder in
/-- the same for the deferred release: with pairwise different creation seconds among the deferred records, the
    record `NextImmediate` returns is THE oldest one — any deferred record that no deferred record is older than is it -/
theorem C12_next_immediate_unique (s : Store) (r x : Rec) (h : nextImmediate s = some r)
    (hx : x ∈ candidates s true) (hmin : ∀ y ∈ candidates s true, x.created ≤ y.created)
    (hne : ∀ a ∈ candidates s true, ∀ b ∈ candidates s true, a.created = b.created → a = b) : x = r := by
  have hr := nextImmediate_minimal s r h
  exact hne x hx r hr.1 (by have := hr.2 x hx; have := hmin r hr.1; omega)

open Mochi.InflOrder in
/-- the wrap store's records have pairwise different creation seconds, so its resend order is forced -/
example : ∀ a ∈ candidates inflWrapStore false, ∀ b ∈ candidates inflWrapStore false, a.created = b.created → a = b := by
  decide

open Mochi.InflOrder in
/-- an operation on the in-flight store -/
inductive InflOp where
  | set (r : Rec)
  | del (id : Nat)

open Mochi.InflOrder in
/-- the store after a sequence of `Set` / `Delete` calls -/
def inflRun (s : Store) (ops : List InflOp) : Store :=
  ops.foldl (fun st op => match op with | .set r => (set st r).1 | .del id => (del st id).1) s

open Mochi.InflOrder in
/-- every store REACHABLE from the empty one by any sequence of `Set` / `Delete` holds at most one record per packet
    id: the hypothesis of `C12_inflight_store_is_a_map` is met by every reachable store -/
theorem C12_inflight_reachable_unique (ops : List InflOp) : UniqueIds (inflRun [] ops) := by
  refine List.foldlRecOn _ _ (motive := UniqueIds) (by simp [UniqueIds]) fun s h op _ => ?_
  cases op with
  | set r => exact set_unique s r h
  | del id => exact del_unique s id h

open Mochi.InflOrder in
/-- the last operation decides: after `… ; Set r` the store holds `r` and no other record of its id; after
    `… ; Delete id` it holds no record of that id — for every reachable store -/
theorem C12_inflight_last_op (ops : List InflOp) (r : Rec) (id : Nat) :
    (∀ x ∈ inflRun [] (ops ++ [.set r]), x.id = r.id → x = r) ∧ r ∈ inflRun [] (ops ++ [.set r]) ∧
    (∀ x ∈ inflRun [] (ops ++ [.del id]), x.id ≠ id) := by
  simp only [inflRun, List.foldl_append, List.foldl_cons, List.foldl_nil]
  refine ⟨fun x hx hid => ?_, (mem_set _ r r).mpr (Or.inl rfl), fun x hx => ((mem_del _ id x).mp hx).2⟩
  rcases (mem_set _ r x).mp hx with h | ⟨_, h⟩
  · exact h
  · exact absurd hid h

open Mochi.InflOrder in
/-- what `GetAll` / `getAll(true)` hand out never names one packet id twice: in every store with one record per id
    (hence in every reachable store, `C12_inflight_reachable_unique`) the ids of the returned records are pairwise
    different — a resend after session resumption cannot transmit two packets under one identifier -/
theorem C12_inflight_getAll_ids_nodup (s : Store) (imm : Bool) (h : UniqueIds s) :
    ((getAll s imm).map (·.id)).Nodup := by
  have hp : ((getAll s imm).map (·.id)).Perm ((candidates s imm).map (·.id)) := (getAll_perm s imm).map _
  refine hp.nodup_iff.mpr ?_
  unfold candidates
  exact (List.filter_sublist.map _).nodup h

open Mochi.InflOrder in
theorem C12_inflight_reachable_getAll_ids_nodup (ops : List InflOp) (imm : Bool) :
    ((getAll (inflRun [] ops) imm).map (·.id)).Nodup :=
  C12_inflight_getAll_ids_nodup _ imm (C12_inflight_reachable_unique ops)

#print axioms C12_inflight_reachable_getAll_ids_nodup
#print axioms C12_inflight_reachable_unique
#print axioms C12_inflight_last_op
#print axioms C12_distinct_seconds_unique_order
#print axioms C12_next_immediate_unique
#print axioms C12_inflight_store_is_a_map
#print axioms C12_equal_seconds_any_order
#print axioms C12_inflight_older_first
#print axioms C12_inflight_getAll_sorted_perm
#print axioms C12_next_immediate_is_oldest

/-! ## History level, publishes of QoS 1 and QoS 2: the first transmission of an IMMEDIATE delivery is written by the publishing op

Lemmas: `Mochi/Lemmas/BrokerOrderQos.lean` (namespace `O12q`).  `O12q.AcceptedQ1 s i id t` / `AcceptedQ2 s i id t`: the
gates of the publish (live network client, valid non-empty topic, identifier ≠ 0, receive quota, write permission, no
in-flight record under the identifier, no hook mode, the broker grants the QoS).  `O12q.RecvImm s pk c cid k pid`: the
RECEIVER — client object `k`, registered under `cid`, live on connection `c`, holds a matching plain subscription of
QoS ≥ 1, may read the topic, is not excluded by No Local, and its delivery is immediate: `notDeferred (getObj s k)`,
fewer in-flight records than the limit, the packet identifier `pid` available.  `O12q.FirstTx m payload topic origin q`:
`m` carries payload, topic and origin, `dup = false`, and `1 ≤ m.qos ≤ q`. -/
namespace Mochi.Broker
open Mochi.Topics

/-- the field `notDef` of `O12q.RecvImm` is `notDeferred` -/
theorem C12_recvImm_notDeferred {s : Server} {pk : Msg} {c : Nat} {cid : Str} {k pid : Nat}
    (h : O12q.RecvImm s pk c cid k pid) : notDeferred (getObj s k) := h.notDef

/-- **the QoS 1 PUBLISH op, decomposed.**  For an accepted QoS 1 publish (`O12q.AcceptedQ1`) on the connection of client
    object `i` in a well-formed state, with `rs` the state with the retained store updated and `m = inboundMsg …`:
    the op's output is `[PUBACK (reason QosCodes[1]) to the publisher] ++ (publishToSubscribers rs m).2 ++ tail`, `tail`
    — at most two outputs — writing only to the PUBLISHER's own connection (releases of its own deferred messages);
    hence every other connection `c` sees, as PUBLISH packets of the op, exactly those of the ONE routing call. -/
theorem C12_publish_qos1_op_outputs (s : Server) (hw : WF s) (conn i : Nat) (dup retain : Bool) (id : Nat)
    (topic payload : Str) (me : Nat) (hc : assocGet s.connOf conn = some i) (h : O12q.AcceptedQ1 s i id topic) :
    (∃ tail, (step s (.recv conn (.publish 1 dup retain id topic payload me none))).2 =
        [Out.wrote (getObj s i).conn (.ack (getObj s i).ver 4 id 1)] ++
          (publishToSubscribers (retainedState s (inboundMsg s i 1 dup retain id topic payload me))
            (inboundMsg s i 1 dup retain id topic payload me)).2 ++ tail ∧
      tail.length ≤ 2 ∧ ∀ x ∈ tail, ∃ pk, x = Out.wrote (getObj s i).conn pk) ∧
    ∀ c, (getObj s i).conn ≠ c →
      O12.pubsTo c (step s (.recv conn (.publish 1 dup retain id topic payload me none))).2 =
        O12.pubsTo c (publishToSubscribers (retainedState s (inboundMsg s i 1 dup retain id topic payload me))
          (inboundMsg s i 1 dup retain id topic payload me)).2 :=
  ⟨O12q.step_recv_publish_q1_outputs s hw conn i dup retain id topic payload me hc h,
   fun c hne => O12q.pubsTo_step_q1 s hw conn i dup retain id topic payload me hc h c hne⟩

/-- **C12 on histories, publishes of QoS 1 — restricted (hence `_partial`).**  `s`: any state reached without schedule
    ops (`ReachSeq`); `ops`: ANY history without schedule ops (fresh connection numbers), of any length, with arbitrary
    ops of other clients in between.  If the `i`-th and the `j`-th op (`i < j`) are PUBLISH packets of QoS 1 on
    connection `p` to the same topic `t`, each accepted in the state before it (`O12q.PubQ1`: the gates `AcceptedQ1`,
    no shared subscription matching `t`, and the publisher's own release tail cannot write to `c`: `c` is not the
    publisher's connection, or — the publisher subscribed to its own topic — the publisher is `O12q.Calm`: it holds no
    deferred message or has no send quota), no registered client has outbound topic aliases in those two states, and the receiver on connection `c` is entitled through a subscription of
    QoS ≥ 1 with its delivery IMMEDIATE in the state before each op (`O12q.RecvImm`: `notDeferred`, below the in-flight
    limit, a packet identifier available — the hypothesis of `C12_routing_immediate_any_qos`), then
    * op `i` writes `c` EXACTLY ONE PUBLISH `m₁`, op `j` exactly one `m₂` — in the publishing step itself;
    * they are the copies of the two messages (payload, topic, the publisher's id as origin), FIRST transmissions
      (`dup = false`), both of QoS 1;
    * on `c`'s stream `m₁` comes before `m₂`: `pubsTo c (flat s ops) = A ++ m₁ :: B ++ m₂ :: C`.

    FULL statement (not proved): the same with outbound topic aliases (`Q1.NoAliases` is a hypothesis of the routing
    theorem `publishToSubscribers_writes_exact_qos`), with matching shared subscriptions for OTHER receivers, inbound
    topic aliases and hook modes, and for histories with schedule ops (for those the generic
    `C12_history_order_of_first_tx` applies once the two singleton facts are known).  A publisher that receives its
    own messages AND holds a deferred message with send quota left is excluded by `PubQ1.own`: there the op's release
    tail does write a PUBLISH to `c` — a deferred release, F12.
    DEFERRED deliveries and RESENDS are out by F12: the property is false there
    (`C12_deferred_release_counterexample`, `C12_resend_counterexample`). -/
theorem C12_history_order_qos1_partial (caps : Caps) (s : Server) (hr : ReachSeq caps s) (ops : List Op) (hseq : SeqOps ops)
    (hf : OpsFresh s ops) (p c i j k₁ k₂ id₁ id₂ : Nat) (t : Str) (d₁ r₁ d₂ r₂ : Bool) (pay₁ pay₂ : Str) (me₁ me₂ : Nat)
    (hi : ops[i]? = some (.recv p (.publish 1 d₁ r₁ id₁ t pay₁ me₁ none)))
    (hj : ops[j]? = some (.recv p (.publish 1 d₂ r₂ id₂ t pay₂ me₂ none))) (hij : i < j)
    (n₁ : Q1.NoAliases (run s (ops.take i))) (n₂ : Q1.NoAliases (run s (ops.take j)))
    (g₁ : O12q.PubQ1 (run s (ops.take i)) p k₁ c id₁ t) (g₂ : O12q.PubQ1 (run s (ops.take j)) p k₂ c id₂ t)
    (cid₁ cid₂ : Str) (o₁ o₂ pid₁ pid₂ : Nat)
    (e₁ : O12q.RecvImm (run s (ops.take i)) (inboundMsg (run s (ops.take i)) k₁ 1 d₁ r₁ id₁ t pay₁ me₁) c cid₁ o₁ pid₁)
    (e₂ : O12q.RecvImm (run s (ops.take j)) (inboundMsg (run s (ops.take j)) k₂ 1 d₂ r₂ id₂ t pay₂ me₂) c cid₂ o₂ pid₂) :
    ∃ m₁ m₂ A B C,
      O12.pubsTo c (step (run s (ops.take i)) (.recv p (.publish 1 d₁ r₁ id₁ t pay₁ me₁ none))).2 = [m₁] ∧
      O12.pubsTo c (step (run s (ops.take j)) (.recv p (.publish 1 d₂ r₂ id₂ t pay₂ me₂ none))).2 = [m₂] ∧
      (O12q.FirstTx m₁ pay₁ t (getObj (run s (ops.take i)) k₁).id 1 ∧ m₁.qos = 1) ∧
      (O12q.FirstTx m₂ pay₂ t (getObj (run s (ops.take j)) k₂).id 1 ∧ m₂.qos = 1) ∧
      O12.pubsTo c (O12.flat s ops) = A ++ m₁ :: B ++ m₂ :: C :=
  O12.history_order caps s hr ops hseq hf i j _ _ c hi hj hij
    (fun r => O12q.publish_q1_first_tx _ r.inv.1 r.inv.2.1 r.inv.2.2.1 n₁ p k₁ c id₁ t g₁ d₁ r₁ pay₁ me₁ cid₁ o₁ pid₁ e₁)
    (fun r => O12q.publish_q1_first_tx _ r.inv.1 r.inv.2.1 r.inv.2.2.1 n₂ p k₂ c id₂ t g₂ d₂ r₂ pay₂ me₂ cid₂ o₂ pid₂ e₂)

/-- `s` (connection 1, MQTT 3.1.1: Receive Maximum unset, so `notDeferred`) subscribes `a` at QoS 1; `p` (connection 2)
    publishes `01` (op 3); `q` (connection 3) connects and publishes `09`; `s` acknowledges `01`; `p` publishes `02`
    (op 7) — all QoS 1 on topic `a` -/
def h12HistoryQ1 : List Op :=
  [.connect 1 { ver := 4, id := [115] },
   .recv 1 (.subscribe 1 0 [{ filter := [97], qos := 1 }]),
   .connect 2 { ver := 4, id := [112] },
   .recv 2 (.publish 1 false false 1 [97] [1] 0 none),
   .connect 3 { ver := 5, id := [113] },
   .recv 3 (.publish 1 false false 7 [97] [9] 0 none),
   .recv 1 (.puback 1 0),
   .recv 2 (.publish 1 false false 2 [97] [2] 0 none)]

/-- `C12_history_order_qos1_partial` applies to `p`'s two publishes (ops 3 and 7, client object 2, identifiers 1 and 2)
    and the receiver `s` (connection 1, client object 1): `s` is not the publisher, and its delivery is immediate both
    times — no Receive Maximum, no record / the acknowledged record gone, packet identifiers 1 and 3 available.  So `01`
    is transmitted to `s` before `02`, each exactly once in its publishing op, QoS 1, dup 0 — with `q`'s connect and
    publish and `s`'s PUBACK in between -/
theorem h12q_order : ∃ m₁ m₂ A B C,
    (O12q.FirstTx m₁ [1] [97] [112] 1 ∧ m₁.qos = 1) ∧ (O12q.FirstTx m₂ [2] [97] [112] 1 ∧ m₂.qos = 1) ∧
    O12.pubsTo 1 (O12.flat (init {}) h12HistoryQ1) = A ++ m₁ :: B ++ m₂ :: C := by
  obtain ⟨m₁, m₂, A, B, C, _, _, c1, c2, e⟩ := C12_history_order_qos1_partial {} (init {}) ReachSeq.init h12HistoryQ1
    (by decide +kernel) (by decide +kernel) 2 1 3 7 2 2 1 2 [97] false false false false [1] [2] 0 0 rfl rfl (by decide)
    (Q1.noAliases_of_all (by decide +kernel)) (Q1.noAliases_of_all (by decide +kernel))
    ⟨by decide, ⟨by decide, by decide, by decide, by decide, by decide, by decide, by decide, by decide, by decide,
      by decide, by decide⟩, by decide, Or.inr (by decide)⟩
    ⟨by decide, ⟨by decide, by decide, by decide, by decide, by decide, by decide, by decide, by decide, by decide,
      by decide, by decide⟩, by decide, Or.inr (by decide)⟩
    [115] [115] 1 1 1 3
    ⟨by decide, by decide, by decide, by decide, by decide,
      ⟨{ filter := [97], qos := 1 }, ⟨by decide, by decide⟩, by decide⟩, by decide,
      fun h => absurd h.1 (by decide), Or.inl (by decide), by decide, by decide⟩
    ⟨by decide, by decide, by decide, by decide, by decide,
      ⟨{ filter := [97], qos := 1 }, ⟨by decide, by decide⟩, by decide⟩, by decide,
      fun h => absurd h.1 (by decide), Or.inl (by decide), by decide, by decide⟩
  exact ⟨m₁, m₂, A, B, C, c1, c2, e⟩

/-- the conclusion, visible: what `s` (connection 1) is written, in order (origin, payload, QoS, packet id, dup) -/
example : (O12.pubsTo 1 (O12.flat (init {}) h12HistoryQ1)).map (fun m => (m.origin, m.payload, m.qos, m.id, m.dup)) =
    [([112], [1], 1, 1, false), ([113], [9], 1, 2, false), ([112], [2], 1, 3, false)] := by decide +kernel

/-! ### The case `c` = the publisher's own connection (`PubQ1.own`, left alternative) on a history -/

/-- the publisher receives its own messages: `p` (connection 2, MQTT 5, Receive Maximum 5) subscribes `a` at QoS 1 and
    publishes `01` (op 2) and `02` (op 4) at QoS 1, a PINGREQ in between -/
def h12HistoryOwn : List Op :=
  [.connect 2 { ver := 5, id := [112], rm := some 5 },
   .recv 2 (.subscribe 1 0 [{ filter := [97], qos := 1 }]),
   .recv 2 (.publish 1 false false 1 [97] [1] 0 none),
   .recv 2 .pingreq,
   .recv 2 (.publish 1 false false 2 [97] [2] 0 none)]

theorem h12o_seq : SeqOps h12HistoryOwn ∧ OpsFresh (init {}) h12HistoryOwn := by decide

theorem h12o_noLocal (n : Nat)
    (hd : ((assocGet (subscribers (run (init {}) (h12HistoryOwn.take n)).topics [97]).subs [112]).map (·.noLocal)) =
      some false) :
    ¬ ∃ sub, MatchingSub (run (init {}) (h12HistoryOwn.take n)).topics [97] [112] sub ∧ sub.noLocal = true := by
  intro hex
  have hx := (O12.reach_take (ReachSeq.init (caps := {})) h12HistoryOwn h12o_seq.1 h12o_seq.2 n).inv.1.idx
  obtain ⟨sub', hg, hn'⟩ := (hasSub_subscribers_idx mergeOr_noLocal _ hx [97] (by decide) (by decide) [112]).mpr hex
  rw [hg] at hd
  simp only [Option.map_some] at hd
  have hn'' : sub'.noLocal = true := hn'
  rw [hn''] at hd
  cases hd

/-- `C12_history_order_qos1_partial` applies with `c` = the publisher's own connection (client object 1, connection 2):
    the publisher holds no deferred message (`Calm`), none of its subscriptions has No Local, send quota left.  `01`
    before `02`, each written once by its op -/
theorem h12o_order : ∃ m₁ m₂ A B C,
    (O12q.FirstTx m₁ [1] [97] [112] 1 ∧ m₁.qos = 1) ∧ (O12q.FirstTx m₂ [2] [97] [112] 1 ∧ m₂.qos = 1) ∧
    O12.pubsTo 2 (O12.flat (init {}) h12HistoryOwn) = A ++ m₁ :: B ++ m₂ :: C := by
  obtain ⟨m₁, m₂, A, B, C, _, _, c1, c2, e⟩ := C12_history_order_qos1_partial {} (init {}) ReachSeq.init h12HistoryOwn
    h12o_seq.1 h12o_seq.2 2 2 2 4 1 1 1 2 [97] false false false false [1] [2] 0 0 rfl rfl (by decide)
    (Q1.noAliases_of_all (by decide +kernel)) (Q1.noAliases_of_all (by decide +kernel))
    ⟨by decide, ⟨by decide, by decide, by decide, by decide, by decide, by decide, by decide, by decide, by decide,
      by decide, by decide⟩, by decide, Or.inl (Or.inl (by decide))⟩
    ⟨by decide, ⟨by decide, by decide, by decide, by decide, by decide, by decide, by decide, by decide, by decide,
      by decide, by decide⟩, by decide, Or.inl (Or.inl (by decide))⟩
    [112] [112] 1 1 1 2
    ⟨by decide, by decide, by decide, by decide, by decide,
      ⟨{ filter := [97], qos := 1 }, ⟨by decide, by decide⟩, by decide⟩, by decide,
      fun h => h12o_noLocal 2 (by decide) h.2, Or.inr (by decide), by decide, by decide⟩
    ⟨by decide, by decide, by decide, by decide, by decide,
      ⟨{ filter := [97], qos := 1 }, ⟨by decide, by decide⟩, by decide⟩, by decide,
      fun h => h12o_noLocal 4 (by decide) h.2, Or.inr (by decide), by decide, by decide⟩
  exact ⟨m₁, m₂, A, B, C, c1, c2, e⟩

/-! ### QoS 2: the routing happens at the PUBLISH op (`C08_accepted_qos2_shape`), not at PUBREL -/

/-- **the QoS 2 PUBLISH op, decomposed.**  For an accepted QoS 2 publish (`AcceptedQ2`, `Props/C08.lean`) on the
    connection of client object `i`, with `fs = pubrecFiled (retainedState s m) i id` (retained store updated, the PUBREC
    record filed with the publisher) and `m = inboundMsg …`: the op's output is
    `[PUBREC 0x00 to the publisher] ++ (publishToSubscribers fs m).2 ++ tail`, `tail` — at most two outputs — writing
    only to the PUBLISHER's own connection; every other connection `c` sees, as PUBLISH packets of the op, exactly those
    of the ONE routing call. -/
theorem C12_publish_qos2_op_outputs (s : Server) (conn i : Nat) (dup retain : Bool) (id : Nat)
    (topic payload : Str) (me : Nat) (hc : assocGet s.connOf conn = some i) (h : AcceptedQ2 s i id topic) :
    (∃ tail, (step s (.recv conn (.publish 2 dup retain id topic payload me none))).2 =
        [Out.wrote (getObj s i).conn (.ack (getObj s i).ver 5 id 0)] ++
          (publishToSubscribers (pubrecFiled (retainedState s (inboundMsg s i 2 dup retain id topic payload me)) i id)
            (inboundMsg s i 2 dup retain id topic payload me)).2 ++ tail ∧
      tail.length ≤ 2 ∧ ∀ x ∈ tail, ∃ pk, x = Out.wrote (getObj s i).conn pk) ∧
    ∀ c, (getObj s i).conn ≠ c →
      O12.pubsTo c (step s (.recv conn (.publish 2 dup retain id topic payload me none))).2 =
        O12.pubsTo c (publishToSubscribers
          (pubrecFiled (retainedState s (inboundMsg s i 2 dup retain id topic payload me)) i id)
          (inboundMsg s i 2 dup retain id topic payload me)).2 :=
  ⟨O12q.step_recv_publish_q2_outputs s conn i dup retain id topic payload me hc h,
   fun c hne => O12q.pubsTo_step_q2 s conn i dup retain id topic payload me hc h c hne⟩

/-- **C12 on histories, publishes of QoS 2 — restricted (hence `_partial`).**  As `C12_history_order_qos1_partial`, for
    two accepted QoS 2 PUBLISH packets (`O12q.PubQ2`: gates `AcceptedQ2`) of one connection `p` on one topic `t` —
    whatever happens to the two inbound exchanges in between (PUBREL or not) —: each publishing op (the PUBLISH itself)
    writes the receiver `c` EXACTLY ONE PUBLISH, the copy of its message, a first transmission (`dup = false`) of
    QoS 1 or 2 (`O12q.FirstTx … 2`), and `m₁` precedes `m₂` on `c`'s stream.
    Restrictions and the FULL statement: as for `C12_history_order_qos1_partial`, and additionally `c` must not be the
    publisher's own connection (`PubQ2.other`): the routing state holds the PUBREC record in the PUBLISHER's in-flight
    list, so for a publisher receiving its own message the immediacy hypotheses (in-flight limit, next packet
    identifier) would have to be stated on that state — not done. -/
theorem C12_history_order_qos2_partial (caps : Caps) (s : Server) (hr : ReachSeq caps s) (ops : List Op) (hseq : SeqOps ops)
    (hf : OpsFresh s ops) (p c i j k₁ k₂ id₁ id₂ : Nat) (t : Str) (d₁ r₁ d₂ r₂ : Bool) (pay₁ pay₂ : Str) (me₁ me₂ : Nat)
    (hi : ops[i]? = some (.recv p (.publish 2 d₁ r₁ id₁ t pay₁ me₁ none)))
    (hj : ops[j]? = some (.recv p (.publish 2 d₂ r₂ id₂ t pay₂ me₂ none))) (hij : i < j)
    (n₁ : Q1.NoAliases (run s (ops.take i))) (n₂ : Q1.NoAliases (run s (ops.take j)))
    (g₁ : O12q.PubQ2 (run s (ops.take i)) p k₁ c id₁ t) (g₂ : O12q.PubQ2 (run s (ops.take j)) p k₂ c id₂ t)
    (cid₁ cid₂ : Str) (o₁ o₂ pid₁ pid₂ : Nat)
    (e₁ : O12q.RecvImm (run s (ops.take i)) (inboundMsg (run s (ops.take i)) k₁ 2 d₁ r₁ id₁ t pay₁ me₁) c cid₁ o₁ pid₁)
    (e₂ : O12q.RecvImm (run s (ops.take j)) (inboundMsg (run s (ops.take j)) k₂ 2 d₂ r₂ id₂ t pay₂ me₂) c cid₂ o₂ pid₂) :
    ∃ m₁ m₂ A B C,
      O12.pubsTo c (step (run s (ops.take i)) (.recv p (.publish 2 d₁ r₁ id₁ t pay₁ me₁ none))).2 = [m₁] ∧
      O12.pubsTo c (step (run s (ops.take j)) (.recv p (.publish 2 d₂ r₂ id₂ t pay₂ me₂ none))).2 = [m₂] ∧
      O12q.FirstTx m₁ pay₁ t (getObj (run s (ops.take i)) k₁).id 2 ∧
      O12q.FirstTx m₂ pay₂ t (getObj (run s (ops.take j)) k₂).id 2 ∧
      O12.pubsTo c (O12.flat s ops) = A ++ m₁ :: B ++ m₂ :: C :=
  O12.history_order caps s hr ops hseq hf i j _ _ c hi hj hij
    (fun r => O12q.publish_q2_first_tx _ r.inv.1 r.inv.2.1 r.inv.2.2.1 n₁ p k₁ c id₁ t g₁ d₁ r₁ pay₁ me₁ cid₁ o₁ pid₁ e₁)
    (fun r => O12q.publish_q2_first_tx _ r.inv.1 r.inv.2.1 r.inv.2.2.1 n₂ p k₂ c id₂ t g₂ d₂ r₂ pay₂ me₂ cid₂ o₂ pid₂ e₂)

/-- `s` (connection 1, MQTT 3.1.1) subscribes `a` at QoS 2; `p` (connection 2) publishes `01` at QoS 2 (op 3) and
    completes the exchange (PUBREL); `s` answers PUBREC; `p` publishes `02` at QoS 2 (op 6) -/
def h12HistoryQ2 : List Op :=
  [.connect 1 { ver := 4, id := [115] },
   .recv 1 (.subscribe 1 0 [{ filter := [97], qos := 2 }]),
   .connect 2 { ver := 4, id := [112] },
   .recv 2 (.publish 2 false false 1 [97] [1] 0 none),
   .recv 2 (.pubrel 1 0),
   .recv 1 (.pubrec 1 0),
   .recv 2 (.publish 2 false false 2 [97] [2] 0 none)]

/-- `C12_history_order_qos2_partial` applies to `p`'s two publishes (ops 3 and 6, identifiers 1 and 2) and the receiver
    `s` (connection 1, client object 1, packet identifiers 1 and 2 available): `01` before `02` on connection 1, each
    written once by its PUBLISH op, dup 0 -/
theorem h12q2_order : ∃ m₁ m₂ A B C, O12q.FirstTx m₁ [1] [97] [112] 2 ∧ O12q.FirstTx m₂ [2] [97] [112] 2 ∧
    O12.pubsTo 1 (O12.flat (init {}) h12HistoryQ2) = A ++ m₁ :: B ++ m₂ :: C := by
  obtain ⟨m₁, m₂, A, B, C, _, _, c1, c2, e⟩ := C12_history_order_qos2_partial {} (init {}) ReachSeq.init h12HistoryQ2
    (by decide +kernel) (by decide +kernel) 2 1 3 6 2 2 1 2 [97] false false false false [1] [2] 0 0 rfl rfl (by decide)
    (Q1.noAliases_of_all (by decide +kernel)) (Q1.noAliases_of_all (by decide +kernel))
    ⟨by decide, ⟨by decide, by decide, by decide, by decide, by decide, by decide, by decide, by decide, by decide,
      by decide, by decide⟩, by decide, by decide⟩
    ⟨by decide, ⟨by decide, by decide, by decide, by decide, by decide, by decide, by decide, by decide, by decide,
      by decide, by decide⟩, by decide, by decide⟩
    [115] [115] 1 1 1 2
    ⟨by decide, by decide, by decide, by decide, by decide,
      ⟨{ filter := [97], qos := 2 }, ⟨by decide, by decide⟩, by decide⟩, by decide,
      fun h => absurd h.1 (by decide), Or.inl (by decide), by decide, by decide⟩
    ⟨by decide, by decide, by decide, by decide, by decide,
      ⟨{ filter := [97], qos := 2 }, ⟨by decide, by decide⟩, by decide⟩, by decide,
      fun h => absurd h.1 (by decide), Or.inl (by decide), by decide, by decide⟩
  exact ⟨m₁, m₂, A, B, C, c1, c2, e⟩

example : (O12.pubsTo 1 (O12.flat (init {}) h12HistoryQ2)).map (fun m => (m.origin, m.payload, m.qos, m.id, m.dup)) =
    [([112], [1], 2, 1, false), ([112], [2], 2, 2, false)] := by decide +kernel

end Mochi.Broker

#print axioms Mochi.Broker.C12_publish_qos1_op_outputs
#print axioms Mochi.Broker.C12_history_order_qos1_partial
#print axioms Mochi.Broker.h12q_order
#print axioms Mochi.Broker.C12_publish_qos2_op_outputs
#print axioms Mochi.Broker.C12_history_order_qos2_partial
#print axioms Mochi.Broker.h12q2_order
#print axioms Mochi.Broker.h12o_order
