import Mochi.Lemmas.Locks
import Mochi.Gen.LockGraph
/-!
# C32 — The broker never deadlocks (lock part)

`Mochi.Gen.lockFuncs` is regenerated from the broker's source on every check (tie A, `go/cmd/vextract`):
one program over lock events per function, method and function literal that touches a
`sync.Mutex`/`sync.RWMutex` directly or through static calls inside the module.

* `C32_no_reentrant` / `C32_lock_order`: the two executable checkers accept the generated data (kernel
  evaluation, `decide +kernel`).  When the source contains a nested acquisition of one lock — e.g. a
  method that holds `RLock` and calls a method of the same receiver that takes `RLock` again — the first
  obligation evaluates to `false` and this module stops building; `vextract -report` names the site.
* `C32_no_self_deadlock`, `C32_no_wait_cycle`: the semantic statements, obtained from the soundness
  theorems of `Mochi/Lemmas/Locks.lean` (proved for every function list, by induction on executions).

What is *not* covered (named in DESIGN.md §7 C32): blocking on channels, `WaitGroup`, `sync.Once/Cond`,
`net.Conn` writes performed under the client mutex, user hooks and every other interface call or call of
a function value (`callUnknown`: assumed to take no broker lock), panics; aliasing is by name (see the
header of `Mochi/Model/Locks.lean`).
-/
namespace Mochi.Locks
open Mochi.Gen

/-- no function holds a lock and acquires the same lock of the same object again, directly or through
calls of any depth (in particular no read lock is taken twice) -/
theorem C32_no_reentrant : noSelfNesting lockFuncs = true := by decide +kernel

/-- the "holds L1 while acquiring L2" relation on lock classes goes up a rank function: it is acyclic -/
theorem C32_lock_order : lockOrderAcyclic lockFuncs = true := by decide +kernel

/-- in every reachable state of any number of threads running the broker's lock programs, no thread is
about to request a lock it already holds -/
theorem C32_no_self_deadlock :
    ∀ cfg, Reachable lockFuncs cfg → ∀ t ∈ cfg, ¬ SelfDeadlockStep t :=
  noSelfNesting_sound lockFuncs C32_no_reentrant

/-- no reachable state contains a cycle of threads each waiting for a lock held by the next -/
theorem C32_no_wait_cycle : ∀ cfg, Reachable lockFuncs cfg → ¬ WaitCycle cfg :=
  lockOrderAcyclic_sound lockFuncs C32_lock_order

/-! ## Non-vacuity: the checkers reject the defect pattern and accept its repair -/

/-- class 0: `Inflight.RWMutex` -/
private def inflightLock : LockRef := ⟨[], 0⟩

/-- `GetAll` takes the read lock of its receiver -/
private def getAll : Func :=
  { id := 0, name := "(*Inflight).GetAll", acq := [inflightLock],
    body := .seq (.acquire inflightLock .R) (.deferRelease inflightLock .R) }

/-- `NextImmediate` holds the read lock and calls `GetAll` on the same receiver -/
private def nextImmediateBad : Func :=
  { id := 1, name := "(*Inflight).NextImmediate", acq := [inflightLock],
    body := .seq (.acquire inflightLock .R) (.seq (.deferRelease inflightLock .R) (.call 0 RecvRel.same)) }

/-- repaired: the filtering is done by an unexported helper that takes no lock -/
private def getAllUnlocked : Func := { id := 2, name := "(*Inflight).getAll", acq := [], body := .skip }
private def nextImmediateGood : Func :=
  { id := 1, name := "(*Inflight).NextImmediate", acq := [inflightLock],
    body := .seq (.acquire inflightLock .R) (.seq (.deferRelease inflightLock .R) (.call 2 RecvRel.same)) }

example : noSelfNesting [getAll, nextImmediateBad] = false := by decide +kernel
example : lockOrderAcyclic [getAll, nextImmediateBad] = false := by decide +kernel
example : noSelfNesting [getAll, getAllUnlocked, nextImmediateGood] = true := by decide +kernel
example : lockOrderAcyclic [getAll, getAllUnlocked, nextImmediateGood] = true := by decide +kernel

/-- the same call on *another* object of the class … -/
private def nextImmediateOther : Func := {
  id := 1, name := "(*Inflight).NextImmediate",
  acq := [inflightLock, ⟨[.other], 0⟩],
  body := .seq (.acquire inflightLock .R) (.seq (.deferRelease inflightLock .R) (.call 0 [.other])) }

/-- … is not a nested acquisition of one lock … -/
example : noSelfNesting [getAll, nextImmediateOther] = true := by decide +kernel
/-- … but it is an edge from the class to itself, which the order check refuses -/
example : lockOrderAcyclic [getAll, nextImmediateOther] = false := by decide +kernel

/-- a lock taken in one branch and a call in the other are not nested; an explicit unlock ends the hold -/
private def branches : Func := {
  id := 3, name := "branches", acq := [inflightLock],
  body := .seq (.alt (.seq (.acquire inflightLock .W) (.release inflightLock .W)) (.call 0 []))
               (.seq (.acquire inflightLock .R) (.seq (.release inflightLock .R) (.call 0 []))) }
example : noSelfNesting [getAll, branches] = true := by decide +kernel

/-- fail closed: a wrong summary, an `unknown` event, a return with a lock that no defer releases -/
example : noSelfNesting [getAll, { nextImmediateGood with acq := [] }] = false := by decide +kernel
example : noSelfNesting [{ id := 0, name := "f", acq := [], body := .unknown "x.mu.TryLock()" }] = false := by decide +kernel
private def earlyReturn : Func := {
  id := 0, name := "f", acq := [inflightLock],
  body := .seq (.acquire inflightLock .W) (.seq (.alt .ret .skip) (.release inflightLock .W)) }
example : noSelfNesting [earlyReturn] = false := by decide +kernel

/-- the semantics is not empty: the bad pair really produces a thread that requests the lock it holds -/
example : ∃ cfg, Reachable [getAll, nextImmediateBad] cfg ∧ ∃ t ∈ cfg, SelfDeadlockStep t := by
  refine ⟨[⟨[.acq ⟨[], 0⟩ .R], [.acq ⟨[], 0⟩ .R]⟩], ?_, _, List.mem_singleton.2 rfl, ⟨[], 0⟩, .R, [], rfl, ?_⟩
  · refine .step (cfg := [⟨[], [.acq ⟨[], 0⟩ .R, .acq ⟨[], 0⟩ .R]⟩]) (.init ?_)
      (Step.acq (pre := []) (post := []) (d := []) (fun u hu => by cases hu))
    intro t ht
    rw [List.mem_singleton.1 ht]
    refine ⟨rfl, 1, [], .call (f := nextImmediateBad) rfl ?_⟩
    -- acquire; (deferRelease; call GetAll → its acquire)
    have h1 : Pre [getAll, nextImmediateBad] [] (.call 0 RecvRel.same) [.acq ⟨[], 0⟩ .R] :=
      .call (f := getAll) rfl (.seqL (.full .acquire))
    exact .seqR (t1 := [.acq ⟨[], 0⟩ .R]) (t2 := [.acq ⟨[], 0⟩ .R]) .acquire
      (.seqR (t1 := []) (d1 := [⟨[], 0⟩]) .deferRelease h1)
  · simp [Thread.held, heldAfter]

end Mochi.Locks
