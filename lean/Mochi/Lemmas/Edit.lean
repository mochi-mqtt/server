import Mochi.Lemmas.Invariant
/-!
# Every mutator of the topic index rewrites one particle

`Edit`: the address of a particle, whether the particles along the address are created first (`set`) or the particle is
only sought (`seek`), the rewriting of the particle, whether `trim` follows, and what the mutator reports.  The five
mutators of `Model/Topics.lean` are unfolded once each (`subscribe_eq` … `retainMessage_eq`, together `applyOp_eq`).
What a rewriting does is proved once, about `Edit.run`:
* `Edit.run_ind` — what `setPath`, `putNode`, `trim` preserve (prefix closure, distinct addresses);
* `Edit.forall_mem` — properties of single particles (distinct keys);
* `Edit.look`, `Edit.look_upd` — lookups `(getNode ns q).bind π` through a projection `π` that sees nothing in a particle that
  holds nothing (`DeadNone`): `setPath` and `trim` are invisible to them, `putNode` is a point update;
* (`Edit.cnt_run`, in `CountersIndex.lean` — the number of entries).
What an operation does to the retained map is `retOp`; `retOp_ind`, `runOps_retained_ind`: only a retained publish changes it.
-/
namespace Mochi.Topics

/-! ### particles that hold nothing; lookups that do not see them -/

/-- a projection of a particle that sees nothing in a particle that holds nothing -/
def DeadNone {β : Type} (π : Node → Option β) : Prop := ∀ n, dead n → π n = none

/-- the retained path of a particle, `none` when unset -/
def pRet (n : Node) : Option Str := if n.retainPath = [] then none else some n.retainPath

theorem dead_fresh (q : Path) : dead { path := q } := ⟨rfl, rfl, rfl, rfl⟩

theorem deadNone_subs (c : Str) : DeadNone (fun n => assocGet n.subs c) := by
  intro n h; simp only [h.2.1]; rfl

theorem deadNone_shared (g c : Str) : DeadNone (fun n => sharedGet n.shared g c) := by
  intro n h; exact sharedGet_of_sharedLen _ h.2.2.1 g c

theorem deadNone_inline (i : Nat) : DeadNone (fun n => assocGet n.inline i) := by
  intro n h; simp only [h.2.2.2]; rfl

theorem deadNone_pRet : DeadNone pRet := by
  intro n h; simp [pRet, h.1]

theorem look_trim {β : Type} (π : Node → Option β) (hπ : DeadNone π) (ns : List Node) (p : Path)
    (fuel : Nat) (q : Path) : (getNode (trim ns p fuel) q).bind π = (getNode ns q).bind π := by
  rcases getNode_trim ns p fuel q with h | ⟨h, n, hn, hd⟩
  · rw [h]
  · rw [h, hn]; simp [hπ n hd]

theorem look_setPath {β : Type} (π : Node → Option β) (hπ : DeadNone π) (ns : List Node) (p q : Path) :
    (getNode (setPath ns p) q).bind π = (getNode ns q).bind π := by
  rw [getNode_setPath]
  cases hg : getNode ns q with
  | some n => simp
  | none =>
    split
    · simp [hπ _ (dead_fresh q)]
    · simp

/-- the lookups of `ns'` are those of `ns`, except that the particle at `p` is `n'` -/
def PointUpd (ns ns' : List Node) (p : Path) (n' : Node) : Prop :=
  ∀ (β : Type) (π : Node → Option β), DeadNone π → ∀ q,
    (getNode ns' q).bind π = if q = p then π n' else (getNode ns q).bind π

theorem pointUpd_put (ns : List Node) (p : Path) (n n' : Node) (hn : getNode ns p = some n)
    (hp : n'.path = p) : PointUpd ns (putNode ns n') p n' := by
  intro β π _ q
  subst hp
  by_cases hq : q = n'.path
  · subst hq
    rw [getNode_putNode_eq ns n' n hn]; simp
  · rw [getNode_putNode_ne ns n' q hq]; simp [hq]

theorem pointUpd_trim (ns ns' : List Node) (p : Path) (n' : Node) (h : PointUpd ns ns' p n')
    (p' : Path) (fuel : Nat) : PointUpd ns (trim ns' p' fuel) p n' := by
  intro β π hπ q
  rw [look_trim π hπ, h _ π hπ q]

theorem mem_setPath (ns : List Node) (p : Path) (m : Node) (h : m ∈ setPath ns p) :
    m ∈ ns ∨ ∃ q, m = { path := q } := by
  revert m
  refine setPath_ind (Q := fun acc => ∀ m ∈ acc, m ∈ ns ∨ ∃ q, m = { path := q }) ns p (fun _ h => Or.inl h)
    fun acc q ha _ _ m hm => ?_
  rcases List.mem_append.mp hm with hm | hm
  · exact ha m hm
  · exact Or.inr ⟨q, List.mem_singleton.mp hm⟩

/-! ### where a filter is stored -/

/-- is the filter a `$share/…` filter as far as the index is concerned (case-insensitive first level) -/
def shareKey (f : Str) : Bool := isShare (isolate (splitLevels f) 0).1
/-- address of the particle a plain filter is stored at -/
def plainPath (f : Str) : Path := pathFrom (splitLevels f) 0
/-- address of the particle a shared filter is stored at -/
def sharePath (f : Str) : Path := pathFrom (splitLevels f) 2
/-- share group of a shared filter -/
def shareGroup (f : Str) : Str := (isolate (splitLevels f) 1).1
/-- a shared filter without a topic part (`$share`, `$share/group`): `Unsubscribe` leaves the index alone -/
def shareBare (f : Str) : Bool := shareKey f && !(isolate (splitLevels f) 1).2

theorem shareBare_shareKey {f : Str} (h : shareBare f = true) : shareKey f = true := by
  unfold shareBare at h
  cases hs : shareKey f
  · rw [hs] at h; cases h
  · rfl

theorem shareBare_of_plain {f : Str} (h : shareKey f = false) : shareBare f = false := by
  unfold shareBare; rw [h]; rfl

/-! ### rewritings -/

/-- what a mutator does to the particle list: it rewrites the particle at `p` -/
structure Edit where
  p : Path
  /-- `set` (create the particles along `p` first) or `seek` (nothing happens when `p` is missing) -/
  create : Bool
  f : Node → Node
  /-- `trim` afterwards?  (asked of the rewritten particle) -/
  tr : Node → Bool := fun _ => false
  /-- what the mutator reports (asked of the particle as found) -/
  q : Node → Bool := fun _ => false
  /-- the rewriting keeps the particle's address -/
  keeps : ∀ n, (f n).path = n.path := by intro _; rfl

namespace Edit

/-- the particle list the rewriting works on -/
def base (e : Edit) (ns : List Node) : List Node := if e.create then setPath ns e.p else ns

def found (e : Edit) (ns : List Node) : Option Node :=
  if e.create then getNode (setPath ns e.p) e.p else seek ns e.p

def run (e : Edit) (ns : List Node) : List Node :=
  match e.found ns with
  | none => ns
  | some n =>
    if e.tr (e.f n) then trim (putNode (e.base ns) (e.f n)) e.p e.p.length else putNode (e.base ns) (e.f n)

def apply (e : Edit) (x : Index) : Index × Bool :=
  ({ x with nodes := e.run x.nodes }, (e.found x.nodes).any e.q)

theorem apply_nodes (e : Edit) (x : Index) : (e.apply x).1.nodes = e.run x.nodes := rfl

theorem apply_retained (e : Edit) (x : Index) : (e.apply x).1.retained = x.retained := rfl

theorem apply_snd (e : Edit) (x : Index) : (e.apply x).2 = (e.found x.nodes).any e.q := rfl

end Edit

/-! ### the five mutators, unfolded once -/

def subShared (c : Str) (s : Sub) : Edit :=
  { p := sharePath s.filter, create := true,
    f := fun n => { n with shared := sharedAdd n.shared (shareGroup s.filter) c s },
    q := fun n => !(sharedGet n.shared (shareGroup s.filter) c).isSome }

def subPlain (c : Str) (s : Sub) : Edit :=
  { p := plainPath s.filter, create := true, f := fun n => { n with subs := assocSet n.subs c s },
    q := fun n => !(assocGet n.subs c).isSome }

def subEdit (c : Str) (s : Sub) : Edit := if shareKey s.filter = true then subShared c s else subPlain c s

theorem subEdit_share {s : Sub} (h : shareKey s.filter = true) (c : Str) : subEdit c s = subShared c s := if_pos h

theorem subEdit_plain {s : Sub} (h : ¬ shareKey s.filter = true) (c : Str) : subEdit c s = subPlain c s := if_neg h

def unsubShared (f c : Str) : Edit :=
  { p := sharePath f, create := false, f := fun n => { n with shared := sharedDel n.shared (shareGroup f) c },
    tr := fun _ => true, q := fun n => (sharedGet n.shared (shareGroup f) c).isSome }

def unsubPlain (f c : Str) : Edit :=
  { p := plainPath f, create := false, f := fun n => { n with subs := assocDel n.subs c },
    tr := fun _ => true, q := fun n => (assocGet n.subs c).isSome }

def unsubEdit (f c : Str) : Edit := if shareKey f = true then unsubShared f c else unsubPlain f c

theorem unsubEdit_share {f : Str} (h : shareKey f = true) (c : Str) : unsubEdit f c = unsubShared f c := if_pos h

theorem unsubEdit_plain {f : Str} (h : ¬ shareKey f = true) (c : Str) : unsubEdit f c = unsubPlain f c := if_neg h

def inlSubEdit (id : Nat) (s : Sub) : Edit :=
  { p := plainPath s.filter, create := true, f := fun n => { n with inline := assocSet n.inline id s },
    q := fun n => !(assocGet n.inline id).isSome }

def inlUnsubEdit (id : Nat) (f : Str) : Edit :=
  { p := plainPath f, create := false, f := fun n => { n with inline := assocDel n.inline id },
    tr := fun n => n.inline.isEmpty, q := fun n => (assocGet n.inline id).isSome }

def retEdit (t p : Str) : Edit :=
  { p := plainPath t, create := true, f := fun n => { n with retainPath := if p.length > 0 then t else [] },
    tr := fun _ => !decide (p.length > 0) }

theorem Edit.apply_create (e : Edit) (h : e.create = true) (x : Index) :
    e.apply x = match getNode (setPath x.nodes e.p) e.p with
      | none => (x, false)
      | some n =>
        ({ x with nodes := if e.tr (e.f n) = true then trim (putNode (setPath x.nodes e.p) (e.f n)) e.p e.p.length
                           else putNode (setPath x.nodes e.p) (e.f n) }, e.q n) := by
  unfold Edit.apply Edit.run Edit.found Edit.base
  simp only [h, if_true]
  cases getNode (setPath x.nodes e.p) e.p <;> rfl

theorem Edit.apply_seek (e : Edit) (h : e.create = false) (x : Index) :
    e.apply x = match seek x.nodes e.p with
      | none => (x, false)
      | some n =>
        ({ x with nodes := if e.tr (e.f n) = true then trim (putNode x.nodes (e.f n)) e.p e.p.length
                           else putNode x.nodes (e.f n) }, e.q n) := by
  unfold Edit.apply Edit.run Edit.found Edit.base
  simp only [h, Bool.false_eq_true, if_false]
  cases seek x.nodes e.p <;> rfl

theorem subscribe_eq (x : Index) (c : Str) (s : Sub) : subscribe x c s = (subEdit c s).apply x := by
  unfold subscribe
  by_cases hs : shareKey s.filter = true
  · have hs' : isShare (isolate (splitLevels s.filter) 0).1 = true := hs
    rw [subEdit_share hs, Edit.apply_create _ rfl]
    simp only [hs', if_true, subShared, sharePath, shareGroup]
    cases getNode (setPath x.nodes (pathFrom (splitLevels s.filter) 2)) (pathFrom (splitLevels s.filter) 2) <;> rfl
  · have hs' : isShare (isolate (splitLevels s.filter) 0).1 = false := by simpa [shareKey] using hs
    rw [subEdit_plain hs, Edit.apply_create _ rfl]
    simp only [hs', Bool.false_eq_true, if_false, subPlain, plainPath]
    cases getNode (setPath x.nodes (pathFrom (splitLevels s.filter) 0)) (pathFrom (splitLevels s.filter) 0) <;> rfl

theorem unsubscribe_eq (x : Index) (f c : Str) :
    unsubscribe x f c = if shareBare f = true then (x, false) else (unsubEdit f c).apply x := by
  unfold unsubscribe
  by_cases hb : shareBare f = true
  · have hb' : (isShare (isolate (splitLevels f) 0).1 && !(isolate (splitLevels f) 1).2) = true := hb
    simp only [hb, hb', if_true]
  · have hb' : (isShare (isolate (splitLevels f) 0).1 && !(isolate (splitLevels f) 1).2) = false := by
      simpa [shareBare, shareKey] using hb
    rw [if_neg hb]
    by_cases hs : shareKey f = true
    · have hs' : isShare (isolate (splitLevels f) 0).1 = true := hs
      rw [unsubEdit_share hs, Edit.apply_seek _ rfl]
      simp only [hb', Bool.false_eq_true, if_false]
      simp only [hs', if_true, unsubShared, sharePath, shareGroup]
      cases seek x.nodes (pathFrom (splitLevels f) 2) <;> rfl
    · have hs' : isShare (isolate (splitLevels f) 0).1 = false := by simpa [shareKey] using hs
      rw [unsubEdit_plain hs, Edit.apply_seek _ rfl]
      simp only [hb', Bool.false_eq_true, if_false]
      simp only [hs', Bool.false_eq_true, if_false, unsubPlain, plainPath]
      cases seek x.nodes (pathFrom (splitLevels f) 0) <;> rfl

theorem inlineSubscribe_eq (x : Index) (id : Nat) (s : Sub) :
    inlineSubscribe x id s = (inlSubEdit id s).apply x := by
  unfold inlineSubscribe
  rw [Edit.apply_create _ rfl]
  cases getNode (setPath x.nodes (pathFrom (splitLevels s.filter) 0)) (pathFrom (splitLevels s.filter) 0) <;> rfl

theorem inlineUnsubscribe_eq (x : Index) (id : Nat) (f : Str) :
    inlineUnsubscribe x id f = (inlUnsubEdit id f).apply x := by
  unfold inlineUnsubscribe
  rw [Edit.apply_seek _ rfl]
  cases seek x.nodes (pathFrom (splitLevels f) 0) <;> rfl

/-- what an operation does to the retained map -/
def retOp (r : List (Str × Retained)) : IOp → List (Str × Retained)
  | .retain t p fl => if p.length > 0 then assocSet r t { topic := t, payload := p, retain := fl } else assocDel r t
  | _ => r

theorem retOp_ind {P : List (Str × Retained) → Prop} (m : List (Str × Retained)) (op : IOp) (h : P m)
    (hset : ∀ t p fl, op = .retain t p fl → P (assocSet m t { topic := t, payload := p, retain := fl }))
    (hdel : ∀ t p fl, op = .retain t p fl → P (assocDel m t)) : P (retOp m op) := by
  cases op with
  | retain t p fl =>
    show P (if p.length > 0 then assocSet m t { topic := t, payload := p, retain := fl } else assocDel m t)
    by_cases hp : p.length > 0
    · rw [if_pos hp]; exact hset t p fl rfl
    · rw [if_neg hp]; exact hdel t p fl rfl
  | _ => exact h

/-- every record is stored under its own topic -/
def KeysOK (m : List (Str × Retained)) : Prop := ∀ t r, assocGet m t = some r → r.topic = t

theorem keysOK_set {m : List (Str × Retained)} (h : KeysOK m) (t p : Str) (fl : Bool) :
    KeysOK (assocSet m t { topic := t, payload := p, retain := fl }) := by
  intro t' r hr
  rw [assocGet_assocSet] at hr
  split at hr
  · rename_i e; cases hr; exact e.symm
  · exact h t' r hr

theorem keysOK_del {m : List (Str × Retained)} (h : KeysOK m) (t : Str) : KeysOK (assocDel m t) := by
  intro t' r hr
  rw [assocGet_assocDel] at hr
  split at hr
  · cases hr
  · exact h t' r hr

theorem keysOK_retOp {m : List (Str × Retained)} (h : KeysOK m) (op : IOp) : KeysOK (retOp m op) :=
  retOp_ind m op h (fun t p fl _ => keysOK_set h t p fl) (fun t _ _ _ => keysOK_del h t)

theorem Edit.found_create (e : Edit) (h : e.create = true) (hp : e.p ≠ []) (ns : List Node) :
    ∃ n, e.found ns = some n := by
  unfold Edit.found
  rw [if_pos h]
  exact getNode_setPath_self ns e.p hp

theorem retainMessage_eq (x : Index) (t p : Str) (fl : Bool) :
    retainMessage x t p fl =
      ({ nodes := (retEdit t p).run x.nodes, retained := retOp x.retained (.retain t p fl) },
       if p.length > 0 then 1 else match assocGet x.retained t with
         | some r => if r.payload.length > 0 && r.retain then -1 else 0
         | none => 0) := by
  obtain ⟨n, hn⟩ := (retEdit t p).found_create rfl (pathFrom_ne_nil _ _) x.nodes
  have hn' : getNode (setPath x.nodes (pathFrom (splitLevels t) 0)) (pathFrom (splitLevels t) 0) = some n := hn
  unfold retainMessage Edit.run retOp
  simp only [hn, hn']
  by_cases hp : p.length > 0
  · simp only [hp, if_true, retEdit, Edit.base, plainPath, decide_true, Bool.not_true, Bool.false_eq_true, if_false]
  · simp only [hp, if_false, retEdit, Edit.base, plainPath, decide_false, Bool.not_false, if_true]
    rfl

theorem retainMessage_nodes (x : Index) (t p : Str) (fl : Bool) :
    (retainMessage x t p fl).1.nodes = (retEdit t p).run x.nodes := by
  rw [retainMessage_eq]

/-- every operation is its rewriting of the particles and its update of the retained map -/
def editOf : IOp → Option Edit
  | .subscribe c s => some (subEdit c s)
  | .unsubscribe f c => if shareBare f = true then none else some (unsubEdit f c)
  | .inlineSubscribe id s => some (inlSubEdit id s)
  | .inlineUnsubscribe id f => some (inlUnsubEdit id f)
  | .retain t p _ => some (retEdit t p)

theorem applyOp_eq (x : Index) (op : IOp) :
    applyOp x op = { nodes := match editOf op with | none => x.nodes | some e => e.run x.nodes,
                     retained := retOp x.retained op } := by
  cases op with
  | subscribe c s => simp only [applyOp, subscribe_eq]; rfl
  | unsubscribe f c =>
    simp only [applyOp, unsubscribe_eq, editOf]
    split <;> rfl
  | inlineSubscribe id s => simp only [applyOp, inlineSubscribe_eq]; rfl
  | inlineUnsubscribe id f => simp only [applyOp, inlineUnsubscribe_eq]; rfl
  | retain t p fl => simp only [applyOp, retainMessage_eq]; rfl

/-! ### what a rewriting does, proved once -/

namespace Edit

/-- what `setPath`, `putNode` and `trim` preserve, every rewriting preserves -/
theorem run_ind {Q : List Node → Prop} (hset : ∀ ns p, Q ns → Q (setPath ns p))
    (hput : ∀ ns n, Q ns → Q (putNode ns n)) (htrim : ∀ ns p fuel, Q ns → Q (trim ns p fuel))
    (e : Edit) (ns : List Node) (h : Q ns) : Q (e.run ns) := by
  have hb : Q (e.base ns) := by
    unfold base
    split
    · exact hset _ _ h
    · exact h
  unfold run
  split
  · exact h
  · split
    · exact htrim _ _ _ (hput _ _ hb)
    · exact hput _ _ hb

theorem found_get (e : Edit) (ns : List Node) {n : Node} (h : e.found ns = some n) :
    getNode (e.base ns) e.p = some n := by
  unfold found at h
  unfold base
  cases hc : e.create
  · rw [hc] at h; exact seek_some h
  · rw [hc] at h; exact h

theorem found_eq (e : Edit) (ns : List Node) (hpc : e.create = false → PrefixClosed ns) :
    e.found ns = getNode (e.base ns) e.p := by
  unfold found base
  cases h : e.create
  · exact seek_eq_getNode ns (hpc h) e.p
  · rfl

theorem look_base (e : Edit) (ns : List Node) {β : Type} (π : Node → Option β) (hπ : DeadNone π) (q : Path) :
    (getNode (e.base ns) q).bind π = (getNode ns q).bind π := by
  unfold base
  split
  · exact look_setPath π hπ ns e.p q
  · rfl

theorem found_look (e : Edit) (ns : List Node) (hpc : e.create = false → PrefixClosed ns) {β : Type}
    (π : Node → Option β) (hπ : DeadNone π) : (e.found ns).bind π = (getNode ns e.p).bind π := by
  rw [e.found_eq ns hpc, e.look_base ns π hπ]

theorem run_of_none (e : Edit) (ns : List Node) (h : e.found ns = none) : e.run ns = ns := by
  unfold run; rw [h]

theorem pointUpd (e : Edit) (ns : List Node) {n : Node} (hn : e.found ns = some n) :
    PointUpd (e.base ns) (e.run ns) e.p (e.f n) := by
  have hg := e.found_get ns hn
  have h0 := pointUpd_put _ _ n (e.f n) hg ((e.keeps n).trans (getNode_path hg))
  unfold run
  simp only [hn]
  split
  · exact pointUpd_trim _ _ _ _ h0 _ _
  · exact h0

/-- **lookups after a rewriting**: at `p` what the rewritten particle holds, elsewhere what was there -/
theorem look (e : Edit) (ns : List Node) (hpc : e.create = false → PrefixClosed ns)
    {β : Type} (π : Node → Option β) (hπ : DeadNone π) (q : Path) :
    (getNode (e.run ns) q).bind π =
      if q = e.p then (e.found ns).bind (fun n => π (e.f n)) else (getNode ns q).bind π := by
  cases hn : e.found ns with
  | none =>
    rw [e.run_of_none ns hn]
    split
    · rename_i hq
      rw [hq, ← e.found_look ns hpc π hπ, hn]
      rfl
    · rfl
  | some n =>
    rw [e.pointUpd ns hn _ π hπ q, e.look_base ns π hπ]
    rfl

theorem look_same (e : Edit) (ns : List Node) {β : Type} (π : Node → Option β) (hπ : DeadNone π)
    (hsame : ∀ n, π (e.f n) = π n) (q : Path) : (getNode (e.run ns) q).bind π = (getNode ns q).bind π := by
  cases hn : e.found ns with
  | none => rw [e.run_of_none ns hn]
  | some n =>
    rw [e.pointUpd ns hn _ π hπ q]
    split
    · rename_i hq
      rw [hq, hsame, ← e.look_base ns π hπ, e.found_get ns hn]
      rfl
    · exact e.look_base ns π hπ q

theorem found_mem (e : Edit) (ns : List Node) {n : Node} (h : e.found ns = some n) : n ∈ e.base ns :=
  getNode_mem (e.found_get ns h)

theorem forall_found {W : Node → Prop} (e : Edit) (hfresh : ∀ q, W { path := q }) (ns : List Node)
    (h : ∀ n ∈ ns, W n) : ∀ n ∈ e.base ns, W n := by
  unfold base
  split
  · intro m hm
    rcases mem_setPath ns e.p m hm with hm | ⟨q, rfl⟩
    · exact h m hm
    · exact hfresh q
  · exact h

/-- a property of single particles that fresh particles have and the rewriting keeps -/
theorem forall_mem {W : Node → Prop} (e : Edit) (hfresh : ∀ q, W { path := q }) (hf : ∀ n, W n → W (e.f n))
    (ns : List Node) (h : ∀ n ∈ ns, W n) : ∀ n ∈ e.run ns, W n := by
  have hb := e.forall_found hfresh ns h
  unfold run
  cases hn : e.found ns with
  | none => exact h
  | some n =>
    have hp : ∀ m ∈ putNode (e.base ns) (e.f n), W m := fun m hm => by
      rcases mem_putNode _ _ m hm with rfl | hm
      · exact hf n (hb n (e.found_mem ns hn))
      · exact hb m hm
    simp only
    split
    · exact fun m hm => hp m ((trim_sublist _ _ _).subset hm)
    · exact hp

/-- **lookups after a rewriting that sets what `π` reads to `v` when `K`** (`K`: the key `π` asks for is the key the
    rewriting writes; `K := False`: the rewriting does not touch what `π` reads).  A rewriting that seeks can only delete. -/
theorem look_upd (e : Edit) (ns : List Node) (hpc : e.create = false → PrefixClosed ns)
    {β : Type} (π : Node → Option β) (hπ : DeadNone π) (K : Prop) [Decidable K] (v : Option β)
    (hv : v = none ∨ (e.create = true ∧ e.p ≠ [])) (hset : ∀ n, π (e.f n) = if K then v else π n) (q : Path) :
    (getNode (e.run ns) q).bind π = if q = e.p ∧ K then v else (getNode ns q).bind π := by
  rw [e.look ns hpc π hπ q]
  by_cases hq : q = e.p
  · rw [if_pos hq, hq]
    simp only [hset, true_and]
    by_cases hK : K
    · simp only [hK, if_true]
      rcases hv with rfl | ⟨hc, hp⟩
      · cases e.found ns <;> rfl
      · obtain ⟨n, hn⟩ := e.found_create hc hp ns
        rw [hn]; rfl
    · simp only [hK, if_false]
      exact e.found_look ns hpc π hπ
  · rw [if_neg hq, if_neg (fun h => hq h.1)]

end Edit

/-- what a mutator reports, read off the lookup before it -/
theorem Edit.any_isSome (e : Edit) (ns : List Node) (hpc : e.create = false → PrefixClosed ns) {β : Type}
    (π : Node → Option β) (hπ : DeadNone π) :
    (e.found ns).any (fun n => (π n).isSome) = ((getNode ns e.p).bind π).isSome := by
  rw [← e.found_look ns hpc π hπ]
  cases e.found ns <;> rfl


/-! ### what every operation preserves -/

theorem applyOp_nodes_ind {Q : List Node → Prop} (hset : ∀ ns p, Q ns → Q (setPath ns p))
    (hput : ∀ ns n, Q ns → Q (putNode ns n)) (htrim : ∀ ns p fuel, Q ns → Q (trim ns p fuel))
    (x : Index) (h : Q x.nodes) (op : IOp) : Q (applyOp x op).nodes := by
  rw [applyOp_eq]
  cases editOf op with
  | none => exact h
  | some e => exact e.run_ind hset hput htrim _ h

theorem runOps_nodes_ind {Q : List Node → Prop} (hset : ∀ ns p, Q ns → Q (setPath ns p))
    (hput : ∀ ns n, Q ns → Q (putNode ns n)) (htrim : ∀ ns p fuel, Q ns → Q (trim ns p fuel))
    (h0 : Q []) (ops : List IOp) : Q (runOps ops).nodes := by
  have : ∀ x : Index, Q x.nodes → Q (ops.foldl applyOp x).nodes := by
    induction ops with
    | nil => exact fun _ h => h
    | cons op rest ih => exact fun x h => ih _ (applyOp_nodes_ind hset hput htrim x h op)
  exact this {} h0

theorem prefixClosed_applyOp (x : Index) (h : PrefixClosed x.nodes) (op : IOp) :
    PrefixClosed (applyOp x op).nodes :=
  applyOp_nodes_ind (fun ns p h => prefixClosed_setPath ns h p) (fun ns n h => prefixClosed_putNode ns h n)
    (fun ns p fuel h => prefixClosed_trim ns h p fuel) x h op

theorem prefixClosed_runOps (ops : List IOp) : PrefixClosed (runOps ops).nodes :=
  runOps_nodes_ind (fun ns p h => prefixClosed_setPath ns h p) (fun ns n h => prefixClosed_putNode ns h n)
    (fun ns p fuel h => prefixClosed_trim ns h p fuel) (fun p hp => by simp [hasNode] at hp) ops

/-- only a retained publish changes the retained map: what holds of the empty map and is kept by the store and by the
    clear of every retained publish of the history holds of the retained map after the history -/
theorem runOps_retained_ind {P : List (Str × Retained) → Prop} (ops : List IOp) (h0 : P [])
    (hset : ∀ m t p fl, IOp.retain t p fl ∈ ops → P m →
      P (assocSet m t { topic := t, payload := p, retain := fl }))
    (hdel : ∀ m t p fl, IOp.retain t p fl ∈ ops → P m → P (assocDel m t)) : P (runOps ops).retained := by
  refine List.foldlRecOn ops applyOp (b := {}) (motive := fun x => P x.retained) h0 fun x hx op hop => ?_
  rw [applyOp_eq]
  exact retOp_ind _ op hx (fun t p fl e => hset _ t p fl (e ▸ hop) hx) (fun t p fl e => hdel _ t p fl (e ▸ hop) hx)

end Mochi.Topics
