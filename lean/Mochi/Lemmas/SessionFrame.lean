import Mochi.Lemmas.BrokerFrame
import Mochi.Model.Session
/-! Frame lemmas (`Lemmas/BrokerFrame.lean`) lifted from decoded `InPk`s to decoded packets of any type
(`receiveDecoded`), to the read-loop events and to whole byte chunks (`feed`): whatever bytes arrive on
the connection of client object `i`, the result is related to the start by `Frame i`. -/
namespace Mochi.Session
open Mochi.Codec Mochi.Reader Mochi.Broker Mochi.Topics

theorem failWith_frame (s : Server) (i : Nat) (code : Nat) :
    Frame i s (failWith s i code).1 (failWith s i code).2.1 :=
  iteInduction (motive := fun r : HRes => Frame i s r.1 r.2.1) (fun _ => disconnectClient_frame s i code)
    (fun _ => Frame.refl i s _)

theorem recvSecondConnect_frame (s : Server) (i : Nat) :
    Frame i s (recvSecondConnect s i).1 (recvSecondConnect s i).2.1 := by
  unfold recvSecondConnect
  dsimp only
  exact ((sendLWT_frame s i).nil _).trans (failWith_frame _ i 0x82)

theorem recvPublish_frame (s : Server) (i : Nat) (pk : Packet) :
    Frame i s (recvPublish s i pk).1 (recvPublish s i pk).2.1 := by
  unfold recvPublish
  dsimp only
  cases publishValidate s pk.fixedHeader.qos pk.packetID pk.topicName _ with
  | some _ => exact receivePacket_frame ..
  | none =>
    exact iteInduction (motive := fun r : HRes => Frame i s r.1 r.2.1) (fun _ => failWith_frame ..)
      (fun _ => receivePacket_frame ..)

theorem recvSubscribe_frame (s : Server) (i : Nat) (pk : Packet) :
    Frame i s (recvSubscribe s i pk).1 (recvSubscribe s i pk).2.1 :=
  iteInduction (motive := fun r : HRes => Frame i s r.1 r.2.1) (fun _ => failWith_frame ..)
    (fun _ => receivePacket_frame ..)

theorem recvUnsubscribe_frame (s : Server) (i : Nat) (pk : Packet) :
    Frame i s (recvUnsubscribe s i pk).1 (recvUnsubscribe s i pk).2.1 :=
  iteInduction (motive := fun r : HRes => Frame i s r.1 r.2.1) (fun _ => failWith_frame ..)
    (fun _ => receivePacket_frame ..)

theorem recvAuth_frame (s : Server) (i : Nat) (pk : Packet) :
    Frame i s (recvAuth s i pk).1 (recvAuth s i pk).2.1 :=
  iteInduction (motive := fun r : HRes => Frame i s r.1 r.2.1) (fun _ => failWith_frame ..)
    (fun _ => (nextImmediate_frame s i).nil _)

/-- `Frame` for a handler result, as one predicate (so that `split` sees a single `if`) -/
def FrameRes (i : Nat) (s : Server) (r : HRes) : Prop := Frame i s r.1 r.2.1

theorem frameRes_ite (i : Nat) (s : Server) (c : Prop) [Decidable c] {a b : HRes}
    (ha : FrameRes i s a) (hb : FrameRes i s b) : FrameRes i s (if c then a else b) := by
  split <;> assumption

theorem receiveDecoded_frameRes (s : Server) (i : Nat) (pk : Packet) : FrameRes i s (receiveDecoded s i pk) := by
  unfold receiveDecoded
  extract_lets +onlyGivenNames t
  refine frameRes_ite i s _ (recvSecondConnect_frame s i) ?_
  refine frameRes_ite i s _ (recvPublish_frame s i pk) ?_
  refine frameRes_ite i s _ (receivePacket_frame s i _) ?_
  refine frameRes_ite i s _ (receivePacket_frame s i _) ?_
  refine frameRes_ite i s _ (receivePacket_frame s i _) ?_
  refine frameRes_ite i s _ (receivePacket_frame s i _) ?_
  refine frameRes_ite i s _ (recvSubscribe_frame s i pk) ?_
  refine frameRes_ite i s _ (recvUnsubscribe_frame s i pk) ?_
  refine frameRes_ite i s _ (receivePacket_frame s i _) ?_
  refine frameRes_ite i s _ (receivePacket_frame s i _) ?_
  refine frameRes_ite i s _ (recvAuth_frame s i pk) ?_
  exact Frame.refl i s _

theorem receiveDecoded_frame (s : Server) (i : Nat) (pk : Packet) :
    Frame i s (receiveDecoded s i pk).1 (receiveDecoded s i pk).2.1 :=
  receiveDecoded_frameRes s i pk

theorem recvDecodedOn_frame (s : Server) (conn : Nat) (pk : Packet) (i : Nat) (hc : assocGet s.connOf conn = some i) :
    Frame i s (recvDecodedOn s conn pk).1 (recvDecodedOn s conn pk).2 := by
  unfold recvDecodedOn
  rw [hc]
  dsimp only
  refine iteInduction (motive := fun r : Server × List Out => Frame i s r.1 r.2) (fun _ => Frame.refl i s _) (fun _ => ?_)
  have h1 := receiveDecoded_frame s i pk
  generalize receiveDecoded s i pk = r at h1
  obtain ⟨s1, o, e⟩ := r
  cases e with
  | some _ => dsimp only; exact h1.trans (detach_frame s1 i true)
  | none =>
    dsimp only
    exact iteInduction (motive := fun r : Server × List Out => Frame i s r.1 r.2)
      (fun _ => h1.trans (detach_frame s1 i false)) (fun _ => h1)

theorem readErrorOn_frame (s : Server) (conn : Nat) (i : Nat) (hc : assocGet s.connOf conn = some i) :
    Frame i s (readErrorOn s conn).1 (readErrorOn s conn).2 := by
  unfold readErrorOn
  rw [hc]
  simp only []
  split
  · exact Frame.refl i s _
  · exact detach_frame s i true

theorem feedEvents_frame (evs : List ReadEvent) (s : Server) (conn : Nat) (i : Nat)
    (hc : assocGet s.connOf conn = some i) :
    Frame i s (feedEvents s conn evs).1 (feedEvents s conn evs).2 := by
  induction evs generalizing s with
  | nil => exact Frame.refl i s _
  | cons ev rest ih =>
    cases ev with
    | packet pk =>
      simp only [feedEvents]
      have a := recvDecodedOn_frame s conn pk i hc
      exact a.trans (ih _ (by rw [a.connOf]; exact hc))
    | needMore => exact Frame.refl i s _
    | error e => exact readErrorOn_frame s conn i hc

theorem feed_frame (cfg : Cfg) (s : Server) (conn : Nat) (stream : List Nat) (i : Nat)
    (hc : assocGet s.connOf conn = some i) :
    Frame i s (feed cfg s conn stream).1 (feed cfg s conn stream).2 := by
  unfold feed
  rw [hc]
  exact feedEvents_frame _ s conn i hc

end Mochi.Session
