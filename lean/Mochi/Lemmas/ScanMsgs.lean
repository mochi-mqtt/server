import Mochi.Lemmas.Edit
import Mochi.Lemmas.Topics
/-!
The retained-message scan (`scanMsgs`, the model of `scanMessages` in topics.go) returns exactly the
retain paths of the particles whose address matches the filter under the MQTT rule, each once; and
the corollaries for `messages` (`TopicsIndex.Messages`).
-/
namespace Mochi.Topics

/-- the MQTT rule for retained lookup: the node's address matches the filter levels and a filter
    whose first level is a wildcard does not match an address whose first level starts with `$` -/
def msgMatch (ls q : Path) : Bool :=
  matchLv ls q && !((ls.head? == some [plus] || ls.head? == some [hash]) && (q.head?.bind List.head?) == some dollar)

/-! ### the filter levels seen at depth `d` -/

/-- `#` occurs only as the last level (the only part of `specLevelsOK` the scan depends on) -/
def hashLast : Path → Bool
  | [] => true
  | [_] => true
  | l :: l2 :: rest => l != [hash] && hashLast (l2 :: rest)

/-- the filter levels still to be matched at depth `d`; past the end, the last level again
    (this mirrors `isolate`) -/
def restOf : Path → Nat → Path
  | [], _ => []
  | [l], _ => [l]
  | l :: l2 :: rest, 0 => l :: l2 :: rest
  | _ :: l2 :: rest, d + 1 => restOf (l2 :: rest) d

theorem restOf_zero (ls : Path) : restOf ls 0 = ls := by
  match ls with
  | [] => rfl
  | [_] => rfl
  | _ :: _ :: _ => rfl

theorem restOf_cases (ls : Path) (hls : ls ≠ []) (hhl : hashLast ls = true) (d : Nat) :
    ∃ r rs, restOf ls d = r :: rs ∧ isolate ls d = (r, !rs.isEmpty) ∧
      (rs ≠ [] → r ≠ [hash] ∧ restOf ls (d + 1) = rs) ∧ (rs = [] → restOf ls (d + 1) = [r]) := by
  induction ls generalizing d with
  | nil => exact absurd rfl hls
  | cons l rest ih =>
    match rest, d with
    | [], d => exact ⟨l, [], by simp [restOf, isolate]⟩
    | l2 :: rest', 0 =>
      refine ⟨l, l2 :: rest', by simp [restOf], by simp [isolate], ?_, by simp⟩
      intro _
      simp only [hashLast, Bool.and_eq_true, bne_iff_ne] at hhl
      refine ⟨hhl.1, ?_⟩
      simp only [restOf]
      exact restOf_zero _
    | l2 :: rest', d + 1 =>
      simp only [hashLast, Bool.and_eq_true] at hhl
      obtain ⟨r, rs, h1, h2, h3, h4⟩ := ih (by simp) hhl.2 d
      exact ⟨r, rs, by simpa [restOf] using h1, by simpa [isolate] using h2,
        by simpa [restOf] using h3, by simpa [restOf] using h4⟩

theorem hashLast_of_spec (ls : Path) (h : specLevelsOK ls = true) : hashLast ls = true := by
  induction ls with
  | nil => rfl
  | cons l rest ih =>
    match rest with
    | [] => rfl
    | l2 :: rest' =>
      simp only [specLevelsOK, List.dropLast, List.all_cons, List.getLast?_cons_cons,
        Bool.and_eq_true] at h
      obtain ⟨⟨⟨h1, h2⟩, h3⟩, h4, h5⟩ := h
      simp only [hashLast, Bool.and_eq_true, bne_iff_ne]
      refine ⟨?_, ih ?_⟩
      · intro e; subst e; simp at h1
      · simp only [specLevelsOK, Bool.and_eq_true]
        exact ⟨⟨h2, h3⟩, by simpa using h5⟩

/-! ### the scan, returning the particles instead of their retain paths -/

/-- `scanMsgs`, collecting the particle where `scanMsgs` collects its `retainPath` (and no emptiness
    test on the retain path) -/
def scanNodes (ns : List Node) (ls : Path) : (cur : Path) → (d : Nat) → (fuel : Nat) → List Node
  | _, _, 0 => []
  | cur, d, fuel + 1 =>
    let kh := isolate ls d
    let key := kh.1
    let hasNext := kh.2
    let own : List Node :=
      if key == [hash] then
        match getNode ns cur with
        | some n => [n]
        | none => []
      else []
    if key == [plus] || key == [hash] then
      own ++ (children ns cur).flatMap (fun adj =>
        match adj.path.getLast? with
        | none => []
        | some k =>
          if d == 0 && k.head? == some dollar then []
          else
            (if !hasNext && key == [plus] then [adj] else []) ++
            (if hasNext || key == [hash] then scanNodes ns ls adj.path (d + 1) fuel else []))
    else
      match getNode ns (cur ++ [key]) with
      | none => []
      | some part =>
        if hasNext then scanNodes ns ls part.path (d + 1) fuel
        else [part]

/-- the retain paths of the particles that carry one -/
def retOf (l : List Node) : List Str := (l.filter (fun n => !n.retainPath.isEmpty)).map (·.retainPath)

theorem retOf_nil : retOf [] = [] := rfl
theorem retOf_append (a b : List Node) : retOf (a ++ b) = retOf a ++ retOf b := by
  simp [retOf]
theorem retOf_single (n : Node) : retOf [n] = if n.retainPath.isEmpty then [] else [n.retainPath] := by
  unfold retOf
  by_cases h : n.retainPath.isEmpty = true <;> simp [h]
theorem retOf_flatMap (l : List Node) (f : Node → List Node) :
    retOf (l.flatMap f) = l.flatMap (fun a => retOf (f a)) := by
  unfold retOf
  rw [List.filter_flatMap, List.map_flatMap]

theorem filter_ne_single (s : Str) : [s].filter (fun t => !t.isEmpty) = if s.isEmpty then [] else [s] := by
  by_cases h : s.isEmpty = true <;> simp [h]

theorem scanMsgs_eq_retOf (ns : List Node) (ls : Path) (fuel : Nat) : ∀ (cur : Path) (d : Nat),
    (scanMsgs ns ls cur d fuel).filter (fun t => !t.isEmpty) = retOf (scanNodes ns ls cur d fuel) := by
  induction fuel with
  | zero => intro cur d; rfl
  | succ fuel ih =>
    intro cur d
    simp only [scanMsgs, scanNodes]
    by_cases hw : ((isolate ls d).1 == [plus] || (isolate ls d).1 == [hash]) = true
    · rw [if_pos hw, if_pos hw, List.filter_append, retOf_append, List.filter_flatMap, retOf_flatMap]
      congr 1
      · cases getNode ns cur with
        | none => simp only [List.filter_nil, retOf_nil, ite_self]
        | some n =>
          simp only [apply_ite (List.filter _), apply_ite retOf, List.filter_nil, retOf_nil, filter_ne_single,
            retOf_single]
          cases n.retainPath.isEmpty <;> rfl
      · congr 1
        funext adj
        cases adj.path.getLast? with
        | none => rfl
        | some k =>
          simp only [List.filter_append, retOf_append, apply_ite (List.filter _), apply_ite retOf, ih,
            List.filter_nil, retOf_nil, filter_ne_single, retOf_single]
          congr 2
          cases (isolate ls d).2 <;> by_cases h : (isolate ls d).1 = [plus] <;>
            cases adj.retainPath.isEmpty <;> simp [h]
    · rw [if_neg hw, if_neg hw]
      cases getNode ns (cur ++ [(isolate ls d).1]) with
      | none => rfl
      | some part =>
        simp only [apply_ite (List.filter _), apply_ite retOf, ih, filter_ne_single, retOf_single]

/-! ### particles, children, lookups -/

theorem nodup_nodes (ns : List Node) (hnd : (ns.map (·.path)).Nodup) : ns.Nodup := by
  unfold List.Nodup at hnd ⊢
  rw [List.pairwise_map] at hnd
  exact hnd.imp (fun h e => h (by rw [e]))

theorem length_le_of_prefixes (p : Path) : ∀ (L : List Path),
    (∀ k, 0 < k → k ≤ p.length → p.take k ∈ L) → p.length ≤ L.length := by
  induction h : p.length generalizing p with
  | zero => intro L _; omega
  | succ m ih =>
    intro L hL
    have hp : p ∈ L := by
      have := hL (m + 1) (by omega) (by omega)
      rwa [List.take_of_length_le (by omega)] at this
    have := ih (p.take m) (by rw [List.length_take]; omega) (L.erase p) (by
      intro k hk1 hk2
      have hkm : k ≤ m := hk2
      rw [List.take_take, Nat.min_eq_left hkm]
      have hne : p.take k ≠ p := by
        intro e
        have := congrArg List.length e
        simp at this; omega
      exact (List.mem_erase_of_ne hne).mpr (hL k hk1 (by omega)))
    rw [List.length_erase_of_mem hp] at this
    have : 0 < L.length := List.length_pos_of_mem hp
    omega

theorem path_length_le (ns : List Node) (hpc : PrefixClosed ns) (n : Node) (h : n ∈ ns) :
    n.path.length ≤ ns.length := by
  have := length_le_of_prefixes n.path (ns.map (·.path)) (by
    intro k hk1 hk2
    have := hpc n.path ((hasNode_iff ns n.path).mpr ⟨n, h, rfl⟩) k hk1 hk2
    obtain ⟨m, hm, hmp⟩ := (hasNode_iff ns _).mp this
    exact List.mem_map.mpr ⟨m, hm, hmp⟩)
  simpa using this

/-! ### `matchLv` by the shape of the first filter level -/

theorem matchLv_hash (q : Path) : matchLv [[hash]] q = true := by
  cases q <;> simp [matchLv]

theorem matchLv_nil (q : Path) : matchLv [] q = true ↔ q = [] := by
  cases q <;> simp [matchLv]

theorem matchLv_plus (rs q : Path) :
    matchLv ([plus] :: rs) q = true ↔ ∃ t ts, q = t :: ts ∧ matchLv rs ts = true := by
  cases q with
  | nil => simp [matchLv]
  | cons t ts =>
    simp only [matchLv, beq_iff_eq, List.cons.injEq]
    constructor
    · intro h; exact ⟨t, ts, ⟨rfl, rfl⟩, h⟩
    · rintro ⟨_, _, ⟨rfl, rfl⟩, h⟩; exact h

theorem matchLv_lit (r : Level) (rs q : Path) (h1 : r ≠ [plus]) (h2 : r ≠ [hash]) :
    matchLv (r :: rs) q = true ↔ ∃ ts, q = r :: ts ∧ matchLv rs ts = true := by
  cases q with
  | nil => simp [matchLv, h2]
  | cons t ts =>
    simp only [matchLv, h1, h2, beq_iff_eq, if_false, Bool.and_eq_true,
      List.cons.injEq, Bool.or_eq_true, false_or]
    constructor
    · rintro ⟨rfl, h⟩; exact ⟨ts, ⟨rfl, rfl⟩, h⟩
    · rintro ⟨_, ⟨rfl, rfl⟩, h⟩; exact ⟨rfl, h⟩

/-! ### membership in the scan -/

/-- some child `adj` of the particle at `cur`, not excluded by the `$` test at depth 0, satisfies `P` -/
def Kids (ns : List Node) (cur : Path) (d : Nat) (P : Node → Prop) : Prop :=
  ∃ adj k, adj ∈ ns ∧ adj.path = cur ++ [k] ∧ ¬(d = 0 ∧ k.head? = some dollar) ∧ P adj

theorem kids_congr (ns : List Node) (cur : Path) (d : Nat) (P Q : Node → Prop)
    (h : ∀ adj k, adj ∈ ns → adj.path = cur ++ [k] → (P adj ↔ Q adj)) :
    Kids ns cur d P ↔ Kids ns cur d Q := by
  constructor
  · rintro ⟨adj, k, h1, h2, h3, h4⟩; exact ⟨adj, k, h1, h2, h3, (h adj k h1 h2).mp h4⟩
  · rintro ⟨adj, k, h1, h2, h3, h4⟩; exact ⟨adj, k, h1, h2, h3, (h adj k h1 h2).mpr h4⟩

/-- one unfolding of the scan, as a membership statement -/
theorem mem_scanNodes_succ (ns : List Node) (ls cur : Path) (d fuel : Nat) (n : Node)
    (key : Level) (hasNext : Bool) (hi : isolate ls d = (key, hasNext)) :
    n ∈ scanNodes ns ls cur d (fuel + 1) ↔
      if (key == [plus] || key == [hash]) = true then
        (key = [hash] ∧ getNode ns cur = some n) ∨
        Kids ns cur d (fun adj => (hasNext = false ∧ key = [plus] ∧ n = adj) ∨
           ((hasNext = true ∨ key = [hash]) ∧ n ∈ scanNodes ns ls adj.path (d + 1) fuel))
      else ∃ part, getNode ns (cur ++ [key]) = some part ∧
        (if hasNext = true then n ∈ scanNodes ns ls part.path (d + 1) fuel else n = part) := by
  rw [scanNodes]
  simp only [hi, Kids]
  by_cases hw : (key == [plus] || key == [hash]) = true
  · rw [if_pos hw, if_pos hw, List.mem_append, List.mem_flatMap]
    apply or_congr
    · rw [List.mem_ite_nil_right, beq_iff_eq]
      cases getNode ns cur <;> simp [eq_comm]
    · constructor
      · rintro ⟨adj, hadj, h⟩
        obtain ⟨hadjm, k, hk⟩ := (mem_children ns cur adj).mp hadj
        have hl : adj.path.getLast? = some k := by simp [hk]
        simp only [hl, List.mem_ite_nil_left, List.mem_ite_nil_right, List.mem_append, List.mem_singleton] at h
        exact ⟨adj, k, hadjm, hk, by simpa using h.1, by simpa [and_assoc] using h.2⟩
      · rintro ⟨adj, k, hadjm, hk, hd, h⟩
        refine ⟨adj, (mem_children ns cur adj).mpr ⟨hadjm, k, hk⟩, ?_⟩
        have hl : adj.path.getLast? = some k := by simp [hk]
        simp only [hl, List.mem_ite_nil_left, List.mem_ite_nil_right, List.mem_append, List.mem_singleton]
        exact ⟨by simpa using hd, by simpa [and_assoc] using h⟩
  · rw [if_neg hw, if_neg hw]
    cases getNode ns (cur ++ [key]) with
    | none => simp
    | some part => cases hasNext <;> simp

/-- the `$` rule as the scan applies it: only at depth 0, only under a wildcard first level -/
def dolOK (d : Nat) (rest q : Path) : Bool :=
  !(d == 0 && (rest.head? == some [plus] || rest.head? == some [hash]) &&
    (q.head?.bind List.head?) == some dollar)

theorem dolOK_succ (d : Nat) (rest q : Path) : dolOK (d + 1) rest q = true := by simp [dolOK]

/-- what the scan started at the particle `cur` (depth `d`, remaining filter levels `rest`) must
    return: the particles below `cur` whose relative address matches `rest` -/
def InScan (ns : List Node) (cur rest : Path) (d : Nat) (n : Node) : Prop :=
  n ∈ ns ∧ ∃ q, n.path = cur ++ q ∧ matchLv rest q = true ∧ dolOK d rest q = true

theorem child_of_mem (ns : List Node) (hpc : PrefixClosed ns) (n : Node) (hn : n ∈ ns)
    (cur : Path) (k : Level) (q : Path) (hp : n.path = cur ++ k :: q) :
    ∃ adj, adj ∈ ns ∧ adj.path = cur ++ [k] := by
  have h : hasNode ns ((cur ++ [k]) ++ q) = true :=
    (hasNode_iff ns _).mpr ⟨n, hn, by simp [hp]⟩
  exact (hasNode_iff ns _).mp (prefix_exists ns hpc (cur ++ [k]) q (by simp) h)

theorem inScan_nil (ns : List Node) (hnd : (ns.map (·.path)).Nodup) (part : Node) (hp : part ∈ ns)
    (d : Nat) (n : Node) : InScan ns part.path [] d n ↔ n = part := by
  unfold InScan
  constructor
  · rintro ⟨hn, q, hq, hm, _⟩
    rw [(matchLv_nil q).mp hm, List.append_nil] at hq
    have h1 := getNode_of_mem ns hnd n hn
    have h2 := getNode_of_mem ns hnd part hp
    rw [hq, h2] at h1
    exact (Option.some.inj h1).symm
  · rintro rfl
    exact ⟨hp, [], by simp, by simp [matchLv], by simp [dolOK]⟩

theorem inScan_hash (ns : List Node) (hpc : PrefixClosed ns) (hnd : (ns.map (·.path)).Nodup)
    (cur : Path) (d : Nat) (n : Node) :
    InScan ns cur [[hash]] d n ↔
      (getNode ns cur = some n ∨ Kids ns cur d (fun adj => InScan ns adj.path [[hash]] (d + 1) n)) := by
  unfold InScan Kids
  constructor
  · rintro ⟨hn, q, hq, _, hd⟩
    cases q with
    | nil => left; exact (getNode_iff ns hnd cur n).mpr ⟨hn, by simpa using hq⟩
    | cons k q' =>
      right
      obtain ⟨adj, hadj, hap⟩ := child_of_mem ns hpc n hn cur k q' hq
      refine ⟨adj, k, hadj, hap, ?_, hn, q', by simp [hap, hq], matchLv_hash _, dolOK_succ _ _ _⟩
      rintro ⟨rfl, hk⟩
      simp [dolOK, hk] at hd
  · rintro (h | ⟨adj, k, hadj, hap, hk, hn, q, hq, _, _⟩)
    · have hn := getNode_mem h
      have hp := getNode_path h
      exact ⟨hn, [], by simp [hp], matchLv_hash _, by simp [dolOK]⟩
    · refine ⟨hn, k :: q, by simp [hq, hap], matchLv_hash _, ?_⟩
      simp only [dolOK, List.head?_cons, Option.bind_some, Bool.not_eq_true', Bool.and_eq_false_iff,
        beq_eq_false_iff_ne, ne_eq]
      by_cases hd0 : d = 0
      · right; intro hh; exact hk ⟨hd0, hh⟩
      · left; left; exact hd0

theorem inScan_plus (ns : List Node) (hpc : PrefixClosed ns) (cur rs : Path) (d : Nat) (n : Node) :
    InScan ns cur ([plus] :: rs) d n ↔ Kids ns cur d (fun adj => InScan ns adj.path rs (d + 1) n) := by
  unfold InScan Kids
  constructor
  · rintro ⟨hn, q, hq, hm, hd⟩
    obtain ⟨k, q', rfl, hm'⟩ := (matchLv_plus rs q).mp hm
    obtain ⟨adj, hadj, hap⟩ := child_of_mem ns hpc n hn cur k q' hq
    refine ⟨adj, k, hadj, hap, ?_, hn, q', by simp [hap, hq], hm', dolOK_succ _ _ _⟩
    rintro ⟨rfl, hk⟩
    simp [dolOK, hk] at hd
  · rintro ⟨adj, k, hadj, hap, hk, hn, q, hq, hm, _⟩
    refine ⟨hn, k :: q, by simp [hq, hap], (matchLv_plus rs _).mpr ⟨k, q, rfl, hm⟩, ?_⟩
    simp only [dolOK, List.head?_cons, Option.bind_some, Bool.not_eq_true', Bool.and_eq_false_iff,
      beq_eq_false_iff_ne, ne_eq]
    by_cases hd0 : d = 0
    · right; intro hh; exact hk ⟨hd0, hh⟩
    · left; left; exact hd0

theorem inScan_lit (ns : List Node) (hpc : PrefixClosed ns) (hnd : (ns.map (·.path)).Nodup)
    (cur : Path) (r : Level) (rs : Path) (h1 : r ≠ [plus]) (h2 : r ≠ [hash]) (d : Nat) (n : Node) :
    InScan ns cur (r :: rs) d n ↔
      ∃ part, getNode ns (cur ++ [r]) = some part ∧ InScan ns part.path rs (d + 1) n := by
  unfold InScan
  constructor
  · rintro ⟨hn, q, hq, hm, _⟩
    obtain ⟨q', rfl, hm'⟩ := (matchLv_lit r rs q h1 h2).mp hm
    obtain ⟨adj, hadj, hap⟩ := child_of_mem ns hpc n hn cur r q' hq
    exact ⟨adj, (getNode_iff ns hnd _ adj).mpr ⟨hadj, hap⟩, hn, q', by simp [hap, hq], hm',
      dolOK_succ _ _ _⟩
  · rintro ⟨part, hg, hn, q, hq, hm, _⟩
    have hpp := getNode_path hg
    refine ⟨hn, r :: q, by simp [hq, hpp], (matchLv_lit r rs _ h1 h2).mpr ⟨q, rfl, hm⟩, ?_⟩
    simp [dolOK, h1, h2]

/-- **Membership.** With enough fuel, the scan started at the particle `cur` of depth `d` returns
    exactly the particles below `cur` that match the remaining filter levels. -/
theorem mem_scanNodes (ns : List Node) (hpc : PrefixClosed ns) (hnd : (ns.map (·.path)).Nodup)
    (ls : Path) (hls : ls ≠ []) (hhl : hashLast ls = true) :
    ∀ (fuel : Nat) (cur : Path) (d : Nat), cur.length = d →
      (∀ m ∈ ns, m.path.length < d + fuel) →
      ∀ n, n ∈ scanNodes ns ls cur d fuel ↔ InScan ns cur (restOf ls d) d n := by
  intro fuel
  induction fuel with
  | zero =>
    intro cur d hcd hb n
    simp only [scanNodes, List.not_mem_nil, false_iff]
    rintro ⟨hn, q, hq, _⟩
    have := hb n hn
    rw [hq] at this
    simp at this
    omega
  | succ fuel ih =>
    intro cur d hcd hb n
    obtain ⟨r, rs, h1, h2, h3, h4⟩ := restOf_cases ls hls hhl d
    have ihc : ∀ (adj : Node) (k : Level), adj.path = cur ++ [k] →
        (n ∈ scanNodes ns ls adj.path (d + 1) fuel ↔ InScan ns adj.path (restOf ls (d + 1)) (d + 1) n) :=
      fun adj k hk => ih adj.path (d + 1) (by simp [hk, hcd])
        (fun m hm => by have := hb m hm; omega) n
    rw [mem_scanNodes_succ ns ls cur d fuel n r (!rs.isEmpty) h2, h1]
    by_cases hrh : r = [hash]
    · have hrs : rs = [] := by
        apply Classical.byContradiction
        intro h; exact (h3 h).1 hrh
      subst hrh; subst hrs
      rw [h4 rfl] at ihc
      rw [inScan_hash ns hpc hnd]
      simp only [beq_self_eq_true, Bool.or_true, if_true, true_and, List.isEmpty_nil, Bool.not_true]
      apply or_congr Iff.rfl
      apply kids_congr
      intro adj k hadj hk
      simp [ihc adj k hk]
    · by_cases hrp : r = [plus]
      · subst hrp
        rw [inScan_plus ns hpc]
        simp only [beq_self_eq_true, Bool.true_or, if_true, lplus_ne_lhash, false_and, false_or]
        apply kids_congr
        intro adj k hadj hk
        cases rs with
        | nil =>
          simp only [List.isEmpty_nil, Bool.not_true, true_and, Bool.false_eq_true, false_and,
            or_false]
          exact (inScan_nil ns hnd adj hadj (d + 1) n).symm
        | cons r2 rs' =>
          rw [(h3 (by simp)).2] at ihc
          simp [ihc adj k hk]
      · rw [inScan_lit ns hpc hnd cur r rs hrp hrh]
        have hw : (r == [plus] || r == [hash]) = false := by simp [hrp, hrh]
        simp only [hw, Bool.false_eq_true, if_false]
        apply exists_congr
        intro part
        apply and_congr_right
        intro hg
        have hpm := getNode_mem hg
        have hpp := getNode_path hg
        cases rs with
        | nil =>
          simp only [List.isEmpty_nil, Bool.not_true, Bool.false_eq_true, if_false]
          exact (inScan_nil ns hnd part hpm (d + 1) n).symm
        | cons r2 rs' =>
          rw [(h3 (by simp)).2] at ihc
          simp [ihc part r hpp]

/-! ### the scan returns no particle twice -/

theorem take_succ_append {α : Type} (cur : List α) (k : α) (q : List α) :
    (cur ++ k :: q).take (cur.length + 1) = cur ++ [k] := by
  induction cur with
  | nil => simp
  | cons c cs ih => simpa using ih

theorem scanNodes_below (ns : List Node) (ls : Path) : ∀ (fuel : Nat) (cur : Path) (d : Nat) (n : Node),
    n ∈ scanNodes ns ls cur d fuel → ∃ q, n.path = cur ++ q := by
  intro fuel
  induction fuel with
  | zero => intro cur d n h; simp [scanNodes] at h
  | succ fuel ih =>
    intro cur d n h
    rw [mem_scanNodes_succ ns ls cur d fuel n (isolate ls d).1 (isolate ls d).2 rfl] at h
    split at h
    · rcases h with ⟨_, hg⟩ | ⟨adj, k, _, hap, _, h⟩
      · exact ⟨[], by simp [getNode_path hg]⟩
      · rcases h with ⟨_, _, rfl⟩ | ⟨_, h⟩
        · exact ⟨[k], hap⟩
        · obtain ⟨q, hq⟩ := ih _ _ _ h
          exact ⟨k :: q, by simp [hq, hap]⟩
    · obtain ⟨part, hg, h⟩ := h
      have hpp := getNode_path hg
      split at h
      · obtain ⟨q, hq⟩ := ih _ _ _ h
        exact ⟨(isolate ls d).1 :: q, by simp [hq, hpp]⟩
      · subst h; exact ⟨[(isolate ls d).1], hpp⟩

/-- what the scan collects for one child particle -/
def kidList (ns : List Node) (ls : Path) (d fuel : Nat) (key : Level) (hasNext : Bool) (adj : Node) :
    List Node :=
  match adj.path.getLast? with
  | none => []
  | some k =>
    if d == 0 && k.head? == some dollar then []
    else
      (if !hasNext && key == [plus] then [adj] else []) ++
      (if hasNext || key == [hash] then scanNodes ns ls adj.path (d + 1) fuel else [])

theorem scanNodes_succ_eq (ns : List Node) (ls cur : Path) (d fuel : Nat) :
    scanNodes ns ls cur d (fuel + 1) =
      if ((isolate ls d).1 == [plus] || (isolate ls d).1 == [hash]) = true then
        (if (isolate ls d).1 == [hash] then
          match getNode ns cur with
          | some n => [n]
          | none => []
         else []) ++
        (children ns cur).flatMap (kidList ns ls d fuel (isolate ls d).1 (isolate ls d).2)
      else
        match getNode ns (cur ++ [(isolate ls d).1]) with
        | none => []
        | some part =>
          if (isolate ls d).2 = true then scanNodes ns ls part.path (d + 1) fuel else [part] := by
  rw [scanNodes]; rfl

theorem kidList_below (ns : List Node) (ls : Path) (d fuel : Nat) (key : Level) (hasNext : Bool)
    (adj x : Node) (h : x ∈ kidList ns ls d fuel key hasNext adj) : ∃ q, x.path = adj.path ++ q := by
  unfold kidList at h
  cases hl : adj.path.getLast? with
  | none => simp [hl] at h
  | some k =>
    simp only [hl, List.mem_ite_nil_left, List.mem_ite_nil_right, List.mem_append, List.mem_singleton] at h
    rcases h.2 with ⟨_, rfl⟩ | ⟨_, h⟩
    · exact ⟨[], by simp⟩
    · exact scanNodes_below ns ls fuel _ _ x h

theorem kidList_nodup (ns : List Node) (ls : Path) (d fuel : Nat) (key : Level) (hasNext : Bool)
    (adj : Node) (ih : (scanNodes ns ls adj.path (d + 1) fuel).Nodup) :
    (kidList ns ls d fuel key hasNext adj).Nodup := by
  unfold kidList
  split
  · simp
  · split
    · simp
    · by_cases h1 : (!hasNext && key == [plus]) = true
      · have h2 : (hasNext || key == [hash]) = false := by
          simp only [Bool.and_eq_true, Bool.not_eq_true', beq_iff_eq] at h1
          simp [h1.1, h1.2]
        simp [h1, h2]
      · have h1' : (!hasNext && key == [plus]) = false := by simpa using h1
        rw [h1']
        simp only [Bool.false_eq_true, if_false, List.nil_append]
        split
        · exact ih
        · simp

theorem nodup_scanNodes (ns : List Node) (hnd : (ns.map (·.path)).Nodup) (ls : Path) :
    ∀ (fuel : Nat) (cur : Path) (d : Nat), (scanNodes ns ls cur d fuel).Nodup := by
  intro fuel
  induction fuel with
  | zero => intro cur d; simp [scanNodes]
  | succ fuel ih =>
    intro cur d
    rw [scanNodes_succ_eq]
    split
    · rw [List.nodup_append]
      refine ⟨?_, ?_, ?_⟩
      · split
        · split <;> simp
        · simp
      · unfold List.Nodup
        rw [List.pairwise_flatMap]
        refine ⟨fun adj _ => kidList_nodup ns ls d fuel _ _ adj (ih _ _), ?_⟩
        have hp : (children ns cur).Pairwise (fun a b => a.path ≠ b.path) := by
          unfold children
          apply List.Pairwise.filter
          exact List.pairwise_map.mp hnd
        refine List.Pairwise.imp_of_mem ?_ hp
        intro a b ha hb hab x hx y hy hxy
        subst hxy
        obtain ⟨_, ka, hka⟩ := (mem_children ns cur a).mp ha
        obtain ⟨_, kb, hkb⟩ := (mem_children ns cur b).mp hb
        obtain ⟨qa, hqa⟩ := kidList_below ns ls d fuel _ _ a x hx
        obtain ⟨qb, hqb⟩ := kidList_below ns ls d fuel _ _ b x hy
        apply hab
        have h1 : x.path.take (cur.length + 1) = a.path := by
          rw [hqa, hka]; simpa using take_succ_append cur ka qa
        have h2 : x.path.take (cur.length + 1) = b.path := by
          rw [hqb, hkb]; simpa using take_succ_append cur kb qb
        rw [← h1, h2]
      · intro a ha b hb hab
        subst hab
        obtain ⟨adj, hadj, hx⟩ := List.mem_flatMap.mp hb
        obtain ⟨_, k, hk⟩ := (mem_children ns cur adj).mp hadj
        obtain ⟨q, hq⟩ := kidList_below ns ls d fuel _ _ adj a hx
        have hpa : a.path = cur := by
          split at ha
          · split at ha
            · rename_i n hg
              rw [List.mem_singleton.mp ha]
              exact getNode_path hg
            · simp at ha
          · simp at ha
        have := congrArg List.length hq
        rw [hpa, hk] at this
        simp at this
    · split
      · simp
      · split
        · exact ih _ _
        · simp

/-! ### exactness of the scan -/

theorem scanNodes_perm (ns : List Node) (hpc : PrefixClosed ns) (hnd : (ns.map (·.path)).Nodup)
    (ls : Path) (hls : ls ≠ []) (hhl : hashLast ls = true) :
    List.Perm (scanNodes ns ls [] 0 (ns.length + 1)) (ns.filter (fun n => msgMatch ls n.path)) := by
  apply (List.perm_ext_iff_of_nodup (nodup_scanNodes ns hnd ls _ _ _)
    (List.Nodup.sublist List.filter_sublist (nodup_nodes ns hnd))).mpr
  intro n
  rw [mem_scanNodes ns hpc hnd ls hls hhl (ns.length + 1) [] 0 rfl
    (fun m hm => by have := path_length_le ns hpc m hm; omega) n, restOf_zero]
  unfold InScan
  simp only [List.nil_append, exists_eq_left', List.mem_filter, msgMatch, dolOK, beq_self_eq_true,
    Bool.true_and, Bool.and_eq_true]

/-- **Exactness of the retained scan.**  For a prefix-closed particle list with pairwise distinct
    addresses and a filter whose `#` levels (if any) come last, the non-empty retain paths the scan
    returns are, up to order, exactly the retain paths of the particles whose address matches the
    filter (`msgMatch`), each counted once. -/
theorem scanMsgs_perm (ns : List Node) (hpc : PrefixClosed ns) (hnd : (ns.map (·.path)).Nodup)
    (ls : Path) (hls : ls ≠ []) (hhl : hashLast ls = true) :
    List.Perm ((scanMsgs ns ls [] 0 (ns.length + 1)).filter (· ≠ []))
      ((ns.filter (fun n => msgMatch ls n.path && !n.retainPath.isEmpty)).map (·.retainPath)) := by
  have h1 : (scanMsgs ns ls [] 0 (ns.length + 1)).filter (· ≠ []) =
      retOf (scanNodes ns ls [] 0 (ns.length + 1)) := by
    rw [← scanMsgs_eq_retOf]
    apply List.filter_congr
    intro t _
    cases t <;> rfl
  have h2 : ns.filter (fun n => msgMatch ls n.path && !n.retainPath.isEmpty) =
      (ns.filter (fun n => msgMatch ls n.path)).filter (fun n => !n.retainPath.isEmpty) := by
    rw [List.filter_filter]
    apply List.filter_congr
    intro n _
    exact Bool.and_comm _ _
  rw [h1, h2]
  unfold retOf
  exact ((scanNodes_perm ns hpc hnd ls hls hhl).filter _).map _

/-- the statement in terms of `specLevelsOK` -/
theorem scanMsgs_perm_spec (ns : List Node) (hpc : PrefixClosed ns) (hnd : (ns.map (·.path)).Nodup)
    (ls : Path) (hls : ls ≠ []) (hok : specLevelsOK ls = true) :
    List.Perm ((scanMsgs ns ls [] 0 (ns.length + 1)).filter (· ≠ []))
      ((ns.filter (fun n => msgMatch ls n.path && !n.retainPath.isEmpty)).map (·.retainPath)) :=
  scanMsgs_perm ns hpc hnd ls hls (hashLast_of_spec ls hok)

/-! ### when the last filter level is a wildcard the scan returns no empty retain path -/

theorem isolate_snd_false (ls : Path) (hls : ls ≠ []) (d : Nat) (h : (isolate ls d).2 = false) :
    ls.getLast? = some (isolate ls d).1 := by
  induction ls generalizing d with
  | nil => exact absurd rfl hls
  | cons l rest ih =>
    match rest, d with
    | [], d => simp [isolate]
    | l2 :: rest', 0 => simp [isolate] at h
    | l2 :: rest', d + 1 =>
      simp only [isolate] at h ⊢
      rw [List.getLast?_cons_cons]
      exact ih (by simp) d h

theorem scanMsgs_ne_nil (ns : List Node) (ls : Path) (hls : ls ≠ [])
    (hlast : ls.getLast? = some [plus] ∨ ls.getLast? = some [hash]) :
    ∀ (fuel : Nat) (cur : Path) (d : Nat), ∀ t ∈ scanMsgs ns ls cur d fuel, t ≠ [] := by
  intro fuel
  induction fuel with
  | zero => intro cur d t ht; cases ht
  | succ fuel ih =>
    intro cur d t ht
    simp only [scanMsgs] at ht
    by_cases hw : ((isolate ls d).1 == [plus] || (isolate ls d).1 == [hash]) = true
    · rw [if_pos hw] at ht
      rcases List.mem_append.mp ht with h | h
      · cases hg : getNode ns cur with
        | none => simp [hg] at h
        | some n =>
          simp only [hg, List.mem_ite_nil_right, List.mem_ite_nil_left, List.mem_singleton] at h
          obtain ⟨_, hne, rfl⟩ := h
          exact fun e => hne (by rw [e]; rfl)
      · obtain ⟨adj, _, h⟩ := List.mem_flatMap.mp h
        cases hl : adj.path.getLast? with
        | none => simp [hl] at h
        | some k =>
          simp only [hl, List.mem_ite_nil_right, List.mem_ite_nil_left, List.mem_append, List.mem_singleton] at h
          rcases h.2 with ⟨hc, rfl⟩ | ⟨_, h⟩
          · intro e; simp [e] at hc
          · exact ih _ _ t h
    · rw [if_neg hw] at ht
      cases hg : getNode ns (cur ++ [(isolate ls d).1]) with
      | none => simp [hg] at ht
      | some part =>
        simp only [hg] at ht
        split at ht
        · exact ih _ _ t ht
        · rename_i hn
          exfalso
          have := isolate_snd_false ls hls d (by simpa using hn)
          rw [this] at hlast
          apply hw
          rcases hlast with h | h <;> simp [Option.some.inj h]

/-- exactness without discarding anything, for a filter whose last level is `+` or `#` -/
theorem scanMsgs_perm_wild (ns : List Node) (hpc : PrefixClosed ns) (hnd : (ns.map (·.path)).Nodup)
    (ls : Path) (hls : ls ≠ []) (hhl : hashLast ls = true)
    (hlast : ls.getLast? = some [plus] ∨ ls.getLast? = some [hash]) :
    List.Perm (scanMsgs ns ls [] 0 (ns.length + 1))
      ((ns.filter (fun n => msgMatch ls n.path && !n.retainPath.isEmpty)).map (·.retainPath)) := by
  have h := scanMsgs_perm ns hpc hnd ls hls hhl
  rwa [List.filter_eq_self.mpr (fun t ht => by
    simpa using scanMsgs_ne_nil ns ls hls hlast _ _ _ t ht)] at h

/-- Without that restriction the unfiltered statement is FALSE: for a filter whose last
    level is a literal the scan (like the Go code, which then looks the empty string up in the
    retained map) reports the empty retain path of a matching particle that holds no message. -/
example :
    let ns : List Node := [{ path := [[120]] }, { path := [[120], [97]] },
      { path := [[120], [97], [98]], retainPath := [120, 47, 97, 47, 98] }]
    let ls : Path := [[plus], [97]]
    scanMsgs ns ls [] 0 (ns.length + 1) = [[]] ∧
    (ns.filter (fun n => msgMatch ls n.path && !n.retainPath.isEmpty)).map (·.retainPath) = [] := by
  decide +kernel

/-! ### from levels back to topic strings -/

/-- the first byte of a topic is the first byte of its first level (a topic starting with `/` has an
    empty first level) -/
theorem head_splitLevels (t : Str) :
    ((splitLevels t).head?.bind List.head? == some dollar) = (t.head? == some dollar) := by
  cases t with
  | nil => simp [splitLevels]
  | cons c rest =>
    unfold splitLevels
    by_cases hc : c = slash
    · subst hc; simp [slash, dollar]
    · simp only [hc, if_false]
      cases hs : splitLevels rest <;> simp

theorem msgMatch_split (ls : Path) (t : Str) :
    msgMatch ls (splitLevels t) = (matchLv ls (splitLevels t) && !dollarRule ls t) := by
  unfold msgMatch dollarRule
  rw [head_splitLevels, Bool.and_comm (t.head? == some dollar)]

theorem mem_splitLevels (f : Str) : ∀ l ∈ splitLevels f, ∀ c ∈ l, c ∈ f := by
  induction f with
  | nil => intro l hl c hc; simp [splitLevels] at hl; subst hl; simp at hc
  | cons a rest ih =>
    intro l hl c hc
    unfold splitLevels at hl
    by_cases ha : a = slash
    · simp only [ha, if_true, List.mem_cons] at hl
      rcases hl with rfl | hl
      · simp at hc
      · exact List.mem_cons_of_mem _ (ih l hl c hc)
    · simp only [ha, if_false] at hl
      cases hs : splitLevels rest with
      | nil => exact absurd hs (splitLevels_ne_nil rest)
      | cons l0 ls' =>
        rw [hs] at hl ih
        simp only [List.mem_cons] at hl
        rcases hl with rfl | hl
        · rcases List.mem_cons.mp hc with rfl | hc'
          · simp
          · exact List.mem_cons_of_mem _ (ih l0 (by simp) c hc')
        · exact List.mem_cons_of_mem _ (ih l (by simp [hl]) c hc)

theorem matchLv_wildfree (ls : Path) (hwf : ∀ l ∈ ls, l ≠ [plus] ∧ l ≠ [hash]) (q : Path) :
    matchLv ls q = true ↔ q = ls := by
  induction ls generalizing q with
  | nil => exact matchLv_nil q
  | cons r rs ih =>
    rw [matchLv_lit r rs q (hwf r (by simp)).1 (hwf r (by simp)).2]
    constructor
    · rintro ⟨ts, rfl, h⟩
      rw [(ih (fun l hl => hwf l (by simp [hl])) ts).mp h]
    · rintro rfl
      exact ⟨rs, rfl, (ih (fun l hl => hwf l (by simp [hl])) rs).mpr rfl⟩

theorem wildfree_of_contains (f : Str) (h : (!f.contains hash && !f.contains plus) = true) :
    ∀ l ∈ splitLevels f, l ≠ [plus] ∧ l ≠ [hash] := by
  simp only [Bool.and_eq_true, Bool.not_eq_true', List.contains_eq_mem, decide_eq_false_iff_not] at h
  intro l hl
  constructor
  · rintro rfl; exact h.2 (mem_splitLevels f _ hl plus (by simp))
  · rintro rfl; exact h.1 (mem_splitLevels f _ hl hash (by simp))

/-! ### `TopicsIndex.Messages` -/

/-- which retained topics the scan reports -/
theorem mem_scanMsgs_topic (x : Index)
    (hpc : PrefixClosed x.nodes) (hnd : (x.nodes.map (·.path)).Nodup)
    (hsound : ∀ n ∈ x.nodes, n.retainPath ≠ [] → splitLevels n.retainPath = n.path)
    (hcomplete : ∀ t, t ≠ [] → (assocGet x.retained t).isSome →
      ∃ n, getNode x.nodes (splitLevels t) = some n ∧ n.retainPath = t)
    (hnoempty : (assocGet x.retained []).isNone)
    (ls : Path) (hls : ls ≠ []) (hhl : hashLast ls = true)
    (t : Str) (ht : (assocGet x.retained t).isSome) :
    t ∈ scanMsgs x.nodes ls [] 0 (x.nodes.length + 1) ↔
      (matchLv ls (splitLevels t) = true ∧ dollarRule ls t = false) := by
  have htne : t ≠ [] := by
    rintro rfl
    rw [Option.isNone_iff_eq_none] at hnoempty
    simp [hnoempty] at ht
  have h1 : t ∈ scanMsgs x.nodes ls [] 0 (x.nodes.length + 1) ↔
      t ∈ (scanMsgs x.nodes ls [] 0 (x.nodes.length + 1)).filter (· ≠ []) := by
    simp [List.mem_filter, htne]
  rw [h1, (scanMsgs_perm x.nodes hpc hnd ls hls hhl).mem_iff]
  simp only [List.mem_map, List.mem_filter, Bool.and_eq_true, Bool.not_eq_true',
    List.isEmpty_eq_false_iff]
  constructor
  · rintro ⟨n, ⟨hn, hm, hne⟩, rfl⟩
    rw [← hsound n hn hne, msgMatch_split] at hm
    simpa using hm
  · rintro ⟨hm, hd⟩
    obtain ⟨n, hg, hr⟩ := hcomplete t htne ht
    have hn := getNode_mem hg
    have hp := getNode_path hg
    refine ⟨n, ⟨hn, ?_, by rw [hr]; exact htne⟩, hr⟩
    rw [hp, msgMatch_split]
    simp [hm, hd]

/-- **`Messages` returns exactly the retained messages whose topic matches the filter**, in both
    branches (direct lookup for a wildcard-free filter, trie scan otherwise). -/
theorem messages_exact (x : Index)
    (hpc : PrefixClosed x.nodes) (hnd : (x.nodes.map (·.path)).Nodup)
    (hsound : ∀ n ∈ x.nodes, n.retainPath ≠ [] → splitLevels n.retainPath = n.path)
    (hcomplete : ∀ t, t ≠ [] → (assocGet x.retained t).isSome →
      ∃ n, getNode x.nodes (splitLevels t) = some n ∧ n.retainPath = t)
    (hkeys : ∀ t r, assocGet x.retained t = some r → r.topic = t)
    (hnoempty : (assocGet x.retained []).isNone)
    (f : Str) (hf : f ≠ []) (hok : specLevelsOK (splitLevels f) = true) :
    ∀ t, (∃ r ∈ messages x f, r.topic = t) ↔
      ((assocGet x.retained t).isSome ∧ matchLv (splitLevels f) (splitLevels t) = true ∧
        dollarRule (splitLevels f) t = false) := by
  intro t
  unfold messages
  have hfe : f.isEmpty = false := by cases f <;> simp_all
  by_cases hre : x.retained.isEmpty = true
  · simp [hfe, List.isEmpty_iff.mp hre, assocGet_nil]
  · simp only [hfe, hre, Bool.false_or, Bool.false_eq_true, if_false]
    split
    · rename_i hc
      have hwf := wildfree_of_contains f hc
      have hdr : ∀ t', dollarRule (splitLevels f) t' = false := by
        intro t'
        unfold dollarRule
        cases hs : splitLevels f with
        | nil => simp
        | cons l ls' =>
          have := hwf l (by simp [hs])
          simp [this.1, this.2]
      rw [matchLv_wildfree _ hwf]
      constructor
      · rintro ⟨r, hr, rfl⟩
        cases hg : assocGet x.retained f with
        | none => simp [hg] at hr
        | some pk =>
          simp only [hg, List.mem_singleton] at hr
          subst hr
          have := hkeys f r hg
          rw [this, hg]
          exact ⟨rfl, rfl, hdr _⟩
      · rintro ⟨hs, heq, _⟩
        have : t = f := splitLevels_inj heq
        subst this
        obtain ⟨r, hr⟩ := Option.isSome_iff_exists.mp hs
        exact ⟨r, by simp [hr], hkeys t r hr⟩
    · have hls := splitLevels_ne_nil f
      have hhl := hashLast_of_spec _ hok
      constructor
      · rintro ⟨r, hr, rfl⟩
        obtain ⟨s, hs, hg⟩ := List.mem_filterMap.mp hr
        have hst := hkeys s r hg
        subst hst
        have hsome : (assocGet x.retained r.topic).isSome := by simp [hg]
        exact ⟨hsome, (mem_scanMsgs_topic x hpc hnd hsound hcomplete hnoempty _ hls hhl _ hsome).mp hs⟩
      · rintro ⟨hs, hm, hd⟩
        obtain ⟨r, hr⟩ := Option.isSome_iff_exists.mp hs
        refine ⟨r, List.mem_filterMap.mpr ⟨t, ?_, hr⟩, hkeys t r hr⟩
        exact (mem_scanMsgs_topic x hpc hnd hsound hcomplete hnoempty _ hls hhl _ hs).mpr ⟨hm, hd⟩

/-- every message `Messages` returns is the one currently stored under its topic -/
theorem messages_current (x : Index)
    (hkeys : ∀ t r, assocGet x.retained t = some r → r.topic = t) (f : Str) :
    ∀ r ∈ messages x f, assocGet x.retained r.topic = some r := by
  intro r hr
  unfold messages at hr
  split at hr
  · simp at hr
  · split at hr
    · cases hg : assocGet x.retained f with
      | none => simp [hg] at hr
      | some pk =>
        simp only [hg, List.mem_singleton] at hr
        subst hr
        rw [hkeys f r hg]; exact hg
    · obtain ⟨s, _, hg⟩ := List.mem_filterMap.mp hr
      rw [hkeys s r hg]; exact hg

theorem map_topic_filterMap (m : List (Str × Retained))
    (hkeys : ∀ t r, assocGet m t = some r → r.topic = t) (l : List Str) :
    (l.filterMap (assocGet m)).map (·.topic) = l.filter (fun s => (assocGet m s).isSome) := by
  induction l with
  | nil => rfl
  | cons s rest ih =>
    cases hg : assocGet m s with
    | none => simp [hg, ih]
    | some r => simp [hg, ih, hkeys s r hg]

theorem retainPaths_nodup (ns : List Node) (hnd : (ns.map (·.path)).Nodup)
    (hsound : ∀ n ∈ ns, n.retainPath ≠ [] → splitLevels n.retainPath = n.path) (p : Node → Bool) :
    ((ns.filter (fun n => p n && !n.retainPath.isEmpty)).map (·.retainPath)).Nodup := by
  unfold List.Nodup at hnd ⊢
  rw [List.pairwise_map] at hnd ⊢
  refine List.Pairwise.imp_of_mem ?_ (hnd.filter _)
  intro a b ha hb hab e
  simp only [List.mem_filter, Bool.and_eq_true, Bool.not_eq_true', List.isEmpty_eq_false_iff] at ha hb
  apply hab
  rw [← hsound a ha.1 ha.2.2, ← hsound b hb.1 hb.2.2, e]

/-- `Messages` returns no topic twice -/
theorem messages_nodup (x : Index)
    (hpc : PrefixClosed x.nodes) (hnd : (x.nodes.map (·.path)).Nodup)
    (hsound : ∀ n ∈ x.nodes, n.retainPath ≠ [] → splitLevels n.retainPath = n.path)
    (hkeys : ∀ t r, assocGet x.retained t = some r → r.topic = t)
    (hnoempty : (assocGet x.retained []).isNone)
    (f : Str) (hok : specLevelsOK (splitLevels f) = true) :
    ((messages x f).map (·.topic)).Nodup := by
  unfold messages
  split
  · simp
  · split
    · cases assocGet x.retained f <;> simp
    · rw [map_topic_filterMap x.retained hkeys]
      have hnd' := (scanMsgs_perm x.nodes hpc hnd _ (splitLevels_ne_nil f)
        (hashLast_of_spec _ hok)).nodup_iff.mpr (retainPaths_nodup x.nodes hnd hsound _)
      have heq : (scanMsgs x.nodes (splitLevels f) [] 0 (x.nodes.length + 1)).filter
            (fun s => (assocGet x.retained s).isSome) =
          ((scanMsgs x.nodes (splitLevels f) [] 0 (x.nodes.length + 1)).filter (· ≠ [])).filter
            (fun s => (assocGet x.retained s).isSome) := by
        rw [List.filter_filter]
        apply List.filter_congr
        intro s _
        by_cases hs : s = []
        · subst hs
          rw [Option.isNone_iff_eq_none] at hnoempty
          simp [hnoempty]
        · simp [hs]
      rw [heq]
      exact List.Nodup.sublist List.filter_sublist hnd'

/-! ### a concrete index: the hypotheses hold of it; what `Messages` returns for some filters -/

/-- retained messages on `a`, `a/b` and `$x/y`, stored through the model's own `retainMessage` -/
def exIdx : Index :=
  runOps [.retain [97] [1] true, .retain [97, 47, 98] [2] true, .retain [36, 120, 47, 121] [3] true]

example : exIdx.nodes.map (fun n => (n.path, n.retainPath)) =
    [([[97]], [97]), ([[97], [98]], [97, 47, 98]), ([[36, 120]], []),
     ([[36, 120], [121]], [36, 120, 47, 121])] := by decide +kernel

-- the structural hypotheses hold of it
example : PrefixClosed exIdx.nodes := prefixClosed_runOps _
example : (exIdx.nodes.map (·.path)).Nodup := by decide
example : ∀ n ∈ exIdx.nodes, n.retainPath ≠ [] → splitLevels n.retainPath = n.path := by decide
example : (assocGet exIdx.retained []).isNone := by decide

-- `a/#` returns `a` and `a/b`
example : (messages exIdx [97, 47, 35]).map (·.topic) = [[97], [97, 47, 98]] := by decide
-- `+/#` returns `a` and `a/b`, not `$x/y`
example : (messages exIdx [43, 47, 35]).map (·.topic) = [[97], [97, 47, 98]] := by decide
-- `#` returns `a` and `a/b`, not `$x/y`
example : (messages exIdx [35]).map (·.topic) = [[97], [97, 47, 98]] := by decide
-- `+/b` returns `a/b`
example : (messages exIdx [43, 47, 98]).map (·.topic) = [[97, 47, 98]] := by decide
-- `$x/#` returns `$x/y`
example : (messages exIdx [36, 120, 47, 35]).map (·.topic) = [[36, 120, 47, 121]] := by decide
-- `+` returns `a` only; `$x/+` returns `$x/y`; a literal filter is a direct lookup
example : (messages exIdx [43]).map (·.topic) = [[97]] := by decide
example : (messages exIdx [36, 120, 47, 43]).map (·.topic) = [[36, 120, 47, 121]] := by decide
example : (messages exIdx [97, 47, 98]).map (·.topic) = [[97, 47, 98]] := by decide
-- the scan itself, and the specification side of `scanMsgs_perm`, on `+/#`
example : scanMsgs exIdx.nodes [[plus], [hash]] [] 0 (exIdx.nodes.length + 1) = [[97], [97, 47, 98]] := by
  decide
example : (exIdx.nodes.filter (fun n => msgMatch [[plus], [hash]] n.path && !n.retainPath.isEmpty)).map
    (·.retainPath) = [[97], [97, 47, 98]] := by decide

end Mochi.Topics
