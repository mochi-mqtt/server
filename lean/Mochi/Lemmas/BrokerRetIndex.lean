import Mochi.Lemmas.BrokerCounters
import Mochi.Lemmas.ScanMsgs
import Mochi.Lemmas.Refine
/-!
# The retained scan `messages s.topics f` is exact in every reachable broker state

`Mochi.Topics.messages_exact` needs structural facts about the index: addresses prefix closed and pairwise
distinct, every retain path sits on the particle it names, every retained topic has its particle, and the
retained map is keyed by topic.  For index histories (`runOps`) these come from the simulation `Sim` of
`Refine.lean`.  The broker is not an index history: `tickRetained` deletes expired topics from
`s.topics.retained` but leaves the particle's `retainPath` in place, so `Sim s.topics.nodes s.topics.retained a`
is NOT an invariant of the broker.

`RetIdx x`: the particles of `x` simulate some plain index `a` whose retained map `ret'` is a SUPERSET of
`x.retained`.  Every index operation keeps it (the particles an operation computes do not depend on the
retained map, `applyOp_nodes_ri`), and so does dropping keys from the real map.  `RetIdxOK_laws` makes it a
lawful predicate on the broker core, so it holds after every history (`RetIdxOK_run`), and it gives every
hypothesis of `messages_exact` / `messages_nodup` / `messages_current` but "no retained message under the
empty topic".
-/
namespace Mochi.Topics

theorem applyOp_retained_ri (x : Index) (op : IOp) : (applyOp x op).retained = retOp x.retained op := by
  rw [applyOp_eq]

theorem applyOp_nodes_ri (ns : List Node) (r r' : List (Str × Retained)) (op : IOp) :
    (applyOp { nodes := ns, retained := r } op).nodes = (applyOp { nodes := ns, retained := r' } op).nodes := by
  rw [applyOp_eq, applyOp_eq]

/-- the particles of `x` simulate a plain index whose retained map contains `x.retained` -/
def RetIdx (x : Index) : Prop :=
  ∃ (ret' : List (Str × Retained)) (a : Abs),
    PrefixClosed x.nodes ∧ PathsOK (x.nodes.map (·.path)) ∧
    Sim x.nodes ret' a ∧
    (∀ t r, assocGet x.retained t = some r → assocGet ret' t = some r) ∧
    (∀ t r, assocGet x.retained t = some r → r.topic = t)

theorem RetIdx_empty_ri : RetIdx {} :=
  ⟨[], {}, by intro p hp; simp [hasNode] at hp, ⟨List.nodup_nil, fun _ h => by simp at h⟩, sim_empty,
    fun _ _ h => h, fun _ _ h => by simp [assocGet_nil] at h⟩

theorem retOp_sub_ri (m m' : List (Str × Retained)) (op : IOp)
    (h : ∀ t r, assocGet m t = some r → assocGet m' t = some r) :
    ∀ t r, assocGet (retOp m op) t = some r → assocGet (retOp m' op) t = some r := by
  cases op with
  | retain k p fl =>
    intro t r
    simp only [retOp]
    split
    · rw [assocGet_assocSet, assocGet_assocSet]
      split
      · exact id
      · exact h t r
    · rw [assocGet_assocDel, assocGet_assocDel]
      split
      · exact id
      · exact h t r
  | _ => exact h

theorem RetIdx_applyOp_ri (x : Index) (op : IOp) (h : RetIdx x) : RetIdx (applyOp x op) := by
  obtain ⟨ret', a, hpc, hok, hsim, hsup, hkeys⟩ := h
  have hn : (applyOp { nodes := x.nodes, retained := ret' } op).nodes = (applyOp x op).nodes :=
    applyOp_nodes_ri x.nodes ret' x.retained op
  have hs := sim_applyOp { nodes := x.nodes, retained := ret' } a hpc hsim op
  rw [hn, applyOp_retained_ri] at hs
  refine ⟨_, _, prefixClosed_applyOp x hpc op, pathsOK_applyOp x hok op, hs, ?_, ?_⟩
  · rw [applyOp_retained_ri]
    exact retOp_sub_ri _ _ op hsup
  · rw [applyOp_retained_ri]
    exact keysOK_retOp hkeys op

theorem RetIdx_del_ri (x : Index) (k : Str) (h : RetIdx x) :
    RetIdx { x with retained := assocDel x.retained k } := by
  obtain ⟨ret', a, hpc, hok, hsim, hsup, hkeys⟩ := h
  refine ⟨ret', a, hpc, hok, hsim, fun t r e => hsup t r ?_, keysOK_del hkeys k⟩
  rw [assocGet_assocDel] at e
  split at e
  · cases e
  · exact e

/-! ### what `RetIdx` gives the retained scan -/

theorem RetIdx.sound_ri {x : Index} (h : RetIdx x) :
    ∀ n ∈ x.nodes, n.retainPath ≠ [] → splitLevels n.retainPath = n.path :=
  have ⟨_, _, _, hok, hsim, _, _⟩ := h
  fun n hn hr => (hsim.sound hok.1 n hn hr).1

theorem RetIdx.complete_ri {x : Index} (h : RetIdx x) :
    ∀ t, t ≠ [] → (assocGet x.retained t).isSome →
      ∃ n, getNode x.nodes (splitLevels t) = some n ∧ n.retainPath = t :=
  have ⟨_, _, _, _, hsim, hsup, _⟩ := h
  fun t ht hs => by
    obtain ⟨r, hr⟩ := Option.isSome_iff_exists.mp hs
    exact hsim.has_node t ht (by rw [hsup t r hr]; rfl)

theorem RetIdx.keys_ri {x : Index} (h : RetIdx x) : ∀ t r, assocGet x.retained t = some r → r.topic = t := by
  obtain ⟨_, _, _, _, _, _, hkeys⟩ := h
  exact hkeys

theorem RetIdx.prefixClosed_ri {x : Index} (h : RetIdx x) : PrefixClosed x.nodes := by
  obtain ⟨_, _, hpc, _, _, _, _⟩ := h
  exact hpc

theorem RetIdx.pathsOK_ri {x : Index} (h : RetIdx x) : PathsOK (x.nodes.map (·.path)) := by
  obtain ⟨_, _, _, hok, _, _, _⟩ := h
  exact hok

end Mochi.Topics

namespace Mochi.Broker
open Mochi.Topics

/-- the topic index of the core satisfies `RetIdx` -/
def RetIdxOK (k : Core) : Prop := RetIdx k.topics

theorem RetIdxOK_laws : Laws RetIdxOK := by
  refine ⟨?_, ?_, ?_, ?_, ?_, ?_⟩
  · intro s cid sb h
    exact RetIdx_applyOp_ri s.topics (.subscribe cid sb) h
  · intro s f cid h
    exact RetIdx_applyOp_ri s.topics (.unsubscribe f cid) h
  · intro s pk h
    unfold retainMsg
    split
    · exact h
    · exact RetIdx_applyOp_ri s.topics (.retain pk.topic pk.payload pk.retain) h
  · intro s now h
    exact tickRetained_cases (J := fun x => RetIdx x.topics) s now h
      (fun b e _ _ hb => RetIdx_del_ri b.topics e.1 hb) fun _ hb => hb
  · intro s id sb h
    exact RetIdx_applyOp_ri s.topics (.inlineSubscribe id sb) h
  · intro s id f h
    exact RetIdx_applyOp_ri s.topics (.inlineUnsubscribe id f) h

theorem RetIdxOK_init (caps : Caps) : RetIdxOK (core (init caps)) := RetIdx_empty_ri

theorem RetIdxOK_step (s : Server) (op : Op) : RetIdxOK (core s) → RetIdxOK (core (step s op).1) :=
  step_coreP RetIdxOK_laws s op

/-- **in every history the topic index of the broker satisfies `RetIdx`** -/
theorem RetIdxOK_run (caps : Caps) (ops : List Op) : RetIdxOK (core (run (init caps) ops)) :=
  run_coreP RetIdxOK_laws _ ops (RetIdxOK_init caps)

/-- **`Messages(filter)` on the broker's index returns exactly the retained topics the filter matches**,
    given only that nothing is retained under the empty topic. -/
theorem messages_exact_of_RetIdxOK (s : Server) (h : RetIdxOK (core s))
    (hne : assocGet s.topics.retained [] = none)
    (f : Str) (hf : f ≠ []) (hok : specLevelsOK (splitLevels f) = true) (t : Str) :
    (∃ r ∈ messages s.topics f, r.topic = t) ↔
      ((assocGet s.topics.retained t).isSome ∧ specMatch (splitLevels f) t = true) := by
  have h' : RetIdx s.topics := h
  rw [messages_exact s.topics h'.prefixClosed_ri h'.pathsOK_ri.1 h'.sound_ri h'.complete_ri h'.keys_ri
        (by rw [hne]; rfl) f hf hok t]
  unfold specMatch
  constructor
  · rintro ⟨h1, h2, h3⟩; exact ⟨h1, by simp [h2, h3]⟩
  · rintro ⟨h1, h2⟩
    simp only [Bool.and_eq_true, Bool.not_eq_true'] at h2
    exact ⟨h1, h2.1, h2.2⟩

/-- `Messages(filter)` returns no topic twice -/
theorem messages_nodup_of_RetIdxOK (s : Server) (h : RetIdxOK (core s))
    (hne : assocGet s.topics.retained [] = none)
    (f : Str) (hok : specLevelsOK (splitLevels f) = true) :
    ((messages s.topics f).map (·.topic)).Nodup := by
  have h' : RetIdx s.topics := h
  exact messages_nodup s.topics h'.prefixClosed_ri h'.pathsOK_ri.1 h'.sound_ri h'.keys_ri
    (by rw [hne]; rfl) f hok

/-- every message `Messages(filter)` returns is the one currently stored under its topic -/
theorem messages_current_of_RetIdxOK (s : Server) (h : RetIdxOK (core s)) (f : Str) :
    ∀ r ∈ messages s.topics f, assocGet s.topics.retained r.topic = some r := by
  have h' : RetIdx s.topics := h
  exact messages_current s.topics h'.keys_ri f

/-- the three, after every history -/
theorem messages_exact_run (caps : Caps) (ops : List Op)
    (hne : assocGet (run (init caps) ops).topics.retained [] = none)
    (f : Str) (hf : f ≠ []) (hok : specLevelsOK (splitLevels f) = true) (t : Str) :
    (∃ r ∈ messages (run (init caps) ops).topics f, r.topic = t) ↔
      ((assocGet (run (init caps) ops).topics.retained t).isSome ∧ specMatch (splitLevels f) t = true) :=
  messages_exact_of_RetIdxOK _ (RetIdxOK_run caps ops) hne f hf hok t

end Mochi.Broker

#print axioms Mochi.Broker.RetIdxOK_laws
#print axioms Mochi.Broker.RetIdxOK_step
#print axioms Mochi.Broker.RetIdxOK_run
#print axioms Mochi.Broker.messages_exact_of_RetIdxOK
#print axioms Mochi.Broker.messages_nodup_of_RetIdxOK
#print axioms Mochi.Broker.messages_current_of_RetIdxOK
#print axioms Mochi.Broker.messages_exact_run
