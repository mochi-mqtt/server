import Mochi.Lemmas.BrokerSurviveDefs
import Mochi.Lemmas.RecordWalk
/-!
# C09 — the record of an unacknowledged exchange through every op

`Mochi/Lemmas/RecordWalk.lean` (`RecWalk.step_holds`) for the record of an outbound exchange (`recOk`) and the packets
that end it (`pkEnds`): `Holds s cid k p` unfolds to `RecWalk.Holds recOk s cid k p`; `Ends` is a definition of its own,
which `RecWalk.Ends (fun _ => pkEnds k)` implies (`Ends.of_walk`).
-/
namespace Mochi.Broker
open Mochi.Topics

theorem recOk_pubrel (id n : Nat) (p : Str) :
    recOk { type := 6, id := id, qos := 1, reasonCode := 0, created := NOW, expiry := NOW + n } p = true := by
  have h : (0 : Int) ≤ NOW + (n : Int) := by unfold NOW; omega
  simp [recOk, h]

/-- the outbound exchange `k` is of the kind the walk follows -/
theorem outboundKind (k : Nat) : RecWalk.Kind recOk (fun _ => pkEnds k) k where
  deferred m p h := by
    have : ¬ (0 ≤ m.expiry) := by omega
    simp [recOk, this]
  acks m p h := by
    have : m.type = 4 ∨ m.type = 7 := by simpa using h
    rcases this with e | e <;> simp [recOk, e]
  inline _ _ _ _ := rfl
  puback _ id _ h := by simpa [pkEnds] using h
  pubcomp _ id _ h := by simpa [pkEnds] using h
  pubrel _ id _ h := by simpa [pkEnds] using h
  pingreq _ := rfl
  pubrec _ id rc h e := by
    have h : (id == k && (decide (rc ≥ 0x80) || !reasonValid 5 rc)) = false := h
    have e' : (id == k) = true := by simpa using e
    rw [e', Bool.true_and] at h
    exact ⟨h, fun n p => recOk_pubrel id n p⟩
  publish _ _ _ _ id _ _ _ _ h e := by
    have h : (id == k) = false := h
    simp [e] at h
  publishNe _ _ _ _ id _ _ _ _ h := by simpa [pkEnds] using h

theorem Ends.of_walk {s : Server} {cid : Str} {k : Nat} {op : Op} (h : RecWalk.Ends (fun _ => pkEnds k) s cid k op) :
    Ends s cid k op := by
  cases op <;> exact h

/-! ### handler by handler -/

theorem publishToSubscribers_surv (k : Nat) (s : Server) (pk : Msg) : Surv k s (publishToSubscribers s pk).1 :=
  fun x => .of_walk (RecWalk.publishToSubscribers_surv recOk k s pk x)

theorem retainMsg_surv (k : Nat) (s : Server) (pk : Msg) : Surv k s (retainMsg s pk) :=
  fun x => .of_walk (RecWalk.retainMsg_surv recOk k s pk x)

theorem processUnsubscribe_surv (k : Nat) (s : Server) (i id : Nat) (filters : List Str) :
    SurvW i k True s (processUnsubscribe s i id filters).1 :=
  fun x _ => .of_walk (RecWalk.processUnsubscribe_surv recOk k s i id filters x)

theorem processSubscribe_surv (k : Nat) (s : Server) (i id subId : Nat) (filters : List Sub) :
    SurvW i k True s (processSubscribe s i id subId filters).1 :=
  fun x _ => .of_walk (RecWalk.processSubscribe_surv recOk k s i id subId filters x)

/-- the acting object's record under the packet's own identifier may go (F10), no other -/
theorem processPublish_surv (k : Nat) (s : Server) (i : Nat) (qos : Nat) (dup retain : Bool) (id : Nat)
    (topic payload : Str) (msgExpiry : Nat) (alias : Option Nat) :
    SurvW i k (id ≠ k) s (processPublish s i qos dup retain id topic payload msgExpiry alias).1 :=
  fun x hx => .of_walk (RecWalk.processPublish_surv recOk k s i qos dup retain id topic payload msgExpiry alias x hx)

/-! ### op by op: the cases of `RecWalk.step_holds` for this record; `i` is the object registered under `cid` -/

theorem step_recv_holds (k : Nat) (p cid : Str) (s : Server) (conn : Nat) (pk : InPk) (i : Nat) (hw : WF s)
    (h : RecWalk.HoldsAt recOk s cid k p i) (hne : ¬ Ends s cid k (.recv conn pk)) :
    RecWalk.HoldsAt recOk (step s (.recv conn pk)).1 cid k p i :=
  RecWalk.recvOn_keeps (outboundKind k) conn pk true hw h fun e => hne (.of_walk e)

theorem step_drop_holds (k : Nat) (p cid : Str) (s : Server) (conn : Nat) (i : Nat) (hw : WF s)
    (h : RecWalk.HoldsAt recOk s cid k p i) (hne : ¬ Ends s cid k (.drop conn)) :
    RecWalk.HoldsAt recOk (step s (.drop conn)).1 cid k p i :=
  RecWalk.step_drop_holds (pe := fun _ => pkEnds k) conn hw h fun e => hne (.of_walk e)

theorem step_dropHold_holds (k : Nat) (p cid : Str) (s : Server) (conn : Nat) (i : Nat)
    (h : RecWalk.HoldsAt recOk s cid k p i) : RecWalk.HoldsAt recOk (step s (.dropHold conn)).1 cid k p i :=
  RecWalk.step_dropHold_holds conn h

theorem step_dropHoldEarly_holds (k : Nat) (p cid : Str) (s : Server) (conn : Nat) (i : Nat)
    (h : RecWalk.HoldsAt recOk s cid k p i) : RecWalk.HoldsAt recOk (step s (.dropHoldEarly conn)).1 cid k p i :=
  RecWalk.step_dropHoldEarly_holds conn h

theorem step_recvCut_holds (k : Nat) (p cid : Str) (s : Server) (conn : Nat) (pk : InPk) (i : Nat) (hw : WF s)
    (h : RecWalk.HoldsAt recOk s cid k p i) (hne : ¬ Ends s cid k (.recvCut conn pk)) :
    RecWalk.HoldsAt recOk (step s (.recvCut conn pk)).1 cid k p i :=
  RecWalk.step_recvCut_holds (outboundKind k) conn pk hw h fun e => hne (.of_walk e)

theorem step_inlinePublish_holds (k : Nat) (p cid : Str) (s : Server) (topic payload : Str) (retain : Bool)
    (qos : Nat) (i : Nat) (hw : WF s) (h : RecWalk.HoldsAt recOk s cid k p i)
    (hne : ¬ Ends s cid k (.inlinePublish topic payload retain qos)) :
    RecWalk.HoldsAt recOk (step s (.inlinePublish topic payload retain qos)).1 cid k p i :=
  RecWalk.step_inlinePublish_holds (outboundKind k) topic payload retain qos hw h fun e => hne (.of_walk e)

theorem step_inlineSubscribe_holds (k : Nat) (p cid : Str) (s : Server) (id : Nat) (filter : Str) (i : Nat)
    (h : RecWalk.HoldsAt recOk s cid k p i) : RecWalk.HoldsAt recOk (step s (.inlineSubscribe id filter)).1 cid k p i :=
  RecWalk.step_inlineSubscribe_holds id filter h

theorem step_inlineUnsubscribe_holds (k : Nat) (p cid : Str) (s : Server) (id : Nat) (filter : Str) (i : Nat)
    (h : RecWalk.HoldsAt recOk s cid k p i) :
    RecWalk.HoldsAt recOk (step s (.inlineUnsubscribe id filter)).1 cid k p i :=
  RecWalk.step_inlineUnsubscribe_holds id filter h

theorem step_tick_holds (k : Nat) (p cid : Str) (s : Server) (kind : String) (t : Int) (i : Nat) (hw : WF s)
    (h : RecWalk.HoldsAt recOk s cid k p i) (hne : ¬ Ends s cid k (.tick kind t)) :
    RecWalk.HoldsAt recOk (step s (.tick kind t)).1 cid k p i :=
  RecWalk.step_tick_holds (pe := fun _ => pkEnds k) kind t hw h fun e => hne (.of_walk e)

theorem step_connect_holds (k : Nat) (p cid : Str) (s : Server) (conn : Nat) (k' : Connect) (hw : WF s)
    (hf : conn ∉ s.connOf.map (·.1)) (h : Holds s cid k p) (hne : ¬ Ends s cid k (.connect conn k')) :
    Holds (step s (.connect conn k')).1 cid k p :=
  h.elim fun _ hi => RecWalk.step_connect_holds (outboundKind k) conn k' hw hf hi fun e => hne (.of_walk e)

theorem step_connectHold_holds (k : Nat) (p cid : Str) (s : Server) (conn : Nat) (k' : Connect) (stage : Nat)
    (hw : WF s) (hf : conn ∉ s.connOf.map (·.1)) (h : Holds s cid k p)
    (hne : ¬ Ends s cid k (.connectHold conn k' stage)) :
    Holds (step s (.connectHold conn k' stage)).1 cid k p :=
  h.elim fun _ hi =>
    RecWalk.step_connectHold_holds (pe := fun _ => pkEnds k) conn k' stage hw hf hi fun e => hne (.of_walk e)

theorem step_release_holds (k : Nat) (p cid : Str) (s : Server) (conn : Nat) (hw : WF s) (hsync : SyncInv s)
    (h : Holds s cid k p) (hne : ¬ Ends s cid k (.release conn)) : Holds (step s (.release conn)).1 cid k p :=
  h.elim fun _ hi => RecWalk.step_release_holds (outboundKind k) conn hw hsync hi fun e => hne (.of_walk e)

end Mochi.Broker
