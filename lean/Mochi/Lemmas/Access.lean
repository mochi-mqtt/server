import Mochi.Model.Access
/-!
# M8 — soundness of the lockset checker

For **every** table, every role assignment and every role-compatibility relation `cc`:
* `exec_exclusive`: in the lock state after any execution, two different goroutines hold one key only if
  both hold it in read mode (the `sync.RWMutex` invariant of the semantics);
* `locksetOkWith_sound`: if the checker accepts the table then no execution leads to a `Race`;
* `locksetOkExceptWith_sound`: if the checker accepts the table up to the recorded findings then every
  `Race` any execution leads to is one of the recorded (location, roles) pairs.
-/
namespace Mochi.Access

/-- two different goroutines hold one key only in read mode -/
def Exclusive (H : Holds) : Prop :=
  ∀ i j k m m', (i, k, m) ∈ H → (j, k, m') ∈ H → i ≠ j → m = .R ∧ m' = .R

theorem exec_exclusive {tbl : List Access} {role : Nat → Nat} {tr : List (Nat × Ev)} {H : Holds}
    (h : Exec tbl role tr H) : Exclusive H := by
  induction h with
  | nil => intro i j k m m' hi; cases hi
  | @acq tr H i k m _ hg ih =>
    intro a b c x y ha hb hab
    rcases List.mem_cons.1 ha with ha | ha <;> rcases List.mem_cons.1 hb with hb | hb
    · cases ha; cases hb; exact absurd rfl hab
    · cases ha
      have := hg b y hb (fun e => hab e.symm)
      exact ⟨this.2, this.1⟩
    · cases hb
      exact hg a x ha hab
    · exact ih a b c x y ha hb hab
  | rel _ ih =>
    intro a b c x y ha hb hab
    exact ih a b c x y (List.mem_filter.1 ha).1 (List.mem_filter.1 hb).1 hab
  | access _ _ ih => exact ih

theorem commonLock_spec {a b : Access} (h : commonLock a b = true) :
    ∃ x ∈ a.held, ∃ y ∈ b.held, x.key = y.key ∧ (x.mode = .W ∨ y.mode = .W) := by
  simp only [commonLock, List.any_eq_true, Bool.and_eq_true, Bool.or_eq_true, beq_iff_eq] at h
  obtain ⟨x, hx, y, hy, hk, hm⟩ := h
  exact ⟨x, hx, y, hy, hk, hm⟩

theorem no_race_of_commonLock {tbl : List Access} {role : Nat → Nat} {H : Holds} (hx : Exclusive H)
    {i j : Nat} {a b : Access} (hij : i ≠ j) (ha : Enabled tbl role H i a) (hb : Enabled tbl role H j b)
    (hc : commonLock a b = true) : False := by
  obtain ⟨x, hxa, y, hyb, hk, hm⟩ := commonLock_spec hc
  have h1 := ha.2.2 x hxa
  have h2 := hb.2.2 y hyb
  rw [hk] at h1
  have := hx i j y.key x.mode y.mode h1 h2 hij
  rcases hm with hm | hm
  · rw [this.1] at hm; cases hm
  · rw [this.2] at hm; cases hm

theorem all_all {α β} {l : List α} {l' : α → List β} {P : α → β → Bool}
    (h : (l.all fun a => (l' a).all fun b => P a b) = true) {a : α} {b : β} (ha : a ∈ l) (hb : b ∈ l' a) :
    P a b = true :=
  List.all_eq_true.1 (List.all_eq_true.1 h a ha) b hb

theorem pairOk_race {cc : Nat → Nat → Bool} {a b : Access} (hp : pairOk cc a b = true)
    (hcc : cc a.role b.role = true) (hcf : conflict a b = true) (hat : (a.atomic && b.atomic) = false) :
    commonLock a b = true := by
  simp only [pairOk, hcc, hcf, hat, Bool.not_true, Bool.false_or] at hp
  exact hp

/-- **Soundness up to the recorded findings.**  Every race any execution leads to is one of the recorded
(location, roles) pairs. -/
theorem locksetOkExceptWith_sound (cc : Nat → Nat → Bool) (tbl : List Access) (known : List Known)
    (h : locksetOkExceptWith cc tbl known = true) :
    ∀ role tr H, Exec tbl role tr H → ∀ a b, Race cc tbl role H a b → excused known a b = true := by
  intro role tr H hex a b ⟨i, j, hij, ha, hb, hcc, hcf, hat⟩
  simp only [locksetOkExceptWith, Bool.and_eq_true] at h
  rcases Bool.or_eq_true _ _ ▸ all_all h.2 ha.1 hb.1 with hp | hp
  · have hcc' : cc a.role b.role = true := by rw [ha.2.1, hb.2.1]; exact hcc
    exact (no_race_of_commonLock (exec_exclusive hex) hij ha hb (pairOk_race hp hcc' hcf hat)).elim
  · exact hp

theorem locksetOkExceptWith_nil (cc : Nat → Nat → Bool) (tbl : List Access) :
    locksetOkExceptWith cc tbl [] = locksetOkWith cc tbl := by
  simp [locksetOkExceptWith, locksetOkWith, excused]

/-- **Soundness of the lockset check.**  If the checker accepts the table, then after no execution of
goroutines that take and release locks as recorded are two conflicting, not-both-atomic accesses of
concurrent roles enabled at the same time. -/
theorem locksetOkWith_sound (cc : Nat → Nat → Bool) (tbl : List Access)
    (h : locksetOkWith cc tbl = true) :
    ∀ role tr H, Exec tbl role tr H → ∀ a b, ¬ Race cc tbl role H a b := by
  intro role tr H hex a b hr
  rw [← locksetOkExceptWith_nil] at h
  exact nomatch locksetOkExceptWith_sound cc tbl [] h role tr H hex a b hr

theorem locksetOk_sound (tbl : List Access) (h : locksetOk tbl = true) :
    ∀ role tr H, Exec tbl role tr H → ∀ a b, ¬ Race conc tbl role H a b :=
  locksetOkWith_sound conc tbl h

theorem locksetOkExcept_sound (tbl : List Access) (known : List Known)
    (h : locksetOkExcept tbl known = true) :
    ∀ role tr H, Exec tbl role tr H → ∀ a b, Race conc tbl role H a b → excused known a b = true :=
  locksetOkExceptWith_sound conc tbl known h

theorem mem_rowsOf {gs : List LocGroup} {a : Access} (h : a ∈ rowsOf gs) :
    ∃ g ∈ gs, ∃ x ∈ g.actors, a = g.row x := by
  simp only [rowsOf, List.mem_flatMap, LocGroup.rows, List.mem_map] at h
  obtain ⟨g, hg, x, hx, rfl⟩ := h
  exact ⟨g, hg, x, hx, rfl⟩

theorem conflict_false_of_groups {g h : LocGroup} {x y : Actor} (hov : groupsOverlap g h = false) :
    conflict (g.row x) (h.row y) = false := by
  simp only [conflict, overlap, LocGroup.row]
  simp only [groupsOverlap] at hov
  rw [hov]
  rfl

theorem groupedOkExceptWith_rows (cc : Nat → Nat → Bool) (gs : List LocGroup) (known : List Known)
    (h : groupedOkExceptWith cc gs known = true) : locksetOkExceptWith cc (rowsOf gs) known = true := by
  simp only [groupedOkExceptWith, Bool.and_eq_true] at h
  obtain ⟨hu, hp⟩ := h
  simp only [locksetOkExceptWith, Bool.and_eq_true]
  refine ⟨List.all_eq_true.2 fun a ha => ?_, List.all_eq_true.2 fun a ha => List.all_eq_true.2 fun b hb => ?_⟩
  · obtain ⟨g, hg, x, hx, rfl⟩ := mem_rowsOf ha
    exact all_all hu hg hx
  · obtain ⟨g, hg, x, hx, rfl⟩ := mem_rowsOf ha
    obtain ⟨k, hk, y, hy, rfl⟩ := mem_rowsOf hb
    have h2 := all_all hp hg hk
    cases hov : groupsOverlap g k with
    | false => simp [pairOk, conflict_false_of_groups hov]
    | true =>
      rw [hov] at h2
      exact all_all h2 hx hy

theorem groupedOkExcept_rows (gs : List LocGroup) (known : List Known)
    (h : groupedOkExcept gs known = true) : locksetOkExcept (rowsOf gs) known = true :=
  groupedOkExceptWith_rows conc gs known h

theorem excused_spec {known : List Known} {a b : Access} (h : excused known a b = true) :
    ∃ k ∈ known, k.obj = a.obj ∧ k.path = pairPath a b ∧
      ((k.r1 = a.role ∧ k.r2 = b.role) ∨ (k.r1 = b.role ∧ k.r2 = a.role)) := by
  simp only [excused, List.any_eq_true, Bool.and_eq_true, Bool.or_eq_true, beq_iff_eq] at h
  obtain ⟨k, hk, ⟨ho, hp⟩, hr⟩ := h
  exact ⟨k, hk, ho, hp, hr⟩

end Mochi.Access
