import Mochi.Lemmas.BrokerOrder
import Mochi.Lemmas.BrokerInbound
/-!
# C12, history level, publishes of QoS 1 and QoS 2: the op decomposed, and the order of first transmissions

`Lemmas/BrokerOrder.lean` (namespace `O12`) proves the history-level order for publishes of QoS 0 and, for any QoS,
the routing call.  An ACCEPTED publish of any QoS is `Routed` (`Lemmas/BrokerPublishOp.lean`): the op is

  acknowledgement to the publisher ++ the ONE routing call `publishToSubscribers` ++ the publisher's own release tail

(`Routed.step`, `Routed.outputs`), so that for a receiving connection `c` other than the publisher's, or for every `c`
when the publisher cannot release (`Calm`),

  `pubsTo c (step s op).2 = pubsTo c (routing call).2`            (`Routed.pubsTo_other`, `Routed.pubsTo_calm`)

and the first transmission of an IMMEDIATE delivery is written by the publishing op itself, exactly once, with
`dup = false` and the QoS the subscription yields (`Routed.first_tx`; for QoS 1 and 2 `publish_q1_first_tx`,
`publish_q2_first_tx`, which establish what `Routed.first_tx` asks of the routing state); the order on histories
follows by `O12.history_order` (`C12_history_order_qos1_partial`, `C12_history_order_qos2_partial` in `Props/C12.lean`).

Deferred deliveries and resends are NOT covered: the property is false there (F12, `Props/C12.lean`).
All declarations but those on `Routed` live in `Mochi.Broker.O12q`.
-/
namespace Mochi.Broker.O12q
open Mochi.Topics Mochi.Broker Mochi.Broker.O12

/-! ### the outputs of an accepted PUBLISH op -/

/-- **the outputs of an accepted publish, decomposed**: `ack ++ (the routing call).2 ++ tail`, where `tail` — at most
    two outputs — writes only to the PUBLISHER's own connection (releases of its own deferred messages) -/
theorem _root_.Mochi.Broker.Routed.outputs {s : Server} {i q : Nat} {d r : Bool} {id : Nat} {topic payload : Str}
    {me : Nat} {t : Server} {m : Msg} {ack : List Out} (R : Routed s i q d r id topic payload me t m ack) (conn : Nat)
    (hc : assocGet s.connOf conn = some i) (ho : (getObj s i).isOpen = true) (hp : (getObj s i).peerGone = false) :
    ∃ tail, (Mochi.Broker.step s (.recv conn (.publish q d r id topic payload me none))).2 =
        ack ++ (publishToSubscribers t m).2 ++ tail ∧
      tail.length ≤ 2 ∧ ∀ x ∈ tail, ∃ pk, x = Out.wrote (getObj s i).conn pk := by
  have ht := nextImmediate_twice_out (publishToSubscribers t m).1 i
  rw [R.routedLive.conn] at ht
  refine ⟨_, ?_, ht.1, ht.2⟩
  rw [R.step conn hc ho hp, List.append_assoc (ack ++ _)]

theorem step_recv_publish_q1_outputs (s : Server) (hw : WF s) (conn i : Nat) (dup retain : Bool) (id : Nat)
    (topic payload : Str) (me : Nat) (hc : assocGet s.connOf conn = some i) (h : AcceptedQ1 s i id topic) :
    ∃ tail, (step s (.recv conn (.publish 1 dup retain id topic payload me none))).2 =
        [Out.wrote (getObj s i).conn (.ack (getObj s i).ver 4 id 1)] ++
          (publishToSubscribers (retainedState s (inboundMsg s i 1 dup retain id topic payload me))
            (inboundMsg s i 1 dup retain id topic payload me)).2 ++ tail ∧
      tail.length ≤ 2 ∧ ∀ x ∈ tail, ∃ pk, x = Out.wrote (getObj s i).conn pk :=
  (h.routed hw dup retain payload me).outputs conn hc h.isOpen h.peer

/-- the client object cannot release a deferred message: it holds none, or it has no send quota -/
def Calm (c : Client) : Prop := (∀ m ∈ c.inflight, 0 ≤ m.expiry) ∨ c.sendQuota = 0

theorem nextImmediate_calm (t : Server) (i : Nat) (h : Calm (getObj t i)) : nextImmediate t i = (t, []) := by
  rcases h with h | h
  · exact nextImmediate_none t i h
  · exact nextImmediate_cases (Q := (· = (t, []))) t i rfl fun _ hq => absurd hq (h ▸ Nat.lt_irrefl 0)

section
variable {s : Server} {i q : Nat} {d r : Bool} {id : Nat} {topic payload : Str} {me : Nat} {t : Server} {m : Msg}
  {ack : List Out}

theorem _root_.Mochi.Broker.Routed.pubsTo_ack (R : Routed s i q d r id topic payload me t m ack) (c : Nat) :
    pubsTo c ack = [] :=
  pubsTo_nil c ack fun ⟨_, _, _, hx⟩ => by
    obtain ⟨_, _, _, _, e⟩ := R.ackOnly _ hx
    cases e

/-- seen from a connection other than the publisher's, the op is the routing call -/
theorem _root_.Mochi.Broker.Routed.pubsTo_other (R : Routed s i q d r id topic payload me t m ack) (conn : Nat)
    (hc : assocGet s.connOf conn = some i) (ho : (getObj s i).isOpen = true) (hp : (getObj s i).peerGone = false)
    (c : Nat) (hne : (getObj s i).conn ≠ c) :
    pubsTo c (Mochi.Broker.step s (.recv conn (.publish q d r id topic payload me none))).2 =
      pubsTo c (publishToSubscribers t m).2 := by
  obtain ⟨tail, e, _, ht⟩ := R.outputs conn hc ho hp
  rw [e, pubsTo_append, pubsTo_append, R.pubsTo_ack, pubsTo_nil_of_other c _ tail hne ht, List.nil_append, List.append_nil]

/-- … and from every connection when the publisher cannot release after the routing -/
theorem _root_.Mochi.Broker.Routed.pubsTo_calm (R : Routed s i q d r id topic payload me t m ack) (conn : Nat)
    (hc : assocGet s.connOf conn = some i) (ho : (getObj s i).isOpen = true) (hp : (getObj s i).peerGone = false)
    (c : Nat) (h : Calm (getObj (publishToSubscribers t m).1 i)) :
    pubsTo c (Mochi.Broker.step s (.recv conn (.publish q d r id topic payload me none))).2 =
      pubsTo c (publishToSubscribers t m).2 := by
  rw [R.step conn hc ho hp]
  simp only [nextImmediate_calm _ i h, List.append_nil, pubsTo_append, R.pubsTo_ack, List.nil_append]

end

/-- **the op, seen from a connection other than the publisher's**: the PUBLISH packets the op writes to `c` are those
    of the routing call -/
theorem pubsTo_step_q1 (s : Server) (hw : WF s) (conn i : Nat) (dup retain : Bool) (id : Nat)
    (topic payload : Str) (me : Nat) (hc : assocGet s.connOf conn = some i) (h : AcceptedQ1 s i id topic)
    (c : Nat) (hne : (getObj s i).conn ≠ c) :
    pubsTo c (step s (.recv conn (.publish 1 dup retain id topic payload me none))).2 =
      pubsTo c (publishToSubscribers (retainedState s (inboundMsg s i 1 dup retain id topic payload me))
        (inboundMsg s i 1 dup retain id topic payload me)).2 :=
  (h.routed hw dup retain payload me).pubsTo_other conn hc h.isOpen h.peer c hne

/-! ### the routing call writes the first transmission of an immediate delivery, with its QoS -/

/-- the RECEIVER of the message `pk` on connection `c`, all on the state `s`: the client object `k` registered under the
    id `cid` is on connection `c`, live (open, not inline, peer not gone); the index holds a plain subscription of `cid`
    of QoS ≥ 1 whose filter matches the topic (the subscription "yields a delivered QoS ≥ 1"); `cid` may read the topic;
    No Local does not exclude it (with the OR-merge of the model, F03); and the delivery is IMMEDIATE: the client is
    `notDeferred` (no Receive Maximum, or send quota left), below the in-flight limit, and the packet identifier `pid`
    is available — the hypothesis of `C12_routing_immediate_any_qos` -/
structure RecvImm (s : Server) (pk : Msg) (c : Nat) (cid : Str) (k pid : Nat) : Prop where
  reg : (cid, k) ∈ s.clients
  conn : (getObj s k).conn = c
  isOpen : (getObj s k).isOpen = true
  notInline : (getObj s k).inline = false
  peer : (getObj s k).peerGone = false
  sub : ∃ sub, MatchingSub s.topics pk.topic cid sub ∧ sub.qos > 0
  acl : aclOk s cid pk.topic false = true
  noLocal : ¬ (pk.origin = cid ∧ ∃ sub, MatchingSub s.topics pk.topic cid sub ∧ sub.noLocal = true)
  /-- `notDeferred (getObj s k)` of `Props/C12.lean` -/
  notDef : (getObj s k).maxSend = 0 ∨ (getObj s k).sendQuota > 0
  limit : (getObj s k).inflight.length < s.caps.maximumInflight
  pid : nextPacketID (getObj s k) s.caps.maximumPacketID = some pid

/-- a first transmission of the message (`payload`, `topic`, publisher `origin`) published at QoS `q`: `dup = 0`, and a
    QoS between 1 and `q` (for `q = 1`: exactly 1) -/
def FirstTx (m : Msg) (payload topic origin : Str) (q : Nat) : Prop :=
  m.payload = payload ∧ m.topic = topic ∧ m.origin = origin ∧ m.dup = false ∧ 1 ≤ m.qos ∧ m.qos ≤ q

theorem shapeQos_bounds (caps : Caps) (sub : Sub) (q : Nat) (hq : 1 ≤ q) (hs : sub.qos > 0) (hm : 1 ≤ caps.maximumQos) :
    1 ≤ shapeQos caps sub q ∧ shapeQos caps sub q ≤ q := by
  rw [shapeQos_eq_min]; omega

/-- **one routing call, seen from the receiver `c`, with the QoS of the copy** (state level: `IdxOK`, `WF`, one
    connection per object, no outbound aliases, no matching shared subscription; a message of QoS ≥ 1, the broker
    grants QoS 1).  The receiver `RecvImm` is written EXACTLY ONE PUBLISH by `publishToSubscribers t pk`: the copy of
    `pk` (payload, topic, origin), `dup = 0`, QoS between 1 and the QoS of `pk`. -/
theorem routing_first_tx_qos (t : Server) (hx : IdxOK t.topics) (hw : WF t) (hcd : ConnDistinct t) (hna : Q1.NoAliases t)
    (pk : Msg) (hig : pk.ignore = false) (ht : pk.type = 3) (hne : pk.topic ≠ [])
    (hnh : ∀ l ∈ splitLevels pk.topic, l ≠ [hash]) (hsh : (subscribers t.topics pk.topic).shared = [])
    (hq : 1 ≤ pk.qos) (hmq : 1 ≤ t.caps.maximumQos)
    (c : Nat) (cid : Str) (k pid : Nat) (h : RecvImm t pk c cid k pid) :
    ∃ m, pubsTo c (publishToSubscribers t pk).2 = [m] ∧ FirstTx m pk.payload pk.topic pk.origin pk.qos := by
  obtain ⟨sub', hg, hq'⟩ := (hasSub_subscribers_idx mergeOr_qosPos t.topics hx pk.topic hne hnh cid).mpr h.sub
  have hgate : (sub'.noLocal && pk.origin == cid) = false := by
    cases hs : sub'.noLocal with
    | false => rfl
    | true =>
      by_cases ho : pk.origin = cid
      · exact absurd ⟨ho, (hasSub_subscribers_idx mergeOr_noLocal t.topics hx pk.topic hne hnh cid).mp ⟨sub', hg, hs⟩⟩
          h.noLocal
      · simp [ho]
  have hserved : Q1.ServedVia t pk (subscribers t.topics pk.topic).subs c :=
    ⟨cid, k, sub', h.reg, h.conn, h.isOpen, h.notInline, h.peer, Mochi.Topics.assocGet_mem _ _ _ hg, h.acl, hgate,
      Or.inr ⟨pid, sent_of_notDeferred t k pid h.limit h.pid h.notDef⟩⟩
  obtain ⟨d1, d2, _⟩ := Q1.writes_exact_shared t hw hcd hna pk hig ht c
  rw [subsMapOf_of_shared_nil t _ hsh] at d1
  obtain ⟨ver, m, mes, hxm⟩ := d1.mpr hserved
  refine ⟨m, pubsTo_singleton c _ d2 ver m mes hxm, ?_⟩
  obtain ⟨e1, e2, e3, e4, e5⟩ := routing_copy t hw hcd hna pk hig ht hsh c ver m mes hxm
  have hb := shapeQos_bounds t.caps sub' pk.qos hq hq' hmq
  rw [← e5 cid k sub' h.reg h.conn h.notInline (Mochi.Topics.assocGet_mem _ _ _ hg)] at hb
  exact ⟨e1, e2, e3, e4, hb⟩

/-! ### the routing call does not enable a release: `Calm` is kept -/

theorem verdict_deferred_quota (s : Server) (i pid : Nat) (h : Q1.verdict s i = .deferred pid) :
    (getObj s i).sendQuota = 0 := by
  unfold Q1.verdict at h
  split at h
  · cases h
  · split at h
    · cases h
    · split at h
      · rename_i hq; exact hq.1
      · cases h

theorem entryObj_calm (s : Server) (i : Nat) (sub : Sub) (pk : Msg) (he : 0 ≤ pk.expiry) (h : Calm (getObj s i)) :
    Calm (Q1.entryObj s i sub pk) := by
  unfold Q1.entryObj
  refine iteInduction (motive := Calm) (fun _ => iteInduction (motive := Calm) (fun _ => ?_) fun _ => h) fun _ => h
  cases hv : Q1.verdict s i with
  | limit => exact h
  | exhausted => exact h
  | deferred pid => exact Or.inr (verdict_deferred_quota s i pid hv)
  | sent pid =>
    rcases h with h | h
    · refine Or.inl fun m hm => ?_
      rcases List.mem_append.mp hm with hm | hm
      · exact h m hm
      · rw [List.mem_singleton.mp hm]; exact he
    · exact Or.inr (show (getObj s i).sendQuota - 1 = 0 by rw [h])

/-- `publishToSubscribers` (state level: `WF`, one connection per object, no outbound aliases, no matching shared
    subscription; a message whose stamped expiry is not negative) keeps `Calm` of every object: a copy it files is sent
    (not deferred), or deferred because the send quota is 0 — and then nothing can be released -/
theorem routing_calm (t : Server) (hw : WF t) (hcd : ConnDistinct t) (hna : Q1.NoAliases t)
    (pk : Msg) (hig : pk.ignore = false) (ht : pk.type = 3)
    (hsh : (subscribers t.topics pk.topic).shared = []) (he : 0 ≤ (stamped t pk).expiry) (i : Nat)
    (h : Calm (getObj t i)) : Calm (getObj (publishToSubscribers t pk).1 i) := by
  obtain ⟨_, _, d3, d4, _⟩ := Q1.writes_exact_shared t hw hcd hna pk hig ht 0
  rw [subsMapOf_of_shared_nil t _ hsh] at d3 d4
  by_cases hex : ∃ cs ∈ (subscribers t.topics pk.topic).subs, assocGet t.clients cs.1 = some i
  · obtain ⟨cs, hcs, hg⟩ := hex
    rw [(d3 cs.1 i cs.2 (Mochi.Topics.assocGet_mem _ _ _ hg) hcs).1]
    exact entryObj_calm t i cs.2 _ he h
  · rw [d4 i (fun cs hcs hg => hex ⟨cs, hcs, hg⟩)]
    exact h

theorem stamped_inbound_expiry (t s : Server) (i q : Nat) (dup retain : Bool) (id : Nat) (topic payload : Str) (me : Nat) :
    0 ≤ (stamped t (inboundMsg s i q dup retain id topic payload me)).expiry := by
  have hn : ∀ n : Nat, (0 : Int) ≤ NOW + n := fun n => Int.add_nonneg (by decide) (Int.natCast_nonneg n)
  have h0 : 0 ≤ (inboundMsg s i q dup retain id topic payload me).expiry :=
    iteInduction (motive := fun e : Int => 0 ≤ e) (fun _ => hn _) fun _ => Int.le_refl 0
  unfold stamped
  refine iteInduction (motive := fun m : Msg => 0 ≤ m.expiry) (fun _ => ?_) fun _ => h0
  exact iteInduction (motive := fun m : Msg => 0 ≤ m.expiry) (fun _ => hn _) fun _ => h0

/-! ### the publishing op writes the first transmission -/

/-- **the publishing op writes the first transmission**, for any accepted publish of QoS ≥ 1 (`Routed`): the receiver `c`
    (`RecvImm` in the routing state `t`, of which `routing_first_tx_qos` is asked) is written EXACTLY ONE PUBLISH, the copy
    of the message, provided the publisher's release tail cannot write to `c` -/
theorem _root_.Mochi.Broker.Routed.first_tx {s : Server} {i q : Nat} {d r : Bool} {id : Nat} {topic payload : Str}
    {me : Nat} {t : Server} {ack : List Out}
    (R : Routed s i q d r id topic payload me t (inboundMsg s i q d r id topic payload me) ack) (conn : Nat)
    (hc : assocGet s.connOf conn = some i) (ho : (getObj s i).isOpen = true) (hp : (getObj s i).peerGone = false)
    (hx : IdxOK t.topics) (hw : WF t) (hcd : ConnDistinct t) (hna : Q1.NoAliases t) (hne : topic ≠ [])
    (hnh : ∀ l ∈ splitLevels topic, l ≠ [hash]) (hsh : (subscribers t.topics topic).shared = [])
    (hq : 1 ≤ q) (hmq : 1 ≤ t.caps.maximumQos) (c : Nat) (own : Calm (getObj t i) ∨ (getObj s i).conn ≠ c)
    {cid : Str} {k pid : Nat} (hr : RecvImm t (inboundMsg s i q d r id topic payload me) c cid k pid) :
    ∃ m, pubsTo c (Mochi.Broker.step s (.recv conn (.publish q d r id topic payload me none))).2 = [m] ∧
      FirstTx m payload topic (getObj s i).id q := by
  have hstep : pubsTo c (Mochi.Broker.step s (.recv conn (.publish q d r id topic payload me none))).2 =
      pubsTo c (publishToSubscribers t (inboundMsg s i q d r id topic payload me)).2 := by
    rcases own with hcalm | hne'
    · exact R.pubsTo_calm conn hc ho hp c (routing_calm t hw hcd hna _ rfl rfl hsh
        (stamped_inbound_expiry t s i q d r id topic payload me) i hcalm)
    · exact R.pubsTo_other conn hc ho hp c hne'
  rw [hstep]
  exact routing_first_tx_qos t hx hw hcd hna _ rfl rfl hne hnh hsh hq hmq c cid k pid hr

/-! ### inbound PUBLISH of QoS 1 -/

/-- what the theorems ask of the op `recv p (PUBLISH QoS 1, identifier id, topic t, no alias)` in state `s` (all on the
    state BEFORE the op), for the receiving connection `c`: `p` is the connection of client object `i`; the publish
    passes the gates (`AcceptedQ1`); no shared subscription matches the topic; and the op's release tail
    (`nextImmediate` for the PUBLISHER) cannot write to `c`: the publisher cannot release (`Calm`: it holds no deferred
    message, or has no send quota), or its connection is not `c` -/
structure PubQ1 (s : Server) (p i c id : Nat) (t : Str) : Prop where
  reg : assocGet s.connOf p = some i
  gates : AcceptedQ1 s i id t
  noShared : (subscribers s.topics t).shared = []
  own : Calm (getObj s i) ∨ (getObj s i).conn ≠ c

theorem RecvImm.congr {s t : Server} {pk : Msg} {c : Nat} {cid : Str} {k pid : Nat} (h : RecvImm s pk c cid k pid)
    (hc : t.clients = s.clients) (hcaps : t.caps = s.caps) (ha : t.aclDeny = s.aclDeny) (ho : getObj t k = getObj s k)
    (hm : ∀ sub, MatchingSub t.topics pk.topic cid sub ↔ MatchingSub s.topics pk.topic cid sub) :
    RecvImm t pk c cid k pid :=
  ⟨by rw [hc]; exact h.reg, by rw [ho]; exact h.conn, by rw [ho]; exact h.isOpen, by rw [ho]; exact h.notInline,
    by rw [ho]; exact h.peer, h.sub.imp fun sub ⟨a, b⟩ => ⟨(hm sub).mpr a, b⟩, by rw [aclOk_congr ha]; exact h.acl,
    fun ⟨e, sub, a, b⟩ => h.noLocal ⟨e, sub, (hm sub).mp a, b⟩, by rw [ho]; exact h.notDef,
    by rw [ho, hcaps]; exact h.limit, by rw [ho, hcaps]; exact h.pid⟩

/-- the receiver in the state in which the accepted publish is routed (the retained store updated) -/
theorem RecvImm.retained {s : Server} {pk : Msg} {c : Nat} {cid : Str} {k pid : Nat} (h : RecvImm s pk c cid k pid)
    (pk0 : Msg) : RecvImm (retainedState s pk0) pk c cid k pid := by
  have hq := retainedState_quiet s pk0
  exact h.congr hq.clients hq.caps (retainedState_aclDeny s pk0) (getObj_retainedState s pk0 k)
    fun sub => matchingSub_congr hq.plain pk.topic cid sub

/-- **the op, seen from the receiver `c`.**  An accepted QoS 1 PUBLISH op writes the receiver `c` (`RecvImm`: entitled
    through a subscription of QoS ≥ 1, its delivery immediate in the state before the op) EXACTLY ONE PUBLISH: the copy
    of the message — payload, topic, the publisher's id as origin —, a first transmission (`dup = 0`) of QoS 1. -/
theorem publish_q1_first_tx (s : Server) (hs : SyncInv s) (hw : WF s) (hcm : ConnMap s) (hna : Q1.NoAliases s)
    (p i c id : Nat) (t : Str) (h : PubQ1 s p i c id t) (dup retain : Bool) (payload : Str) (me : Nat)
    (cid : Str) (k pid : Nat) (hr : RecvImm s (inboundMsg s i 1 dup retain id t payload me) c cid k pid) :
    ∃ m, pubsTo c (step s (.recv p (.publish 1 dup retain id t payload me none))).2 = [m] ∧
      FirstTx m payload t (getObj s i).id 1 ∧ m.qos = 1 := by
  have hnh := no_hash_level t h.gates.valid
  obtain ⟨is, iw, ic⟩ := retainedState_inv (inboundMsg s i 1 dup retain id t payload me) hs hw hcm
  obtain ⟨m, e, f⟩ := (h.gates.routed hw dup retain payload me).first_tx p h.reg h.gates.isOpen h.gates.peer is.idx iw
    ic.distinct (q1_noAliases_retainedState _ hna) h.gates.nonempty hnh
    ((retainedState_shared s _ hs.idx t).mpr h.noShared) (Nat.le_refl 1)
    (by rw [(retainedState_quiet s _).caps]; exact h.gates.maxQos) c
    (h.own.imp (by rw [getObj_retainedState]; exact fun x => x) fun x => x) (hr.retained _)
  exact ⟨m, e, f, Nat.le_antisymm f.2.2.2.2.2 f.2.2.2.2.1⟩

/-! ### inbound PUBLISH of QoS 2

The routing happens at the PUBLISH op (not at PUBREL): `step_recv_publish_q2` / `C08_accepted_qos2_shape` —
`[PUBREC 0x00 to the publisher] ++ (q2Routed …).2 ++ two releases of the publisher`, the routing state being
`pubrecFiled (retainedState s m) i id`: the retained store updated, one unit of the publisher's receive quota taken,
the PUBREC record filed in the PUBLISHER's in-flight list.  Every other object, the index, the Clients map, `caps` and
the ACL are those of `s`. -/

/-- filing the PUBREC record rewrites object `i` and may move the in-flight counter: nothing else -/
theorem pubrecFiled_frame (s0 : Server) (i id : Nat) :
    (pubrecFiled s0 i id).topics = s0.topics ∧ (pubrecFiled s0 i id).caps = s0.caps ∧
    (pubrecFiled s0 i id).aclDeny = s0.aclDeny ∧ (pubrecFiled s0 i id).objs.length = s0.objs.length ∧
    ∀ k, k ≠ i → getObj (pubrecFiled s0 i id) k = getObj s0 k := by
  rw [pubrecFiled_eq]
  exact ⟨rfl, rfl, rfl, setObj_length s0 i _, fun k hk => getObj_setObj_ne s0 i k _ hk⟩

theorem pubrecFiled_tam (s0 : Server) (i id : Nat) : (getObj (pubrecFiled s0 i id) i).tam = (getObj s0 i).tam := by
  have h1 : ∀ c : Client, (decRecv c).tam = c.tam := fun c => by unfold decRecv; split <;> rfl
  have h2 : ∀ (c : Client) (m : Msg), (flSet c m).1.tam = c.tam := fun c m => by unfold flSet; split <;> rfl
  rw [pubrecFiled_eq]
  exact (getObj_setObj_proj Client.tam s0 i _ ((h2 _ _).trans (h1 _))).trans ((h2 _ _).trans (h1 _))

theorem pubrecFiled_ck (s0 : Server) (i id : Nat) : CK s0 (pubrecFiled s0 i id) := by
  obtain ⟨_, _, a3, a4, _⟩ := pubrecFiled_obj s0 i id
  have ho := (pubrecFiled_frame s0 i id).2.2.2.2
  refine ⟨(pubrecFiled_good s0 i id).len, (pubrecFiled_good s0 i id).connOf, fun k => ?_, fun k => ?_⟩
  · by_cases hk : k = i
    · rw [hk, a4]
    · rw [ho k hk]
  · by_cases hk : k = i
    · rw [hk, a3]
    · rw [ho k hk]

theorem noAliases_pubrecFiled {s0 : Server} (i id : Nat) (h : Q1.NoAliases s0) : Q1.NoAliases (pubrecFiled s0 i id) := by
  intro cid k hm
  rw [pubrecFiled_clients] at hm
  by_cases hk : k = i
  · subst hk
    rw [pubrecFiled_tam s0 k id]; exact h cid k hm
  · rw [(pubrecFiled_frame s0 i id).2.2.2.2 k hk]; exact h cid k hm

/-- the receiver (an object other than the publisher's) in the state in which the QoS 2 publish is routed -/
theorem RecvImm.filed {t : Server} {pk : Msg} {c : Nat} {cid : Str} {k pid : Nat} (h : RecvImm t pk c cid k pid)
    (i id : Nat) (hk : k ≠ i) : RecvImm (pubrecFiled t i id) pk c cid k pid := by
  obtain ⟨ft, fc, fa, _, fo⟩ := pubrecFiled_frame t i id
  exact h.congr (pubrecFiled_clients t i id) fc fa (fo k hk) fun sub => by rw [ft]

/-- **the QoS 2 op, decomposed**: `[PUBREC 0x00 to the publisher] ++ (the ONE routing call).2 ++ tail`, `tail` — at
    most two outputs — writing only to the PUBLISHER's own connection -/
theorem step_recv_publish_q2_outputs (s : Server) (conn i : Nat) (dup retain : Bool) (id : Nat)
    (topic payload : Str) (me : Nat) (hc : assocGet s.connOf conn = some i) (h : AcceptedQ2 s i id topic) :
    ∃ tail, (step s (.recv conn (.publish 2 dup retain id topic payload me none))).2 =
        [Out.wrote (getObj s i).conn (.ack (getObj s i).ver 5 id 0)] ++
          (publishToSubscribers (pubrecFiled (retainedState s (inboundMsg s i 2 dup retain id topic payload me)) i id)
            (inboundMsg s i 2 dup retain id topic payload me)).2 ++ tail ∧
      tail.length ≤ 2 ∧ ∀ x ∈ tail, ∃ pk, x = Out.wrote (getObj s i).conn pk :=
  (h.routed dup retain payload me).outputs conn hc h.isOpen h.peer

/-- … seen from a connection other than the publisher's: the PUBLISH packets the op writes to `c` are those of the
    routing call -/
theorem pubsTo_step_q2 (s : Server) (conn i : Nat) (dup retain : Bool) (id : Nat)
    (topic payload : Str) (me : Nat) (hc : assocGet s.connOf conn = some i) (h : AcceptedQ2 s i id topic)
    (c : Nat) (hne : (getObj s i).conn ≠ c) :
    pubsTo c (step s (.recv conn (.publish 2 dup retain id topic payload me none))).2 =
      pubsTo c (publishToSubscribers (pubrecFiled (retainedState s (inboundMsg s i 2 dup retain id topic payload me)) i id)
        (inboundMsg s i 2 dup retain id topic payload me)).2 :=
  (h.routed dup retain payload me).pubsTo_other conn hc h.isOpen h.peer c hne

/-- what the theorems ask of the op `recv p (PUBLISH QoS 2, identifier id, topic t, no alias)` in state `s`, for the
    receiving connection `c` (as `PubQ1`, with the gates `AcceptedQ2`) -/
structure PubQ2 (s : Server) (p i c id : Nat) (t : Str) : Prop where
  reg : assocGet s.connOf p = some i
  gates : AcceptedQ2 s i id t
  noShared : (subscribers s.topics t).shared = []
  other : (getObj s i).conn ≠ c

/-- **the op, seen from the receiver `c`.**  An accepted QoS 2 PUBLISH op — the PUBLISH, not the PUBREL — writes the
    receiver `c` (`RecvImm`) EXACTLY ONE PUBLISH: the copy of the message, a first transmission (`dup = 0`) of QoS 1 or
    2 (the minimum of 2, the merged subscription's QoS and the broker's maximum). -/
theorem publish_q2_first_tx (s : Server) (hs : SyncInv s) (hw : WF s) (hcm : ConnMap s) (hna : Q1.NoAliases s)
    (p i c id : Nat) (t : Str) (h : PubQ2 s p i c id t) (dup retain : Bool) (payload : Str) (me : Nat)
    (cid : Str) (k pid : Nat) (hr : RecvImm s (inboundMsg s i 2 dup retain id t payload me) c cid k pid) :
    ∃ m, pubsTo c (step s (.recv p (.publish 2 dup retain id t payload me none))).2 = [m] ∧
      FirstTx m payload t (getObj s i).id 2 := by
  have hnh := no_hash_level t h.gates.valid
  obtain ⟨is, iw, ic⟩ := retainedState_inv (inboundMsg s i 2 dup retain id t payload me) hs hw hcm
  obtain ⟨ft, fc, _, _, _⟩ := pubrecFiled_frame (retainedState s (inboundMsg s i 2 dup retain id t payload me)) i id
  exact (h.gates.routed dup retain payload me).first_tx p h.reg h.gates.isOpen h.gates.peer (by rw [ft]; exact is.idx)
    (iw.of_good (pubrecFiled_good _ i id)) (ic.of_ck (pubrecFiled_ck _ i id)).distinct
    (noAliases_pubrecFiled i id (q1_noAliases_retainedState _ hna)) h.gates.nonempty hnh
    (by rw [ft]; exact (retainedState_shared s _ hs.idx t).mpr h.noShared) (show 1 ≤ 2 by omega)
    (by rw [fc, (retainedState_quiet s _).caps]; have := h.gates.maxQos; omega) c (Or.inr h.other)
    ((hr.retained _).filed i id fun e => h.other (e ▸ hr.conn))

end Mochi.Broker.O12q
