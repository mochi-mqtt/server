import Mochi.Lemmas.BrokerRetained
import Mochi.Lemmas.BrokerRetIndex
import Mochi.Lemmas.BrokerShared
/-!
# The retained replay of a new subscription (C05)

`publishRetainedToClient s i sub existed k` for a plain filter, a QoS 0 subscription and a live client without topic
aliases: the state is unchanged and the packets written are, in the order `permSeed` picks, one PUBLISH per retained
message `Messages(filter)` returns whose stored packet passes the gates (No Local, read permission) — and
`Messages(filter)` is exact in every state in which the index invariant `RetIdxOK` holds (every history).
-/
namespace Mochi.Broker
open Mochi.Topics

/-- the subscriber's connection is alive and the client uses no topic aliases -/
structure ReplayClient (s : Server) (i : Nat) : Prop where
  isOpen : (getObj s i).isOpen = true
  peer : (getObj s i).peerGone = false
  notInline : (getObj s i).inline = false
  noAlias : (getObj s i).tam = 0

/-- every stored retained packet is a PUBLISH with the retain flag, stored under its own topic (decidable) -/
def StoredPub (s : Server) : Prop := ∀ e ∈ s.rmsgs, e.2.type = 3 ∧ e.2.retain = true ∧ e.2.topic = e.1

instance (s : Server) : Decidable (StoredPub s) := by unfold StoredPub; infer_instance

/-- the PUBLISH written for the stored packet `pk` -/
def replayPacket (s : Server) (i : Nat) (sub : Sub) (pk : Msg) : Out :=
  .wrote (getObj s i).conn (.publish (getObj s i).ver (shapeOut s.caps (getObj s i).ver sub true pk)
    (decide (pk.expiry > 0) || decide (pk.msgExpiry > 0)))

theorem replayPacket_fields (s : Server) (i : Nat) (sub : Sub) (pk : Msg) :
    (shapeOut s.caps (getObj s i).ver sub true pk).retain = pk.retain ∧
    (shapeOut s.caps (getObj s i).ver sub true pk).topic = pk.topic ∧
    (shapeOut s.caps (getObj s i).ver sub true pk).payload = pk.payload ∧
    (shapeOut s.caps (getObj s i).ver sub true pk).origin = pk.origin := ⟨rfl, rfl, rfl, rfl⟩

theorem publishToClientCore_plain (s : Server) (i : Nat) (sub : Sub) (f : Bool) (pk : Msg)
    (htam : (getObj s i).tam = 0) (hq : sub.qos = 0) (ho : (getObj s i).isOpen = true) :
    publishToClientCore s i sub f pk = (s, writeMsg s i (shapeOut s.caps (getObj s i).ver sub f pk)) := by
  have hq' : ¬ (shapeOut s.caps (getObj s i).ver sub f pk).qos > 0 := by
    show ¬ shapeQos s.caps sub pk.qos > 0
    rw [shapeQos_sub_zero _ _ _ hq]; exact Nat.lt_irrefl 0
  unfold publishToClientCore
  simp only [htam, Nat.lt_irrefl, gt_iff_lt, if_false, setObj_getObj_self, ho, Bool.not_true, Bool.false_eq_true]
  rw [if_neg hq']

/-- the gates of a replayed copy: not excluded by No Local, authorised to read the topic -/
def replayGate (s : Server) (i : Nat) (sub : Sub) (pk : Msg) : Bool :=
  !(sub.noLocal && pk.origin == (getObj s i).id) && aclOk s (getObj s i).id pk.topic false

theorem publishToClient_replay (s : Server) (i : Nat) (sub : Sub) (pk : Msg) (hc : ReplayClient s i) (hq : sub.qos = 0)
    (ht : pk.type = 3) :
    publishToClient s i sub true pk = (s, if replayGate s i sub pk = true then [replayPacket s i sub pk] else []) := by
  rw [publishToClient_passes]
  -- `replayGate` has the body of `Q1.passes`
  show (if replayGate s i sub pk = true then _ else _) = _
  split
  · rw [publishToClientCore_plain s i sub true pk hc.noAlias hq hc.isOpen,
      writeMsg_live_pub s i (shapeOut s.caps (getObj s i).ver sub true pk) ht hc.isOpen hc.peer hc.notInline]
    rfl
  · rfl

/-- the subscription as `publishRetainedToClient` hands it to the deliveries (its identifier filed) -/
def withIdent (sub : Sub) : Sub :=
  if sub.ident > 0 && (sub.idents.getD []).isEmpty then { sub with idents := some [(sub.filter, sub.ident)] } else sub

theorem withIdent_fields (sub : Sub) : (withIdent sub).qos = sub.qos ∧ (withIdent sub).noLocal = sub.noLocal ∧
    (withIdent sub).filter = sub.filter := by
  unfold withIdent; split <;> exact ⟨rfl, rfl, rfl⟩

/-- what the replay writes for one retained message returned by `Messages` -/
def replayOne (s : Server) (i : Nat) (sub : Sub) (r : Retained) : List Out :=
  match assocGet s.rmsgs r.topic with
  | none => []
  | some pk => if replayGate s i sub pk = true then [replayPacket s i sub pk] else []

theorem replayFold (s : Server) (i : Nat) (sub : Sub) (hc : ReplayClient s i) (hq : sub.qos = 0) (hsp : StoredPub s)
    (L : List Retained) (o0 : List Out) :
    L.foldl (fun (acc : Server × List Out) (r : Retained) =>
      match assocGet acc.1.rmsgs r.topic with
      | none => acc
      | some pk =>
        let (s', o) := publishToClient acc.1 i sub true pk
        (s', acc.2 ++ o)) (s, o0) = (s, o0 ++ L.flatMap (replayOne s i sub)) := by
  induction L generalizing o0 with
  | nil => simp
  | cons r rs ih =>
    rw [List.foldl_cons, List.flatMap_cons, ← List.append_assoc, ← ih]
    congr 1
    unfold replayOne
    cases hg : assocGet s.rmsgs r.topic with
    | none => simp
    | some pk =>
      have ht : pk.type = 3 := (hsp _ (assocGet_mem _ _ _ hg)).1
      simp only [publishToClient_replay s i sub pk hc hq ht]

/-- **the replay, as a function of the state before it**: a plain filter, Retain Handling 0 (or 1 for a new
    subscription), a QoS 0 subscription, a live client without topic aliases -/
theorem publishRetainedToClient_replay (s : Server) (i : Nat) (sub : Sub) (ex : Bool) (k : Nat) (hc : ReplayClient s i)
    (hq : sub.qos = 0) (hsp : StoredPub s) (hns : isSharedFilter sub.filter = false)
    (hrh : ((sub.rh == 1 && ex) || sub.rh == 2) = false) :
    publishRetainedToClient s i sub ex k =
      (s, (permuteBy (permDigit s.permSeed k) (messages s.topics sub.filter)).flatMap (replayOne s i (withIdent sub))) := by
  unfold publishRetainedToClient
  rw [hns, hrh, if_neg Bool.false_ne_true, if_neg Bool.false_ne_true]
  have := replayFold s i (withIdent sub) hc ((withIdent_fields sub).1.trans hq) hsp
    (permuteBy (permDigit s.permSeed k) (messages s.topics (withIdent sub).filter)) []
  rw [List.nil_append] at this
  exact this.trans (by rw [(withIdent_fields sub).2.2])

/-! ### which retained messages are replayed -/

theorem isSome_sync {s : Server} (hk : RetKeysOK (core s)) (t : Str) :
    (assocGet s.topics.retained t).isSome = (assocGet s.rmsgs t).isSome := by
  have h2 := assocGet_isSome_iff_key s.rmsgs t
  rw [show s.rmsgs.map (·.1) = s.topics.retained.map (·.1) from hk] at h2
  exact Bool.eq_iff_iff.mpr ((assocGet_isSome_iff_key s.topics.retained t).trans h2.symm)

/-- **exactly the matching retained messages the client may read**: a PUBLISH is written by the replay iff it is the
    copy of a stored packet whose topic the filter matches (`specMatch`) and which passes No Local and the read ACL -/
theorem replay_mem_iff (s : Server) (i : Nat) (sub : Sub) (ex : Bool) (k : Nat) (hc : ReplayClient s i)
    (hq : sub.qos = 0) (hsp : StoredPub s) (hns : isSharedFilter sub.filter = false)
    (hrh : ((sub.rh == 1 && ex) || sub.rh == 2) = false)
    (hidx : RetIdxOK (core s)) (hkeys : RetKeysOK (core s)) (hne : assocGet s.rmsgs [] = none)
    (hf : sub.filter ≠ []) (hok : specLevelsOK (splitLevels sub.filter) = true) (o : Out) :
    o ∈ (publishRetainedToClient s i sub ex k).2 ↔
      ∃ t pk, assocGet s.rmsgs t = some pk ∧ specMatch (splitLevels sub.filter) t = true ∧
        replayGate s i (withIdent sub) pk = true ∧ o = replayPacket s i (withIdent sub) pk := by
  have hne' : assocGet s.topics.retained [] = none := by
    have := isSome_sync hkeys []
    rw [hne] at this
    cases h : assocGet s.topics.retained [] with
    | none => rfl
    | some v => rw [h] at this; cases this
  have hex := messages_exact_of_RetIdxOK s hidx hne' sub.filter hf hok
  rw [publishRetainedToClient_replay s i sub ex k hc hq hsp hns hrh]
  simp only [List.mem_flatMap]
  constructor
  · rintro ⟨r, hr, ho⟩
    have hr' : r ∈ messages s.topics sub.filter := (permuteBy_perm _ _).mem_iff.mp hr
    unfold replayOne at ho
    cases hg : assocGet s.rmsgs r.topic with
    | none => simp only [hg] at ho; cases ho
    | some pk =>
      simp only [hg] at ho
      by_cases hgate : replayGate s i (withIdent sub) pk = true
      · rw [if_pos hgate] at ho
        exact ⟨r.topic, pk, hg, ((hex r.topic).mp ⟨r, hr', rfl⟩).2, hgate, List.mem_singleton.mp ho⟩
      · rw [if_neg hgate] at ho; cases ho
  · rintro ⟨t, pk, hg, hm, hgate, rfl⟩
    have hs : (assocGet s.topics.retained t).isSome = true := by rw [isSome_sync hkeys, hg]; rfl
    obtain ⟨r, hr, hrt⟩ := (hex t).mpr ⟨hs, hm⟩
    refine ⟨r, (permuteBy_perm _ _).mem_iff.mpr hr, ?_⟩
    unfold replayOne
    simp only [hrt, hg, hgate, if_true, List.mem_singleton]

/-- Retain Handling 2, or 1 for a subscription that existed, or a shared filter: nothing is replayed -/
theorem replay_none (s : Server) (i : Nat) (sub : Sub) (ex : Bool) (k : Nat)
    (h : isSharedFilter sub.filter = true ∨ sub.rh = 2 ∨ (sub.rh = 1 ∧ ex = true)) :
    publishRetainedToClient s i sub ex k = (s, []) := by
  unfold publishRetainedToClient
  rcases h with h | h | ⟨h, h'⟩
  · rw [if_pos h]
  · split
    · rfl
    · rw [if_pos (by simp [h])]
  · split
    · rfl
    · rw [if_pos (by simp [h, h'])]

end Mochi.Broker

#print axioms Mochi.Broker.publishRetainedToClient_replay
#print axioms Mochi.Broker.replay_mem_iff
