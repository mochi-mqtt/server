import Mochi.Lemmas.CodecBounds
import Mochi.Lemmas.Varint
/-! Decoding the property block never panics, and `Properties.Decode` never reports more bytes than it was
given (the packet decoders: Props/C27.lean). -/
namespace Mochi.Codec
open Mochi.Varint

theorem decodePropValue_spec (k : Nat) (bt : Str) (off : Nat) (hoff : off ≤ bt.length) :
    Within off bt.length (decodePropValue k bt off) := by
  unfold decodePropValue
  have fwd {α} {n : Nat} {x : Dec (α × Nat)} (g : α × Nat → Option PVal × Nat) (hg : ∀ a, (g a).2 = a.2)
      (h : Within (off + n) bt.length x) : Within off bt.length (x.map g) :=
    .map g (h.mono fun a b => hg a ▸ ⟨Nat.le_trans (Nat.le_add_right _ _) b.1, b.2⟩)
  refine .ite (fwd _ (fun _ => rfl) (decodeByte_within bt off)) <| .ite (fwd _ (fun _ => rfl) (decodeUint32_within bt off)) <|
    .ite (fwd _ (fun _ => rfl) (decodeString_within bt off)) <| .ite (fwd _ (fun _ => rfl) (decodeBytes_within bt off)) <|
    .ite (fwd _ (fun _ => rfl) (decodeUint16_within bt off)) <| .ite ?varint <| .ite ?pair (.ok ⟨Nat.le_refl _, hoff⟩)
  case varint =>
    -- subscription identifier: bt[offset:] then DecodeLength
    rw [show sliceFrom bt off = .ok (bt.drop off) from if_pos hoff]
    dsimp only
    split
    · exact Safe.err _
    · next n bu hd =>
      have := (decodeLength_spec _ _ _ hd).2.2.1
      rw [List.length_drop] at this
      exact .ok ⟨Nat.le_add_right _ _, by omega⟩
  case pair =>
    have h1 := decodeString_within bt off
    split
    · next e he => exact .error (h1.of_error he)
    · next key o1 he =>
      have h2 := decodeString_within bt o1
      split
      · next e he' => exact .error (h2.of_error he')
      · next v o2 he' =>
        have b1 := h1.of_ok he
        have b2 := h2.of_ok he'
        exact .ok ⟨by have := b1.1; have := b2.1; omega, b2.2⟩

/-- the property loop: no panic; on success the cursor reached the declared length and is still
    inside the buffer -/
theorem propsLoop_spec (pkt : Nat) (bt : Str) (n : Nat) (fuel off : Nat) (acc : List (Nat × PVal))
    (hoff : off ≤ bt.length) (hfuel : bt.length + 1 ≤ fuel + off) :
    Within n bt.length (propsLoop pkt bt n fuel off acc) := by
  induction fuel generalizing off acc with
  | zero => omega
  | succ fuel ih =>
    unfold propsLoop
    refine iteInduction (fun _ => ?_) fun _ => .ok ⟨by omega, hoff⟩
    have h1 := decodeByte_within bt off
    split
    · next e he => exact .error (h1.of_error he)
    · next k o1 he =>
      have b1 := h1.of_ok he
      refine .ite (Safe.err _) ?_
      have h2 := decodePropValue_spec k bt o1 b1.2
      split
      · next e he' => exact .error (h2.of_error he')
      · next v o2 he' =>
        have b2 := h2.of_ok he'
        exact ih o2 _ b2.2 (by have := b1.1; have := b2.1; omega)

/-- **`Properties.Decode` never overreads**: no panic, and the reported consumption `n + bu` is at
    most the number of bytes supplied. -/
theorem propsDecode_spec (pkt : Nat) (b : Str) (p0 : Props) : Within 0 b.length (propsDecode pkt b p0) := by
  unfold propsDecode
  split
  · exact Safe.err _
  · next n bu hd =>
    have hu := (decodeLength_spec _ _ _ hd).2.2.1
    refine iteInduction (fun hn => .ok ⟨Nat.zero_le _, by have := eq_of_beq hn; omega⟩) fun _ => ?_
    have hl := propsLoop_spec pkt (b.drop bu) n ((b.drop bu).length + 1) 0 [] (Nat.zero_le _) (Nat.le_refl _)
    dsimp only
    split
    · next e he => exact .error (hl.of_error he)
    · next es o he =>
      have := hl.of_ok he
      rw [List.length_drop] at this
      exact .ok ⟨Nat.zero_le _, by omega⟩

end Mochi.Codec
