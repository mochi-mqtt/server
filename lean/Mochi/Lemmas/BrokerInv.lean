import Mochi.Lemmas.BrokerFrame
/-!
# A well-formedness invariant of the broker model, for ALL histories (`Mochi/Model/Broker.lean`)

`WF s`: every client object has at most one in-flight record per packet identifier and quotas within
their maxima; every entry of the Clients map and of the connection table points at an existing object
(and the Clients-map key is that object's id), and so does every handler parked inside `attachClient` (with the client
id of its CONNECT); the keys of both tables are duplicate-free.

Proved by induction over the op list: `WF_init`, `WF_step`, `WF_run`.  The module is also the home of histories, which
every history theorem imports: `run`, the side condition `OpsOK C` threaded through a history with the induction
`run_induction` / `run_inv`, and `OpFresh` / `OpsFresh` (a CONNECT comes on a new connection number).

`Good s s'` is the relation the handlers are carried through: no object created or removed, ids kept, `connOf` and
`pending` kept, the Clients map only shrinks, well-formedness of the objects kept (client by client: `CW a b`).  The
few places that extend a table (`admitA`: `Clients.Add`; `connect` / `connectHold`: new object, new connection, new
parked handler) are handled on `WF` directly.
-/
namespace Mochi.Broker
open Mochi.Topics

/-! ### the invariant -/

structure ObjWF (c : Client) : Prop where
  /-- one in-flight record per packet identifier -/
  ids_nodup : (c.inflight.map (·.id)).Nodup
  /-- quotas never exceed their maxima -/
  send_le : c.sendQuota ≤ c.maxSend
  recv_le : c.recvQuota ≤ c.maxRecv

structure WF (s : Server) : Prop where
  objs : ∀ c ∈ s.objs, ObjWF c
  clients_valid : ∀ id i, (id, i) ∈ s.clients → i < s.objs.length ∧ (getObj s i).id = id
  conn_valid : ∀ n i, (n, i) ∈ s.connOf → i < s.objs.length
  /-- a handler parked inside `attachClient` belongs to an existing object with the CONNECT's client id -/
  pending_valid : ∀ p ∈ s.pending, p.obj < s.objs.length ∧ (getObj s p.obj).id = p.k.id
  /-- the Clients map is a map: one entry per client id -/
  clients_nodup : (s.clients.map (·.1)).Nodup
  /-- the connection table is a map: one entry per connection number (needs `OpFresh`) -/
  conn_nodup : (s.connOf.map (·.1)).Nodup

theorem WF.clients_id {s : Server} (h : WF s) : ∀ id k, (id, k) ∈ s.clients → (getObj s k).id = id :=
  fun id k hm => (h.clients_valid id k hm).2

/-- a `connect` / `connectHold` op uses a connection number not yet in the connection table (the harness
    numbers connections 1, 2, 3, …) -/
def OpFresh (s : Server) : Op → Prop
  | .connect conn _ => conn ∉ s.connOf.map (·.1)
  | .connectHold conn _ _ => conn ∉ s.connOf.map (·.1)
  | _ => True

instance (s : Server) (op : Op) : Decidable (OpFresh s op) := by
  cases op <;> unfold OpFresh <;> infer_instance

def run (s : Server) (ops : List Op) : Server := ops.foldl (fun s op => (step s op).1) s

theorem run_cons_rk (s : Server) (op : Op) (ops : List Op) : run s (op :: ops) = run (step s op).1 ops := rfl

theorem run_append_rk (s : Server) (a b : List Op) : run s (a ++ b) = run (run s a) b := by
  unfold run; rw [List.foldl_append]

/-! ### histories: one threaded side condition, one induction -/

/-- `C` holds of every op of the history in the state it is applied to -/
def OpsOK (C : Server → Op → Prop) (s : Server) : List Op → Prop
  | [] => True
  | op :: ops => C s op ∧ OpsOK C (step s op).1 ops

instance OpsOK.dec {C : Server → Op → Prop} [∀ s op, Decidable (C s op)] (s : Server) (ops : List Op) :
    Decidable (OpsOK C s ops) :=
  match ops with
  | [] => isTrue trivial
  | op :: ops =>
    if h : C s op then
      match OpsOK.dec (step s op).1 ops with
      | isTrue g => isTrue ⟨h, g⟩
      | isFalse g => isFalse fun g' => g g'.2
    else isFalse fun g' => h g'.1

/-- a predicate over histories written with its own recursion is `OpsOK` of its condition on one op -/
theorem OpsOK.of_rec {C : Server → Op → Prop} {P : Server → List Op → Prop} (nil : ∀ s, P s [])
    (cons : ∀ s op ops, P s (op :: ops) ↔ C s op ∧ P (step s op).1 ops) (s : Server) (ops : List Op) :
    P s ops ↔ OpsOK C s ops := by
  induction ops generalizing s with
  | nil => exact ⟨fun _ => trivial, fun _ => nil s⟩
  | cons op ops ih => rw [cons, ih]; rfl

/-- **the induction over histories**: what every op satisfying `C` keeps holds after every history satisfying `C`, and
    what it yields about each op (`D`) holds along the history -/
theorem run_induction {C D : Server → Op → Prop} {I : Server → Prop}
    (hstep : ∀ s op, I s → C s op → I (step s op).1 ∧ D s op) {s : Server} {ops : List Op} (h : I s)
    (hc : OpsOK C s ops) : I (run s ops) ∧ OpsOK D s ops := by
  induction ops generalizing s with
  | nil => exact ⟨h, trivial⟩
  | cons op ops ih =>
    obtain ⟨i, d⟩ := hstep s op h hc.1
    exact ⟨(ih i hc.2).1, d, (ih i hc.2).2⟩

theorem run_inv {C : Server → Op → Prop} {I : Server → Prop} (hstep : ∀ s op, I s → C s op → I (step s op).1)
    {s : Server} {ops : List Op} (h : I s) (hc : OpsOK C s ops) : I (run s ops) :=
  (run_induction (D := fun _ _ => True) (fun s op i c => ⟨hstep s op i c, trivial⟩) h hc).1

theorem OpsOK.and {C D : Server → Op → Prop} {s : Server} {ops : List Op} (h : OpsOK C s ops) (g : OpsOK D s ops) :
    OpsOK (fun s op => C s op ∧ D s op) s ops := by
  induction ops generalizing s with
  | nil => trivial
  | cons op ops ih => exact ⟨⟨h.1, g.1⟩, ih h.2 g.2⟩

theorem OpsOK.mono {C D : Server → Op → Prop} (hcd : ∀ s op, C s op → D s op) {s : Server} {ops : List Op}
    (h : OpsOK C s ops) : OpsOK D s ops :=
  (run_induction (I := fun _ => True) (fun s op _ c => ⟨trivial, hcd s op c⟩) trivial h).2

theorem OpsOK.forall {P : Op → Prop} {s : Server} {ops : List Op} : OpsOK (fun _ => P) s ops ↔ ∀ op ∈ ops, P op := by
  induction ops generalizing s with
  | nil => exact ⟨fun _ _ h => (nomatch h), fun _ => trivial⟩
  | cons op ops ih =>
    show P op ∧ OpsOK (fun _ => P) _ ops ↔ _
    rw [ih, List.forall_mem_cons]

theorem OpsOK.append {C : Server → Op → Prop} {s : Server} {a b : List Op} :
    OpsOK C s (a ++ b) ↔ OpsOK C s a ∧ OpsOK C (run s a) b := by
  induction a generalizing s with
  | nil => exact ⟨fun h => ⟨trivial, h⟩, fun h => h.2⟩
  | cons op a ih =>
    show C s op ∧ OpsOK C _ (a ++ b) ↔ (C s op ∧ OpsOK C _ a) ∧ OpsOK C (run (step s op).1 a) b
    rw [ih, and_assoc]

theorem OpsOK.take {C : Server → Op → Prop} {s : Server} {ops : List Op} (h : OpsOK C s ops) (n : Nat) :
    OpsOK C s (ops.take n) := by
  rw [← List.take_append_drop n ops] at h
  exact (OpsOK.append.mp h).1

/-- every op of the history is fresh in the state it is applied to -/
def OpsFresh (s : Server) : List Op → Prop
  | [] => True
  | op :: ops => OpFresh s op ∧ OpsFresh (step s op).1 ops

theorem OpsFresh_iff {s : Server} {ops : List Op} : OpsFresh s ops ↔ OpsOK OpFresh s ops :=
  OpsOK.of_rec (fun _ => trivial) (fun _ _ _ => Iff.rfl) s ops

instance instDecidableOpsFresh (s : Server) (ops : List Op) : Decidable (OpsFresh s ops) :=
  decidable_of_iff _ OpsFresh_iff.symm

theorem OpsFresh.take {s : Server} {ops : List Op} (h : OpsFresh s ops) (n : Nat) : OpsFresh s (ops.take n) :=
  OpsFresh_iff.mpr ((OpsFresh_iff.mp h).take n)

/-! ### client level -/

theorem ObjWF_default : ObjWF ({} : Client) := ⟨List.nodup_nil, Nat.le_refl _, Nat.le_refl _⟩

/-- `b` keeps `a`'s id and is well-formed if `a` is -/
structure CW (a b : Client) : Prop where
  id : b.id = a.id
  wf : ObjWF a → ObjWF b

/-- closes `CW a b` when `b` is `a` with fields other than `id`, `inflight` and the quotas rewritten -/
macro "cw_rfl" : tactic => `(tactic| exact ⟨rfl, fun h => ⟨h.1, h.2, h.3⟩⟩)

theorem CW.refl (a : Client) : CW a a := ⟨rfl, fun h => h⟩
theorem CW.trans {a b c : Client} (h : CW a b) (g : CW b c) : CW a c := ⟨g.id.trans h.id, fun x => g.wf (h.wf x)⟩
theorem CW.of_eq {a b : Client} (h : a = b) : CW a b := h ▸ CW.refl a

theorem flSet_ids (c : Client) (m : Msg) (h : (c.inflight.map (·.id)).Nodup) :
    ((flSet c m).1.inflight.map (·.id)).Nodup := by
  unfold flSet
  split
  · show ((c.inflight.map (fun x => if x.id == m.id then m else x)).map (·.id)).Nodup
    have : (c.inflight.map (fun x => if x.id == m.id then m else x)).map (·.id) = c.inflight.map (·.id) := by
      rw [List.map_map]
      apply List.map_congr_left
      intro x _
      simp only [Function.comp]
      split
      · rename_i hx
        exact (beq_iff_eq.mp hx).symm
      · rfl
    rw [this]; exact h
  · rename_i hn
    show ((c.inflight ++ [m]).map (·.id)).Nodup
    rw [List.map_append, List.nodup_append]
    refine ⟨h, List.nodup_cons.mpr ⟨List.not_mem_nil, List.nodup_nil⟩, ?_⟩
    intro a ha b hb
    rw [List.map_cons, List.map_nil, List.mem_singleton] at hb
    subst hb
    intro hab
    subst hab
    obtain ⟨x, hx, hxa⟩ := List.mem_map.mp ha
    apply hn
    unfold flGet
    rw [List.find?_isSome]
    exact ⟨x, hx, by simp only [hxa, beq_self_eq_true]⟩

theorem flDelete_ids (c : Client) (id : Nat) (h : (c.inflight.map (·.id)).Nodup) :
    ((flDelete c id).1.inflight.map (·.id)).Nodup :=
  (List.filter_sublist.map _).nodup h

theorem CW.flSet' (c : Client) (m : Msg) : CW c (flSet c m).1 := by
  refine ⟨?_, fun h => ⟨flSet_ids c m h.1, ?_, ?_⟩⟩
  · unfold Mochi.Broker.flSet; split <;> rfl
  · unfold Mochi.Broker.flSet; split <;> exact h.2
  · unfold Mochi.Broker.flSet; split <;> exact h.3

theorem CW.flDelete' (c : Client) (id : Nat) : CW c (flDelete c id).1 :=
  ⟨rfl, fun h => ⟨flDelete_ids c id h.1, h.2, h.3⟩⟩

theorem CW.decSend' (c : Client) : CW c (decSend c) := by
  unfold Mochi.Broker.decSend
  split
  · exact ⟨rfl, fun h => ⟨h.1, Nat.le_trans (Nat.sub_le _ _) h.2, h.3⟩⟩
  · exact CW.refl c

theorem CW.decRecv' (c : Client) : CW c (decRecv c) := by
  unfold Mochi.Broker.decRecv
  split
  · exact ⟨rfl, fun h => ⟨h.1, h.2, Nat.le_trans (Nat.sub_le _ _) h.3⟩⟩
  · exact CW.refl c

theorem CW.incSend' (c : Client) : CW c (incSend c) := by
  unfold Mochi.Broker.incSend
  split
  · rename_i hlt
    exact ⟨rfl, fun h => ⟨h.1, hlt, h.3⟩⟩
  · exact CW.refl c

theorem CW.incRecv' (c : Client) : CW c (incRecv c) := by
  unfold Mochi.Broker.incRecv
  split
  · rename_i hlt
    exact ⟨rfl, fun h => ⟨h.1, h.2, hlt⟩⟩
  · exact CW.refl c

theorem CW.aliasOutSet' (c : Client) (t : Str) : CW c (aliasOutSet c t).1 := by
  unfold Mochi.Broker.aliasOutSet
  split
  · exact CW.refl c
  · split
    · exact CW.refl c
    · split
      · exact CW.refl c
      · cw_rfl

/-! record updates, stated for a variable client: `cw_rfl` on the state a handler has built is much dearer -/

theorem CW.will' (c : Client) (w : Will) : CW c { c with will := w } := by cw_rfl
theorem CW.stop' (c : Client) : CW c { c with isOpen := false, stopped := true } := by cw_rfl
theorem CW.takenOver' (c : Client) : CW c { c with takenOver := true } := by cw_rfl
theorem CW.peerGone' (c : Client) : CW c { c with peerGone := true } := by cw_rfl

theorem CW.ops : SessOps CW :=
  ⟨CW.refl, CW.trans, CW.flSet', CW.flDelete', CW.decSend', CW.incSend', CW.decRecv', CW.incRecv', CW.aliasOutSet',
   fun _ _ => by cw_rfl, fun _ _ => by cw_rfl, fun _ _ _ => by cw_rfl,
   fun _ => ⟨rfl, fun h => ⟨List.nodup_nil, h.2, h.3⟩⟩⟩

theorem CW.subs' (c : Client) (l : List (Str × Sub)) : CW c { c with subs := l } := by cw_rfl

theorem CW.flDelete {a b : Client} (h : CW a b) (id : Nat) : CW a (flDelete b id).1 := h.trans (CW.flDelete' b id)
theorem CW.decRecv {a b : Client} (h : CW a b) : CW a (decRecv b) := h.trans (CW.decRecv' b)

theorem flSet_wf (c : Client) (m : Msg) (h : ObjWF c) : ObjWF (flSet c m).1 := (CW.flSet' c m).wf h
theorem flDelete_wf (c : Client) (id : Nat) (h : ObjWF c) : ObjWF (flDelete c id).1 := (CW.flDelete' c id).wf h
theorem decSend_wf (c : Client) (h : ObjWF c) : ObjWF (decSend c) := (CW.decSend' c).wf h
theorem incSend_wf (c : Client) (h : ObjWF c) : ObjWF (incSend c) := (CW.incSend' c).wf h
theorem decRecv_wf (c : Client) (h : ObjWF c) : ObjWF (decRecv c) := (CW.decRecv' c).wf h
theorem incRecv_wf (c : Client) (h : ObjWF c) : ObjWF (incRecv c) := (CW.incRecv' c).wf h

/-! ### server level -/

/-- every object slot (the out-of-range default included) is well-formed -/
def AllWF (s : Server) : Prop := ∀ k, ObjWF (getObj s k)

theorem getObj_forall_iff {P : Client → Prop} (h0 : P {}) (s : Server) : (∀ k, P (getObj s k)) ↔ ∀ c ∈ s.objs, P c := by
  constructor
  · intro h c hc
    obtain ⟨i, hi⟩ := List.mem_iff_getElem?.mp hc
    have := h i
    simp only [getObj, List.getD_eq_getElem?_getD, hi, Option.getD_some] at this
    exact this
  · intro h k
    simp only [getObj, List.getD_eq_getElem?_getD]
    cases hk : s.objs[k]? with
    | none => exact h0
    | some c => exact h c (List.mem_of_getElem? hk)

theorem AllWF_iff (s : Server) : AllWF s ↔ ∀ c ∈ s.objs, ObjWF c := getObj_forall_iff ObjWF_default s

/-- `s'` results from `s` without creating or removing an object, without changing an id, the connection
    table or the parked handlers; the Clients map at most lost entries; well-formed objects stay so -/
structure Good (s s' : Server) : Prop where
  len : s'.objs.length = s.objs.length
  connOf : s'.connOf = s.connOf
  pending : s'.pending = s.pending
  clients : s'.clients.Sublist s.clients
  ids : ∀ k, (getObj s' k).id = (getObj s k).id
  wf : AllWF s → AllWF s'

theorem Good.refl (s : Server) : Good s s := ⟨rfl, rfl, rfl, List.Sublist.refl _, fun _ => rfl, fun h => h⟩

theorem Good.trans {s s1 s2 : Server} (h : Good s s1) (g : Good s1 s2) : Good s s2 :=
  ⟨g.len.trans h.len, g.connOf.trans h.connOf, g.pending.trans h.pending, g.clients.trans h.clients,
   fun k => (g.ids k).trans (h.ids k), fun x => g.wf (h.wf x)⟩

theorem Good.upd {s0 s s' : Server} (h : Good s0 s) (ho : s'.objs = s.objs) (hc : s'.clients = s.clients)
    (hn : s'.connOf = s.connOf) (hp : s'.pending = s.pending) : Good s0 s' :=
  ⟨by rw [ho]; exact h.len, hn.trans h.connOf, hp.trans h.pending, by rw [hc]; exact h.clients,
   fun k => by rw [getObj_of_objs_eq ho k]; exact h.ids k,
   fun x k => by rw [getObj_of_objs_eq ho k]; exact h.wf x k⟩

theorem Good.setG {s0 s : Server} (h : Good s0 s) (i : Nat) (c : Client) (hid : c.id = (getObj s i).id)
    (hwf : AllWF s → ObjWF c) : Good s0 (setObj s i c) := by
  exact h.trans ⟨setObj_length s i c, rfl, rfl, List.Sublist.refl _,
    fun k => getObj_setObj_ind (P := fun z => z.id = (getObj s k).id) s i c k rfl fun e => e ▸ hid,
    fun x k => getObj_setObj_ind s i c k (x k) fun _ => hwf x⟩

theorem Good.set {s0 s : Server} (h : Good s0 s) (i : Nat) (c : Client) (hc : CW (getObj s i) c) :
    Good s0 (setObj s i c) :=
  h.setG i c hc.id (fun x => hc.wf (x i))

theorem Good.mod {s0 s : Server} (h : Good s0 s) (i : Nat) (f : Client → Client)
    (hf : CW (getObj s i) (f (getObj s i))) : Good s0 (modObj s i f) := h.set i _ hf

theorem Good.delClient {s0 s : Server} (h : Good s0 s) (cid : Str) :
    Good s0 { s with clients := assocDel s.clients cid } :=
  h.trans ⟨rfl, rfl, rfl, List.filter_sublist, fun _ => rfl, fun x => x⟩

theorem Good.walk (i : Nat) : ObjWalk i CW Good :=
  ⟨Good.refl, Good.trans, fun s c h => (Good.refl s).set i c h, fun s _ => (Good.refl s).upd rfl rfl rfl rfl,
   fun s _ => (Good.refl s).upd rfl rfl rfl rfl, fun s _ => (Good.refl s).upd rfl rfl rfl rfl⟩

theorem Good.idx (s : Server) (t : Index) (inf : Info) : Good s { s with topics := t, info := inf } :=
  (Good.refl s).upd rfl rfl rfl rfl

/-! ### the delivery family -/

theorem publishToClientCore_good (s : Server) (i : Nat) (sub : Sub) (f : Bool) (pk : Msg) :
    Good s (publishToClientCore s i sub f pk).1 := publishToClientCore_walk CW.ops (Good.walk i) s sub f pk

theorem publishToClient_good (s : Server) (i : Nat) (sub : Sub) (f : Bool) (pk : Msg) :
    Good s (publishToClient s i sub f pk).1 :=
  publishToClient_state i Good.refl (publishToClientCore_good · i) s sub f pk

theorem publishToSubscribers_good (s : Server) (pk : Msg) : Good s (publishToSubscribers s pk).1 :=
  publishToSubscribers_state Good.refl Good.trans publishToClientCore_good s pk

theorem publishRetainedToClient_good (s : Server) (i : Nat) (sub : Sub) (ex : Bool) (k : Nat) :
    Good s (publishRetainedToClient s i sub ex k).1 :=
  publishRetainedToClient_state i Good.refl Good.trans (publishToClientCore_good · i) s sub ex k

theorem retainMsg_good (s : Server) (pk : Msg) : Good s (retainMsg s pk) :=
  iteInduction (motive := Good s) (fun _ => Good.refl s) (fun _ => (Good.refl s).upd rfl rfl rfl rfl)

theorem retainedState_good (s : Server) (pk : Msg) : Good s (retainedState s pk) :=
  iteInduction (motive := Good s) (fun _ => retainMsg_good s pk) fun _ => Good.refl s

/-! ### work on the acting object -/

theorem stopClient_good (s : Server) (i : Nat) : Good s (stopClient s i).1 :=
  stopClient_walk (Good.walk i) CW.stop' s

theorem disconnectClient_good (s : Server) (i : Nat) (code : Nat) : Good s (disconnectClient s i code).1 :=
  stopClient_good s i

theorem unsubscribeClient_good (s : Server) (i : Nat) : Good s (unsubscribeClient s i) :=
  unsubscribeClient_walk (Good.walk i) CW.subs' Good.idx s

theorem clearInflights_good (s : Server) (i : Nat) : Good s (clearInflights s i) :=
  clearInflights_walk CW.ops (Good.walk i) s

theorem processPuback_good (s : Server) (i id : Nat) : Good s (processPuback s i id).1 :=
  processPuback_walk CW.ops (Good.walk i) s id

theorem processPubrec_good (s : Server) (i id rc : Nat) : Good s (processPubrec s i id rc).1 :=
  processPubrec_walk CW.ops (Good.walk i) s id rc

theorem processPubrel_good (s : Server) (i id rc : Nat) : Good s (processPubrel s i id rc).1 :=
  processPubrel_walk CW.ops (Good.walk i) s id rc

theorem processPubcomp_good (s : Server) (i id : Nat) : Good s (processPubcomp s i id).1 :=
  processPubcomp_walk CW.ops (Good.walk i) s id

theorem nextImmediate_good (s : Server) (i : Nat) : Good s (nextImmediate s i).1 :=
  nextImmediate_walk CW.ops (Good.walk i) s

theorem processDisconnect_good (s : Server) (i rc : Nat) (sei : Option Nat) :
    Good s (processDisconnect s i rc sei).1 :=
  have h : Good s (discState s i sei) := (Good.refl s).set i _ (by cases sei; exact CW.refl _; exact CW.ops.sei _ _ _)
  processDisconnect_cases (Q := fun r => Good s r.1) s i rc sei (fun _ => Good.refl s) (fun _ _ => h)
    (fun _ _ => (h.upd (s' := { discState s i sei with willDelayed := assocDel s.willDelayed (getObj s i).id })
      rfl rfl rfl rfl).trans (stopClient_good _ i))

theorem processUnsubscribe_good (s : Server) (i id : Nat) (filters : List Str) :
    Good s (processUnsubscribe s i id filters).1 := processUnsubscribe_walk (Good.walk i) CW.subs' Good.idx s id filters

theorem processSubscribe_good (s : Server) (i id subId : Nat) (filters : List Sub) :
    Good s (processSubscribe s i id subId filters).1 :=
  processSubscribe_walk (Good.walk i) CW.subs' Good.idx (publishRetainedToClient_good · i) s id subId filters

theorem sendLWT_good (s : Server) (i : Nat) : Good s (sendLWT s i).1 :=
  sendLWT_cases (Q := fun r => Good s r.1) s i (fun _ => Good.refl s)
    (fun _ _ _ _ => (Good.refl s).upd rfl rfl rfl rfl)
    (fun pk _ _ _ => Good.mod ((retainedState_good s pk).trans (publishToSubscribers_good _ pk)) i
      (fun c => { c with will := { c.will with flag := false } }) (CW.will' _ _))

theorem detachA_true_stopped (s : Server) (i : Nat) (hi : i < s.objs.length) :
    (getObj (detachA s i true).1 i).stopped = true := by
  unfold detachA
  simp only [if_true]
  exact stopClient_stopped (sendLWT s i).1 i (by rw [(sendLWT_good s i).len]; exact hi)

theorem detachA_good (s : Server) (i : Nat) (withErr : Bool) : Good s (detachA s i withErr).1 :=
  detachA_cases (Q := fun r => Good s r.1) s i withErr (fun _ => (sendLWT_good s i).trans (stopClient_good _ i))
    (fun _ => (Good.refl s).mod i (fun c => { c with will := {} }) (CW.will' _ _))

theorem sessionEnded_good (s : Server) (i : Nat) (cid : Str) : Good s (sessionEnded s i cid) :=
  ((clearInflights_good s i).trans (unsubscribeClient_good _ i)).delClient cid

theorem detachB_good (s : Server) (i : Nat) : Good s (detachB s i) :=
  detachB_cases (Q := Good s) s i (fun _ => (Good.refl s).upd rfl rfl rfl rfl)
    (fun _ => (sessionEnded_good s i (getObj s i).id).upd rfl rfl rfl rfl)

theorem detach_good (s : Server) (i : Nat) (withErr : Bool) : Good s (detach s i withErr).1 :=
  detach_tr (.ofState Good.refl Good.trans) i (detachA_good · i) (detachB_good · i) s withErr

theorem processPublish_good (s : Server) (i : Nat) (qos : Nat) (dup retain : Bool) (id : Nat) (topic payload : Str)
    (msgExpiry : Nat) (alias : Option Nat) :
    Good s (processPublish s i qos dup retain id topic payload msgExpiry alias).1 :=
  processPublish_walk CW.ops (Good.walk i) (disconnectClient_good · i) s qos dup retain id topic payload msgExpiry alias
    (fun s' pk _ _ => retainMsg_good s' pk) publishToSubscribers_good

/-! ### one inbound packet -/

theorem handler_good (s : Server) (i : Nat) (pk : InPk) : Good s (R07.handler s i pk).1 :=
  handler_state Good.refl i s (processPublish_good s i) (processSubscribe_good s i) (processUnsubscribe_good s i)
    (processPuback_good s i) (processPubrec_good s i) (processPubrel_good s i) (processPubcomp_good s i)
    (processDisconnect_good s i) pk

theorem receivePacket_good (s : Server) (i : Nat) (pk : InPk) : Good s (receivePacket s i pk).1 :=
  receivePacket_tr (.ofState Good.refl Good.trans) i s pk (handler_good s i pk) (nextImmediate_good · i)
    (fun s' code _ _ => disconnectClient_good s' i code)

theorem recvOn_good (s : Server) (c : Nat) (pk : InPk) (b : Bool) : Good s (recvOn s c pk b).1 :=
  recvOn_tr (.ofState Good.refl Good.trans) (fun h => h) (fun i s pk => receivePacket_good s i pk)
    (fun i s b => detach_good s i b) s c pk b

/-! ### from `Good` to `WF` -/

/-- the part of `Good` that also survives `Clients.Add` -/
structure Keep (s s' : Server) : Prop where
  len : s'.objs.length = s.objs.length
  connOf : s'.connOf = s.connOf
  pending : s'.pending = s.pending
  ids : ∀ k, (getObj s' k).id = (getObj s k).id

theorem Keep.refl (s : Server) : Keep s s := ⟨rfl, rfl, rfl, fun _ => rfl⟩
theorem Keep.trans {s s1 s2 : Server} (h : Keep s s1) (g : Keep s1 s2) : Keep s s2 :=
  ⟨g.len.trans h.len, g.connOf.trans h.connOf, g.pending.trans h.pending, fun k => (g.ids k).trans (h.ids k)⟩
theorem Good.keep {s s' : Server} (h : Good s s') : Keep s s' := ⟨h.len, h.connOf, h.pending, h.ids⟩

theorem WF.allWF {s : Server} (h : WF s) : AllWF s := (AllWF_iff s).mpr h.objs

theorem WF.of_good {s s' : Server} (h : WF s) (g : Good s s') : WF s' := by
  refine ⟨(AllWF_iff s').mp (g.wf h.allWF), ?_, ?_, ?_, (g.clients.map _).nodup h.clients_nodup, ?_⟩
  · intro id i hm
    have := h.clients_valid id i (g.clients.subset hm)
    rw [g.len, g.ids]
    exact this
  · intro n i hm
    rw [g.connOf] at hm
    rw [g.len]
    exact h.conn_valid n i hm
  · intro p hp
    rw [g.pending] at hp
    rw [g.len, g.ids]
    exact h.pending_valid p hp
  · rw [g.connOf]; exact h.conn_nodup

theorem WF.upd {s s' : Server} (h : WF s) (ho : s'.objs = s.objs) (hc : s'.clients = s.clients)
    (hn : s'.connOf = s.connOf) (hp : s'.pending = s.pending) : WF s' :=
  h.of_good ((Good.refl s).upd ho hc hn hp)

/-- `Clients.Add` of an existing object under its own id -/
theorem WF.addClient {s : Server} (h : WF s) (cid : Str) (i : Nat) (hi : i < s.objs.length)
    (hid : (getObj s i).id = cid) : WF { s with clients := assocSet s.clients cid i } := by
  refine ⟨h.objs, ?_, h.conn_valid, h.pending_valid, assocSet_nodup_keys _ _ _ h.clients_nodup, h.conn_nodup⟩
  intro id j hm
  rcases assocSet_mem_cases _ _ _ _ hm with hm | hm
  · exact h.clients_valid id j hm
  · cases hm
    exact ⟨hi, hid⟩

/-! ### connecting -/

theorem takenOver_good (s : Server) (e : Nat) : Good s (takenOver s e) := (Good.refl s).mod e _ (CW.takenOver' _)

theorem inflInherited_good (s : Server) (i e : Nat) : Good s (inflInherited s i e) := by
  refine iteInduction (motive := Good s) (fun _ => ?_) (fun _ => Good.refl s)
  refine Good.upd (s := setObj s i _) (Good.setG (Good.refl s) i _ ?_ (fun x => ?_)) rfl rfl rfl rfl
  · rfl
  · exact ⟨(x e).1, Nat.le_refl _, Nat.le_refl _⟩

theorem subsInherited_good (s : Server) (i : Nat) (cid : Str) (subs : List (Str × Sub)) :
    Good s (subsInherited s i cid subs) :=
  foldl_inv (Good s) _ _ _ (Good.refl s) (fun b _ h => h.trans ((Good.walk i).subsWritten CW.subs' Good.idx b _ _ _))

/-- `admitA` is a `Good` transition followed by `Clients.Add` -/
theorem admitA_spec (s : Server) (i : Nat) (k : Connect) :
    ∃ b, Good s b ∧ (admitA s i k).1 = registered b k.id i :=
  admitA_tr (.ofState Good.refl Good.trans) s i k ((Good.refl s).upd rfl rfl rfl rfl)
    (fun t e _ => disconnectClient_good t e 0x8E) (fun t e _ => unsubscribeClient_good t e)
    (fun t e _ => clearInflights_good t e) (fun t e _ => takenOver_good t e) (fun t e _ => inflInherited_good t i e)
    (fun t l => subsInherited_good t i k.id l)

theorem admitA_keep (s : Server) (i : Nat) (k : Connect) : Keep s (admitA s i k).1 := by
  obtain ⟨b, hb, he⟩ := admitA_spec s i k
  rw [he]
  exact ⟨hb.len, hb.connOf, hb.pending, hb.ids⟩

theorem admitA_wf (s : Server) (i : Nat) (k : Connect) (h : WF s) (hi : i < s.objs.length)
    (hid : (getObj s i).id = k.id) : WF (admitA s i k).1 := by
  obtain ⟨b, hb, he⟩ := admitA_spec s i k
  rw [he]
  exact (h.of_good hb).addClient k.id i (by rw [hb.len]; exact hi) (by rw [hb.ids]; exact hid)

theorem admitConnack_good (s : Server) (i conn : Nat) (present : Bool) : Good s (admitConnack s i conn present).1 :=
  admitConnack_walk CW.ops (Good.walk i) s conn present

theorem admitC_good (s : Server) (i : Nat) (k : Connect) (present : Bool) : Good s (admitC s i k present).1 :=
  admitC_walk CW.ops (Good.walk i) (fun s _ => (Good.refl s).upd rfl rfl rfl rfl) s k present

theorem tookOverDown_good (s : Server) (ex : Option Nat) : Good s (tookOverDown s ex).1 := by
  cases ex with
  | none => exact Good.refl s
  | some e => exact detach_good s e true

theorem admitClient_wf (s : Server) (i conn : Nat) (k : Connect) (h : WF s) (hi : i < s.objs.length)
    (hid : (getObj s i).id = k.id) : WF (admitClient s i conn k).1 ∧ Keep s (admitClient s i conn k).1 := by
  rw [admitClient_eq s i conn k rfl rfl rfl]
  have g := ((admitConnack_good (admitA s i k).1 i conn (admitA s i k).2.2.1).trans
    (tookOverDown_good _ (admitA s i k).2.2.2)).trans (admitC_good _ i k (admitA s i k).2.2.1)
  exact ⟨(admitA_wf s i k h hi hid).of_good g, (admitA_keep s i k).trans g.keep⟩

theorem WF.addObj {s : Server} (h : WF s) (c : Client) (conn : Nat) (hc : ObjWF c)
    (hf : conn ∉ s.connOf.map (·.1)) :
    WF { s with objs := s.objs ++ [c], connOf := s.connOf ++ [(conn, s.objs.length)] } := by
  have hlen : (s.objs ++ [c]).length = s.objs.length + 1 := by simp
  refine ⟨?_, ?_, ?_, ?_, h.clients_nodup, ?_⟩
  · intro x hx
    rcases List.mem_append.mp hx with hx | hx
    · exact h.objs x hx
    · rw [List.mem_singleton.mp hx]; exact hc
  · intro id i hm
    have := h.clients_valid id i hm
    refine ⟨by show i < (s.objs ++ [c]).length; omega, ?_⟩
    rw [getObj_append_lt (s := s) rfl i this.1]
    exact this.2
  · intro n i hm
    show i < (s.objs ++ [c]).length
    rcases List.mem_append.mp hm with hm | hm
    · have := h.conn_valid n i hm; omega
    · cases List.mem_singleton.mp hm; omega
  · intro p hp
    have := h.pending_valid p hp
    refine ⟨by show p.obj < (s.objs ++ [c]).length; omega, ?_⟩
    rw [getObj_append_lt (s := s) rfl p.obj this.1]
    exact this.2
  · show ((s.connOf ++ [(conn, s.objs.length)]).map (·.1)).Nodup
    rw [List.map_append, List.nodup_append]
    refine ⟨h.conn_nodup, List.nodup_cons.mpr ⟨List.not_mem_nil, List.nodup_nil⟩, ?_⟩
    intro a ha b hb hab
    rw [List.map_cons, List.map_nil, List.mem_singleton] at hb
    subst hb; subst hab
    exact hf ha

theorem WF.addPending {s : Server} (h : WF s) (p : Pending) (hi : p.obj < s.objs.length)
    (hid : (getObj s p.obj).id = p.k.id) : WF { s with pending := s.pending ++ [p] } := by
  refine ⟨h.objs, h.clients_valid, h.conn_valid, ?_, h.clients_nodup, h.conn_nodup⟩
  intro q hq
  rcases List.mem_append.mp hq with hq | hq
  · exact h.pending_valid q hq
  · rw [List.mem_singleton.mp hq]; exact ⟨hi, hid⟩

theorem WF.filterPending {s : Server} (h : WF s) (f : Pending → Bool) : WF { s with pending := s.pending.filter f } :=
  ⟨h.objs, h.clients_valid, h.conn_valid, fun p hp => h.pending_valid p (List.mem_filter.mp hp).1,
   h.clients_nodup, h.conn_nodup⟩

theorem parseConnect_wf (s : Server) (conn : Nat) (k : Connect) : ObjWF (parseConnect s conn k) :=
  ⟨List.nodup_nil, Nat.le_refl _, Nat.le_refl _⟩

theorem parseConnect_id (s : Server) (conn : Nat) (k : Connect) : (parseConnect s conn k).id = k.id := rfl

theorem connState_wf (s : Server) (conn : Nat) (k : Connect) (h : WF s) (hf : conn ∉ s.connOf.map (·.1)) :
    WF (connState s conn k) ∧ s.objs.length < (connState s conn k).objs.length ∧
      (getObj (connState s conn k) s.objs.length).id = k.id :=
  ⟨h.addObj _ conn (parseConnect_wf s conn k) hf, connState_lt s conn k, by rw [getObj_connState_new]; rfl⟩

theorem connect_wf (s : Server) (conn : Nat) (k : Connect) (h : WF s) (hf : conn ∉ s.connOf.map (·.1)) :
    WF (connect s conn k).1 :=
  have ⟨w1, hi, hid⟩ := connState_wf s conn k h hf
  connect_cases (Q := fun r => WF r.1) s conn k (fun _ _ e _ => e ▸ w1.of_good (stopClient_good _ _))
    (fun _ e _ => e ▸ (admitClient_wf _ _ conn k w1 hi hid).1)

theorem connectHold_wf (s : Server) (conn : Nat) (k : Connect) (stage : Nat) (h : WF s)
    (hf : conn ∉ s.connOf.map (·.1)) : WF (connectHold s conn k stage).1 := by
  have ⟨w1, hi, hid⟩ := connState_wf s conn k h hf
  refine connectHold_cases (Q := fun r => WF r.1) s conn k stage (fun _ _ e _ _ => ?_) (fun _ _ e _ _ => ?_)
    (fun _ e _ _ => ?_) (fun _ a sD _ e _ _ ha hd => ?_)
  · subst e; exact w1.addPending _ hi hid
  · subst e; exact w1.of_good (stopClient_good _ _)
  · subst e; exact w1.addPending _ hi hid
  · subst e ha
    have g : Good (admitA _ s.objs.length k).1 sD := (Prod.mk.inj hd).1 ▸ tookOverDown_good _ _
    have k3 := (admitA_keep _ s.objs.length k).trans g.keep
    exact ((admitA_wf _ _ k w1 hi hid).of_good g).addPending _ (by rw [k3.len]; exact hi) (by rw [k3.ids]; exact hid)

theorem connectRelease_wf (s : Server) (p : Pending) (h : WF s) (hi : p.obj < s.objs.length)
    (hid : (getObj s p.obj).id = p.k.id) :
    WF (connectRelease s p).1 ∧ Keep s (connectRelease s p).1 :=
  have good : ∀ {s'}, Good s s' → WF s' ∧ Keep s s' := fun g => ⟨h.of_good g, g.keep⟩
  connectRelease_cases (Q := fun r => WF r.1 ∧ Keep s r.1) s p (fun _ _ _ => good (stopClient_good s p.obj))
    (fun _ _ => admitClient_wf s p.obj p.conn p.k h hi hid) (fun _ _ => good ((Good.refl s).upd rfl rfl rfl rfl))
    (fun _ _ => good ((admitConnack_good s p.obj p.conn p.present).trans (admitC_good _ p.obj p.k p.present)))

/-! ### housekeeping -/

theorem tickClients_good (s : Server) (dt : Int) : Good s (tickClients s dt).1 :=
  tickClients_cases (J := fun r => Good s r.1) s dt (Good.refl s)
    (fun acc e _ _ h => h.trans (sessionEnded_good acc.1 e.2 e.1))

theorem tickRetained_good (s : Server) (now : Int) : Good s (tickRetained s now) :=
  tickRetained_cases (J := Good s) s now (Good.refl s) (fun _ _ _ _ h => h.upd rfl rfl rfl rfl)
    fun _ h => h.upd rfl rfl rfl rfl

theorem tickInflight_good (s : Server) (now : Int) : Good s (tickInflight s now) :=
  tickInflight_cases (J := Good s) s now (Good.refl s)
    (fun b e m _ h => h.trans (recordGone_walk CW.ops (Good.walk e.2) b m.id (fun c => c) CW.refl))

theorem tickWills_good (s : Server) (dt : Int) : Good s (tickWills s dt).1 :=
  tickWills_cases (J := fun r => Good s r.1) s dt (Good.refl s) (fun acc e _ _ h =>
    have g1 := h.trans (publishToSubscribers_good acc.1 e.2)
    publishDue_cases (Q := fun r => Good s r.1) acc e rfl (fun _ => g1.upd rfl rfl rfl rfl) (fun j _ =>
      (Good.mod (g1.trans (retainedState_good _ e.2)) j (fun c => { c with will := {} }) (CW.will' _ _)).upd
        rfl rfl rfl rfl))

/-! ### `init`, `step`, `run` -/

theorem WF_init (caps : Caps) : WF (init caps) := by
  refine ⟨?_, ?_, ?_, ?_, ?_, ?_⟩
  · intro c hc
    have : c = _ := List.mem_singleton.mp hc
    subst this
    exact ⟨List.nodup_nil, Nat.le_refl _, Nat.le_refl _⟩
  · intro id i hm
    have : (id, i) = (inlineID, 0) := List.mem_singleton.mp hm
    cases this
    exact ⟨Nat.zero_lt_one, rfl⟩
  · intro n i hm; cases hm
  · intro p hp; cases hp
  · exact List.nodup_cons.mpr ⟨List.not_mem_nil, List.nodup_nil⟩
  · exact List.nodup_nil

theorem step_tick_good (s : Server) (kind : String) (t : Int) : Good s (step s (.tick kind t)).1 :=
  step_tick_cases (Q := fun r => Good s r.1) s kind t (tickClients_good s t) (tickRetained_good s t)
    (tickInflight_good s t) (tickWills_good s t) (Good.refl s)

/-- **the invariant is kept by every op** -/
theorem WF_step (s : Server) (op : Op) (h : WF s) (hfresh : OpFresh s op) : WF (step s op).1 :=
  have good : ∀ {s s'}, Good s s' → WF s → WF s' := fun g w => w.of_good g
  step_tr (W := fun s s' _ => WF s → WF s') (.ofState (fun _ w => w) fun f g w => g (f w)) (fun _ h => h) s op
    (conn := fun c k e w => connect_wf s c k w (by subst e; exact hfresh))
    (hold := fun c k st e w => connectHold_wf s c k st w (by subst e; exact hfresh))
    (recv := fun c pk _ => good (recvOn_good s c pk true))
    (cut := fun c pk _ _ _ => good (recvOn_good _ c pk false))
    (ping := fun s' c => good (recvOn_good s' c _ _))
    (peer := fun s' i => good ((Good.refl s').mod i _ (CW.peerGone' _)))
    (det := fun s' i b => good (detach_good s' i b))
    (detA := fun s' i => good (detachA_good s' i true))
    (detB := fun s' i => good (detachB_good s' i))
    (park := fun s' _ _ => good ((Good.refl s').upd rfl rfl rfl rfl))
    (unpark := fun _ w => w.filterPending _)
    (rel := fun _ p _ hp w =>
      have hv := h.pending_valid p (List.mem_of_find?_eq_some hp)
      (connectRelease_wf _ p w hv.1 hv.2).1)
    (tick := fun kind t e w => e ▸ w.of_good (step_tick_good s kind t))
    (pub := fun _ _ _ _ _ => good (receivePacket_good s 0 _))
    (isub := fun _ _ _ _ => good ((Good.refl s).upd rfl rfl rfl rfl))
    (iunsub := fun _ _ => good ((Good.refl s).upd rfl rfl rfl rfl)) h

/-- **the invariant holds after every history** -/
theorem WF_run (caps : Caps) (ops : List Op) (h : OpsFresh (init caps) ops) : WF (run (init caps) ops) :=
  run_inv WF_step (WF_init caps) (OpsFresh_iff.mp h)

/-! ### per-handler corollaries on `WF` (each handler keeps the invariant) -/

theorem publishToClientCore_wf (s : Server) (i : Nat) (sub : Sub) (f : Bool) (pk : Msg) (h : WF s) :
    WF (publishToClientCore s i sub f pk).1 := h.of_good (publishToClientCore_good s i sub f pk)
theorem publishToClient_wf (s : Server) (i : Nat) (sub : Sub) (f : Bool) (pk : Msg) (h : WF s) :
    WF (publishToClient s i sub f pk).1 := h.of_good (publishToClient_good s i sub f pk)
theorem publishToSubscribers_wf (s : Server) (pk : Msg) (h : WF s) : WF (publishToSubscribers s pk).1 :=
  h.of_good (publishToSubscribers_good s pk)
theorem publishRetainedToClient_wf (s : Server) (i : Nat) (sub : Sub) (ex : Bool) (k : Nat) (h : WF s) :
    WF (publishRetainedToClient s i sub ex k).1 := h.of_good (publishRetainedToClient_good s i sub ex k)
theorem retainMsg_wf (s : Server) (pk : Msg) (h : WF s) : WF (retainMsg s pk) := h.of_good (retainMsg_good s pk)
theorem retainedState_wf (s : Server) (pk : Msg) (hw : WF s) : WF (retainedState s pk) :=
  hw.of_good (retainedState_good s pk)
theorem stopClient_wf (s : Server) (i : Nat) (h : WF s) : WF (stopClient s i).1 := h.of_good (stopClient_good s i)
theorem disconnectClient_wf (s : Server) (i code : Nat) (h : WF s) : WF (disconnectClient s i code).1 :=
  h.of_good (disconnectClient_good s i code)
theorem unsubscribeClient_wf (s : Server) (i : Nat) (h : WF s) : WF (unsubscribeClient s i) :=
  h.of_good (unsubscribeClient_good s i)
theorem clearInflights_wf (s : Server) (i : Nat) (h : WF s) : WF (clearInflights s i) :=
  h.of_good (clearInflights_good s i)
theorem sendLWT_wf (s : Server) (i : Nat) (h : WF s) : WF (sendLWT s i).1 := h.of_good (sendLWT_good s i)
theorem processPublish_wf (s : Server) (i : Nat) (qos : Nat) (dup retain : Bool) (id : Nat) (topic payload : Str)
    (msgExpiry : Nat) (alias : Option Nat) (h : WF s) :
    WF (processPublish s i qos dup retain id topic payload msgExpiry alias).1 :=
  h.of_good (processPublish_good s i qos dup retain id topic payload msgExpiry alias)
theorem processPuback_wf (s : Server) (i id : Nat) (h : WF s) : WF (processPuback s i id).1 :=
  h.of_good (processPuback_good s i id)
theorem processPubrec_wf (s : Server) (i id rc : Nat) (h : WF s) : WF (processPubrec s i id rc).1 :=
  h.of_good (processPubrec_good s i id rc)
theorem processPubrel_wf (s : Server) (i id rc : Nat) (h : WF s) : WF (processPubrel s i id rc).1 :=
  h.of_good (processPubrel_good s i id rc)
theorem processPubcomp_wf (s : Server) (i id : Nat) (h : WF s) : WF (processPubcomp s i id).1 :=
  h.of_good (processPubcomp_good s i id)
theorem processSubscribe_wf (s : Server) (i id subId : Nat) (filters : List Sub) (h : WF s) :
    WF (processSubscribe s i id subId filters).1 := h.of_good (processSubscribe_good s i id subId filters)
theorem processUnsubscribe_wf (s : Server) (i id : Nat) (filters : List Str) (h : WF s) :
    WF (processUnsubscribe s i id filters).1 := h.of_good (processUnsubscribe_good s i id filters)
theorem processDisconnect_wf (s : Server) (i rc : Nat) (sei : Option Nat) (h : WF s) :
    WF (processDisconnect s i rc sei).1 := h.of_good (processDisconnect_good s i rc sei)
theorem nextImmediate_wf (s : Server) (i : Nat) (h : WF s) : WF (nextImmediate s i).1 :=
  h.of_good (nextImmediate_good s i)
theorem receivePacket_wf (s : Server) (i : Nat) (pk : InPk) (h : WF s) : WF (receivePacket s i pk).1 :=
  h.of_good (receivePacket_good s i pk)
theorem detachA_wf (s : Server) (i : Nat) (b : Bool) (h : WF s) : WF (detachA s i b).1 := h.of_good (detachA_good s i b)
theorem detachB_wf (s : Server) (i : Nat) (h : WF s) : WF (detachB s i) := h.of_good (detachB_good s i)
theorem detach_wf (s : Server) (i : Nat) (b : Bool) (h : WF s) : WF (detach s i b).1 := h.of_good (detach_good s i b)
theorem recvOn_wf (s : Server) (c : Nat) (pk : InPk) (b : Bool) (h : WF s) : WF (recvOn s c pk b).1 :=
  h.of_good (recvOn_good s c pk b)
theorem admitConnack_wf (s : Server) (i conn : Nat) (p : Bool) (h : WF s) : WF (admitConnack s i conn p).1 :=
  h.of_good (admitConnack_good s i conn p)
theorem admitC_wf (s : Server) (i : Nat) (k : Connect) (p : Bool) (h : WF s) : WF (admitC s i k p).1 :=
  h.of_good (admitC_good s i k p)
theorem tickClients_wf (s : Server) (dt : Int) (h : WF s) : WF (tickClients s dt).1 := h.of_good (tickClients_good s dt)
theorem tickRetained_wf (s : Server) (t : Int) (h : WF s) : WF (tickRetained s t) := h.of_good (tickRetained_good s t)
theorem tickInflight_wf (s : Server) (t : Int) (h : WF s) : WF (tickInflight s t) := h.of_good (tickInflight_good s t)
theorem tickWills_wf (s : Server) (dt : Int) (h : WF s) : WF (tickWills s dt).1 := h.of_good (tickWills_good s dt)
theorem step_wf (s : Server) (op : Op) (h : WF s) (hfresh : OpFresh s op) : WF (step s op).1 := WF_step s op h hfresh

/-! ### a concrete history (non-vacuity of the history-quantified corollaries in `Props/C10`, `Props/C11`)

A subscriber with Receive Maximum 1 (connection 1), a publisher whose CONNECT is parked in the
authentication hook and released (connection 2), three QoS 1 publishes: the first is delivered, the second
is deferred by Receive Maximum 1 and released by the subscriber's PUBACK, the third is deferred again. -/
def demoHistory : List Op :=
  [.connect 1 { ver := 5, id := [115], rm := some 1 },
   .recv 1 (.subscribe 1 0 [{ filter := [116], qos := 1 }]),
   .connectHold 2 { ver := 5, id := [112] } 1,
   .release 2,
   .recv 2 (.publish 1 false false 1 [116] [97] 0 none),
   .recv 2 (.publish 1 false false 2 [116] [98] 0 none),
   .recv 1 (.puback 1 0),
   .recv 2 (.publish 1 false false 3 [116] [99] 0 none)]

example : OpsFresh (init {}) demoHistory := by decide +kernel
/-- after the sixth op: id 1 delivered, id 2 deferred (`expiry = -1`) by Receive Maximum 1 -/
example : ((getObj (run (init {}) (demoHistory.take 6)) 1).inflight.map (fun m => (m.id, m.expiry))) =
    [(1, 1086400), (2, -1)] := by decide +kernel
/-- a connection number used twice is not fresh -/
example : ¬ OpsFresh (init {}) [.connect 1 { id := [97] }, .connect 1 { id := [98] }] := by decide +kernel

end Mochi.Broker
