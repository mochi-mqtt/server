import Mochi.Model.Broker
import Mochi.Lemmas.BrokerBasics
import Mochi.Lemmas.BrokerFrame
import Mochi.Lemmas.BrokerInv
import Mochi.Lemmas.BrokerDelivery
/-!
# C07 at operation level: what `step s (.recv conn pk)` writes back to `conn`

`Answered conn r X`: the outputs of the op contain `wrote conn X`, or `closed conn`.
The op is `recvOn s conn pk true`: `receivePacket` (the handler, then the release of one deferred message or the
DISCONNECT of an MQTT 5 client for an error code), then — when the handler returned an error — `detach`, else the
harness's barrier PINGREQ.  The handler's own outputs are a PREFIX of the op's outputs (`recvOn_prefix`,
`receivePacket_handler`), and a handler error closes the connection (`recvOn_error_closes`), so each clause reduces to
one fact about one handler: "when it returns no error, its output contains (starts with) the acknowledgement".
-/
namespace Mochi.Broker.R07
open Mochi.Topics

/-- the op's outputs contain `wrote conn X`, or the connection was closed -/
def Answered (conn : Nat) (r : Server × List Out) (X : WPk) : Prop :=
  Out.wrote conn X ∈ r.2 ∨ Out.closed conn ∈ r.2

/-- an open, non-inline client object `i` registered on connection `conn`, whose peer is not gone -/
structure Live (s : Server) (conn i : Nat) : Prop where
  reg : assocGet s.connOf conn = some i
  conn : (getObj s i).conn = conn
  isOpen : (getObj s i).isOpen = true
  stopped : (getObj s i).stopped = false
  inline : (getObj s i).inline = false
  peer : (getObj s i).peerGone = false

instance (s : Server) (conn i : Nat) : Decidable (Live s conn i) :=
  decidable_of_iff (assocGet s.connOf conn = some i ∧ (getObj s i).conn = conn ∧ (getObj s i).isOpen = true ∧
      (getObj s i).stopped = false ∧ (getObj s i).inline = false ∧ (getObj s i).peerGone = false)
    ⟨fun ⟨a, b, c, d, e, f⟩ => ⟨a, b, c, d, e, f⟩, fun ⟨a, b, c, d, e, f⟩ => ⟨a, b, c, d, e, f⟩⟩

theorem Live.notDead {s : Server} {conn i : Nat} (L : Live s conn i) : dead (getObj s i) = false :=
  dead_of_live L.isOpen L.peer

theorem receivePacket_handler (s : Server) (i : Nat) (pk : InPk) :
    (receivePacket s i pk).2.2 = (handler s i pk).2.2 ∧
    ∃ rest, (receivePacket s i pk).2.1 = (handler s i pk).2.1 ++ rest :=
  receivePacket_cases (Q := fun x => x.2.2 = (handler s i pk).2.2 ∧ ∃ rest, x.2.1 = (handler s i pk).2.1 ++ rest)
    s i pk rfl (fun h => ⟨h.symm, _, rfl⟩) (fun _ h => ⟨h.symm, _, rfl⟩)
    (fun _ h => ⟨h.symm, [], (List.append_nil _).symm⟩)

theorem step_prefix {s : Server} {conn i : Nat} (L : Live s conn i) (pk : InPk) :
    ∃ rest, (step s (.recv conn pk)).2 = (handler s i pk).2.1 ++ rest := by
  obtain ⟨r1, h1⟩ := recvOn_prefix s conn pk true i L.reg L.isOpen
  obtain ⟨r2, h2⟩ := (receivePacket_handler s i pk).2
  refine ⟨r2 ++ r1, ?_⟩
  show (recvOn s conn pk true).2 = _
  rw [h1, h2, List.append_assoc]

theorem step_error_closes {s : Server} {conn i : Nat} (L : Live s conn i) (pk : InPk) (code : Nat)
    (h : (handler s i pk).2.2 = some code) : Out.closed conn ∈ (step s (.recv conn pk)).2 :=
  recvOn_error_closes s conn pk true i code L.reg L.conn L.inline L.isOpen L.stopped
    ((receivePacket_handler s i pk).1.trans h)

theorem answered_of_handler {s : Server} {conn i : Nat} (L : Live s conn i) (pk : InPk) (X : WPk)
    (h : (handler s i pk).2.2 = none → Out.wrote conn X ∈ (handler s i pk).2.1) :
    Answered conn (step s (.recv conn pk)) X := by
  cases he : (handler s i pk).2.2 with
  | some code => exact Or.inr (step_error_closes L pk code he)
  | none =>
    obtain ⟨rest, hr⟩ := step_prefix L pk
    exact Or.inl (by rw [hr]; exact List.mem_append_left _ (h he))

/-- client level: the fields `Live` and a write look at -/
structure CF (a b : Client) : Prop where
  conn : b.conn = a.conn
  ver : b.ver = a.ver
  isOpen : b.isOpen = a.isOpen
  stopped : b.stopped = a.stopped
  inline : b.inline = a.inline
  peer : b.peerGone = a.peerGone

theorem CF.trans {a b c : Client} (h : CF a b) (g : CF b c) : CF a c :=
  ⟨g.conn.trans h.conn, g.ver.trans h.ver, g.isOpen.trans h.isOpen, g.stopped.trans h.stopped,
   g.inline.trans h.inline, g.peer.trans h.peer⟩

theorem CF.live {a b : Client} (h : CF a b) : LiveEq a b := ⟨h.isOpen, h.peer, h.inline, h.conn, h.ver⟩

/-- reading object `i` back after writing `c` there (an index out of range reads the default both times) -/
theorem CF.get_set {s : Server} {i : Nat} {c : Client} (h : CF (getObj s i) c) :
    CF (getObj s i) (getObj (setObj s i c) i) :=
  getObj_setObj_ind s i c i ⟨rfl, rfl, rfl, rfl, rfl, rfl⟩ fun _ => h

theorem writeMsg_ack_live {s : Server} {conn i : Nat} (L : Live s conn i) (m : Msg) (ht : m.type ≠ 3) :
    writeMsg s i m = [.wrote conn (.ack (getObj s i).ver m.type m.id m.reasonCode)] := by
  rw [writeMsg_ack m L.isOpen L.inline L.peer ht, L.conn]

theorem writeMsg_kept {s s' : Server} {conn i : Nat} (L : Live s conn i) (h : CF (getObj s i) (getObj s' i)) (m : Msg)
    (ht : m.type ≠ 3) : writeMsg s' i m = [.wrote conn (.ack (getObj s i).ver m.type m.id m.reasonCode)] :=
  (writeMsg_live h.live m).trans (writeMsg_ack_live L m ht)

theorem writeAck_live {s : Server} {conn i : Nat} (L : Live s conn i) (t id rc : Nat) (ht : t ≠ 3) :
    writeAck s i t id rc = [.wrote conn (.ack (getObj s i).ver t id rc)] :=
  writeMsg_ack_live L { type := t, id := id, reasonCode := rc } ht

theorem ackRes_live' {s : Server} {conn i : Nat} (L : Live s conn i) (t id rc : Nat) (ht : t ≠ 3) :
    ackRes s i t id rc = (s, [.wrote conn (.ack (getObj s i).ver t id rc)], none) := by
  rw [ackRes_live s i t id rc L.notDead, writeAck_live L t id rc ht]

/-! ### PINGREQ -/

theorem handler_pingreq {s : Server} {conn i : Nat} (L : Live s conn i) :
    handler s i .pingreq = (s, [.wrote conn .pingresp], none) := by
  show (if !dead (getObj s i) then _ else _) = _
  rw [L.notDead, L.conn]
  rfl

/-! ### PUBREL / PUBREC -/

theorem flSet_fields (c : Client) (m : Msg) :
    (flSet c m).1.conn = c.conn ∧ (flSet c m).1.isOpen = c.isOpen ∧ (flSet c m).1.stopped = c.stopped ∧
    (flSet c m).1.inline = c.inline ∧ (flSet c m).1.peerGone = c.peerGone ∧ (flSet c m).1.ver = c.ver := by
  unfold flSet
  split <;> exact ⟨rfl, rfl, rfl, rfl, rfl, rfl⟩

theorem decRecv_fields (c : Client) :
    (decRecv c).conn = c.conn ∧ (decRecv c).isOpen = c.isOpen ∧ (decRecv c).stopped = c.stopped ∧
    (decRecv c).inline = c.inline ∧ (decRecv c).peerGone = c.peerGone ∧ (decRecv c).ver = c.ver := by
  unfold decRecv
  split <;> exact ⟨rfl, rfl, rfl, rfl, rfl, rfl⟩

theorem incRecv_fields (c : Client) :
    (incRecv c).conn = c.conn ∧ (incRecv c).isOpen = c.isOpen ∧ (incRecv c).stopped = c.stopped ∧
    (incRecv c).inline = c.inline ∧ (incRecv c).peerGone = c.peerGone ∧ (incRecv c).ver = c.ver := by
  unfold incRecv
  split <;> exact ⟨rfl, rfl, rfl, rfl, rfl, rfl⟩

theorem flSet_cf (c : Client) (m : Msg) : CF c (flSet c m).1 := by
  obtain ⟨a, b, d, e, f, g⟩ := flSet_fields c m
  exact ⟨a, g, b, d, e, f⟩

theorem decRecv_cf (c : Client) : CF c (decRecv c) := by
  obtain ⟨a, b, d, e, f, g⟩ := decRecv_fields c
  exact ⟨a, g, b, d, e, f⟩

/-- what `processPubrel` writes for a live client: PUBCOMP with the request's identifier — reason 0x92 when no record
    exists under the identifier, reason 0 when one exists and the PUBREL carries a valid success code — and NOTHING
    when a record exists and the PUBREL carries a failure (or undefined) reason code -/
theorem processPubrel_out {s : Server} {conn i : Nat} (L : Live s conn i) (id rc : Nat) :
    (processPubrel s i id rc).2.2 = none ∧
    (processPubrel s i id rc).2.1 =
      if (flGet (getObj s i) id).isNone then [.wrote conn (.ack (getObj s i).ver 7 id 0x92)]
      else if rc ≥ 0x80 || !reasonValid 6 rc then []
      else [.wrote conn (.ack (getObj s i).ver 7 id 0)] := by
  refine processPubrel_cases (Q := fun r => r.2.2 = none ∧ r.2.1 = _) s i id rc rfl (fun h => ?_) (fun h1 h2 => ?_)
    (fun _ _ h => ?_) (fun h1 h2 _ => ?_)
  · rw [if_pos h, ackRes_live' L 7 id 0x92 (by decide)]; exact ⟨rfl, rfl⟩
  · rw [if_neg h1, if_pos h2]; exact ⟨rfl, rfl⟩
  · rw [L.notDead] at h; cases h
  · rw [if_neg h1, if_neg h2]
    exact ⟨rfl, writeMsg_kept L (flSet_cf _ _).get_set (pubcompAck s id) (show (7 : Nat) ≠ 3 by decide)⟩

/-- what `processPubrec` writes for a live client: PUBREL with the request's identifier — reason 0x92 when no record
    exists under the identifier, reason 0 when one exists and the PUBREC carries a valid success code — and NOTHING
    when a record exists and the PUBREC carries a failure (or undefined) reason code (the exchange ends) -/
theorem processPubrec_out {s : Server} {conn i : Nat} (L : Live s conn i) (id rc : Nat) :
    (processPubrec s i id rc).2.2 = none ∧
    (processPubrec s i id rc).2.1 =
      if (flGet (getObj s i) id).isNone then [.wrote conn (.ack (getObj s i).ver 6 id 0x92)]
      else if rc ≥ 0x80 || !reasonValid 5 rc then []
      else [.wrote conn (.ack (getObj s i).ver 6 id 0)] := by
  refine processPubrec_cases (Q := fun r => r.2.2 = none ∧ r.2.1 = _) s i id rc rfl (fun h => ?_) (fun h1 h2 => ?_)
    (fun _ _ h => ?_) (fun h1 h2 _ => ?_)
  · rw [if_pos h, ackRes_live' L 6 id 0x92 (by decide)]; exact ⟨rfl, rfl⟩
  · rw [if_neg h1, if_pos h2]; exact ⟨rfl, rfl⟩
  · rw [L.notDead] at h; cases h
  · rw [if_neg h1, if_neg h2]
    exact ⟨rfl, writeMsg_kept L ((decRecv_cf _).trans (flSet_cf _ _)).get_set (pubrelAck s id)
      (show (6 : Nat) ≠ 3 by decide)⟩

/-- the op's first output when the handler's answer is the three-way one of `processPubrel` / `processPubrec` (`mk` makes
    the acknowledgement from its reason code) and a known identifier comes with a defined success code (`bad = false`) -/
theorem step_acked {s : Server} {conn i : Nat} (L : Live s conn i) (pk : InPk) {g : Option Msg} {bad : Bool}
    {mk : Nat → WPk}
    (ho : (handler s i pk).2.1 = if g.isNone then [.wrote conn (mk 0x92)] else if bad then [] else [.wrote conn (mk 0)])
    (hb : g.isSome = true → bad = false) :
    ∃ rest, (step s (.recv conn pk)).2 = .wrote conn (mk (if g.isNone then 0x92 else 0)) :: rest := by
  obtain ⟨rest, h⟩ := step_prefix L pk
  refine ⟨rest, ?_⟩
  rw [h, ho]
  cases g with
  | none => rfl
  | some m => rw [hb rfl]; rfl

/-! ### SUBSCRIBE / UNSUBSCRIBE: the per-filter folds -/

/-- a fold that appends ONE element with property `G` per step to a projected list, under an invariant -/
theorem foldl_inv_snoc {α β γ} (P : β → Prop) (G : γ → Prop) (proj : β → List γ) (f : β → α → β) (l : List α) (b : β)
    (h0 : P b) (hs : ∀ b a, P b → ∃ y, G y ∧ P (f b a) ∧ proj (f b a) = proj b ++ [y]) :
    P (l.foldl f b) ∧ ∃ ys, proj (l.foldl f b) = proj b ++ ys ∧ ys.length = l.length ∧ ∀ y ∈ ys, G y := by
  induction l generalizing b with
  | nil => exact ⟨h0, [], (List.append_nil _).symm, rfl, fun _ h => by cases h⟩
  | cons x xs ih =>
    obtain ⟨y, hy, h1, h2⟩ := hs b x h0
    obtain ⟨h3, ys, h4, h5, h6⟩ := ih (f b x) h1
    refine ⟨h3, y :: ys, ?_, by rw [List.length_cons, List.length_cons, h5], ?_⟩
    · rw [List.foldl_cons, h4, h2, List.append_assoc]
      rfl
    · intro z hz
      rcases List.mem_cons.mp hz with rfl | hz
      · exact hy
      · exact h6 z hz

/-- a fold that appends ONE code per element, the code being a function of the element alone as long as the
    invariant `P` holds: the codes are `l.map g`, in order -/
theorem foldl_track {α β γ} (P : β → Prop) (proj : β → List γ) (g : α → γ) (f : β → α → β) (l : List α) (b : β)
    (h0 : P b) (hs : ∀ b a, P b → P (f b a) ∧ proj (f b a) = proj b ++ [g a]) :
    P (l.foldl f b) ∧ proj (l.foldl f b) = proj b ++ l.map g := by
  induction l generalizing b with
  | nil => exact ⟨h0, by simp⟩
  | cons x xs ih =>
    obtain ⟨h1, h2⟩ := hs b x h0
    obtain ⟨h3, h4⟩ := ih (f b x) h1
    refine ⟨h3, ?_⟩
    rw [List.foldl_cons, h4, h2, List.map_cons, List.append_assoc]
    rfl

theorem ite_rel {α β} {R : α → β → Prop} {p : Prop} [Decidable p] {a b : α} {c d : β} (h1 : p → R a c)
    (h2 : ¬ p → R b d) : R (if p then a else b) (if p then c else d) := by
  by_cases h : p
  · rw [if_pos h, if_pos h]; exact h1 h
  · rw [if_neg h, if_neg h]; exact h2 h

/-- what the per-filter work of SUBSCRIBE / UNSUBSCRIBE keeps: the fields of object `i` a write looks at, the
    capabilities and the ACL -/
structure Keep (i : Nat) (s s' : Server) : Prop where
  conn : (getObj s' i).conn = (getObj s i).conn
  ver : (getObj s' i).ver = (getObj s i).ver
  isOpen : (getObj s' i).isOpen = (getObj s i).isOpen
  stopped : (getObj s' i).stopped = (getObj s i).stopped
  inline : (getObj s' i).inline = (getObj s i).inline
  peer : (getObj s' i).peerGone = (getObj s i).peerGone
  caps : s'.caps = s.caps
  acl : s'.aclDeny = s.aclDeny
  connOf : s'.connOf = s.connOf
  hook : s'.pubHook = s.pubHook

theorem Keep.refl (i : Nat) (s : Server) : Keep i s s := ⟨rfl, rfl, rfl, rfl, rfl, rfl, rfl, rfl, rfl, rfl⟩

/-- server fields other than `objs`, `caps`, `aclDeny` change -/
theorem Keep.upd {i : Nat} {s0 s s' : Server} (h : Keep i s0 s) (ho : s'.objs = s.objs) (hc : s'.caps = s.caps)
    (ha : s'.aclDeny = s.aclDeny) (hn : s'.connOf = s.connOf) (hh : s'.pubHook = s.pubHook) : Keep i s0 s' := by
  have e := getObj_of_objs_eq ho i
  exact ⟨by rw [e]; exact h.conn, by rw [e]; exact h.ver, by rw [e]; exact h.isOpen, by rw [e]; exact h.stopped,
    by rw [e]; exact h.inline, by rw [e]; exact h.peer, hc.trans h.caps, ha.trans h.acl, hn.trans h.connOf,
    hh.trans h.hook⟩

theorem Keep.mod {i : Nat} {s0 s : Server} (h : Keep i s0 s) (f : Client → Client)
    (hf : ∀ c, (f c).conn = c.conn ∧ (f c).ver = c.ver ∧ (f c).isOpen = c.isOpen ∧ (f c).stopped = c.stopped ∧
      (f c).inline = c.inline ∧ (f c).peerGone = c.peerGone) : Keep i s0 (modObj s i f) := by
  obtain ⟨f1, f2, f3, f4, f5, f6⟩ := hf (getObj s i)
  have g : ∀ {α} (π : Client → α), π (f (getObj s i)) = π (getObj s i) →
      π (getObj (modObj s i f) i) = π (getObj s i) := fun π e => (getObj_setObj_proj π s i _ e).trans e
  exact ⟨(g Client.conn f1).trans h.conn, (g Client.ver f2).trans h.ver, (g Client.isOpen f3).trans h.isOpen,
    (g Client.stopped f4).trans h.stopped, (g Client.inline f5).trans h.inline, (g Client.peerGone f6).trans h.peer,
    h.caps, h.acl, h.connOf, h.hook⟩

theorem Keep.live {i conn : Nat} {s s' : Server} (h : Keep i s s') (L : Live s conn i) :
    Live s' conn i :=
  ⟨by rw [h.connOf]; exact L.reg, h.conn.trans L.conn, h.isOpen.trans L.isOpen, h.stopped.trans L.stopped,
   h.inline.trans L.inline, h.peer.trans L.peer⟩

/-- the UNSUBACK reason code of one filter: 0x91 when the packet identifier is in use, else 0x00 (a subscription
    existed) or 0x11 (none existed) -/
def unsubCode (inUse : Bool) (existed : Bool) : Nat := if inUse then 0x91 else if existed then 0x00 else 0x11

/-- **UNSUBSCRIBE at handler level**: no error; exactly one output, the UNSUBACK to `conn` with the request's
    identifier and exactly one reason code per filter, each of them 0x91 when the identifier is in use and 0x00 / 0x11
    otherwise -/
theorem processUnsubscribe_out {s : Server} {conn i : Nat} (L : Live s conn i) (id : Nat) (fs : List Str) :
    ∃ rcs, processUnsubscribe s i id fs =
        ((processUnsubscribe s i id fs).1, [.wrote conn (.unsuback (getObj s i).ver id rcs)], none) ∧
      rcs.length = fs.length ∧
      (∀ rc ∈ rcs, if (flGet (getObj s i) id).isSome then rc = 0x91 else (rc = 0x00 ∨ rc = 0x11)) := by
  unfold processUnsubscribe
  extract_lets +onlyGivenNames c inUse r
  let G : Nat → Prop := fun rc => if inUse = true then rc = 0x91 else (rc = 0x00 ∨ rc = 0x11)
  have hr : Keep i s r.1 ∧ ∃ ys, r.2 = [] ++ ys ∧ ys.length = fs.length ∧ ∀ y ∈ ys, G y := by
    refine foldl_inv_snoc (fun acc : Server × List Nat => Keep i s acc.1) G (fun acc => acc.2) _ fs (s, [])
      (Keep.refl i s) ?_
    intro acc f h
    obtain ⟨s', rcs⟩ := acc
    refine iteInduction (motive := fun x : Server × List Nat => ∃ y, G y ∧ Keep i s x.1 ∧ x.2 = rcs ++ [y])
      (fun hu => ⟨0x91, (if_pos hu).mpr rfl, h, rfl⟩) fun hu => ?_
    extract_lets +onlyGivenNames rr src s1 s2
    have k2 : Keep i s s2 := (Keep.upd (s' := s1) h rfl rfl rfl rfl rfl).mod _ fun _ => ⟨rfl, rfl, rfl, rfl, rfl, rfl⟩
    refine ⟨_, ?_, k2, rfl⟩
    show if inUse = true then _ else _
    rw [if_neg hu]
    cases rr.2
    · exact Or.inr rfl
    · exact Or.inl rfl
  generalize r = r' at hr
  obtain ⟨s', rcs⟩ := r'
  obtain ⟨hk, ys, e, hlen, hG⟩ := hr
  rw [List.nil_append] at e
  subst e
  refine ⟨rcs, ?_, hlen, hG⟩
  dsimp only
  rw [(hk.live L).notDead, if_neg Bool.false_ne_true, hk.conn, hk.ver, L.conn]

/-- the SUBACK reason code of one filter — a function of the state BEFORE the packet, the packet identifier and the
    filter alone (the per-filter work changes neither the ACL nor the capabilities nor the client's in-flight
    records) -/
def subCode (s : Server) (i id : Nat) (sub : Sub) : Nat :=
  if (flGet (getObj s i) id).isSome then finCode (getObj s i).ver 0x91
  else if !isValidFilter sub.filter false then finCode (getObj s i).ver 0x8F
  else if sub.noLocal && isSharedFilter sub.filter then finCode (getObj s i).ver 0x82
  else if !aclOk s (getObj s i).id sub.filter false then
    finCode (getObj s i).ver (if s.caps.obscureNotAuthorized then 0x80 else 0x87)
  else finCode (getObj s i).ver (grantedQos s.caps sub.qos)

/-- **SUBSCRIBE at handler level**: no error; the FIRST output is the SUBACK to `conn` with the request's identifier
    and the reason codes `fs.map (subCode s i id)` (exactly one per filter, in order); the retained replay follows -/
theorem processSubscribe_out {s : Server} {conn i : Nat} (L : Live s conn i) (id subId : Nat) (fs : List Sub) :
    (processSubscribe s i id subId fs).2.2 = none ∧
    ∃ replay, (processSubscribe s i id subId fs).2.1 =
      .wrote conn (.suback (getObj s i).ver id (fs.map (subCode s i id))) :: replay := by
  unfold processSubscribe
  extract_lets +onlyGivenNames c inUse fin r
  have hr : Keep i s r.1 ∧ r.2.1 = ([] : List Nat) ++ fs.map (subCode s i id) := by
    refine foldl_track (fun (acc : Server × List Nat × List Bool) => Keep i s acc.1) (fun acc => acc.2.1)
      (subCode s i id) _ fs (s, [], []) (Keep.refl i s) ?_
    intro acc sub h
    obtain ⟨s', rcs, exs⟩ := acc
    have h : Keep i s s' := h
    -- the step and `subCode` branch on the same tests; the step reads ACL and capabilities off the current state
    rw [subCode]
    unfold aclOk
    rw [← h.acl, ← h.caps]
    let R : Server × List Nat × List Bool → Nat → Prop := fun x code => Keep i s x.1 ∧ x.2.1 = rcs ++ [code]
    show R _ _
    refine ite_rel (R := R) (fun _ => ⟨h, rfl⟩) fun _ => ite_rel (R := R) (fun _ => ⟨h, rfl⟩) fun _ =>
      ite_rel (R := R) (fun _ => ⟨h, rfl⟩) fun _ => ite_rel (R := R) (fun _ => ⟨h, rfl⟩) fun _ => ⟨?_, rfl⟩
    extract_lets +onlyGivenNames rr src s1 s2
    show Keep i s s2
    exact (Keep.upd (s' := s1) h rfl rfl rfl rfl rfl).mod _ fun _ => ⟨rfl, rfl, rfl, rfl, rfl, rfl⟩
  generalize r = r' at hr
  obtain ⟨s', rcs, exs⟩ := r'
  obtain ⟨hk, hrcs⟩ := hr
  rw [List.nil_append] at hrcs
  subst hrcs
  dsimp only
  rw [(hk.live L).notDead, if_neg Bool.false_ne_true, hk.conn, hk.ver, L.conn]
  exact ⟨rfl, _, rfl⟩

end Mochi.Broker.R07
