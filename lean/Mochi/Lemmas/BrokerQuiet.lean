import Mochi.Lemmas.BrokerInv
import Mochi.Lemmas.BrokerWalk
import Mochi.Lemmas.IndexEntries
/-!
# Handlers that leave the registration of sessions and the subscription entries alone

`Quiet s s'`: the Clients map, the lists of parked handlers, every object's `id`, `subs`, `takenOver` are the
same, `stopped` only goes from false to true (together with `isOpen`), and every plain / shared lookup of the
topic index gives the same answer.  Reflexive and transitive; one `X_quiet` lemma per handler, in the style of
`Mochi/Lemmas/BrokerInv.lean` (`Good`).  Everything except SUBSCRIBE, UNSUBSCRIBE, the session clean-up
(`unsubscribeClient`, `detachB`, `tickClients`), the takeover (`admitA`) and the entry of a new connection
(`connect`, `connectHold`: they append to `objs` and `connOf`) is quiet.
-/
namespace Mochi.Broker
open Mochi.Topics

/-! ### client level -/

structure QC (a b : Client) : Prop where
  id : b.id = a.id
  subs : b.subs = a.subs
  takenOver : b.takenOver = a.takenOver
  /-- a stopped client stays stopped -/
  stop : a.stopped = true → b.stopped = true
  /-- `isOpen` is the negation of `stopped`, if it was -/
  os : a.isOpen = !a.stopped → b.isOpen = !b.stopped

macro "qc_rfl" : tactic => `(tactic| exact ⟨rfl, rfl, rfl, fun h => h, fun h => h⟩)

theorem QC.refl (a : Client) : QC a a := by qc_rfl
theorem QC.trans {a b c : Client} (h : QC a b) (g : QC b c) : QC a c :=
  ⟨g.id.trans h.id, g.subs.trans h.subs, g.takenOver.trans h.takenOver, fun x => g.stop (h.stop x),
   fun x => g.os (h.os x)⟩
theorem QC.of_eq {a b : Client} (h : a = b) : QC a b := h ▸ QC.refl a

theorem QC.of_sess {a b : Client} (h : SessEq a b) : QC a b :=
  ⟨h.id.symm, h.subs.symm, h.takenOver.symm, fun x => h.stopped ▸ x, fun x => by rw [← h.isOpen, ← h.stopped]; exact x⟩

theorem QC.will' (c : Client) (w : Will) : QC c { c with will := w } := by qc_rfl

/-- the record updates are of fields no part of `QC` reads -/
theorem QC.ops : SessOps QC :=
  ⟨QC.refl, QC.trans, fun c m => QC.of_sess (SessEq.flSet c m), fun _ _ => by qc_rfl,
   fun c => QC.of_sess (SessEq.decSend c),
   fun c => iteInduction (motive := QC c) (fun _ => by qc_rfl) (fun _ => QC.refl c),
   fun c => iteInduction (motive := QC c) (fun _ => by qc_rfl) (fun _ => QC.refl c),
   fun c => iteInduction (motive := QC c) (fun _ => by qc_rfl) (fun _ => QC.refl c),
   fun c t => QC.of_sess (SessEq.aliasOutSet c t), fun _ _ => by qc_rfl, fun _ _ => by qc_rfl, fun _ _ _ => by qc_rfl,
   fun _ => by qc_rfl⟩

theorem QC.flDelete {a b : Client} (h : QC a b) (id : Nat) : QC a (flDelete b id).1 := h.trans (QC.ops.flDelete b id)
theorem QC.decRecv {a b : Client} (h : QC a b) : QC a (decRecv b) := h.trans (QC.ops.decRecv b)

/-! ### server level -/

theorem plainAt_of_nodes {x y : Index} (h : y.nodes = x.nodes) (q : Path) (c : Str) : plainAt y q c = plainAt x q c := by
  unfold plainAt; rw [h]
theorem sharedAt_of_nodes {x y : Index} (h : y.nodes = x.nodes) (q : Path) (g c : Str) :
    sharedAt y q g c = sharedAt x q g c := by
  unfold sharedAt; rw [h]
theorem idxOK_of_nodes {x y : Index} (h : y.nodes = x.nodes) (hx : IdxOK x) : IdxOK y :=
  ⟨by rw [h]; exact hx.pc,
   ⟨fun q c sub hq => hx.pos.plain q c sub (by rw [← plainAt_of_nodes h]; exact hq),
    fun q g c sub hq => hx.pos.shared q g c sub (by rw [← sharedAt_of_nodes h]; exact hq)⟩,
   by rw [h]; exact hx.paths, by rw [h]; exact hx.keys⟩

structure Quiet (s s' : Server) : Prop where
  len : s'.objs.length = s.objs.length
  caps : s'.caps = s.caps
  connOf : s'.connOf = s.connOf
  clients : s'.clients = s.clients
  pending : s'.pending = s.pending
  parked : s'.parked = s.parked
  parkedEarly : s'.parkedEarly = s.parkedEarly
  obj : ∀ k, QC (getObj s k) (getObj s' k)
  idx : IdxOK s.topics → IdxOK s'.topics
  plain : ∀ q c, plainAt s'.topics q c = plainAt s.topics q c
  shared : ∀ q g c, sharedAt s'.topics q g c = sharedAt s.topics q g c

theorem Quiet.refl (s : Server) : Quiet s s :=
  ⟨rfl, rfl, rfl, rfl, rfl, rfl, rfl, fun _ => QC.refl _, fun h => h, fun _ _ => rfl, fun _ _ _ => rfl⟩

theorem Quiet.trans {s s1 s2 : Server} (h : Quiet s s1) (g : Quiet s1 s2) : Quiet s s2 :=
  ⟨g.len.trans h.len, g.caps.trans h.caps, g.connOf.trans h.connOf, g.clients.trans h.clients,
   g.pending.trans h.pending, g.parked.trans h.parked,
   g.parkedEarly.trans h.parkedEarly, fun k => (h.obj k).trans (g.obj k), fun x => g.idx (h.idx x),
   fun q c => (g.plain q c).trans (h.plain q c), fun q gr c => (g.shared q gr c).trans (h.shared q gr c)⟩

/-- a change to server fields other than `objs`, `caps`, `connOf`, `clients`, `pending`, `parked`, `parkedEarly` and the
    particles of the topic index -/
theorem Quiet.upd8 {s0 s s' : Server} (h : Quiet s0 s) (ho : s'.objs = s.objs := by rfl)
    (hcp : s'.caps = s.caps := by rfl) (hn : s'.connOf = s.connOf := by rfl) (hc : s'.clients = s.clients := by rfl)
    (hp : s'.pending = s.pending := by rfl) (hpk : s'.parked = s.parked := by rfl)
    (hpe : s'.parkedEarly = s.parkedEarly := by rfl) (ht : s'.topics.nodes = s.topics.nodes := by rfl) :
    Quiet s0 s' :=
  h.trans ⟨by rw [ho], hcp, hn, hc, hp, hpk, hpe, fun k => by rw [getObj_of_objs_eq ho k]; exact QC.refl _,
    idxOK_of_nodes ht, plainAt_of_nodes ht, sharedAt_of_nodes ht⟩

theorem Quiet.set {s0 s : Server} (h : Quiet s0 s) (i : Nat) (c : Client) (hc : QC (getObj s i) c) :
    Quiet s0 (setObj s i c) :=
  h.trans ⟨setObj_length s i c, rfl, rfl, rfl, rfl, rfl, rfl, (ObjWalk.pointwise QC.ops i).set s c hc, fun x => x,
    fun _ _ => rfl, fun _ _ _ => rfl⟩

theorem Quiet.mod {s0 s : Server} (h : Quiet s0 s) (i : Nat) (f : Client → Client)
    (hf : QC (getObj s i) (f (getObj s i))) : Quiet s0 (modObj s i f) := h.set i _ hf

theorem Quiet.info {s0 s : Server} (h : Quiet s0 s) (n : Info) : Quiet s0 { s with info := n } := h.upd8

theorem Quiet.willDelayed {s0 s : Server} (h : Quiet s0 s) (w : List (Str × Msg)) :
    Quiet s0 { s with willDelayed := w } := h.upd8

theorem Quiet.walk (i : Nat) : ObjWalk i QC Quiet :=
  ⟨Quiet.refl, Quiet.trans, fun s c h => (Quiet.refl s).set i c h, fun s _ => (Quiet.refl s).upd8,
   fun s _ => (Quiet.refl s).upd8, fun s _ => (Quiet.refl s).upd8⟩

theorem Quiet.topics (s : Server) (t : Index) (r : List (Str × Msg)) (n : Info) (hi : IdxOK s.topics → IdxOK t)
    (hp : ∀ q c, plainAt t q c = plainAt s.topics q c) (hs : ∀ q g c, sharedAt t q g c = sharedAt s.topics q g c) :
    Quiet s { s with topics := t, rmsgs := r, info := n } :=
  ⟨rfl, rfl, rfl, rfl, rfl, rfl, rfl, fun _ => QC.refl _, hi, hp, hs⟩

/-! ### the handlers, each through its exits -/

/-- `retainMessage` changes particles, but no plain or shared lookup -/
theorem retainMsg_quiet (s : Server) (pk : Msg) : Quiet s (retainMsg s pk) :=
  iteInduction (motive := Quiet s) (fun _ => Quiet.refl s) fun _ =>
    Quiet.topics s _ _ _ (fun h => idxOK_retainMessage _ h _ _ _) (plainAt_retainMessage _ _ _ _)
      (sharedAt_retainMessage _ _ _ _)

theorem retainedState_quiet (s : Server) (pk : Msg) : Quiet s (retainedState s pk) :=
  iteInduction (motive := Quiet s) (fun _ => retainMsg_quiet s pk) fun _ => Quiet.refl s

theorem publishToClientCore_quiet (s : Server) (i : Nat) (sub : Sub) (f : Bool) (pk : Msg) :
    Quiet s (publishToClientCore s i sub f pk).1 := publishToClientCore_walk QC.ops (Quiet.walk i) s sub f pk

theorem publishToSubscribers_quiet (s : Server) (pk : Msg) : Quiet s (publishToSubscribers s pk).1 :=
  publishToSubscribers_state Quiet.refl Quiet.trans publishToClientCore_quiet s pk

theorem publishRetainedToClient_quiet (s : Server) (i : Nat) (sub : Sub) (ex : Bool) (k : Nat) :
    Quiet s (publishRetainedToClient s i sub ex k).1 :=
  publishRetainedToClient_state i Quiet.refl Quiet.trans (publishToClientCore_quiet · i) s sub ex k

theorem stopClient_quiet (s : Server) (i : Nat) : Quiet s (stopClient s i).1 :=
  stopClient_walk (Quiet.walk i) (fun _ => ⟨rfl, rfl, rfl, fun _ => rfl, fun _ => rfl⟩) s

theorem disconnectClient_quiet (s : Server) (i : Nat) (code : Nat) : Quiet s (disconnectClient s i code).1 :=
  stopClient_quiet s i

theorem clearInflights_quiet (s : Server) (i : Nat) : Quiet s (clearInflights s i) :=
  clearInflights_walk QC.ops (Quiet.walk i) s

theorem processPuback_quiet (s : Server) (i id : Nat) : Quiet s (processPuback s i id).1 :=
  processPuback_walk QC.ops (Quiet.walk i) s id

theorem processPubrec_quiet (s : Server) (i id rc : Nat) : Quiet s (processPubrec s i id rc).1 :=
  processPubrec_walk QC.ops (Quiet.walk i) s id rc

theorem processPubrel_quiet (s : Server) (i id rc : Nat) : Quiet s (processPubrel s i id rc).1 :=
  processPubrel_walk QC.ops (Quiet.walk i) s id rc

theorem processPubcomp_quiet (s : Server) (i id : Nat) : Quiet s (processPubcomp s i id).1 :=
  processPubcomp_walk QC.ops (Quiet.walk i) s id

theorem nextImmediate_quiet (s : Server) (i : Nat) : Quiet s (nextImmediate s i).1 :=
  nextImmediate_walk QC.ops (Quiet.walk i) s

theorem processDisconnect_quiet (s : Server) (i rc : Nat) (sei : Option Nat) :
    Quiet s (processDisconnect s i rc sei).1 :=
  have h : Quiet s (discState s i sei) := (Quiet.refl s).set i _ (by
    cases sei
    · exact QC.refl _
    · exact QC.ops.sei _ _ _)
  processDisconnect_cases (Q := fun r => Quiet s r.1) s i rc sei (fun _ => Quiet.refl s) (fun _ _ => h)
    fun _ _ => (h.willDelayed _).trans (stopClient_quiet _ i)

theorem sendLWT_quiet (s : Server) (i : Nat) : Quiet s (sendLWT s i).1 :=
  sendLWT_cases (Q := fun r => Quiet s r.1) s i (fun _ => Quiet.refl s) (fun _ _ _ _ => (Quiet.refl s).willDelayed _)
    fun pk _ _ _ =>
      ((retainedState_quiet s pk).trans
        (publishToSubscribers_quiet (retainedState s pk) pk)).mod i
        (fun c => { c with will := { c.will with flag := false } }) (QC.will' _ _)

theorem detachA_quiet (s : Server) (i : Nat) (withErr : Bool) : Quiet s (detachA s i withErr).1 :=
  detachA_cases (Q := fun r => Quiet s r.1) s i withErr (fun _ => (sendLWT_quiet s i).trans (stopClient_quiet _ i))
    fun _ => (Quiet.refl s).mod i (fun c => { c with will := {} }) (QC.will' _ _)

theorem processPublish_quiet (s : Server) (i : Nat) (qos : Nat) (dup retain : Bool) (id : Nat) (topic payload : Str)
    (msgExpiry : Nat) (alias : Option Nat) :
    Quiet s (processPublish s i qos dup retain id topic payload msgExpiry alias).1 :=
  processPublish_walk QC.ops (Quiet.walk i) (disconnectClient_quiet · i) s qos dup retain id topic payload msgExpiry alias
    (fun s' pk _ _ => retainMsg_quiet s' pk) publishToSubscribers_quiet

theorem admitConnack_quiet (s : Server) (i conn : Nat) (present : Bool) : Quiet s (admitConnack s i conn present).1 :=
  admitConnack_walk QC.ops (Quiet.walk i) s conn present

theorem admitC_quiet (s : Server) (i : Nat) (k : Connect) (present : Bool) : Quiet s (admitC s i k present).1 :=
  admitC_walk QC.ops (Quiet.walk i) (fun s _ => (Quiet.refl s).willDelayed _) s k present

theorem tickRetained_quiet (s : Server) (now : Int) : Quiet s (tickRetained s now) :=
  tickRetained_cases (J := Quiet s) s now (Quiet.refl s) (fun _ _ _ _ h => h.upd8) fun _ h => h.info _

theorem tickInflight_quiet (s : Server) (now : Int) : Quiet s (tickInflight s now) :=
  tickInflight_cases (J := Quiet s) s now (Quiet.refl s) fun b e m _ h =>
    h.trans (recordGone_walk QC.ops (Quiet.walk e.2) b m.id (fun c => c) QC.refl)

theorem tickWills_quiet (s : Server) (dt : Int) : Quiet s (tickWills s dt).1 :=
  tickWills_cases (J := fun r => Quiet s r.1) s dt (Quiet.refl s) fun acc e _ _ h =>
    have g1 := h.trans (publishToSubscribers_quiet acc.1 e.2)
    publishDue_cases (Q := fun r => Quiet s r.1) acc e rfl (fun _ => g1.willDelayed _) fun j _ =>
      ((g1.trans (retainedState_quiet _ e.2)).mod j
        (fun c => { c with will := {} }) (QC.will' _ _)).willDelayed _

end Mochi.Broker
