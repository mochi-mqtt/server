import Mochi.Lemmas.Scan
/-!
What `Subscribers` returns for a prefix-closed index, read off the particles whose address matches the topic.
`HasSub P m c`: the map `m` holds for client `c` a merged subscription with property `P`; for a `P` that a merge has
iff one of the merged has (`MergeOr`: being there at all, the no-local flag) one induction over the walk gives
`subscribers_hasSub`.  The inline identifiers are a key set only: `subscribers_inline_keys`.  `Subscribers` reads the
subscription lists of the particles and nothing else — not the retained messages, not the empty particles:
`subscribers_look`, for two indexes that look alike through `pGather`.
-/
namespace Mochi.Topics

theorem foldl_iff_exists {σ γ} (f : σ → γ → σ) (P : σ → Prop) (C : γ → Prop)
    (hstep : ∀ a g, P (f a g) ↔ P a ∨ C g) (L : List γ) (a : σ) :
    P (L.foldl f a) ↔ P a ∨ ∃ g ∈ L, C g := by
  induction L generalizing a with
  | nil => simp
  | cons g rest ih => rw [List.foldl_cons, ih, hstep]; simp [or_assoc]

theorem gatherInlineOne_fold_keys (entries : List (Nat × Sub)) (m : List (Nat × Sub)) (i : Nat) :
    i ∈ (entries.foldl gatherInlineOne m).map Prod.fst ↔
      i ∈ m.map Prod.fst ∨ i ∈ entries.map Prod.fst := by
  refine (foldl_iff_exists gatherInlineOne (fun m => i ∈ m.map Prod.fst) (fun e => i = e.1)
    (fun m e => (mem_keys_assocSet m e.1 e.2 i).trans or_comm) entries m).trans ?_
  simp [eq_comm]

theorem fold_inline_keys (ns : List Node) (topic : Str) (L : List Gather) (acc : Subscribers) (i : Nat) :
    i ∈ (L.foldl (gatherStep ns topic) acc).inline.map Prod.fst ↔
      i ∈ acc.inline.map Prod.fst ∨
      ∃ q, Gather.inline q ∈ L ∧ ∃ n, getNode ns q = some n ∧
        (topicDollar topic && wildStart q) = false ∧ i ∈ n.inline.map Prod.fst := by
  rw [foldl_iff_exists _ (fun a : Subscribers => i ∈ a.inline.map Prod.fst)
    (fun g => ∃ q, g = Gather.inline q ∧ ∃ n, getNode ns q = some n ∧
      (topicDollar topic && wildStart q) = false ∧ i ∈ n.inline.map Prod.fst)]
  · apply or_congr_right
    constructor
    · rintro ⟨_, hg, q, rfl, h⟩; exact ⟨q, hg, h⟩
    · rintro ⟨q, hg, h⟩; exact ⟨_, hg, q, rfl, h⟩
  · intro a g
    cases g with
    | inline p =>
      simp only [gatherStep, Gather.inline.injEq, exists_eq_left']
      cases getNode ns p with
      | none => simp
      | some n =>
        cases hw : (topicDollar topic && wildStart p)
        · simp [gatherInlineOne_fold_keys]
        · simp
    | subs p =>
      have : (gatherStep ns topic a (Gather.subs p)).inline = a.inline := by
        simp only [gatherStep]; cases getNode ns p <;> rfl
      simp [this]
    | shared p =>
      have : (gatherStep ns topic a (Gather.shared p)).inline = a.inline := by
        simp only [gatherStep]; cases getNode ns p <;> simp only <;> split <;> rfl
      simp [this]

/-! ### the merged client subscriptions -/

/-- the map `m` holds for client `c` a (merged) subscription with property `P` -/
def HasSub (P : Sub → Prop) (m : List (Str × Sub)) (c : Str) : Prop := ∃ sub, assocGet m c = some sub ∧ P sub

/-- `P` is a disjunctive property of merged subscriptions: the merge has it iff one of the two has (the filter
    under which the merge is filed does not matter) -/
def MergeOr (P : Sub → Prop) : Prop := ∀ a b : Sub, P (a.merge b) ↔ P a ∨ P b

theorem mergeOr_true : MergeOr (fun _ => True) := fun _ _ => ⟨fun _ => Or.inl trivial, fun _ => trivial⟩

theorem mergeOr_noLocal : MergeOr (fun sub => sub.noLocal = true) := by
  intro a b
  show (if b.noLocal = true then true else a.noLocal) = true ↔ _
  cases ha : a.noLocal <;> cases hb : b.noLocal <;> simp [ha, hb]

theorem hasSub_gatherSubOne {P : Sub → Prop} (hP : MergeOr P) (topic : Str) (m : List (Str × Sub)) (e : Str × Sub)
    (c : Str) :
    HasSub P (gatherSubOne topic m e) c ↔
      HasSub P m c ∨ (c = e.1 ∧ dollarExcluded e.2.filter topic = false ∧ P e.2) := by
  have hP' : ∀ a b : Sub, P (a.merge b) ↔ P a ∨ P b := hP
  unfold gatherSubOne HasSub
  cases hd : dollarExcluded e.2.filter topic with
  | true => simp
  | false =>
    rw [if_neg Bool.false_ne_true]
    by_cases hc : c = e.1
    · subst hc
      cases hg : assocGet m e.1 <;> simp [assocGet_assocSet, hP']
    · split <;> simp [assocGet_assocSet, hc]

theorem hasSub_subs_fold {P : Sub → Prop} (hP : MergeOr P) (topic : Str) (entries : List (Str × Sub))
    (m : List (Str × Sub)) (c : Str) :
    HasSub P (entries.foldl (gatherSubOne topic) m) c ↔
      HasSub P m c ∨ ∃ s, (c, s) ∈ entries ∧ dollarExcluded s.filter topic = false ∧ P s := by
  rw [foldl_iff_exists _ (fun m => HasSub P m c) _ (fun m e => hasSub_gatherSubOne hP topic m e c)]
  refine or_congr_right ⟨?_, fun ⟨s, hm, hx⟩ => ⟨(c, s), hm, rfl, hx⟩⟩
  rintro ⟨⟨c', s⟩, hm, rfl, hx⟩
  exact ⟨s, hm, hx⟩

/-- one visit: only a `subs` visit of an existing particle adds to the subscriber map -/
theorem hasSub_gatherStep {P : Sub → Prop} (hP : MergeOr P) (ns : List Node) (topic : Str) (acc : Subscribers)
    (g : Gather) (c : Str) :
    HasSub P (gatherStep ns topic acc g).subs c ↔
      HasSub P acc.subs c ∨ ∃ q, g = Gather.subs q ∧ ∃ n, getNode ns q = some n ∧
        ∃ s, (c, s) ∈ n.subs ∧ dollarExcluded s.filter topic = false ∧ P s := by
  cases g with
  | subs p =>
    simp only [gatherStep]
    cases hn : getNode ns p with
    | none =>
      refine ⟨Or.inl, fun h => h.elim id ?_⟩
      rintro ⟨q, hq, n, hgn, _⟩
      cases hq
      rw [hn] at hgn
      cases hgn
    | some node =>
      show HasSub P (node.subs.foldl (gatherSubOne topic) acc.subs) c ↔ _
      rw [hasSub_subs_fold hP]
      refine or_congr_right ⟨fun ⟨s, hs, hx⟩ => ⟨p, rfl, node, hn, s, hs, hx⟩, ?_⟩
      rintro ⟨q, hq, n, hgn, s, hs, hx⟩
      cases hq
      rw [hn] at hgn
      cases hgn
      exact ⟨s, hs, hx⟩
  | shared p =>
    have e : (gatherStep ns topic acc (.shared p)).subs = acc.subs := by
      simp only [gatherStep]; cases getNode ns p <;> simp only <;> split <;> rfl
    rw [e]
    exact ⟨Or.inl, fun h => h.elim id fun ⟨q, hq, _⟩ => by cases hq⟩
  | inline p =>
    have e : (gatherStep ns topic acc (.inline p)).subs = acc.subs := by
      simp only [gatherStep]; cases getNode ns p <;> simp only <;> split <;> rfl
    rw [e]
    exact ⟨Or.inl, fun h => h.elim id fun ⟨q, hq, _⟩ => by cases hq⟩

theorem mem_keys_iff_hasSub (m : List (Str × Sub)) (c : Str) : c ∈ m.map Prod.fst ↔ HasSub (fun _ => True) m c := by
  rw [mem_keys_iff_assocGet]
  exact exists_congr fun _ => (and_iff_left trivial).symm

/-! ### `Subscribers` of a prefix-closed index: the walk visits exactly the matching particles -/

theorem subscribers_eq_fold (x : Index) {topic : Str} (hne : topic ≠ []) :
    subscribers x topic = (scanVisits x.nodes [] (splitLevels topic)).foldl (gatherStep x.nodes topic) {} := by
  cases topic with
  | nil => exact absurd rfl hne
  | cons _ _ => rfl

/-- **the subscriber map of a prefix-closed index**: client `c` has a merged subscription with the disjunctive
    property `P` iff a particle whose address matches the topic holds a subscription of `c` with `P` that the `$`
    rule does not exclude -/
theorem subscribers_hasSub {P : Sub → Prop} (hP : MergeOr P) (x : Index) (hpc : PrefixClosed x.nodes) (topic : Str)
    (hne : topic ≠ []) (hnh : ∀ t ∈ splitLevels topic, t ≠ [hash]) (c : Str) :
    HasSub P (subscribers x topic).subs c ↔
      ∃ q n s, getNode x.nodes q = some n ∧ (c, s) ∈ n.subs ∧ matchLv q (splitLevels topic) = true ∧
        dollarExcluded s.filter topic = false ∧ P s := by
  rw [subscribers_eq_fold x hne,
    foldl_iff_exists _ (fun acc => HasSub P acc.subs c) _ (fun acc g => hasSub_gatherStep hP x.nodes topic acc g c)]
  have hscan := scan_exact Gather.subs mem_gatherAll_subs _ hpc topic hnh
  constructor
  · rintro (⟨sub, h, _⟩ | ⟨_, hq, q, rfl, n, hn, s, hs, hx, hp⟩)
    · cases h
    · exact ⟨q, n, s, hn, hs, ((hscan q).mp hq).2, hx, hp⟩
  · rintro ⟨q, n, s, hn, hs, hm, hx, hp⟩
    exact .inr ⟨_, (hscan q).mpr ⟨by rw [hasNode_eq_isSome, hn]; rfl, hm⟩, q, rfl, n, hn, s, hs, hx, hp⟩

/-- the same for the inline subscriptions: the `$` test is that of the particle's address -/
theorem subscribers_inline_keys (x : Index) (hpc : PrefixClosed x.nodes) (topic : Str) (hne : topic ≠ [])
    (hnh : ∀ t ∈ splitLevels topic, t ≠ [hash]) (i : Nat) :
    i ∈ (subscribers x topic).inline.map Prod.fst ↔
      ∃ q n, getNode x.nodes q = some n ∧ i ∈ n.inline.map Prod.fst ∧
        matchLv q (splitLevels topic) = true ∧ (topicDollar topic && wildStart q) = false := by
  rw [subscribers_eq_fold x hne, fold_inline_keys]
  have hscan := scan_exact Gather.inline mem_gatherAll_inline _ hpc topic hnh
  constructor
  · rintro (h | ⟨q, hq, n, hn, hx, hi⟩)
    · cases h
    · exact ⟨q, n, hn, hi, ((hscan q).mp hq).2, hx⟩
  · rintro ⟨q, n, hn, hi, hm, hx⟩
    exact .inr ⟨q, (hscan q).mpr ⟨by rw [hasNode_eq_isSome, hn]; rfl, hm⟩, n, hn, hx, hi⟩

/-! ### `Subscribers` reads the subscription lists of the particles and nothing else

Two prefix-closed particle lists that look alike through `pGather` give the same `Subscribers`: a particle one of them
lacks holds nothing in the other, and visiting a particle that holds nothing changes nothing. -/

def gpath : Gather → Path
  | .subs p | .shared p | .inline p => p

/-- what a visit reads of a particle: its three subscription lists; nothing of a particle that holds none -/
def pGather (n : Node) : Option (List (Str × Sub) × List (Str × List (Str × Sub)) × List (Nat × Sub)) :=
  if n.subs = [] ∧ sharedLen n.shared = 0 ∧ n.inline = [] then none else some (n.subs, n.shared, n.inline)

def obsStep (topic : Str) (acc : Subscribers) :
    Gather → Option (List (Str × Sub) × List (Str × List (Str × Sub)) × List (Nat × Sub)) → Subscribers
  | _, none => acc
  | .subs _, some o => { acc with subs := o.1.foldl (gatherSubOne topic) acc.subs }
  | .shared p, some o => if topicDollar topic && wildStart p then acc else
      { acc with shared := o.2.1.foldl (fun m g => g.2.foldl gatherSharedOne m) acc.shared }
  | .inline p, some o => if topicDollar topic && wildStart p then acc else
      { acc with inline := o.2.2.foldl gatherInlineOne acc.inline }

theorem sharedFold_idle (sh : List (Str × List (Str × Sub))) (h : sharedLen sh = 0)
    (m : List (Str × List (Str × Sub))) : sh.foldl (fun m g => g.2.foldl gatherSharedOne m) m = m := by
  induction sh generalizing m with
  | nil => rfl
  | cons g rest ih =>
    simp only [sharedLen, List.map_cons, List.sum_cons] at h
    rw [List.foldl_cons, List.length_eq_zero_iff.mp (show g.2.length = 0 by omega)]
    exact ih (by unfold sharedLen; omega) m

theorem gatherStep_obs (ns : List Node) (topic : Str) (acc : Subscribers) (g : Gather) :
    gatherStep ns topic acc g = obsStep topic acc g ((getNode ns (gpath g)).bind pGather) := by
  cases hn : getNode ns (gpath g) with
  | none => cases g <;> simp only [gpath] at hn <;> simp only [gatherStep, hn] <;> rfl
  | some n =>
    have e : gatherStep ns topic acc g = obsStep topic acc g (some (n.subs, n.shared, n.inline)) := by
      cases g <;> simp only [gpath] at hn <;> simp only [gatherStep, hn] <;> rfl
    rw [e, Option.bind_some, pGather]
    by_cases hd : n.subs = [] ∧ sharedLen n.shared = 0 ∧ n.inline = []
    · rw [if_pos hd]
      cases g <;> simp only [obsStep, hd.1, hd.2.2, sharedFold_idle _ hd.2.1, List.foldl_nil, ite_self]
    · rw [if_neg hd]

theorem getNode_of_hasNode_false {ms : List Node} {p : Path} (h : hasNode ms p = false) : getNode ms p = none := by
  simpa [hasNode_eq_isSome] using h

theorem hasNode_ext_false {ms : List Node} (hm : PrefixClosed ms) {p : Path} (hp : p ≠ []) (ha : hasNode ms p = false)
    (q : Path) : hasNode ms (p ++ q) = false :=
  Bool.eq_false_iff.mpr fun h => by rw [prefix_exists ms hm p q hp h] at ha; cases ha

/-- below a particle that `ms` does not hold the walk visits nothing but (when the topic is used up) that particle -/
theorem fold_visitsFrom_absent {σ} (f : σ → Gather → σ) (ms : List Node) (hm : PrefixClosed ms) (p : Path) (hp : p ≠ [])
    (ha : hasNode ms p = false) (rest : Path) (acc : σ) (hidle : (gatherAll p).foldl f acc = acc) :
    (visitsFrom ms p rest).foldl f acc = acc := by
  cases rest with
  | nil => simp only [visitsFrom, hasNode_ext_false hm hp ha, Bool.false_eq_true, if_false, List.append_nil, hidle]
  | cons t ts =>
    show (scanVisits ms p (t :: ts)).foldl f acc = acc
    simp only [scanVisits_cons, hasNode_ext_false hm hp ha, Bool.false_eq_true, if_false, List.append_nil, List.foldl_nil]

/-- one guarded piece of the walk: equal where both lists hold `p`, and nothing where one of them lacks it -/
theorem fold_guard {σ} {ns ns' : List Node} (f : σ → Gather → σ) (p : Path) (X' X : List Gather) (acc : σ)
    (heq : X'.foldl f acc = X.foldl f acc) (h0 : hasNode ns p = false ∨ hasNode ns' p = false → X.foldl f acc = acc) :
    (if hasNode ns' p then X' else []).foldl f acc = (if hasNode ns p then X else []).foldl f acc := by
  cases h' : hasNode ns' p <;> cases h : hasNode ns p <;> simp only [↓reduceIte, Bool.false_eq_true, List.foldl_nil]
  · exact (h0 (Or.inr h')).symm
  · exact heq.trans (h0 (Or.inl h))
  · exact heq

theorem gatherAll_idle {ns ns' : List Node} (hl : ∀ q, (getNode ns' q).bind pGather = (getNode ns q).bind pGather)
    (topic : Str) {p : Path} (h : hasNode ns p = false ∨ hasNode ns' p = false) (acc : Subscribers) :
    (gatherAll p).foldl (gatherStep ns topic) acc = acc := by
  have hb : (getNode ns p).bind pGather = none :=
    h.elim (fun h => by rw [getNode_of_hasNode_false h]; rfl) fun h => by rw [← hl, getNode_of_hasNode_false h]; rfl
  simp only [gatherAll, List.foldl_cons, List.foldl_nil, gatherStep_obs, gpath, hb, obsStep]

theorem fold_visitsFrom_look {ns ns' : List Node} (hpc : PrefixClosed ns) (hpc' : PrefixClosed ns')
    (hl : ∀ q, (getNode ns' q).bind pGather = (getNode ns q).bind pGather) (topic : Str) :
    ∀ (ts cur : Path) (acc : Subscribers),
      (visitsFrom ns' cur ts).foldl (gatherStep ns topic) acc = (visitsFrom ns cur ts).foldl (gatherStep ns topic) acc := by
  intro ts
  induction ts with
  | nil =>
    intro cur acc
    simp only [visitsFrom, List.foldl_append]
    exact fold_guard _ _ _ _ _ rfl fun h => gatherAll_idle hl topic h _
  | cons key rest ih =>
    intro cur acc
    have comp : ∀ (k : Level) (acc : Subscribers),
        (if hasNode ns' (cur ++ [k]) then visitsFrom ns' (cur ++ [k]) rest else []).foldl (gatherStep ns topic) acc =
        (if hasNode ns (cur ++ [k]) then visitsFrom ns (cur ++ [k]) rest else []).foldl (gatherStep ns topic) acc := by
      refine fun k acc => fold_guard _ _ _ _ acc (ih _ _) fun h => ?_
      have hi := gatherAll_idle hl topic h acc
      rcases h with h | h
      · exact fold_visitsFrom_absent _ ns hpc _ (by simp) h rest acc hi
      · exact (ih _ _).symm.trans (fold_visitsFrom_absent _ ns' hpc' _ (by simp) h rest acc hi)
    show (scanVisits ns' cur (key :: rest)).foldl _ acc = (scanVisits ns cur (key :: rest)).foldl _ acc
    simp only [scanVisits_cons, List.foldl_append]
    rw [comp key, comp [plus]]
    exact fold_guard _ _ _ _ _ rfl fun h => gatherAll_idle hl topic h _

theorem subscribers_look (x y : Index) (hx : PrefixClosed x.nodes) (hy : PrefixClosed y.nodes)
    (hl : ∀ q, (getNode y.nodes q).bind pGather = (getNode x.nodes q).bind pGather) (topic : Str) :
    subscribers y topic = subscribers x topic := by
  cases topic with
  | nil => rfl
  | cons c cs =>
    obtain ⟨t, ts, e⟩ := List.exists_cons_of_ne_nil (splitLevels_ne_nil (c :: cs))
    rw [subscribers_eq_fold y (List.cons_ne_nil c cs), subscribers_eq_fold x (List.cons_ne_nil c cs), e,
      show gatherStep y.nodes (c :: cs) = gatherStep x.nodes (c :: cs) from
        funext fun acc => funext fun g => by rw [gatherStep_obs, gatherStep_obs, hl]]
    exact fold_visitsFrom_look hx hy hl _ (t :: ts) [] {}

end Mochi.Topics
