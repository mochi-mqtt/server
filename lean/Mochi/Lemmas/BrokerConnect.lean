import Mochi.Lemmas.BrokerWill
import Mochi.Lemmas.CountersConn
/-!
# The outputs of a `connect` op (C13)

`NoConnack o` — no output of `o` is a CONNACK (`Out.isConnack`).  C13 says that a `connect` op writes ONE CONNACK, and
on the new connection nothing before it: so what the op writes besides (the teardown of a handler taken over, the
resends of an admission, the releases, the barrier) has to be shown free of CONNACKs.  Everything the broker writes
outside `SendConnack` and the refusal path of `attachClient` is `NoConnack`: deliveries, acknowledgements, DISCONNECT,
closes, events.
`TakeoverOut c o` — `o` consists of a DISCONNECT 0x8E and the close, both on connection `c`.
`ConnectRefused s conn k code` — a refused CONNECT on a fresh connection, whole (`step_connect_refused`).
-/
namespace Mochi.Broker
open Mochi.Topics

def Out.isConnack : Out → Bool
  | .wrote _ (.connack ..) => true
  | _ => false

def NoConnack (o : List Out) : Prop := ∀ x ∈ o, x.isConnack = false

theorem NoConnack.nil : NoConnack [] := fun _ h => by cases h
theorem NoConnack.append {a b : List Out} (ha : NoConnack a) (hb : NoConnack b) : NoConnack (a ++ b) := by
  intro x hx
  rcases List.mem_append.mp hx with h | h
  · exact ha x h
  · exact hb x h
theorem NoConnack.filter {a : List Out} (ha : NoConnack a) (p : Out → Bool) : NoConnack (a.filter p) :=
  fun x hx => ha x (List.mem_filter.mp hx).1
theorem NoConnack.single {x : Out} (h : x.isConnack = false) : NoConnack [x] := by
  intro y hy
  simp at hy
  subst hy
  exact h

theorem FanOut.noConnack {o : List Out} (h : FanOut o) : NoConnack o := by
  intro x hx
  have := h x hx
  cases x with
  | wrote c pk => cases pk <;> first | rfl | cases this
  | _ => rfl

theorem writeMsg_noConnack (s : Server) (i : Nat) (m : Msg) : NoConnack (writeMsg s i m) := by
  unfold writeMsg
  simp only []
  split
  · exact NoConnack.nil
  · split <;> exact NoConnack.single rfl

theorem stopClient_noConnack (s : Server) (i : Nat) : NoConnack (stopClient s i).2 := by
  unfold stopClient
  simp only []
  split
  · exact NoConnack.nil
  · split
    · exact NoConnack.nil
    · exact NoConnack.single rfl

theorem disconnectClient_noConnack (s : Server) (i code : Nat) : NoConnack (disconnectClient s i code).2 := by
  unfold disconnectClient
  simp only []
  refine NoConnack.append ?_ (stopClient_noConnack s i)
  split
  · exact NoConnack.single rfl
  · exact NoConnack.nil

theorem detach_noConnack (s : Server) (i : Nat) (b : Bool) : NoConnack (detach s i b).2 := by
  cases b
  · rw [detach_false_eq]; exact NoConnack.nil
  · show NoConnack ((sendLWT s i).2 ++ (stopClient (sendLWT s i).1 i).2)
    exact (sendLWT_fan s i).noConnack.append (stopClient_noConnack _ i)

theorem tookOverDown_noConnack (s : Server) (x : Option Nat) : NoConnack (tookOverDown s x).2 := by
  cases x with
  | none => exact NoConnack.nil
  | some e => exact detach_noConnack s e true

theorem nextImmediate_noConnack (s : Server) (i : Nat) : NoConnack (nextImmediate s i).2 := by
  rcases nextImmediate_out s i with e | ⟨_, m, _, _, e⟩
  · rw [e]; exact NoConnack.nil
  · rw [e]; exact writeMsg_noConnack s i m

theorem receivePacket_pingreq_noConnack (s : Server) (i : Nat) : NoConnack (receivePacket s i .pingreq).2.1 := by
  have hh : NoConnack (R07.handler s i .pingreq).2.1 :=
    iteInduction (motive := fun r : HRes => NoConnack r.2.1) (fun _ => NoConnack.single rfl) (fun _ => NoConnack.nil)
  exact receivePacket_cases (Q := fun r => NoConnack r.2.1) s i .pingreq rfl
    (fun _ => hh.append (nextImmediate_noConnack _ i)) (fun code _ => hh.append (disconnectClient_noConnack _ i code))
    (fun _ _ => hh)

theorem recvOn_pingreq_noConnack (s : Server) (conn : Nat) : NoConnack (recvOn s conn .pingreq false).2 := by
  cases hc : assocGet s.connOf conn with
  | none => rw [recvOn_unknown hc]; exact NoConnack.nil
  | some i =>
    exact recvOn_trAt (W := fun _ _ o => NoConnack o) ⟨fun _ => .nil, fun h g => h.append g⟩ i (fun h => h.filter _) s .pingreq
      (receivePacket_pingreq_noConnack s i) (receivePacket_pingreq_noConnack · i) (detach_noConnack · i ·) conn false hc

theorem admitC_noConnack (s : Server) (i : Nat) (k : Connect) (present : Bool) : NoConnack (admitC s i k present).2 :=
  admitC_cases (J := fun r => NoConnack r.2) s i k present NoConnack.nil
    (fun acc _ h => h.append (writeMsg_noConnack acc.1 i _))

/-! ### the take-over outputs of `admitA` -/

/-- `o` consists of a DISCONNECT with reason 0x8E and the close, on connection `c` -/
def TakeoverOut (c : Nat) (o : List Out) : Prop :=
  ∀ x ∈ o, (∃ ver, x = Out.wrote c (.disconnect ver 0x8E)) ∨ x = Out.closed c

theorem disconnectClient_takeover (s : Server) (e : Nat) :
    TakeoverOut (getObj s e).conn (disconnectClient s e 0x8E).2 ∧
    ((getObj s e).inline = true → (disconnectClient s e 0x8E).2 = []) := by
  unfold disconnectClient stopClient
  simp only []
  constructor
  · intro x hx
    rcases List.mem_append.mp hx with h | h
    · split at h
      · simp at h; exact Or.inl ⟨_, h⟩
      · cases h
    · split at h
      · cases h
      · split at h
        · cases h
        · simp at h; exact Or.inr h
  · intro hin
    simp [hin]
    split <;> rfl

theorem admitA_out (s : Server) (i : Nat) (k : Connect) :
    (admitA s i k).2.1 = match assocGet s.clients k.id with
      | some e => (disconnectClient (connCounted s) e 0x8E).2
      | none => [] :=
  admitA_cases (Q := fun r => r.2.1 = match assocGet s.clients k.id with
      | some e => (disconnectClient (connCounted s) e 0x8E).2
      | none => []) s i k rfl (fun he => by rw [he]) (fun e _ he _ _ => by rw [he]) (fun e _ he _ _ => by rw [he])

/-! ### `admitConnack`, `admitClient`, `connect`, the `connect` op -/

theorem admitConnack_out (s : Server) (i conn : Nat) (present : Bool) :
    ∃ seiOut, (admitConnack s i conn present).2 =
      [.wrote conn (.connack (getObj s i).ver present 0 s.caps.receiveMaximum s.caps.maximumQos seiOut)] :=
  admitConnack_cases s i conn present
    (Q := fun r => ∃ seiOut, r.2 =
      [.wrote conn (.connack (getObj s i).ver present 0 s.caps.receiveMaximum s.caps.maximumQos seiOut)])
    (fun _ => ⟨_, rfl⟩) (fun _ => ⟨_, rfl⟩)

/-- the outputs of `attachClient` from admission to the read loop: the take-over outputs of `admitA`, the CONNACK,
    then (the taken-over handler's teardown, the resent in-flight messages) no CONNACK -/
theorem admitClient_out (s : Server) (i conn : Nat) (k : Connect) :
    ∃ post, (admitClient s i conn k).2 = (admitA s i k).2.1 ++
        (admitConnack (admitA s i k).1 i conn (admitA s i k).2.2.1).2 ++ post ∧ NoConnack post := by
  rw [admitClient_eq s i conn k rfl rfl rfl]
  exact ⟨_, List.append_assoc _ _ _, (tookOverDown_noConnack _ _).append (admitC_noConnack _ i k _)⟩

/-- the `connect` op is `attachClient` up to the read loop, followed by the harness's barrier, which writes no CONNACK -/
theorem step_connect_out (s : Server) (conn : Nat) (k : Connect) :
    ∃ tail, (step s (.connect conn k)).2 = (connect s conn k).2 ++ tail ∧ NoConnack tail :=
  step_connect_cases (Q := fun r => ∃ tail, r.2 = (connect s conn k).2 ++ tail ∧ NoConnack tail) s conn k
    (fun _ _ _ => ⟨_, rfl, (recvOn_pingreq_noConnack _ conn).filter _⟩)
    (fun _ => ⟨[], (List.append_nil _).symm, NoConnack.nil⟩)

/-- a connection that `attachClient` closed gets no barrier: the op is `connect` -/
theorem step_connect_closed (s : Server) (conn : Nat) (k : Connect) (i : Nat)
    (hc : assocGet (connect s conn k).1.connOf conn = some i) (ho : (getObj (connect s conn k).1 i).isOpen = false) :
    step s (.connect conn k) = connect s conn k :=
  step_connect_cases (Q := fun r => r = connect s conn k) s conn k
    (fun j hj hoj => by cases hc.symm.trans hj; rw [ho] at hoj; cases hoj) (fun _ => rfl)

theorem step_connect_open (s : Server) (conn : Nat) (k : Connect) (i : Nat)
    (hc : assocGet (connect s conn k).1.connOf conn = some i) (ho : (getObj (connect s conn k).1 i).isOpen = true) :
    (step s (.connect conn k)).1 = (recvOn (connect s conn k).1 conn .pingreq false).1 :=
  step_connect_cases (Q := fun r => r.1 = (recvOn (connect s conn k).1 conn .pingreq false).1) s conn k
    (fun _ _ _ => rfl) (fun h => by rw [h i hc] at ho; cases ho)

theorem connect_admitted_eq (s : Server) (conn : Nat) (k : Connect)
    (h : refuseCode (connState s conn k) k (parseConnect s conn k) = none) :
    connect s conn k = admitClient (connState s conn k) s.objs.length conn k :=
  connect_cases (Q := fun r => r = admitClient (connState s conn k) s.objs.length conn k) s conn k
    (fun _ _ e hd => nomatch (e ▸ hd).symm.trans h) (fun _ e _ => e ▸ rfl)

theorem connect_refused_eq (s : Server) (conn : Nat) (k : Connect) (code : Nat)
    (h : refuseCode (connState s conn k) k (parseConnect s conn k) = some code) :
    connect s conn k = (setObj (connState s conn k) s.objs.length
        { parseConnect s conn k with isOpen := false, stopped := true },
      [.wrote conn (.connack k.ver false code s.caps.receiveMaximum s.caps.maximumQos none), .closed conn]) := by
  have hg := getObj_connState_new s conn k
  have hst := stopClient_live (connState s conn k) s.objs.length (by rw [hg]; rfl) (by rw [hg]; rfl)
  rw [hg] at hst
  refine connect_cases (Q := fun r => r = _) s conn k (fun s1 c e hd => ?_) (fun _ e hd => nomatch (e ▸ hd).symm.trans h)
  subst e
  cases Option.some.inj (hd.symm.trans h)
  rw [hst]; rfl

theorem connect_refused (s : Server) (conn : Nat) (k : Connect) (code : Nat)
    (h : refuseCode (connState s conn k) k (parseConnect s conn k) = some code) (hf : conn ∉ s.connOf.map (·.1)) :
    step s (.connect conn k) = connect s conn k ∧
    (connect s conn k).2 = [.wrote conn (.connack k.ver false code s.caps.receiveMaximum s.caps.maximumQos none),
      .closed conn] ∧
    (connect s conn k).1.clients = s.clients ∧ (connect s conn k).1.willDelayed = s.willDelayed := by
  have e := connect_refused_eq s conn k code h
  refine ⟨step_connect_closed s conn k s.objs.length ?_ ?_, by rw [e], by rw [e]; rfl, by rw [e]; rfl⟩
  · rw [e]
    exact assocGet_append_fresh _ _ _ hf
  · rw [e, getObj_setObj_eq _ _ _ (connState_lt s conn k)]

theorem refuseCode_failure (s : Server) (k : Connect) (c : Client) (code : Nat) (h : refuseCode s k c = some code) :
    code ≥ 0x80 :=
  have row : ∀ n, n ≥ 0x80 → some n = some code → code ≥ 0x80 := fun _ hn e => Option.some.inj e ▸ hn
  refuseCode_cases (Q := fun r => r = some code → code ≥ 0x80) s k c
    (fun _ => iteInduction (motive := fun n => some n = some code → code ≥ 0x80) (fun _ => row _ (by decide))
      (fun _ => row _ (by decide)))
    (fun _ => row _ (by decide)) (fun _ => row _ (by decide)) (fun _ => row _ (by decide)) (fun _ => row _ (by decide))
    (fun _ _ => row _ (by decide)) (fun _ _ => nofun) h

/-- the decision of `attachClient` about a CONNECT on a fresh connection -/
abbrev connDec (s : Server) (conn : Nat) (k : Connect) : Option Nat :=
  refuseCode (connState s conn k) k (parseConnect s conn k)

/-- a refused CONNECT on a fresh connection: the failure CONNACK and the close are written, the new object is left
    stopped and nothing else changes (no invariant of `s` is needed) -/
structure ConnectRefused (s : Server) (conn : Nat) (k : Connect) (code : Nat) : Prop where
  failure : code ≥ 0x80
  eq : step s (.connect conn k) =
    (setObj (connState s conn k) s.objs.length { parseConnect s conn k with isOpen := false, stopped := true },
     [.wrote conn (.connack k.ver false code s.caps.receiveMaximum s.caps.maximumQos none), .closed conn])

theorem step_connect_refused (s : Server) (conn : Nat) (k : Connect) (hf : conn ∉ s.connOf.map (·.1)) (code : Nat)
    (hd : connDec s conn k = some code) : ConnectRefused s conn k code :=
  ⟨refuseCode_failure _ _ _ _ hd, by rw [(connect_refused s conn k code hd hf).1, connect_refused_eq s conn k code hd]⟩

/-- the packets written to connection `conn`, in order -/
def writesTo (conn : Nat) (o : List Out) : List WPk :=
  o.filterMap (fun x => match x with
    | .wrote c pk => if c == conn then some pk else none
    | _ => none)

def WPk.isConnack : WPk → Bool
  | .connack .. => true
  | _ => false

theorem writesTo_append (conn : Nat) (a b : List Out) : writesTo conn (a ++ b) = writesTo conn a ++ writesTo conn b :=
  List.filterMap_append

theorem writesTo_takeover {c conn : Nat} {o : List Out} (h : TakeoverOut c o) (hc : c ≠ conn) : writesTo conn o = [] := by
  unfold writesTo
  apply List.filterMap_eq_nil_iff.mpr
  intro x hx
  rcases h x hx with ⟨ver, rfl⟩ | rfl
  · have : (c == conn) = false := by simpa using hc
    simp only [this, Bool.false_eq_true, if_false]
  · rfl

theorem writesTo_wrote_self (conn : Nat) (pk : WPk) (rest : List Out) :
    writesTo conn (.wrote conn pk :: rest) = pk :: writesTo conn rest := by
  unfold writesTo
  exact List.filterMap_cons_some (if_pos (beq_self_eq_true conn))

theorem writesTo_connack_first {c' conn : Nat} {pre post : List Out} (pk : WPk) (hc : c' ≠ conn)
    (hto : TakeoverOut c' pre) : writesTo conn (pre ++ [.wrote conn pk] ++ post) = pk :: writesTo conn post := by
  rw [writesTo_append, writesTo_append, writesTo_takeover hto hc, writesTo_wrote_self]; rfl

theorem writesTo_noConnack {conn : Nat} {o : List Out} (h : NoConnack o) : ∀ pk ∈ writesTo conn o, pk.isConnack = false := by
  intro pk hpk
  unfold writesTo at hpk
  obtain ⟨x, hx, he⟩ := List.mem_filterMap.mp hpk
  have hn := h x hx
  cases x with
  | wrote c p =>
    simp only at he
    split at he
    · cases he
      cases pk <;> first | rfl | cases hn
    · cases he
  | _ => cases he

/-- the take-over outputs of `admitA` for a CONNECT on a fresh connection go to another connection -/
theorem admitA_takeover (s : Server) (hw : WF s) (hcm : ConnMap s) (conn : Nat) (k : Connect)
    (hf : conn ∉ s.connOf.map (·.1)) :
    ∃ c', c' ≠ conn ∧ TakeoverOut c' (admitA (connState s conn k) s.objs.length k).2.1 := by
  have hpre := admitA_out (connState s conn k) s.objs.length k
  have hcl : (connState s conn k).clients = s.clients := rfl
  rw [hcl] at hpre
  cases he : assocGet s.clients k.id with
  | none =>
    rw [he] at hpre
    rw [hpre]
    exact ⟨conn + 1, by omega, fun x hx => by cases hx⟩
  | some e =>
    rw [he] at hpre
    dsimp only at hpre
    have hel : e < s.objs.length := (hw.clients_valid k.id e (assocGet_mem _ _ _ he)).1
    obtain ⟨t1, t2⟩ := disconnectClient_takeover (connCounted (connState s conn k)) e
    rw [show getObj (connCounted (connState s conn k)) e = getObj s e from getObj_connState_old s conn k e hel] at t1 t2
    rw [hpre]
    by_cases hin : (getObj s e).inline = true
    · rw [t2 hin]
      exact ⟨conn + 1, by omega, fun x hx => by cases hx⟩
    · refine ⟨(getObj s e).conn, fun heq => ?_, t1⟩
      have hm := hcm e hel (by simpa using hin)
      rw [heq] at hm
      exact hf (List.mem_map_of_mem (f := (·.1)) (assocGet_mem _ _ _ hm))

/-- the outputs of an admitted CONNECT as a list: what `admitA` wrote, the CONNACK, then no CONNACK -/
theorem step_connect_admitted_out (s : Server) (conn : Nat) (k : Connect)
    (h : refuseCode (connState s conn k) k (parseConnect s conn k) = none) :
    ∃ seiOut post, (step s (.connect conn k)).2 = (admitA (connState s conn k) s.objs.length k).2.1 ++
      [.wrote conn (.connack (getObj (admitA (connState s conn k) s.objs.length k).1 s.objs.length).ver
        (admitA (connState s conn k) s.objs.length k).2.2.1 0
        (admitA (connState s conn k) s.objs.length k).1.caps.receiveMaximum
        (admitA (connState s conn k) s.objs.length k).1.caps.maximumQos seiOut)] ++ post ∧ NoConnack post := by
  obtain ⟨tail, ht, hnt⟩ := step_connect_out s conn k
  obtain ⟨post, hp, hnp⟩ := admitClient_out (connState s conn k) s.objs.length conn k
  obtain ⟨seiOut, hck⟩ := admitConnack_out (admitA (connState s conn k) s.objs.length k).1 s.objs.length conn
    (admitA (connState s conn k) s.objs.length k).2.2.1
  refine ⟨seiOut, post ++ tail, ?_, hnp.append hnt⟩
  rw [ht, connect_admitted_eq s conn k h, hp, hck]
  simp only [List.append_assoc]

/-- an admitted CONNECT: the take-over outputs on another connection, the CONNACK with code 0, then no CONNACK -/
theorem connect_admitted_out (s : Server) (hw : WF s) (hcm : ConnMap s) (conn : Nat) (k : Connect)
    (h : refuseCode (connState s conn k) k (parseConnect s conn k) = none) (hf : conn ∉ s.connOf.map (·.1)) :
    ∃ c' pre ver sp rm mq seiOut post, c' ≠ conn ∧ TakeoverOut c' pre ∧
      (step s (.connect conn k)).2 = pre ++ [.wrote conn (.connack ver sp 0 rm mq seiOut)] ++ post ∧ NoConnack post :=
  have ⟨c', hc', hto⟩ := admitA_takeover s hw hcm conn k hf
  have ⟨seiOut, post, e, hn⟩ := step_connect_admitted_out s conn k h
  ⟨c', _, _, _, _, _, seiOut, post, hc', hto, e, hn⟩

end Mochi.Broker
