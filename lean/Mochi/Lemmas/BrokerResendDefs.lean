import Mochi.Lemmas.BrokerSurvive
/-!
# C09 — what a resumption resends: the relations

`XK k a b` — client object `b` has EXACTLY the record `a` has under packet identifier `k` (if `a` has one), and the same
connection, protocol version and liveness (`isOpen`, `peerGone`, `inline`): what decides what `ResendInflightMessages`
writes for that record.  `SurvX k s s'`: all objects; `SurvXW j k s s'`: all objects except the acting one `j`.
-/
namespace Mochi.Broker
open Mochi.Topics

structure XK (k : Nat) (a b : Client) : Prop where
  keep : ∀ m, flGet a k = some m → flGet b k = some m
  isOpen : b.isOpen = a.isOpen
  peerGone : b.peerGone = a.peerGone
  inline : b.inline = a.inline
  conn : b.conn = a.conn
  ver : b.ver = a.ver

/-- closes `XK k a b` when `b` is `a` with fields other than `inflight` and the five liveness fields rewritten -/
macro "xk_rfl" : tactic => `(tactic| exact ⟨fun _ h => h, rfl, rfl, rfl, rfl, rfl⟩)

theorem XK.refl (k : Nat) (a : Client) : XK k a a := by xk_rfl
theorem XK.trans {k : Nat} {a b c : Client} (h : XK k a b) (g : XK k b c) : XK k a c :=
  ⟨fun m r => g.keep m (h.keep m r), g.isOpen.trans h.isOpen, g.peerGone.trans h.peerGone, g.inline.trans h.inline,
   g.conn.trans h.conn, g.ver.trans h.ver⟩
theorem XK.of_eq {k : Nat} {a b : Client} (h : a = b) : XK k a b := h ▸ XK.refl k a

theorem XK.of_sess {k : Nat} {a b : Client} (h : SessEq a b) (hi : b.inflight = a.inflight) : XK k a b :=
  ⟨fun m r => by unfold flGet at r ⊢; rw [hi]; exact r, h.isOpen.symm, h.peerGone.symm, h.inline.symm, h.conn.symm,
   h.ver.symm⟩

theorem XK.of_sess_keep {k : Nat} {a b : Client} (h : SessEq a b) (hk : ∀ m, flGet a k = some m → flGet b k = some m) :
    XK k a b :=
  ⟨hk, h.isOpen.symm, h.peerGone.symm, h.inline.symm, h.conn.symm, h.ver.symm⟩

theorem XK.flSet_ne' (k : Nat) (c : Client) (m : Msg) (h : m.id ≠ k) : XK k c (flSet c m).1 :=
  XK.of_sess_keep (SessEq.flSet c m) (fun m0 r => by rw [flGet_flSet_ne c m k h]; exact r)

theorem XK.flDelete_ne' (k : Nat) (c : Client) (id : Nat) (h : id ≠ k) : XK k c (flDelete c id).1 :=
  ⟨fun m0 r => by rw [flGet_flDelete_ne c id k h]; exact r, rfl, rfl, rfl, rfl, rfl⟩

theorem XK.decSend' (k : Nat) (c : Client) : XK k c (decSend c) := by
  unfold Mochi.Broker.decSend; split <;> xk_rfl
theorem XK.aliasOutSet' (k : Nat) (c : Client) (t : Str) : XK k c (aliasOutSet c t).1 := by
  obtain ⟨ao, cur, e⟩ := aliasOutSet_eq c t
  rw [e]
  xk_rfl

theorem XK.decSend {k : Nat} {a b : Client} (h : XK k a b) : XK k a (decSend b) := h.trans (XK.decSend' k b)
theorem XK.flSet_ne {k : Nat} {a b : Client} (h : XK k a b) (m : Msg) (hm : m.id ≠ k) : XK k a (flSet b m).1 :=
  h.trans (XK.flSet_ne' k b m hm)
theorem XK.flDelete_ne {k : Nat} {a b : Client} (h : XK k a b) (id : Nat) (hm : id ≠ k) :
    XK k a (flDelete b id).1 := h.trans (XK.flDelete_ne' k b id hm)

/-- a condition on the identifier that only has to hold when `a` has a record under `k` at all -/
theorem XK.flSet_if {k : Nat} {a b : Client} (h : XK k a b) (m : Msg) (hm : ∀ m0, flGet a k = some m0 → m.id ≠ k) :
    XK k a (flSet b m).1 := by
  have hs := SessEq.flSet b m
  exact ⟨fun m0 r => ((h.flSet_ne m (hm m0 r)).keep m0 r), hs.isOpen.symm.trans h.isOpen,
    hs.peerGone.symm.trans h.peerGone, hs.inline.symm.trans h.inline, hs.conn.symm.trans h.conn,
    hs.ver.symm.trans h.ver⟩

/-- the record test of the survival walk (`Mochi/Lemmas/RecordWalk.lean`) that accepts exactly the message `p` -/
def isMsg (m p : Msg) : Bool := decide (m = p)

theorem rec_isMsg {c : Client} {k : Nat} {m : Msg} : RecWalk.Rec isMsg c k m ↔ flGet c k = some m :=
  ⟨fun ⟨m', hm', e⟩ => by rw [hm', of_decide_eq_true e], fun h => ⟨m, h, decide_eq_true rfl⟩⟩

theorem XK.of_walk {k : Nat} {a b : Client} (h : SessEq a b) (g : RecWalk.RK isMsg k a b) : XK k a b :=
  XK.of_sess_keep h fun m r => rec_isMsg.mp (g.keep m (rec_isMsg.mpr r))

theorem XK.get_set {k : Nat} {s : Server} {i : Nat} {c d : Client} (h1 : XK k (getObj s i) c) (h2 : XK k c d) :
    XK k (getObj (setObj s i c) i) d :=
  getObj_setObj_ind (P := fun z => XK k z d) s i c i (h1.trans h2) fun _ => h2

/-! ### server level -/

def SurvX (k : Nat) (s s' : Server) : Prop := ∀ x, XK k (getObj s x) (getObj s' x)

/-- work done for object `j`: every OTHER object keeps the record under `k` exactly, and its liveness -/
def SurvXW (j k : Nat) (s s' : Server) : Prop := ∀ x, x ≠ j → XK k (getObj s x) (getObj s' x)

theorem SurvX.refl (k : Nat) (s : Server) : SurvX k s s := fun _ => XK.refl k _
theorem SurvX.trans {k : Nat} {s s1 s2 : Server} (h : SurvX k s s1) (g : SurvX k s1 s2) : SurvX k s s2 :=
  fun x => (h x).trans (g x)
theorem SurvX.upd {k : Nat} {s0 s s' : Server} (h : SurvX k s0 s) (ho : s'.objs = s.objs) : SurvX k s0 s' :=
  fun x => by rw [getObj_of_objs_eq ho x]; exact h x
/-- writing an object related to what was there at the START -/
theorem SurvX.set {k : Nat} {s0 s : Server} (h : SurvX k s0 s) (i : Nat) (c : Client) (hc : XK k (getObj s0 i) c) :
    SurvX k s0 (setObj s i c) :=
  fun x => getObj_setObj_ind (P := XK k (getObj s0 x)) s i c x (h x) fun e => e ▸ hc

theorem SurvXW.refl (j k : Nat) (s : Server) : SurvXW j k s s := fun _ _ => XK.refl k _
theorem SurvXW.trans {j k : Nat} {s s1 s2 : Server} (h : SurvXW j k s s1) (g : SurvXW j k s1 s2) :
    SurvXW j k s s2 := fun x hx => (h x hx).trans (g x hx)
theorem SurvX.w {k : Nat} {s s' : Server} (h : SurvX k s s') (j : Nat) : SurvXW j k s s' := fun x _ => h x
theorem SurvXW.survx {j k : Nat} {s0 s s' : Server} (h : SurvXW j k s0 s) (g : SurvX k s s') :
    SurvXW j k s0 s' := h.trans (g.w j)
theorem SurvXW.upd {j k : Nat} {s0 s s' : Server} (h : SurvXW j k s0 s) (ho : s'.objs = s.objs) :
    SurvXW j k s0 s' := fun x hx => by rw [getObj_of_objs_eq ho x]; exact h x hx
theorem SurvXW.set {j k : Nat} {s0 s : Server} (h : SurvXW j k s0 s) (c : Client) : SurvXW j k s0 (setObj s j c) := by
  intro x hx
  rw [getObj_setObj_ne s j x c hx]; exact h x hx
theorem SurvXW.mod {j k : Nat} {s0 s : Server} (h : SurvXW j k s0 s) (f : Client → Client) :
    SurvXW j k s0 (modObj s j f) := h.set _
theorem SurvXW.fst_mk {α} {j k : Nat} {s0 x : Server} {y : α} (h : SurvXW j k s0 x) : SurvXW j k s0 (x, y).1 := h

end Mochi.Broker
