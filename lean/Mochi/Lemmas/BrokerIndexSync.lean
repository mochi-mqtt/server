import Mochi.Lemmas.BrokerSyncStep
/-!
# The topic index and the sessions agree in every history (C15 / C14 / C03)

`IndexSync s` (a): every non-inline subscription entry `(cid, filter)` of the topic index — plain or shared —
belongs to a REGISTERED client: some `(cid, i) ∈ s.clients` whose object holds a subscription for `filter`.
"No orphan index entries: the index never delivers because of a session that no longer exists."

`IndexSync_init`, `IndexSync_step`, `IndexSync_run_partial` (and `IndexSync_run_seq`): for every history from
`init caps` whose ops respect `OpFresh` (connection numbers are fresh, as in `WF_run`) and `SchedOK` (the discipline of the schedule ops — see
there; ops without schedule ops satisfy it trivially: `SeqOps`).  The step needs less than `SchedOK` asks
(`SchedLive`, `SyncInv_step_live`): of an op on a connection only that the handler of its object, IF LIVE, is neither
in `parkedEarly` nor parked inside `attachClient`.  (`OpSched` of `Mochi/Lemmas/CountersConn.lean` asks the same of the
object whether live or not, and `opIdOK` besides; no lemma relates the two.)
-/
namespace Mochi.Broker
open Mochi.Topics

/-! ### the discipline of the schedule ops -/

/-- no handler parked by a schedule op belongs to the object of connection `conn` -/
def FreeConn (s : Server) (conn : Nat) : Prop :=
  match assocGet s.connOf conn with
  | some i => Free s i
  | none => True

instance (s : Server) (i : Nat) : Decidable (Free s i) := by unfold Free; infer_instance
instance (s : Server) (conn : Nat) : Decidable (FreeConn s conn) := by
  unfold FreeConn; split <;> infer_instance

/-- what a history with schedule ops must respect for the index and the sessions to agree:
* an op on a connection (`recv`, `recvCut`, `drop`, `dropHold`, `dropHoldEarly`) is not applied to a connection
  whose handler is parked (`dropHold`, `dropHoldEarly`, `connectHold`) — a parked handler does not read;
* a `clients` tick does not expire a session whose handler is parked before its clean-up. -/
def SchedOK (s : Server) : Op → Prop
  | .recv conn _ => FreeConn s conn
  | .recvCut conn _ => FreeConn s conn
  | .drop conn => FreeConn s conn
  | .dropHold conn => FreeConn s conn
  | .dropHoldEarly conn => FreeConn s conn
  | .tick kind t => kind = "clients" →
      ∀ e ∈ s.clients, sessionDue s.caps (getObj s e.2) t = true → e.2 ∉ s.parked ∧ e.2 ∉ s.parkedEarly
  | _ => True

instance (s : Server) (op : Op) : Decidable (SchedOK s op) := by
  cases op <;> unfold SchedOK <;> infer_instance

theorem FreeConn.free {s : Server} {conn i : Nat} (h : FreeConn s conn) (hc : assocGet s.connOf conn = some i) :
    Free s i := by
  unfold FreeConn at h
  rw [hc] at h
  exact h

/-- what the invariant needs of `FreeConn`: an op on the connection of a stopped object does nothing, and a live object is
    never in `parked` (`SyncInvX.free_of_live`) — the handler of a LIVE object of the connection is in its read loop -/
def LiveFree (s : Server) (conn : Nat) : Prop :=
  ∀ i, assocGet s.connOf conn = some i → (getObj s i).stopped = false →
    i ∉ s.parkedEarly ∧ ∀ p ∈ s.pending, p.obj ≠ i

/-- `SchedOK` with `LiveFree` for `FreeConn` -/
def SchedLive (s : Server) : Op → Prop
  | .recv conn _ => LiveFree s conn
  | .recvCut conn _ => LiveFree s conn
  | .drop conn => LiveFree s conn
  | .dropHold conn => LiveFree s conn
  | .dropHoldEarly conn => LiveFree s conn
  | .tick kind t => kind = "clients" →
      ∀ e ∈ s.clients, sessionDue s.caps (getObj s e.2) t = true → e.2 ∉ s.parked ∧ e.2 ∉ s.parkedEarly
  | _ => True

theorem FreeConn.live {s : Server} {conn : Nat} (h : FreeConn s conn) : LiveFree s conn :=
  fun _ hc _ => ⟨(h.free hc).2.1, (h.free hc).2.2⟩

theorem SchedOK.live {s : Server} {op : Op} (h : SchedOK s op) : SchedLive s op := by
  cases op <;> first | exact FreeConn.live h | exact h

theorem LiveFree.free {X : Nat → Prop} {s : Server} {conn i : Nat} (h : LiveFree s conn) (hs : SyncInvX X s)
    (hc : assocGet s.connOf conn = some i) (hlive : (getObj s i).stopped = false) : Free s i :=
  hs.free_of_live hlive (h i hc hlive).1 (h i hc hlive).2

/-! ### the ops, one by one (each through its exits, `Mochi/Lemmas/BrokerExitsStep.lean`) -/

/-- the peer of object `i` is gone: where `drop`, `recvCut`, `dropHold` go on from -/
theorem peerGone_quiet (s : Server) (i : Nat) : Quiet s (modObj s i fun c => { c with peerGone := true }) :=
  (Quiet.refl s).mod i _ (by qc_rfl)

theorem peerGone_wf {s : Server} (hw : WF s) (i : Nat) : WF (modObj s i fun c => { c with peerGone := true }) :=
  hw.of_good ((Good.refl s).mod i _ (by cw_rfl))

theorem step_recvCut_inv {s : Server} (h : SyncInv s) (hw : WF s) (conn : Nat) (pk : InPk)
    (hok : LiveFree s conn) : SyncInv (step s (.recvCut conn pk)).1 := by
  have key : ∀ i r, assocGet s.connOf conn = some i → ((getObj s i).stopped || !(getObj s i).isOpen) = false →
      r = recvOn (modObj s i (fun c => { c with peerGone := true })) conn pk false →
      SyncInv r.1 ∧ ((getObj r.1 i).stopped = false → SyncInv (detach r.1 i true).1) := fun i r hc hl hr => by
    have q1 := peerGone_quiet s i
    have w1 := peerGone_wf hw i
    have hfr1 := (hok.free h hc (Bool.or_eq_false_iff.mp hl).1).of_eq q1.parked q1.parkedEarly q1.pending
    have a2 := recvOn_inv (h.of_quiet q1) w1 conn pk false fun i' hi' _ => by
      rw [show assocGet s.connOf conn = some i' from hi'] at hc
      cases hc
      exact ⟨⟨hfr1.2.1, hfr1.2.2⟩, fun x => x⟩
    have l2 := recvOn_lst (modObj s i fun c => { c with peerGone := true }) conn pk false
    have g2 := recvOn_good (modObj s i fun c => { c with peerGone := true }) conn pk false
    have w2 := recvOn_wf _ conn pk false w1
    rw [← hr] at a2 l2 g2 w2
    have hi2 : i < r.1.objs.length := by
      rw [g2.len, q1.len]; exact hw.conn_valid conn i (assocGet_mem _ _ _ hc)
    have hfr2 : Free r.1 i := hfr1.of_eq l2.parked l2.parkedEarly g2.pending
    exact ⟨a2, fun hst => detach_inv a2 w2 i hi2 true (fun x => by cases x) hfr2.1 hfr2.2.1
      (Or.inr (a2.registered_of_live hi2 hfr2 (fun x => x) hst))⟩
  exact step_recvCut_cases (Q := fun r => SyncInv r.1) s conn pk (fun _ => h) (fun _ _ _ => h)
    (fun i r hc hl hr _ => (key i r hc hl hr).1) (fun i r hc hl hr hst => (key i r hc hl hr).2 hst)

theorem step_release_inv {s : Server} (h : SyncInv s) (hw : WF s) (conn : Nat) :
    SyncInv (step s (.release conn)).1 := by
  -- a connecting handler is released
  have rel : ∀ p, s.pending.find? (·.conn == conn) = some p →
      SyncInv (connectRelease (unparkP s conn) p).1 ∧
        SyncInv (barrier (connectRelease (unparkP s conn) p).1 conn (connectRelease (unparkP s conn) p).2).1 :=
      fun p hp => by
    have hmem : p ∈ s.pending := List.mem_of_find?_eq_some hp
    have hpc : p.conn = conn := by simpa using List.find?_some hp
    have hv := hw.pending_valid p hmem
    have w0 : WF (unparkP s conn) := hw.filterPending _
    have h0 : SyncInvX (· = p.obj) (unparkP s conn) := SyncInv.filterPending h p hmem conn hpc
    have hpf := h.pendFree p hmem
    have hpi : ∀ q ∈ (unparkP s conn).pending, q.obj ≠ p.obj := by
      intro q hq e
      obtain ⟨hq1, hq2⟩ := List.mem_filter.mp hq
      rw [eq_of_nodup_map (·.obj) s.pending h.pendNodup q p hq1 hmem e, hpc] at hq2
      simp at hq2
    have r1 := connectRelease_inv p h0 w0 hv.1 hv.2 hpf.1 hpf.2 hpi (h.st1 p hmem) fun hs =>
      h0.weaken fun k hk hx _ ha ht _ => by
        cases (hx : k = p.obj)
        refine h.reg _ hk ha ht (fun x => x) ?_
        rintro ⟨q, hq, a, b⟩
        exact hs (eq_of_nodup_map (·.obj) s.pending h.pendNodup q p hq hmem b ▸ a)
    have wk := connectRelease_wf _ p w0 hv.1 hv.2
    refine ⟨r1.1, ?_⟩
    refine recvOn_inv r1.1 wk.1 conn .pingreq false fun i hi _ => ⟨?_, fun x => x⟩
    rw [wk.2.connOf, show assocGet (unparkP s conn).connOf conn = some p.obj from hpc ▸ h.pendConn p hmem] at hi
    cases hi
    exact ⟨r1.2.parkedEarly ▸ hpf.2, wk.2.pending ▸ hpi⟩
  -- a parked handler is still the registered one unless its session was taken over
  have hreg : ∀ i, i ∈ s.parked ∨ i ∈ s.parkedEarly →
      (getObj s i).takenOver = true ∨ assocGet s.clients (getObj s i).id = some i := fun i hm => by
    cases hto : (getObj s i).takenOver with
    | true => exact Or.inl rfl
    | false =>
      refine Or.inr (h.reg i (h.parkedLt i hm) (Or.inr hm) hto (fun x => x) ?_)
      rintro ⟨q, hq, _, b⟩
      exact hm.elim (fun x => (h.pendFree q hq).1 (b ▸ x)) (fun x => (h.pendFree q hq).2 (b ▸ x))
  have hnf : ∀ (i : Nat) (l : List Nat), i ∉ l.filter (· != i) := fun i l hx => by
    simpa using (List.mem_filter.mp hx).2
  refine step_release_cases (Q := fun r => SyncInv r.1) s conn (fun p hp _ => (rel p hp).2) (fun p hp _ => (rel p hp).1)
    (fun _ _ => h) (fun i _ _ hpk => ?_) (fun i _ _ hnpk hpe => ?_) (fun _ _ _ _ _ => h)
  · have hm : i ∈ s.parked := List.contains_iff_mem.mp hpk
    show SyncInv (detachB (unparkB s i) i)
    exact detachB_inv (h.relist _ s.parkedEarly (fun k hk => Or.inl (List.mem_filter.mp hk).1) fun _ => Or.inl)
      (hw.upd rfl rfl rfl rfl) i (h.parkedLt i (Or.inl hm)) (h.parkedStopped i hm) (hnf i _) (h.disj i hm)
      (hreg i (Or.inl hm))
  · have hm : i ∈ s.parkedEarly := List.contains_iff_mem.mp hpe
    show SyncInv (detach (unparkE s i) i true).1
    exact detach_inv (h.relist s.parked _ (fun _ => Or.inl) fun k hk => Or.inl (List.mem_filter.mp hk).1)
      (hw.upd rfl rfl rfl rfl) i (h.parkedLt i (Or.inr hm)) true (fun x => by cases x)
      (fun x => by rw [List.contains_iff_mem.mpr x] at hnpk; cases hnpk) (hnf i _) (hreg i (Or.inr hm))

/-! ### `init`, `step`, `run` -/

theorem SyncInv_init (caps : Caps) : SyncInv (init caps) := by
  refine ⟨idxOK_empty, ?_, ?_, ?_, ?_, ?_, ?_, ?_, ?_, ?_, ?_, ?_, ?_, List.nodup_nil, ?_⟩
  · rintro c f (⟨q, sub, hq, _⟩ | ⟨q, g, sub, hq, _⟩)
    · simp [plainAt, init, getNode_nil] at hq
    · simp [sharedAt, init, getNode_nil] at hq
  · intro c k hk f hf _
    have hk : assocGet [(inlineID, 0)] c = some k := hk
    simp only [assocGet] at hk
    split at hk
    · cases hk
      have hf : f ∈ subKeys (getObj (init caps) 0) := hf
      cases hf
    · cases hk
  · intro k fs hfs
    have hs : (getObj (init caps) k).subs = [] := by
      match k with
      | 0 => rfl
      | k + 1 => rfl
    rw [hs] at hfs; cases hfs
  · intro k
    match k with
    | 0 => rfl
    | k + 1 => rfl
  · intro k hk
    match k with
    | 0 => cases hk
    | k + 1 => cases hk
  · intro k hk _ _ _ _
    have hk : k < 1 := hk
    have : k = 0 := by omega
    subst this
    rfl
  · intro c k hk
    have hk : assocGet [(inlineID, 0)] c = some k := hk
    simp only [assocGet] at hk
    split at hk
    · cases hk; rfl
    · cases hk
  · intro k hk
    rcases hk with hk | hk <;> cases hk
  · intro k hk; cases hk
  · intro k hk; cases hk
  · intro p hp; cases hp
  · intro p hp; cases hp
  · intro p hp; cases hp

/-- the invariant is kept by every fresh op that respects `SchedLive` -/
theorem SyncInv_step_live (s : Server) (op : Op) (h : SyncInv s) (hw : WF s) (hfresh : OpFresh s op)
    (hok : SchedLive s op) : SyncInv (step s op).1 := by
  cases op with
  | connect conn k =>
    have C := connect_inv h hw conn k hfresh
    refine step_connect_cases (Q := fun r => SyncInv r.1) s conn k (fun _ _ _ => ?_) (fun _ => C.inv)
    refine recvOn_inv C.inv (connect_wf s conn k hw hfresh) conn .pingreq false fun i hi _ => ⟨?_, fun x => x⟩
    rw [C.connOf, assocGet_append_fresh _ _ _ hfresh] at hi
    cases hi
    exact ⟨C.lst.parkedEarly ▸ fun hm => Nat.lt_irrefl _ (h.parkedLt _ (Or.inr hm)),
      C.pending ▸ fun p hp e => Nat.lt_irrefl _ (e ▸ (hw.pending_valid p hp).1)⟩
  | recv conn pk =>
    rw [step]
    exact recvOn_inv h hw conn pk true fun i hi hl => ⟨hok i hi hl, fun x => x⟩
  | drop conn =>
    refine step_drop_cases (Q := fun r => SyncInv r.1) s conn (fun _ => h) (fun _ _ _ => h) fun i hc hst => ?_
    have q1 := peerGone_quiet s i
    have hi : i < s.objs.length := hw.conn_valid conn i (assocGet_mem _ _ _ hc)
    have hfr := LiveFree.free hok h hc hst
    exact detach_inv (h.of_quiet q1) (peerGone_wf hw i) i (by rw [q1.len]; exact hi) true (fun x => by cases x)
      (by rw [q1.parked]; exact hfr.1) (by rw [q1.parkedEarly]; exact hfr.2.1)
      (by rw [(q1.obj i).takenOver, (q1.obj i).id, q1.clients]; exact Or.inr (h.registered_of_live hi hfr (fun x => x) hst))
  | recvCut conn pk => exact step_recvCut_inv h hw conn pk hok
  | dropHold conn =>
    refine step_dropHold_cases (Q := fun r => SyncInv r.1) s conn (fun _ => h) (fun _ _ _ => h) fun i d hc hst hd => ?_
    subst hd
    have hi : i < s.objs.length := hw.conn_valid conn i (assocGet_mem _ _ _ hc)
    have hfr := LiveFree.free hok h hc hst
    have q := (peerGone_quiet s i).trans (detachA_quiet _ i true)
    refine SyncInv.relist (h.of_quiet q) _ _ (fun k hk => (List.mem_append.mp hk).imp_right fun x => ?_) fun _ => Or.inl
    cases List.mem_singleton.mp x
    exact ⟨by rw [q.len]; exact hi, detachA_true_stopped _ i (by rw [(peerGone_quiet s i).len]; exact hi),
      hfr.of_eq q.parked q.parkedEarly q.pending,
      by rw [(q.obj i).takenOver, (q.obj i).id, q.clients]; exact Or.inr (h.registered_of_live hi hfr (fun x => x) hst)⟩
  | release conn => exact step_release_inv h hw conn
  | dropHoldEarly conn =>
    exact step_dropHoldEarly_cases (Q := fun r => SyncInv r.1) s conn (fun _ => h) (fun _ _ _ => h) fun i hc hst =>
      (h.relist s.parked _ (fun _ => Or.inl) fun k hk => (List.mem_append.mp hk).imp_right fun x => by
        cases List.mem_singleton.mp x
        exact ⟨hw.conn_valid conn i (assocGet_mem _ _ _ hc), hst, LiveFree.free hok h hc hst⟩).of_quiet
        (peerGone_quiet _ i)
  | connectHold conn k stage =>
    rw [step]
    exact connectHold_inv h hw conn k stage hfresh
  | tick kind t =>
    exact step_tick_cases_kind (Q := fun r => SyncInv r.1) s kind t (fun hk => tickClients_inv h hw t (hok hk))
      (fun _ => h.of_quiet (tickRetained_quiet s t)) (fun _ => h.of_quiet (tickInflight_quiet s t))
      (fun _ => h.of_quiet (tickWills_quiet s t)) h
  | inlinePublish topic payload retain qos =>
    rw [step]
    exact h.of_quiet (receivePacket_quiet s 0 _ rfl)
  | inlineSubscribe id filter =>
    exact step_inlineSubscribe_cases (Q := fun r => SyncInv r.1) s id filter (fun _ => h) fun s' e _ => by
      subst e
      exact h.of_quiet (Quiet.topics s _ s.rmsgs s.info (fun hx => idxOK_inlineSubscribe _ hx _ _)
        (plainAt_inlineSubscribe _ _ _) (sharedAt_inlineSubscribe _ _ _))
  | inlineUnsubscribe id filter =>
    exact step_inlineUnsubscribe_cases (Q := fun r => SyncInv r.1) s id filter (fun _ => h) fun _ =>
      h.of_quiet (Quiet.topics s _ s.rmsgs s.info (fun hx => idxOK_inlineUnsubscribe _ hx _ _)
        (plainAt_inlineUnsubscribe _ _ _) (sharedAt_inlineUnsubscribe _ _ _))

/-- **the invariant is kept by every op** that is fresh and respects the discipline of the schedule ops -/
theorem SyncInv_step (s : Server) (op : Op) (h : SyncInv s) (hw : WF s) (hfresh : OpFresh s op)
    (hok : SchedOK s op) : SyncInv (step s op).1 :=
  SyncInv_step_live s op h hw hfresh hok.live

def OpsSchedOK (s : Server) : List Op → Prop
  | [] => True
  | op :: ops => SchedOK s op ∧ OpsSchedOK (step s op).1 ops

theorem OpsSchedOK_iff {s : Server} {ops : List Op} : OpsSchedOK s ops ↔ OpsOK SchedOK s ops :=
  OpsOK.of_rec (fun _ => trivial) (fun _ _ _ => Iff.rfl) s ops

instance instDecidableOpsSchedOK (s : Server) (ops : List Op) : Decidable (OpsSchedOK s ops) :=
  decidable_of_iff _ OpsSchedOK_iff.symm

/-- the two invariants together, in the form `run_inv` takes -/
theorem WF_SyncInv_step (s : Server) (op : Op) (i : WF s ∧ SyncInv s) (c : OpFresh s op ∧ SchedOK s op) :
    WF (step s op).1 ∧ SyncInv (step s op).1 :=
  ⟨WF_step s op i.1 c.1, SyncInv_step s op i.2 i.1 c.1 c.2⟩

theorem SyncInv_run (caps : Caps) (ops : List Op) (hf : OpsFresh (init caps) ops)
    (hok : OpsSchedOK (init caps) ops) : SyncInv (run (init caps) ops) :=
  (run_inv WF_SyncInv_step ⟨WF_init caps, SyncInv_init caps⟩ ((OpsFresh_iff.mp hf).and (OpsSchedOK_iff.mp hok))).2

/-- what one op keeps in a well-formed, synchronised state, under a condition `C` on the op, is kept by every history
    whose ops satisfy `C` -/
theorem run_kept {H : Server → Prop} {C : Server → Op → Prop}
    (hstep : ∀ s op, WF s → SyncInv s → OpFresh s op → H s → C s op → H (step s op).1) {s : Server} {ops : List Op}
    (hw : WF s) (hsync : SyncInv s) (hf : OpsFresh s ops) (hok : OpsSchedOK s ops) (h : H s) (hc : OpsOK C s ops) :
    H (run s ops) :=
  (run_inv (I := fun s => (WF s ∧ SyncInv s) ∧ H s)
    (fun s op i c => ⟨WF_SyncInv_step s op i.1 c.1, hstep s op i.1.1 i.1.2 c.1.1 i.2 c.2⟩) ⟨⟨hw, hsync⟩, h⟩
    (((OpsFresh_iff.mp hf).and (OpsSchedOK_iff.mp hok)).and hc)).2

/-! ### `IndexSync` -/

/-- **(a) no orphan index entries**: every non-inline subscription entry `(cid, filter)` of the topic index
    (plain or shared) belongs to a registered client — some `(cid, i)` of the Clients map whose object holds a
    subscription for `filter` -/
def IndexSync (s : Server) : Prop :=
  ∀ e ∈ indexEntries s.topics, ∃ ci ∈ s.clients, ci.1 = e.1 ∧ e.2 ∈ subKeys (getObj s ci.2)

instance (s : Server) : Decidable (IndexSync s) := by unfold IndexSync; infer_instance

theorem IndexSync_iff (s : Server) : IndexSync s ↔
    ∀ cid filter, (cid, filter) ∈ indexEntries s.topics →
      ∃ i, (cid, i) ∈ s.clients ∧ filter ∈ ((getObj s i).subs.map (·.1)) := by
  constructor
  · intro h cid f hm
    obtain ⟨ci, hci, h1, h2⟩ := h (cid, f) hm
    obtain ⟨c, i⟩ := ci
    have h1 : c = cid := h1
    subst h1
    exact ⟨i, hci, h2⟩
  · intro h e he
    obtain ⟨cid, f⟩ := e
    obtain ⟨i, hi, hf⟩ := h cid f he
    exact ⟨(cid, i), hi, rfl, hf⟩

theorem SyncInv.indexSync {s : Server} (h : SyncInv s) : IndexSync s := by
  intro e he
  obtain ⟨cid, f⟩ := e
  obtain ⟨i, hi, hf⟩ := h.own cid f (Entry.of_mem h.idx he)
  exact ⟨(cid, i), assocGet_mem _ _ _ hi, rfl, hf⟩

theorem IndexSync_init (caps : Caps) : IndexSync (init caps) := (SyncInv_init caps).indexSync

/-- one op: `SyncInv` is the inductive strengthening of `IndexSync` (`SyncInv_step` keeps it) -/
theorem IndexSync_step (s : Server) (op : Op) (h : SyncInv s) (hw : WF s) (hfresh : OpFresh s op)
    (hok : SchedOK s op) : IndexSync (step s op).1 :=
  (SyncInv_step s op h hw hfresh hok).indexSync

/-- **(a) holds after every history that respects `OpFresh` and the discipline of the schedule ops** -/
theorem IndexSync_run_partial (caps : Caps) (ops : List Op) (hf : OpsFresh (init caps) ops)
    (hok : OpsSchedOK (init caps) ops) : IndexSync (run (init caps) ops) :=
  (SyncInv_run caps ops hf hok).indexSync

/-- the unrestricted statement (false: `C15_no_orphan_subscriptions_all_histories_false`, Props/C15.lean) -/
def IndexSync_all_histories : Prop :=
  ∀ (caps : Caps) (ops : List Op), OpsFresh (init caps) ops → IndexSync (run (init caps) ops)

/-! ### histories without schedule ops -/

def SeqOps (ops : List Op) : Prop := ∀ op ∈ ops, op.isSeq = true

instance (ops : List Op) : Decidable (SeqOps ops) := by unfold SeqOps; infer_instance

/-- no handler is parked -/
def NoSched (s : Server) : Prop := s.parked = [] ∧ s.parkedEarly = [] ∧ s.pending = []

theorem NoSched.schedOK {s : Server} (h : NoSched s) (op : Op) : SchedOK s op := by
  obtain ⟨h1, h2, h3⟩ := h
  have hfree : ∀ conn, FreeConn s conn := by
    intro conn
    unfold FreeConn
    split
    · unfold Free
      rw [h1, h2, h3]
      exact ⟨List.not_mem_nil, List.not_mem_nil, fun _ hp => by cases hp⟩
    · trivial
  cases op <;> unfold SchedOK <;> first | exact hfree _ | trivial | skip
  intro _ e _ _
  rw [h1, h2]
  exact ⟨List.not_mem_nil, List.not_mem_nil⟩

/-- an op that is not a schedule op parks and releases no handler -/
theorem step_seq_lists {s : Server} (op : Op) (hseq : op.isSeq = true) (h : SyncInv s) (hw : WF s)
    (hfresh : OpFresh s op) (hok : SchedOK s op) :
    Lst s (step s op).1 ∧ (step s op).1.pending = s.pending :=
  step_seq_tr (W := fun a b _ => Lst a b ∧ b.pending = a.pending)
    (.ofState (fun a => ⟨.refl a, rfl⟩) fun f g => ⟨f.1.trans g.1, g.2.trans f.2⟩) (fun _ m => m) s op hseq
    (conn := fun c k e => by
      subst e
      have C := connect_inv h hw c k hfresh
      exact ⟨C.lst, C.pending⟩)
    (recv := fun c pk _ => ⟨recvOn_lst s c pk true, (recvOn_good s c pk true).pending⟩)
    (cut := fun c pk _ _ _ => ⟨recvOn_lst _ c pk false, (recvOn_good _ c pk false).pending⟩)
    (ping := fun s' c => ⟨recvOn_lst s' c _ _, (recvOn_good s' c _ _).pending⟩)
    (peer := fun s' i => ⟨(peerGone_quiet s' i).lst, rfl⟩)
    (det := fun s' i b => ⟨detach_lst s' i b, (detach_good s' i b).pending⟩)
    (tick := fun kind t e => by
      subst e
      have cl := tickClients_cases (J := fun r => Lst s r.1) s t (Lst.refl s) fun acc e _ _ h =>
        have l := (h.trans (clearInflights_quiet acc.1 e.2).lst).trans (unsubscribeClient_lst _ e.2)
        ⟨l.parked, l.parkedEarly⟩
      exact ⟨step_tick_cases (Q := fun r => Lst s r.1) s kind t cl (tickRetained_quiet s t).lst
        (tickInflight_quiet s t).lst (tickWills_quiet s t).lst (Lst.refl s), (step_tick_good s kind t).pending⟩)
    (pub := fun t p r q _ =>
      have x := receivePacket_quiet s 0 (.publish q false r q t p 0 none) rfl
      ⟨x.lst, x.pending⟩)
    (isub := fun _ _ _ _ => ⟨⟨rfl, rfl⟩, rfl⟩)
    (iunsub := fun _ _ => ⟨⟨rfl, rfl⟩, rfl⟩)

/-- what an op that is not a schedule op keeps while no handler is parked, and what that gives: the discipline of the
    schedule ops -/
theorem seq_step (s : Server) (op : Op) (i : SyncInv s ∧ WF s ∧ NoSched s) (c : op.isSeq = true ∧ OpFresh s op) :
    (SyncInv (step s op).1 ∧ WF (step s op).1 ∧ NoSched (step s op).1) ∧ SchedOK s op := by
  obtain ⟨a, w, n⟩ := i
  have hok := n.schedOK op
  obtain ⟨l, p⟩ := step_seq_lists op c.1 a w c.2 hok
  exact ⟨⟨SyncInv_step _ op a w c.2 hok, WF_step _ op w c.2, l.parked.trans n.1, l.parkedEarly.trans n.2.1,
    p.trans n.2.2⟩, hok⟩

theorem SeqOps.schedOK (caps : Caps) (ops : List Op) (hseq : SeqOps ops) (hf : OpsFresh (init caps) ops) :
    OpsSchedOK (init caps) ops :=
  OpsSchedOK_iff.mpr (run_induction seq_step ⟨SyncInv_init caps, WF_init caps, rfl, rfl, rfl⟩
    ((OpsOK.forall.mpr hseq).and (OpsFresh_iff.mp hf))).2

/-- **(a) holds after every history without schedule ops** -/
theorem IndexSync_run_seq (caps : Caps) (ops : List Op) (hseq : SeqOps ops) (hf : OpsFresh (init caps) ops) :
    IndexSync (run (init caps) ops) :=
  IndexSync_run_partial caps ops hf (hseq.schedOK caps ops hf)

/-! ### consequences: sessions without subscriptions have no entries -/

theorem IndexSync.no_entry_of_unregistered {s : Server} (h : IndexSync s) (cid : Str)
    (hu : ∀ i, (cid, i) ∉ s.clients) (f : Str) : (cid, f) ∉ indexEntries s.topics := by
  intro hm
  obtain ⟨i, hi, _⟩ := (IndexSync_iff s).mp h cid f hm
  exact hu i hi

theorem IndexSync.no_entry_of_no_subs {s : Server} (h : IndexSync s) (cid : Str)
    (hs : ∀ i, (cid, i) ∈ s.clients → (getObj s i).subs = []) (f : Str) : (cid, f) ∉ indexEntries s.topics := by
  intro hm
  obtain ⟨i, hi, hf⟩ := (IndexSync_iff s).mp h cid f hm
  rw [hs i hi] at hf
  cases hf

theorem detachB_subs_nil (s : Server) (i : Nat) (hi : i < s.objs.length) (h : (getObj s i).subs = []) :
    (getObj (detachB s i) i).subs = [] :=
  detachB_stages (Q := fun x => (getObj x i).subs = []) s i fun s' hs' => by
    show (getObj s' i).subs = []
    rcases hs' with rfl | rfl
    · exact h
    · rw [sessionEnded_getObj]
      exact unsubscribeClient_subs _ i (by rw [(clearInflights_quiet s i).len]; exact hi)

theorem detach_subs_nil (s : Server) (i : Nat) (b : Bool) (hi : i < s.objs.length) (h : (getObj s i).subs = []) :
    (getObj (detach s i b).1 i).subs = [] := by
  have q1 := detachA_quiet s i b
  unfold detach
  dsimp -zeta only
  exact detachB_subs_nil _ i (by rw [q1.len]; exact hi) (by rw [(q1.obj i).subs]; exact h)

theorem recvOn_pingreq_subs_nil (s : Server) (conn i : Nat) (hc : assocGet s.connOf conn = some i)
    (hi : i < s.objs.length) (h : (getObj s i).subs = []) :
    (getObj (recvOn s conn .pingreq false).1 i).subs = [] :=
  have ping : ∀ a, i < a.objs.length ∧ (getObj a i).subs = [] →
      i < (receivePacket a i .pingreq).1.objs.length ∧ (getObj (receivePacket a i .pingreq).1 i).subs = [] := fun a x =>
    have q := receivePacket_quiet a i .pingreq rfl
    ⟨q.len ▸ x.1, (q.obj i).subs.trans x.2⟩
  (recvOn_trAt (W := fun a b _ => i < a.objs.length ∧ (getObj a i).subs = [] → i < b.objs.length ∧ (getObj b i).subs = [])
    (.ofState (fun _ x => x) fun f g x => g (f x)) i (fun x => x) s .pingreq (ping s) ping
    (fun a b x => ⟨(detach_objs_length a i b).symm ▸ x.1, detach_subs_nil a i b x.1 x.2⟩) conn false hc ⟨hi, h⟩).2

/-- a connection with Clean Start starts with no subscription (whether admitted or refused) -/
theorem step_connect_clean_subs {s : Server} (h : SyncInv s) (hw : WF s) (conn : Nat) (k : Connect)
    (hf : conn ∉ s.connOf.map (·.1)) (hcl : k.clean = true) :
    (getObj (step s (.connect conn k)).1 s.objs.length).subs = [] := by
  have C := connect_inv h hw conn k hf
  refine step_connect_cases (Q := fun r => (getObj r.1 s.objs.length).subs = []) s conn k (fun _ _ _ => ?_)
    (fun _ => C.cleanSubs hcl)
  have hc : assocGet (connect s conn k).1.connOf conn = some s.objs.length := by
    rw [C.connOf]; exact assocGet_append_fresh _ _ _ hf
  exact recvOn_pingreq_subs_nil _ conn s.objs.length hc
    ((connect_wf s conn k hw hf).conn_valid conn _ (assocGet_mem _ _ _ hc)) (C.cleanSubs hcl)

/-! ### histories that end with a given op -/

theorem run_append (s : Server) (ops : List Op) (op : Op) : run s (ops ++ [op]) = (step (run s ops) op).1 :=
  run_append_rk s ops [op]

theorem OpsFresh_append {s : Server} {ops : List Op} {op : Op} (h : OpsFresh s (ops ++ [op])) :
    OpsFresh s ops ∧ OpFresh (run s ops) op :=
  have g := OpsOK.append.mp (OpsFresh_iff.mp h)
  ⟨OpsFresh_iff.mpr g.1, g.2.1⟩

theorem OpsSchedOK_append {s : Server} {ops : List Op} {op : Op} (h : OpsSchedOK s (ops ++ [op])) :
    OpsSchedOK s ops ∧ SchedOK (run s ops) op :=
  have g := OpsOK.append.mp (OpsSchedOK_iff.mp h)
  ⟨OpsSchedOK_iff.mpr g.1, g.2.1⟩

/-! ### (b) the converse: the subscriptions of a registered session are in the index -/

/-- **(b)**, unrestricted: every filter in the `subs` of a registered client object has its entry under that client
    id in the index.  FALSE for `$share` filters, already without schedule ops (`IndexSyncConv_seq_false`). -/
def IndexSyncConv (s : Server) : Prop :=
  ∀ ci ∈ s.clients, ∀ f ∈ subKeys (getObj s ci.2), (ci.1, f) ∈ indexEntries s.topics

instance (s : Server) : Decidable (IndexSyncConv s) := by unfold IndexSyncConv; infer_instance

/-- **(b) for plain filters** (first level not `$share`, in any spelling) -/
def IndexSyncPlain (s : Server) : Prop :=
  ∀ ci ∈ s.clients, ∀ f ∈ subKeys (getObj s ci.2), shareKey f = false → (ci.1, f) ∈ indexEntries s.topics

instance (s : Server) : Decidable (IndexSyncPlain s) := by unfold IndexSyncPlain; infer_instance

theorem SyncInv.indexSyncPlain {s : Server} (h : SyncInv s) (hw : WF s) : IndexSyncPlain s := by
  intro ci hci f hf hs
  obtain ⟨c, i⟩ := ci
  exact (h.ownB c i (assocGet_of_mem _ _ _ hw.clients_nodup hci) f hf hs).mem h.idx

theorem IndexSyncPlain_step (s : Server) (op : Op) (h : SyncInv s) (hw : WF s) (hfresh : OpFresh s op)
    (hok : SchedOK s op) : IndexSyncPlain (step s op).1 :=
  (SyncInv_step s op h hw hfresh hok).indexSyncPlain (WF_step s op hw hfresh)

theorem IndexSyncPlain_run_partial (caps : Caps) (ops : List Op) (hf : OpsFresh (init caps) ops)
    (hok : OpsSchedOK (init caps) ops) : IndexSyncPlain (run (init caps) ops) :=
  (SyncInv_run caps ops hf hok).indexSyncPlain (WF_run caps ops hf)

theorem IndexSyncPlain_run_seq (caps : Caps) (ops : List Op) (hseq : SeqOps ops) (hf : OpsFresh (init caps) ops) :
    IndexSyncPlain (run (init caps) ops) :=
  IndexSyncPlain_run_partial caps ops hf (hseq.schedOK caps ops hf)

/-- the unrestricted (b), for every history without schedule ops: false -/
def IndexSyncConv_seq_histories : Prop :=
  ∀ (caps : Caps) (ops : List Op), SeqOps ops → OpsFresh (init caps) ops → IndexSyncConv (run (init caps) ops)

/-- `$share/g/a`, `$SHARE/g/a`: two keys of the session's subscription map, ONE entry of the index (the first level
    is compared case-insensitively); UNSUBSCRIBE of the first spelling removes the entry, the session keeps the second -/
def aliasHistory : List Op :=
  [.connect 1 { ver := 5, id := [120], sei := some 100 },
   .recv 1 (.subscribe 1 0 [{ filter := [36, 115, 104, 97, 114, 101, 47, 103, 47, 97] }]),
   .recv 1 (.subscribe 2 0 [{ filter := [36, 83, 72, 65, 82, 69, 47, 103, 47, 97] }]),
   .recv 1 (.unsubscribe 3 [[36, 115, 104, 97, 114, 101, 47, 103, 47, 97]])]

theorem IndexSyncConv_alias_counterexample : ¬ IndexSyncConv (run (init {}) aliasHistory) := by decide

theorem IndexSyncConv_seq_false : ¬ IndexSyncConv_seq_histories :=
  fun h => IndexSyncConv_alias_counterexample (h {} aliasHistory (by decide) (by decide))

/-- the index holds nothing, the session still lists `$SHARE/g/a` … -/
example : indexEntries (run (init {}) aliasHistory).topics = [] := by decide +kernel
example : subKeys (getObj (run (init {}) aliasHistory) 1) = [[36, 83, 72, 65, 82, 69, 47, 103, 47, 97]] := by decide +kernel
/-- … and a resumed session (Clean Start 0) subscribes to it again -/
example : indexEntries (run (init {}) (aliasHistory ++
    [.connect 2 { ver := 5, id := [120], clean := false, sei := some 100 }])).topics =
    [([120], [36, 83, 72, 65, 82, 69, 47, 103, 47, 97])] := by decide +kernel

/-- UNSUBSCRIBE does not validate its filters: `$share/g` (no topic filter after the group) used to address the
    entry of `$share/g/g`, remove it and be answered with reason code 0x00 while the session kept `$share/g/g`
    (defect F06d).  With the fix of `TopicsIndex.Unsubscribe` the index is left alone and the answer is 0x11
    (no subscription existed): session and index both keep `$share/g/g`. -/
def shortShareHistory : List Op :=
  [.connect 1 { ver := 5, id := [120], sei := some 100 },
   .recv 1 (.subscribe 1 0 [{ filter := [36, 115, 104, 97, 114, 101, 47, 103, 47, 103] }]),
   .recv 1 (.unsubscribe 3 [[36, 115, 104, 97, 114, 101, 47, 103]])]

example : IndexSyncConv (run (init {}) shortShareHistory) := by decide +kernel
example : indexEntries (run (init {}) shortShareHistory).topics =
    [([120], [36, 115, 104, 97, 114, 101, 47, 103, 47, 103])] := by decide +kernel
example : subKeys (getObj (run (init {}) shortShareHistory) 1) = [[36, 115, 104, 97, 114, 101, 47, 103, 47, 103]] := by
  decide
example : (step (run (init {}) (shortShareHistory.take 2)) (.recv 1 (.unsubscribe 3 [[36, 115, 104, 97, 114, 101, 47, 103]]))).2 =
    [.wrote 1 (.unsuback 5 3 [17])] := by decide +kernel
/-- (a) is not affected -/
example : IndexSync (run (init {}) aliasHistory) := by decide +kernel
example : IndexSync (run (init {}) shortShareHistory) := by decide +kernel

end Mochi.Broker
