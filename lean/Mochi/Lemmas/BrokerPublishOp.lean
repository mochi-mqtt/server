import Mochi.Lemmas.BrokerDelivery
import Mochi.Lemmas.BrokerExitsDelivery
import Mochi.Lemmas.ScanMsgs
import Mochi.Lemmas.RecordWalkDefs
/-!
# From the inbound PUBLISH op to the call of `publishToSubscribers` (C03, end to end)

`step s (.recv conn (.publish …))` runs `recvOn` → `receivePacket` → `publishValidate` → `processPublish` → (gates)
→ `publishToSubscribers`, then the release of a deferred message (`nextImmediate`) and the harness's barrier PINGREQ.
For an ACCEPTED publish the whole op is that one call, in an explicit state with an explicit message (`inboundMsg`,
`retainedState`).  Accepted means that the publish passes the gates, all decidable and all read in the state BEFORE the
op: `PublishGates` and `AcceptedQ0` (QoS 0), `O12q.AcceptedQ1`, `AcceptedInline` (`Server.Publish`); QoS 2 (`AcceptedQ2`)
is in `Lemmas/BrokerInbound.lean`.  Only a PUBLISH without topic alias is covered: the topic is not empty.

`Routed` is what the accepted publishes have in common: the handler answers the publisher with acknowledgements only and
routes the message ONCE, in a state in which the publisher's connection looks as before.  `Routed.step` makes the op of
it: the answer, that call, and the releases — which write nothing when the publisher holds no deferred message, since
routing a message that is QoS 0 after shaping files nothing for anybody (`publishToSubscribers_q0_keep_shared`).
Retaining the message changes neither the subscriber map (`subscribers_retainedState`, from `subscribers_look` in
`Lemmas/Gather.lean`), nor the invariants, nor who is entitled: so all of it is stated in the state before the op.
-/
namespace Mochi.Topics

/-! ### retaining a message does not change the subscriber map -/

theorem deadNone_pGather : DeadNone pGather := fun _ hd => if_pos ⟨hd.2.1, hd.2.2.1, hd.2.2.2⟩

theorem subscribers_retainMessage (x : Index) (hx : IdxOK x) (t p : Str) (fl : Bool) (topic : Str) :
    subscribers (retainMessage x t p fl).1 topic = subscribers x topic :=
  subscribers_look x _ hx.pc (idxOK_retainMessage x hx t p fl).pc
    (retainMessage_look x t p fl pGather deadNone_pGather (fun _ _ => rfl)) topic

end Mochi.Topics

namespace Mochi.Broker
open Mochi.Topics

theorem setObj_getObj_self (s : Server) (i : Nat) : setObj s i (getObj s i) = s := by
  unfold setObj getObj
  have : s.objs.set i (s.objs.getD i {}) = s.objs := by
    by_cases h : i < s.objs.length
    · rw [List.getD_eq_getElem?_getD, List.getElem?_eq_getElem h]
      exact List.set_getElem_self h
    · exact List.set_eq_of_length_le (Nat.le_of_not_lt h)
  rw [this]

theorem writeMsg_length_le_one (s : Server) (i : Nat) (m : Msg) : (writeMsg s i m).length ≤ 1 := by
  rw [writeMsg_eq]
  split
  · exact Nat.le_refl 1
  · exact Nat.zero_le 1

/-! ### an accepted PUBLISH: from `processPublish` to the call of `publishToSubscribers` -/

/-- an inbound PUBLISH without alias that passes the tests of `processPublish` is taken in, as the message
    `inboundMsg` -/
theorem processPublish_passed (s : Server) (i qos : Nat) (dup retain : Bool) (id : Nat) (topic payload : Str)
    (me : Nat) (h : PubPassed s i id topic) :
    processPublish s i qos dup retain id topic payload me none =
      pubGo (pubTaken s i id (getObj s i).aliasIn) i id (inboundMsg s i qos dup retain id topic payload me) :=
  processPublish_cases (Q := fun r => r = _) s i qos dup retain id topic payload me none
    (fun h1 => absurd (h.valid.symm.trans h1) Bool.false_ne_true)
    (fun _ h2 => absurd (h.quota.symm.trans h2) Bool.false_ne_true)
    (fun _ _ h3 => absurd (h.acl.symm.trans h3) Bool.false_ne_true)
    (fun _ _ _ h4 => absurd (h.fresh.symm.trans h4) Bool.false_ne_true)
    (fun _ => rfl)

/-- the tests, for a network client: the record under the packet identifier, if there is one, is not a PUBREC -/
theorem PubPassed.of_gates {s : Server} {i id : Nat} {topic : Str} (hv : isValidFilter topic true = true)
    (hrq : (getObj s i).recvQuota ≠ 0) (hacl : aclOk s (getObj s i).id topic true = true)
    (hfl : ∀ m, flGet (getObj s i) id = some m → m.type ≠ 5) : PubPassed s i id topic := by
  refine ⟨by rw [hv]; exact Bool.and_false _, beq_eq_false_iff_ne.mpr hrq, by rw [hacl]; exact Bool.and_false _, ?_⟩
  unfold pubDup
  cases hg : flGet (getObj s i) id with
  | none => exact Bool.and_false _
  | some m => exact (congrArg _ (beq_eq_false_iff_ne.mpr (hfl m hg))).trans (Bool.and_false _)

/-- … and for the inline client, which is only asked for receive quota -/
theorem PubPassed.of_inline {s : Server} {i id : Nat} {topic : Str} (hin : (getObj s i).inline = true)
    (hrq : (getObj s i).recvQuota ≠ 0) : PubPassed s i id topic := by
  refine ⟨by rw [hin]; rfl, beq_eq_false_iff_ne.mpr hrq, by rw [hin]; rfl, ?_⟩
  unfold pubDup
  rw [hin]; rfl

/-- … with no record under the packet identifier to drop: in the state as it is -/
theorem processPublish_plain (s : Server) (i qos : Nat) (dup retain : Bool) (id : Nat) (topic payload : Str)
    (me : Nat) (h : PubPassed s i id topic) (hfr : (!(getObj s i).inline && (flGet (getObj s i) id).isSome) = false) :
    processPublish s i qos dup retain id topic payload me none =
      pubGo s i id (inboundMsg s i qos dup retain id topic payload me) := by
  rw [processPublish_passed _ _ _ _ _ _ _ _ _ h, pubTaken, hfr, if_neg Bool.false_ne_true]
  exact congrArg (pubGo · i id _) (setObj_getObj_self s i)

/-- the state after `processPublish` dropped the in-flight record the client held under the packet id of its new
    PUBLISH (a record that is not a PUBREC: the id is being reused) -/
def recordDropped (s : Server) (i id : Nat) : Server :=
  setObj { setObj s i (flDelete (getObj s i) id).1 with info := { s.info with inflight := s.info.inflight - 1 } } i
    (flDelete (getObj s i) id).1

theorem pubTaken_record (s : Server) (i id : Nat) (pki : Msg) (hin : (getObj s i).inline = false)
    (hfl : flGet (getObj s i) id = some pki) : pubTaken s i id (getObj s i).aliasIn = recordDropped s i id := by
  have h : (!(getObj s i).inline && (flGet (getObj s i) id).isSome) = true := by rw [hin, hfl]; rfl
  unfold pubTaken recordDropped
  rw [if_pos h, setObj_info_setObj]
  rfl

theorem pubShaped_no_hook (s : Server) (pk : Msg) (h : assocGet s.pubHook pk.topic = none) :
    pubShaped s pk = { pk with qos := if pk.qos > s.caps.maximumQos then s.caps.maximumQos else pk.qos } := by
  unfold pubShaped
  rw [h]
  rfl

theorem pubShaped_same (s : Server) (pk : Msg) (h : assocGet s.pubHook pk.topic = none)
    (hq : pk.qos ≤ s.caps.maximumQos) : pubShaped s pk = pk := by
  rw [pubShaped_no_hook s pk h, if_neg (Nat.not_lt.mpr hq)]

/-- no `OnPublish` hook on the topic, and the message is QoS 0 after shaping or comes from the inline client: it is
    routed at once -/
theorem pubGo_fanout (s2 : Server) (i id : Nat) (pk : Msg)
    (hne : (!(getObj s2 i).inline && pk.topic.isEmpty) = false) (hhook : assocGet s2.pubHook pk.topic = none)
    (hq : ((pubShaped s2 pk).qos == 0 || (getObj s2 i).inline) = true) :
    pubGo s2 i id pk = ((publishToSubscribers (retainedState s2 (pubShaped s2 pk)) (pubShaped s2 pk)).1,
      (publishToSubscribers (retainedState s2 (pubShaped s2 pk)) (pubShaped s2 pk)).2, none) := by
  have hr : ((none : Option String) == some "reject") = false := rfl
  have he : ((none : Option String) == some "err") = false := rfl
  unfold pubGo
  rw [hne, hhook, hr, he, hq, if_neg Bool.false_ne_true, if_neg Bool.false_ne_true, Bool.false_and, Bool.false_and,
    if_neg Bool.false_ne_true, if_pos rfl, fanRes, List.nil_append]

/-- the `acked` exit of `pubGo_cases`, as an equation: a PUBLISH of QoS 1 or 2 that the broker grants, on a named
    topic without `OnPublish` hook, from a network client that is alive once the acknowledgement record is filed -/
theorem pubGo_acked (s : Server) (i id : Nat) (pk : Msg) (hq0 : 0 < pk.qos) (hmq : pk.qos ≤ s.caps.maximumQos)
    (hin : (getObj s i).inline = false) (hne : pk.topic ≠ []) (hhook : assocGet s.pubHook pk.topic = none)
    (hlive : dead (getObj (pubAcked (retainedState s pk) i (pubAck s pk.qos id)) i) = false) :
    pubGo s i id pk =
      fanRes (if pk.qos == 1 then recordGone (pubAcked (retainedState s pk) i (pubAck s pk.qos id)) i id incRecv
        else pubAcked (retainedState s pk) i (pubAck s pk.qos id)) pk
        (writeMsg (pubAcked (retainedState s pk) i (pubAck s pk.qos id)) i (pubAck s pk.qos id)) := by
  have hsh : pubShaped s pk = pk := pubShaped_same s pk hhook hmq
  have h1 : (!(getObj s i).inline && pk.topic.isEmpty) = false := by
    rw [List.isEmpty_eq_false_iff.mpr hne]; exact Bool.and_false _
  have hz : (pk.qos == 0 || (getObj s i).inline) = false := by
    rw [hin, Bool.or_false]; exact beq_false_of_ne (Nat.ne_of_gt hq0)
  refine pubGo_cases (Q := fun r => r = _) s i id pk (fun h => absurd (h1.symm.trans h) Bool.false_ne_true)
    (fun _ h => ?_) (fun pk' e _ _ h => ?_) (fun pk' e _ _ _ h => ?_) (fun pk' s6 e e6 _ _ _ _ hd => ?_)
    (fun pk' s6 e e6 _ _ _ _ _ => ?_)
  · rw [hhook] at h; cases h
  · rw [hhook] at h; cases h
  · rw [e, hsh, hz] at h; cases h
  · rw [e, hsh] at e6; rw [e6, hlive] at hd; cases hd
  · rw [e, hsh] at e6 ⊢; rw [e6]

theorem pubGo_q0 (s : Server) (i id : Nat) (pk : Msg) (hq : pk.qos = 0) (hin : (getObj s i).inline = false)
    (hne : pk.topic ≠ []) (hhook : assocGet s.pubHook pk.topic = none) :
    pubGo s i id pk =
      ((publishToSubscribers (retainedState s pk) pk).1, (publishToSubscribers (retainedState s pk) pk).2, none) := by
  have hsh : pubShaped s pk = pk := pubShaped_same s pk hhook (hq ▸ Nat.zero_le _)
  rw [pubGo_fanout s i id pk (by rw [hin, List.isEmpty_eq_false_iff.mpr hne]; rfl) hhook (by rw [hsh, hq]; rfl), hsh]

/-- **QoS 0.**  An accepted QoS 0 publish of a network client IS the call of `publishToSubscribers` in the
    state with the retained store updated, for the explicit message `inboundMsg`. -/
theorem processPublish_accepted_shape (s : Server) (i : Nat) (dup retain : Bool) (id : Nat) (topic payload : Str)
    (me : Nat)
    (hin : (getObj s i).inline = false) (hv : isValidFilter topic true = true)
    (hrq : (getObj s i).recvQuota ≠ 0) (hacl : aclOk s (getObj s i).id topic true = true)
    (hfl : flGet (getObj s i) id = none) (hne : topic ≠ [])
    (hhook : assocGet s.pubHook topic = none) :
    processPublish s i 0 dup retain id topic payload me none =
      ((publishToSubscribers (retainedState s (inboundMsg s i 0 dup retain id topic payload me))
          (inboundMsg s i 0 dup retain id topic payload me)).1,
       (publishToSubscribers (retainedState s (inboundMsg s i 0 dup retain id topic payload me))
          (inboundMsg s i 0 dup retain id topic payload me)).2, none) := by
  rw [processPublish_plain _ _ _ _ _ _ _ _ _ (.of_gates hv hrq hacl (fun m h => by rw [hfl] at h; cases h))
    (by rw [hfl]; exact Bool.and_false _), pubGo_q0 s i id _ rfl hin hne hhook]

/-- **QoS 0, with an in-flight record under the packet id** that is not a PUBREC: the record is dropped
    first, then the message is routed as in `processPublish_accepted_shape` -/
theorem processPublish_accepted_shape_record (s : Server) (i : Nat) (dup retain : Bool) (id : Nat) (topic payload : Str)
    (me : Nat) (pki : Msg)
    (hin : (getObj s i).inline = false) (hv : isValidFilter topic true = true)
    (hrq : (getObj s i).recvQuota ≠ 0) (hacl : aclOk s (getObj s i).id topic true = true)
    (hfl : flGet (getObj s i) id = some pki) (hty : pki.type ≠ 5) (hne : topic ≠ [])
    (hhook : assocGet s.pubHook topic = none) :
    processPublish s i 0 dup retain id topic payload me none =
      ((publishToSubscribers (retainedState (recordDropped s i id) (inboundMsg s i 0 dup retain id topic payload me))
          (inboundMsg s i 0 dup retain id topic payload me)).1,
       (publishToSubscribers (retainedState (recordDropped s i id) (inboundMsg s i 0 dup retain id topic payload me))
          (inboundMsg s i 0 dup retain id topic payload me)).2, none) := by
  have hin' : (getObj (recordDropped s i id) i).inline = false := by
    rw [← pubTaken_record s i id pki hin hfl, getObj_pubTaken s i id _ (lt_of_recvQuota_ne_zero s i hrq), hin, hfl]
    exact hin
  rw [processPublish_passed _ _ _ _ _ _ _ _ _
      (.of_gates hv hrq hacl (fun m h => by rw [hfl] at h; cases h; exact hty)),
    pubTaken_record s i id pki hin hfl,
    pubGo_q0 _ i id (inboundMsg s i 0 dup retain id topic payload me) rfl hin' hne hhook]

theorem flDelete_flSet_fresh (c : Client) (m : Msg) (h : flGet c m.id = none) :
    flDelete (flSet c m).1 m.id = (c, true) := by
  have e : flSet c m = ({ c with inflight := c.inflight ++ [m] }, true) := by unfold flSet; rw [h]; rfl
  have hf : (c.inflight ++ [m]).filter (fun x => x.id != m.id) = c.inflight := by
    rw [List.filter_append, List.filter_eq_self.mpr]
    · simp
    · intro x hx
      simpa using List.find?_eq_none.mp h x hx
  have hs : (flGet { c with inflight := c.inflight ++ [m] } m.id).isSome = true := by
    unfold flGet at h ⊢
    rw [List.find?_append, h]
    simp
  rw [e]
  show (({ c with inflight := (c.inflight ++ [m]).filter (fun x => x.id != m.id) } : Client),
    (flGet { c with inflight := c.inflight ++ [m] } m.id).isSome) = _
  rw [hf, hs]

theorem getObj_pubAcked_fresh (s : Server) (i : Nat) (ack : Msg) (hq : (getObj s i).recvQuota ≠ 0) :
    getObj (pubAcked s i ack) i = (flSet { getObj s i with recvQuota := (getObj s i).recvQuota - 1 } ack).1 := by
  rw [getObj_pubAcked s i ack (lt_of_recvQuota_ne_zero s i hq), decRecv, if_pos (Nat.pos_of_ne_zero hq)]

/-- the QoS 1 bookkeeping cancels: PUBACK filed and removed, quota taken and returned -/
theorem recordGone_pubAcked (s : Server) (i : Nat) (ack : Msg) (hfl : flGet (getObj s i) ack.id = none)
    (hq : (getObj s i).recvQuota ≠ 0) (hm : (getObj s i).recvQuota ≤ (getObj s i).maxRecv) :
    recordGone (pubAcked s i ack) i ack.id incRecv = s := by
  have hfl' : flGet { getObj s i with recvQuota := (getObj s i).recvQuota - 1 } ack.id = none := hfl
  have hinc : incRecv { getObj s i with recvQuota := (getObj s i).recvQuota - 1 } = getObj s i := by
    unfold incRecv
    rw [if_pos (show (getObj s i).recvQuota - 1 < (getObj s i).maxRecv by omega)]
    show ({ getObj s i with recvQuota := (getObj s i).recvQuota - 1 + 1 } : Client) = _
    rw [Nat.sub_add_cancel (Nat.pos_of_ne_zero hq)]
  unfold recordGone
  rw [getObj_pubAcked_fresh s i ack hq, flDelete_flSet_fresh _ ack hfl', hinc, if_pos rfl]
  unfold pubAcked
  rw [decRecv, if_pos (Nat.pos_of_ne_zero hq), flSet_new hfl', if_pos rfl, setObj_info_setObj, setObj_getObj_self]
  show ({ s with info := { s.info with inflight := s.info.inflight + 1 - 1 } } : Server) = s
  rw [show s.info.inflight + 1 - 1 = s.info.inflight by omega]

/-- no `OnPublish` hook on the topic, QoS 1 from a live network client with receive quota (within its maximum) and
    no record under the packet identifier: the PUBACK is written, then the message is routed — in the state in which
    a QoS 0 message would be -/
theorem pubGo_qos1 (s : Server) (i id : Nat) (pk : Msg) (hq : pk.qos = 1) (hmq : 1 ≤ s.caps.maximumQos)
    (hopen : (getObj s i).isOpen = true) (hpeer : (getObj s i).peerGone = false) (hin : (getObj s i).inline = false)
    (hrq : (getObj s i).recvQuota ≠ 0) (hmax : (getObj s i).recvQuota ≤ (getObj s i).maxRecv)
    (hfl : flGet (getObj s i) id = none) (hne : pk.topic ≠ []) (hhook : assocGet s.pubHook pk.topic = none) :
    pubGo s i id pk = fanRes (retainedState s pk) pk [Out.wrote (getObj s i).conn (.ack (getObj s i).ver 4 id 1)] := by
  have hobj := getObj_pubAcked_fresh (retainedState s pk) i (pubAck s 1 id) (by rw [getObj_retainedState]; exact hrq)
  rw [getObj_retainedState] at hobj
  -- the publisher as the PUBACK is written: less receive quota, one record more
  have hS : SessEq { getObj s i with recvQuota := (getObj s i).recvQuota - 1 }
      (getObj (pubAcked (retainedState s pk) i (pubAck s 1 id)) i) := hobj ▸ SessEq.flSet _ _
  have hw : writeMsg (pubAcked (retainedState s pk) i (pubAck s 1 id)) i (pubAck s 1 id) =
      [Out.wrote (getObj s i).conn (.ack (getObj s i).ver 4 id 1)] := by
    rw [writeMsg_congr _ hS.isOpen.symm hS.peerGone.symm hS.inline.symm hS.conn.symm hS.ver.symm, writeMsg_eq, hopen,
      hpeer, hin]
    rfl
  rw [pubGo_acked s i id pk (by omega) (hq ▸ hmq) hin hne hhook
      (by rw [hq]; exact dead_of_live (hS.isOpen.symm.trans hopen) (hS.peerGone.symm.trans hpeer)), hq, hw]
  show fanRes (recordGone _ i (pubAck s 1 id).id incRecv) pk _ = _
  rw [recordGone_pubAcked _ i _ (by rw [getObj_retainedState]; exact hfl) (by rw [getObj_retainedState]; exact hrq)
    (by rw [getObj_retainedState]; exact hmax)]

/-- **QoS 1, in plain terms.**  An accepted QoS 1 publish of a live network client whose receive quota is
    within its maximum: the PUBACK (reason code from `QosCodes[1]`) is written to the publisher, then the message is
    routed by `publishToSubscribers` — in the SAME state as for QoS 0 (the retained store updated): filing and
    removing the PUBACK record and taking and returning the receive quota cancel.  Extra hypotheses: the broker grants
    QoS 1 (`maximumQos ≥ 1`, else the message is downgraded to QoS 0) and the publisher's connection is alive (else the
    handler's own write fails and nothing is routed). -/
theorem processPublish_accepted_qos1 (s : Server) (i : Nat) (dup retain : Bool) (id : Nat) (topic payload : Str)
    (me : Nat)
    (hopen : (getObj s i).isOpen = true) (hpeer : (getObj s i).peerGone = false)
    (hin : (getObj s i).inline = false) (hv : isValidFilter topic true = true)
    (hrq : (getObj s i).recvQuota ≠ 0) (hmax : (getObj s i).recvQuota ≤ (getObj s i).maxRecv)
    (hacl : aclOk s (getObj s i).id topic true = true)
    (hfl : flGet (getObj s i) id = none) (hne : topic ≠ [])
    (hhook : assocGet s.pubHook topic = none) (hmq : 1 ≤ s.caps.maximumQos) :
    processPublish s i 1 dup retain id topic payload me none =
      ((publishToSubscribers (retainedState s (inboundMsg s i 1 dup retain id topic payload me))
          (inboundMsg s i 1 dup retain id topic payload me)).1,
       [Out.wrote (getObj s i).conn (.ack (getObj s i).ver 4 id 1)] ++
       (publishToSubscribers (retainedState s (inboundMsg s i 1 dup retain id topic payload me))
          (inboundMsg s i 1 dup retain id topic payload me)).2, none) := by
  rw [processPublish_plain _ _ _ _ _ _ _ _ _ (.of_gates hv hrq hacl (fun m h => by rw [hfl] at h; cases h))
    (by rw [hfl]; exact Bool.and_false _), pubGo_qos1 s i id _ rfl hmq hopen hpeer hin hrq hmax hfl hne hhook]
  rfl

/-! ### a QoS 0 delivery files nothing: in-flight records and send quota of every object are kept -/

theorem publishToClientCore_q0_keep (s : Server) (i : Nat) (sub : Sub) (f : Bool) (pk : Msg)
    (hq : pk.qos = 0 ∨ sub.qos = 0) (k : Nat) :
    (getObj (publishToClientCore s i sub f pk).1 k).inflight = (getObj s k).inflight ∧
    (getObj (publishToClientCore s i sub f pk).1 k).sendQuota = (getObj s k).sendQuota := by
  have hz : ¬ (coreOut s.caps (getObj s i) sub f pk).qos > 0 := by
    rw [coreOut_qos, shapeQos_zero_of s.caps sub pk.qos hq]; exact Nat.lt_irrefl 0
  refine publishToClientCore_cases
    (Q := fun r => (getObj r.1 k).inflight = (getObj s k).inflight ∧ (getObj r.1 k).sendQuota = (getObj s k).sendQuota)
    s i sub f pk rfl rfl (fun _ => ?_) (fun h => absurd h hz) (fun h => absurd h hz) (fun _ h => absurd h hz)
    (fun _ h => absurd h hz)
  -- the only exit left: the object is written back with its outbound alias table changed, nothing else
  obtain ⟨ao, cur, e⟩ := coreClient_eq (getObj s i) pk.topic
  exact getObj_setObj_ind (P := fun z => z.inflight = (getObj s k).inflight ∧ z.sendQuota = (getObj s k).sendQuota) s i _ k
    ⟨rfl, rfl⟩ fun hk => by subst hk; rw [e]; exact ⟨rfl, rfl⟩

theorem publishToClient_q0_keep (s : Server) (i : Nat) (sub : Sub) (f : Bool) (pk : Msg)
    (hq : pk.qos = 0 ∨ sub.qos = 0) (k : Nat) :
    (getObj (publishToClient s i sub f pk).1 k).inflight = (getObj s k).inflight ∧
    (getObj (publishToClient s i sub f pk).1 k).sendQuota = (getObj s k).sendQuota := by
  rw [publishToClient_passes]
  split
  · exact publishToClientCore_q0_keep s i sub f pk hq k
  · exact ⟨rfl, rfl⟩

theorem fold_q0_keep (pk : Msg) (L : List (Str × Sub)) (hq : pk.qos = 0 ∨ ∀ cs ∈ L, cs.2.qos = 0) (k : Nat) :
    ∀ acc : Server × List Out,
      (getObj (L.foldl (deliverStep pk) acc).1 k).inflight = (getObj acc.1 k).inflight ∧
      (getObj (L.foldl (deliverStep pk) acc).1 k).sendQuota = (getObj acc.1 k).sendQuota := by
  intro acc
  refine List.foldlRecOn L _ (motive := fun r : Server × List Out =>
    (getObj r.1 k).inflight = (getObj acc.1 k).inflight ∧ (getObj r.1 k).sendQuota = (getObj acc.1 k).sendQuota)
    ⟨rfl, rfl⟩ (fun r h cs hcs => ?_)
  unfold deliverStep
  split
  · exact h
  · rename_i j _
    obtain ⟨a, b⟩ := publishToClient_q0_keep r.1 j cs.2 false pk (hq.imp id (fun h => h cs hcs)) k
    exact ⟨a.trans h.1, b.trans h.2⟩

/-- a QoS 0 message (or every entry of the subscriber map, selected shared members included, is QoS 0):
    `publishToSubscribers` leaves the in-flight records and the send quota of every client object alone -/
theorem publishToSubscribers_q0_keep_shared (s : Server) (pk : Msg) (hig : pk.ignore = false)
    (hq : pk.qos = 0 ∨ ∀ cs ∈ subsMapOf s pk.topic, cs.2.qos = 0) (k : Nat) :
    (getObj (publishToSubscribers s pk).1 k).inflight = (getObj s k).inflight ∧
    (getObj (publishToSubscribers s pk).1 k).sendQuota = (getObj s k).sendQuota := by
  rw [publishToSubscribers_eq_fold_shared s pk hig]
  exact fold_q0_keep (stamped s pk) _ (hq.imp (fun h => (stamped_fields s pk).2.2.1.trans h) id) k _

/-! ### the tail of `processPacket`: the release of a deferred message

After the packet's handler (and after the harness's barrier PINGREQ) `nextImmediate` releases at most one message:
one of the client's own in-flight messages that was DEFERRED (`expiry < 0`: queued by `publishToClientCore` when the
send quota was exhausted), and only if the client has send quota; it is written to the client's connection. -/

theorem nextImmediate_none (s : Server) (i : Nat) (h : ∀ m ∈ (getObj s i).inflight, 0 ≤ m.expiry) :
    nextImmediate s i = (s, []) := by
  refine nextImmediate_cases (Q := (· = (s, []))) s i rfl (fun m _ hm => ?_)
  have hmem := List.mem_filter.mp (mem_permuteBy _ _ _ (List.mem_of_mem_head? hm))
  exact absurd (h m hmem.1) (Int.not_le.mpr (of_decide_eq_true hmem.2))

theorem nextImmediate_out (s : Server) (i : Nat) :
    (nextImmediate s i).2 = [] ∨
    ((getObj s i).sendQuota > 0 ∧ ∃ m ∈ (getObj s i).inflight, m.expiry < 0 ∧ (nextImmediate s i).2 = writeMsg s i m) := by
  refine nextImmediate_cases (Q := fun r => r.2 = [] ∨
      ((getObj s i).sendQuota > 0 ∧ ∃ m ∈ (getObj s i).inflight, m.expiry < 0 ∧ r.2 = writeMsg s i m))
    s i (Or.inl rfl) (fun m hq hm => ?_)
  have hmem := List.mem_filter.mp (mem_permuteBy _ _ _ (List.mem_of_mem_head? hm))
  exact Or.inr ⟨hq, m, hmem.1, of_decide_eq_true hmem.2, rfl⟩

/-- what the acting client's object looks like to a write after a release: connection, liveness, version kept; the
    in-flight records and the send quota only shrink -/
structure AfterRelease (a b : Client) : Prop where
  isOpen : b.isOpen = a.isOpen
  peerGone : b.peerGone = a.peerGone
  inline : b.inline = a.inline
  conn : b.conn = a.conn
  ver : b.ver = a.ver
  quota : b.sendQuota ≤ a.sendQuota
  infl : ∀ m ∈ b.inflight, m ∈ a.inflight

theorem AfterRelease.refl (a : Client) : AfterRelease a a := ⟨rfl, rfl, rfl, rfl, rfl, Nat.le_refl _, fun _ h => h⟩

theorem nextImmediate_after (s : Server) (i : Nat) : AfterRelease (getObj s i) (getObj (nextImmediate s i).1 i) := by
  refine nextImmediate_cases (Q := fun r => AfterRelease (getObj s i) (getObj r.1 i)) s i (AfterRelease.refl _)
    (fun m _ _ => ?_)
  show AfterRelease (getObj s i)
    (getObj (setObj { s with nextSeed := s.nextSeed / 64 } i (decSend (flDelete (getObj s i) m.id).1)) i)
  refine getObj_setObj_ind (P := AfterRelease (getObj s i)) _ i _ i (AfterRelease.refl _) fun _ => ?_
  unfold decSend flDelete
  refine iteInduction (motive := AfterRelease (getObj s i)) (fun _ => ?_) (fun _ => ?_)
  · exact ⟨rfl, rfl, rfl, rfl, rfl, Nat.sub_le _ _, fun x hx => (List.mem_filter.mp hx).1⟩
  · exact ⟨rfl, rfl, rfl, rfl, rfl, Nat.le_refl _, fun x hx => (List.mem_filter.mp hx).1⟩

/-- an output of a release is a PUBLISH or an ack (not the barrier's PINGRESP) -/
theorem nextImmediate_out_shape (s : Server) (i : Nat) : ∀ x ∈ (nextImmediate s i).2,
    (∃ n ver m me, x = Out.wrote n (.publish ver m me)) ∨ (∃ n ver t id rc, x = Out.wrote n (.ack ver t id rc)) := by
  intro x hx
  rcases nextImmediate_out s i with h | ⟨_, m, _, _, h⟩
  · rw [h] at hx; cases hx
  · rw [h, writeMsg_eq] at hx
    by_cases hl : ((getObj s i).isOpen && !(getObj s i).inline && !(getObj s i).peerGone) = true
    · rw [if_pos hl, List.mem_singleton] at hx
      rw [hx]
      by_cases ht : (m.type == 3) = true
      · rw [if_pos ht]; exact Or.inl ⟨_, _, _, _, rfl⟩
      · rw [if_neg ht]; exact Or.inr ⟨_, _, _, _, _, rfl⟩
    · rw [if_neg hl] at hx; cases hx

theorem AfterRelease.trans {a b c : Client} (h : AfterRelease a b) (g : AfterRelease b c) : AfterRelease a c :=
  ⟨g.isOpen.trans h.isOpen, g.peerGone.trans h.peerGone, g.inline.trans h.inline, g.conn.trans h.conn,
    g.ver.trans h.ver, Nat.le_trans g.quota h.quota, fun m hm => h.infl m (g.infl m hm)⟩

/-- a release in a state `t` whose object `i` is what a release could have left of that of `s`, in terms of `s` -/
theorem nextImmediate_out_of {s t : Server} {i : Nat} (h : AfterRelease (getObj s i) (getObj t i)) :
    (nextImmediate t i).2.length ≤ 1 ∧ ∀ x ∈ (nextImmediate t i).2,
      (getObj s i).sendQuota > 0 ∧ ∃ m ∈ (getObj s i).inflight, m.expiry < 0 ∧ x ∈ writeMsg s i m := by
  rcases nextImmediate_out t i with e | ⟨q, m, hm, he, e⟩ <;> rw [e]
  · exact ⟨Nat.zero_le _, fun x hx => nomatch hx⟩
  · rw [writeMsg_congr m h.isOpen h.peerGone h.inline h.conn h.ver]
    exact ⟨writeMsg_length_le_one s i m, fun x hx => ⟨Nat.lt_of_lt_of_le q h.quota, m, h.infl m hm, he, hx⟩⟩

/-! ### the op -/

theorem isValidFilter_pub_no_wild (topic : Str) (hv : isValidFilter topic true = true) :
    (topic.contains plus || topic.contains hash) = false := by
  cases h : (topic.contains plus || topic.contains hash)
  · rfl
  · unfold isValidFilter at hv
    simp at hv h
    rcases h with h | h
    · exact absurd h hv.2.1
    · exact absurd h hv.2.2

theorem publishValidate_none (s : Server) (qos id : Nat) (topic : Str) (hid : qos = 0 ↔ id = 0)
    (hw : (topic.contains plus || topic.contains hash) = false) (hne : topic ≠ []) :
    publishValidate s qos id topic none = none := by
  have h1 : (decide (qos > 0) && id == 0) = false := by
    by_cases h : id = 0
    · rw [hid.mpr h]; rfl
    · rw [beq_eq_false_iff_ne.mpr h, Bool.and_false]
  have h2 : (qos == 0 && decide (id > 0)) = false := by
    by_cases h : qos = 0
    · rw [hid.mp h]; exact Bool.and_false _
    · rw [beq_eq_false_iff_ne.mpr h]; rfl
  unfold publishValidate
  rw [h1, h2, hw, List.isEmpty_eq_false_iff.mpr hne]
  rfl

theorem publishValidate_accepted (s : Server) (topic : Str) (hv : isValidFilter topic true = true) (hne : topic ≠ []) :
    publishValidate s 0 0 topic none = none :=
  publishValidate_none s 0 0 topic Iff.rfl (isValidFilter_pub_no_wild topic hv) hne

/-- the gates an inbound QoS 0 PUBLISH of client object `i` has to pass to be routed: all decidable, all on the
    state before the op -/
structure PublishGates (s : Server) (i : Nat) (topic : Str) : Prop where
  /-- the client is a network client whose connection is alive -/
  isOpen : (getObj s i).isOpen = true
  peer : (getObj s i).peerGone = false
  notInline : (getObj s i).inline = false
  /-- `IsValidFilter(topic, true)`: no wildcard, not `$SYS/…`; the topic is not empty (no alias) -/
  valid : isValidFilter topic true = true
  nonempty : topic ≠ []
  /-- receive quota left (else: DISCONNECT 0x93) -/
  quota : (getObj s i).recvQuota ≠ 0
  /-- write permission on the topic (else: silently dropped) -/
  acl : aclOk s (getObj s i).id topic true = true
  /-- no in-flight record under packet id 0 -/
  noRecord : flGet (getObj s i) 0 = none
  /-- `OnPublish` hook mode of the topic: none -/
  hook : assocGet s.pubHook topic = none

/-- the hypotheses under which an inbound QoS 0 PUBLISH of client object `i` is ACCEPTED and nothing else happens
    in the op: the gates, and the publisher itself holds no deferred in-flight message (`nextImmediate` would release
    one, to the publisher) -/
structure AcceptedQ0 (s : Server) (i : Nat) (topic : Str) : Prop extends PublishGates s i topic where
  noDeferred : ∀ m ∈ (getObj s i).inflight, 0 ≤ m.expiry

theorem receivePacket_pingreq_live (s : Server) (i : Nat) (ho : (getObj s i).isOpen = true)
    (hp : (getObj s i).peerGone = false) :
    receivePacket s i .pingreq =
      ((nextImmediate s i).1, [.wrote (getObj s i).conn .pingresp] ++ (nextImmediate s i).2, none) := by
  unfold receivePacket
  simp only [dead_of_live ho hp, Bool.not_false, if_true]

theorem receivePacket_pingreq_quiet (s : Server) (i : Nat) (ho : (getObj s i).isOpen = true)
    (hp : (getObj s i).peerGone = false) (hd : ∀ m ∈ (getObj s i).inflight, 0 ≤ m.expiry) :
    receivePacket s i .pingreq = (s, [.wrote (getObj s i).conn .pingresp], none) := by
  rw [receivePacket_pingreq_live s i ho hp, nextImmediate_none s i hd]; rfl

theorem receivePacket_publish_ok {s : Server} {i q : Nat} {d r : Bool} {id : Nat} {t p : Str} {me : Nat}
    {al : Option Nat} {s1 : Server} {o : List Out} (hv : publishValidate s q id t al = none)
    (hp : processPublish s i q d r id t p me al = (s1, o, none)) :
    receivePacket s i (.publish q d r id t p me al) = ((nextImmediate s1 i).1, o ++ (nextImmediate s1 i).2, none) := by
  unfold receivePacket
  simp only [hv, hp]

/-- an op whose packet is handled without error on a connection that is alive afterwards: the outputs of the packet,
    then what the release after the harness's barrier PINGREQ writes (the PINGRESP itself is not recorded) -/
theorem step_recv_ok (s : Server) (conn i : Nat) (pk : InPk) (s1 : Server) (o : List Out)
    (hc : assocGet s.connOf conn = some i) (ho : (getObj s i).isOpen = true)
    (hr : receivePacket s i pk = (s1, o, none)) (ho1 : (getObj s1 i).isOpen = true)
    (hp1 : (getObj s1 i).peerGone = false) :
    step s (.recv conn pk) = ((nextImmediate s1 i).1, o ++ (nextImmediate s1 i).2) := by
  rw [step]
  unfold recvOn
  simp only [hc, ho, hr, ho1, receivePacket_pingreq_live s1 i ho1 hp1, Bool.not_true, Bool.false_eq_true, if_false,
    if_true, List.filter_cons, List.filter_append, List.filter_nil, List.nil_append]
  rw [List.filter_eq_self.mpr]
  intro x hx
  rcases nextImmediate_out_shape _ i x hx with ⟨_, _, _, _, e⟩ | ⟨_, _, _, _, _, e⟩ <;> rw [e]

/-! ### an accepted PUBLISH, whatever its QoS: the answer, ONE routing call, the releases -/

/-- the handler of the PUBLISH `(q, d, r, id, topic, payload, me)` of client object `i` answers the publisher with `ack`
    (acknowledgements only) and routes the message `m` ONCE, by `publishToSubscribers` in the state `t`, in which the
    publisher's connection looks as in `s`.  The accepted publishes of QoS 0, 1 and 2 and the inline publish are its
    instances (`PublishGates.routed`, `O12q.AcceptedQ1.routed`, `AcceptedQ2.routed`, `AcceptedInline.routed`). -/
structure Routed (s : Server) (i q : Nat) (d r : Bool) (id : Nat) (topic payload : Str) (me : Nat) (t : Server)
    (m : Msg) (ack : List Out) : Prop where
  valid : publishValidate s q id topic none = none
  handler : processPublish s i q d r id topic payload me none =
    ((publishToSubscribers t m).1, ack ++ (publishToSubscribers t m).2, none)
  live : LiveEq (getObj s i) (getObj t i)
  ackOnly : ∀ x ∈ ack, ∃ ver ty id rc, x = Out.wrote (getObj s i).conn (.ack ver ty id rc)

namespace Routed
variable {s : Server} {i q : Nat} {d r : Bool} {id : Nat} {topic payload : Str} {me : Nat} {t : Server} {m : Msg}
  {ack : List Out}

theorem routedLive (R : Routed s i q d r id topic payload me t m ack) :
    LiveEq (getObj s i) (getObj (publishToSubscribers t m).1 i) :=
  R.live.trans ((publishToSubscribers_deliv _ _).all i).live

theorem receive (R : Routed s i q d r id topic payload me t m ack) :
    receivePacket s i (.publish q d r id topic payload me none) =
      ((nextImmediate (publishToSubscribers t m).1 i).1,
       ack ++ (publishToSubscribers t m).2 ++ (nextImmediate (publishToSubscribers t m).1 i).2, none) :=
  receivePacket_publish_ok R.valid R.handler

/-- **the op** of a network client whose connection is alive: the answer to the publisher, the ONE routing call, two
    releases for the publisher (`nextImmediate` after the PUBLISH and after the harness's barrier PINGREQ) -/
theorem step (R : Routed s i q d r id topic payload me t m ack) (conn : Nat) (hc : assocGet s.connOf conn = some i)
    (ho : (getObj s i).isOpen = true) (hp : (getObj s i).peerGone = false) :
    Mochi.Broker.step s (.recv conn (.publish q d r id topic payload me none)) =
      ((nextImmediate (nextImmediate (publishToSubscribers t m).1 i).1 i).1,
       ack ++ (publishToSubscribers t m).2 ++ (nextImmediate (publishToSubscribers t m).1 i).2 ++
       (nextImmediate (nextImmediate (publishToSubscribers t m).1 i).1 i).2) := by
  have L := R.routedLive
  have ha := nextImmediate_after (publishToSubscribers t m).1 i
  exact step_recv_ok s conn i _ _ _ hc ho R.receive ((ha.isOpen.trans L.isOpen).trans ho)
    ((ha.peerGone.trans L.peerGone).trans hp)

end Routed

theorem PublishGates.routed {s : Server} {i : Nat} {topic : Str} (h : PublishGates s i topic) (d r : Bool)
    (payload : Str) (me : Nat) :
    Routed s i 0 d r 0 topic payload me (retainedState s (inboundMsg s i 0 d r 0 topic payload me))
      (inboundMsg s i 0 d r 0 topic payload me) [] where
  valid := publishValidate_none s 0 0 topic Iff.rfl (isValidFilter_pub_no_wild topic h.valid) h.nonempty
  handler := (processPublish_accepted_shape s i d r 0 topic payload me h.notInline h.valid h.quota h.acl h.noRecord
    h.nonempty h.hook).trans (by rw [List.nil_append])
  live := by rw [getObj_retainedState]; exact LiveEq.refl _
  ackOnly := fun _ hx => nomatch hx

/-- the gates an inbound QoS 1 PUBLISH with packet identifier `id` of client object `i` has to pass to be accepted
    (all decidable, all on the state before the op): `PublishGates` for an arbitrary non-zero identifier, and the
    broker grants QoS 1 — the hypotheses of `processPublish_accepted_qos1` (the bound `recvQuota ≤ maxRecv` of that
    theorem is part of `WF`) -/
structure O12q.AcceptedQ1 (s : Server) (i id : Nat) (topic : Str) : Prop where
  /-- the client is a network client whose connection is alive -/
  isOpen : (getObj s i).isOpen = true
  peer : (getObj s i).peerGone = false
  notInline : (getObj s i).inline = false
  /-- `IsValidFilter(topic, true)`: no wildcard, not `$SYS/…`; the topic is not empty (no alias) -/
  valid : isValidFilter topic true = true
  nonempty : topic ≠ []
  /-- a QoS 1 PUBLISH carries a packet identifier (else: protocol error 0x82) -/
  idpos : id ≠ 0
  /-- receive quota left (else: DISCONNECT 0x93) -/
  quota : (getObj s i).recvQuota ≠ 0
  /-- write permission on the topic (else: PUBACK 0x87 / DISCONNECT) -/
  acl : aclOk s (getObj s i).id topic true = true
  /-- no in-flight record under the packet identifier -/
  noRecord : flGet (getObj s i) id = none
  /-- `OnPublish` hook mode of the topic: none -/
  hook : assocGet s.pubHook topic = none
  /-- the broker grants QoS 1 (else the message is downgraded to QoS 0 and not acknowledged) -/
  maxQos : 1 ≤ s.caps.maximumQos

theorem O12q.AcceptedQ1.routed {s : Server} {i id : Nat} {topic : Str} (h : O12q.AcceptedQ1 s i id topic) (hw : WF s)
    (d r : Bool) (payload : Str) (me : Nat) :
    Routed s i 1 d r id topic payload me (retainedState s (inboundMsg s i 1 d r id topic payload me))
      (inboundMsg s i 1 d r id topic payload me) [Out.wrote (getObj s i).conn (.ack (getObj s i).ver 4 id 1)] where
  valid := publishValidate_none s 1 id topic ⟨fun e => absurd e (by decide), fun e => absurd e h.idpos⟩
    (isValidFilter_pub_no_wild topic h.valid) h.nonempty
  handler := processPublish_accepted_qos1 s i d r id topic payload me h.isOpen h.peer h.notInline h.valid h.quota
    (hw.allWF i).recv_le h.acl h.noRecord h.nonempty h.hook h.maxQos
  live := by rw [getObj_retainedState]; exact LiveEq.refl _
  ackOnly := fun _ hx => ⟨_, _, _, _, List.mem_singleton.mp hx⟩

/-- two releases for the publisher follow the routing: `nextImmediate` after the PUBLISH and after the barrier PINGREQ -/
theorem step_recv_publish_outputs (s : Server) (conn i : Nat) (dup retain : Bool) (topic payload : Str) (me : Nat)
    (hc : assocGet s.connOf conn = some i) (h : PublishGates s i topic) :
    step s (.recv conn (.publish 0 dup retain 0 topic payload me none)) =
      ((nextImmediate (nextImmediate (publishToSubscribers (retainedState s (inboundMsg s i 0 dup retain 0 topic payload me))
        (inboundMsg s i 0 dup retain 0 topic payload me)).1 i).1 i).1,
      (publishToSubscribers (retainedState s (inboundMsg s i 0 dup retain 0 topic payload me))
        (inboundMsg s i 0 dup retain 0 topic payload me)).2 ++
      (nextImmediate (publishToSubscribers (retainedState s (inboundMsg s i 0 dup retain 0 topic payload me))
        (inboundMsg s i 0 dup retain 0 topic payload me)).1 i).2 ++
      (nextImmediate (nextImmediate (publishToSubscribers (retainedState s (inboundMsg s i 0 dup retain 0 topic payload me))
        (inboundMsg s i 0 dup retain 0 topic payload me)).1 i).1 i).2) := by
  have e := (h.routed dup retain payload me).step conn hc h.isOpen h.peer
  rwa [List.nil_append] at e

/-- an accepted QoS 0 PUBLISH is its routing, shared subscriptions or not -/
theorem step_recv_publish_accepted_shared (s : Server) (conn i : Nat) (dup retain : Bool) (topic payload : Str)
    (me : Nat) (hc : assocGet s.connOf conn = some i) (h : AcceptedQ0 s i topic) :
    step s (.recv conn (.publish 0 dup retain 0 topic payload me none)) =
      publishToSubscribers (retainedState s (inboundMsg s i 0 dup retain 0 topic payload me))
        (inboundMsg s i 0 dup retain 0 topic payload me) := by
  -- the routing files nothing for the publisher, so it still has no deferred message: both releases are idle
  have hn := nextImmediate_none (publishToSubscribers (retainedState s (inboundMsg s i 0 dup retain 0 topic payload me))
    (inboundMsg s i 0 dup retain 0 topic payload me)).1 i (by
      rw [(publishToSubscribers_q0_keep_shared _ _ rfl (Or.inl rfl) i).1, getObj_retainedState]; exact h.noDeferred)
  rw [step_recv_publish_outputs s conn i dup retain topic payload me hc h.toPublishGates, hn, hn, List.append_nil,
    List.append_nil]

/-- `step_recv_publish_accepted_shared` in the form the delivery theorems cite (the proof does not use `hsh`) -/
theorem step_recv_publish_accepted (s : Server) (conn i : Nat) (dup retain : Bool) (topic payload : Str) (me : Nat)
    (hc : assocGet s.connOf conn = some i) (h : AcceptedQ0 s i topic)
    (hsh : (subscribers (retainedState s (inboundMsg s i 0 dup retain 0 topic payload me)).topics topic).shared = []) :
    step s (.recv conn (.publish 0 dup retain 0 topic payload me none)) =
      publishToSubscribers (retainedState s (inboundMsg s i 0 dup retain 0 topic payload me))
        (inboundMsg s i 0 dup retain 0 topic payload me) :=
  step_recv_publish_accepted_shared s conn i dup retain topic payload me hc h

/-- **what else the op can write, precisely.**  Every output of the op that does not come from
    `publishToSubscribers` is the release of a deferred message of the PUBLISHER: the publisher has send quota and
    holds (in the state before the op — when the message is QoS 0 after shaping its own in-flight records are not
    touched by the routing) an in-flight message `m` with `expiry < 0`, and the output is what `writeMsg` writes for
    `m` on the publisher's connection.  There are at most two such outputs. -/
theorem step_recv_publish_releases (s : Server) (conn i : Nat) (dup retain : Bool) (topic payload : Str) (me : Nat)
    (hc : assocGet s.connOf conn = some i) (h : PublishGates s i topic) :
    ∃ r, (step s (.recv conn (.publish 0 dup retain 0 topic payload me none))).2 =
        (publishToSubscribers (retainedState s (inboundMsg s i 0 dup retain 0 topic payload me))
          (inboundMsg s i 0 dup retain 0 topic payload me)).2 ++ r ∧ r.length ≤ 2 ∧
      ∀ x ∈ r, (getObj s i).sendQuota > 0 ∧ ∃ m ∈ (getObj s i).inflight, m.expiry < 0 ∧ x ∈ writeMsg s i m := by
  have hk := publishToSubscribers_q0_keep_shared (retainedState s (inboundMsg s i 0 dup retain 0 topic payload me))
    (inboundMsg s i 0 dup retain 0 topic payload me) rfl (Or.inl rfl) i
  have hd := (publishToSubscribers_deliv (retainedState s (inboundMsg s i 0 dup retain 0 topic payload me))
    (inboundMsg s i 0 dup retain 0 topic payload me)).all i
  rw [getObj_retainedState] at hk hd
  -- the publisher's object after the routing, and after the first release
  have h1 : AfterRelease (getObj s i) (getObj (publishToSubscribers (retainedState s
      (inboundMsg s i 0 dup retain 0 topic payload me)) (inboundMsg s i 0 dup retain 0 topic payload me)).1 i) :=
    ⟨hd.isOpen.symm, hd.peerGone.symm, hd.inline.symm, hd.conn.symm, hd.ver.symm, Nat.le_of_eq hk.2,
      fun m hm => hk.1 ▸ hm⟩
  obtain ⟨l1, r1⟩ := nextImmediate_out_of h1
  obtain ⟨l2, r2⟩ := nextImmediate_out_of (h1.trans (nextImmediate_after _ i))
  exact ⟨_, by rw [step_recv_publish_outputs s conn i dup retain topic payload me hc h]; exact List.append_assoc _ _ _,
    by rw [List.length_append]; omega, fun x hx => (List.mem_append.mp hx).elim (r1 x) (r2 x)⟩

/-! ### the state with the retained store updated: same tables, same entitlement -/

theorem retainedState_aclDeny (s : Server) (pk : Msg) : (retainedState s pk).aclDeny = s.aclDeny := by
  unfold retainedState retainMsg
  split
  · split <;> rfl
  · rfl

/-- the three invariants of the delivery theorem hold in the state in which the accepted publish is routed -/
theorem retainedState_inv {s : Server} (pk : Msg) (hs : SyncInv s) (hw : WF s) (hcm : ConnMap s) :
    SyncInv (retainedState s pk) ∧ WF (retainedState s pk) ∧ ConnMap (retainedState s pk) := by
  exact ⟨hs.of_quiet (retainedState_quiet s pk), retainedState_wf s pk hw,
    hcm.of_ck (CK.of_objs (retainedState_objs s pk) (retainedState_quiet s pk).connOf)⟩

theorem subscribers_retainedState (s : Server) (pk0 : Msg) (hx : IdxOK s.topics) (topic : Str) :
    subscribers (retainedState s pk0).topics topic = subscribers s.topics topic := by
  unfold retainedState retainMsg
  split
  · split
    · rfl
    · exact subscribers_retainMessage s.topics hx _ _ _ topic
  · rfl

theorem retainedState_shared (s : Server) (pk0 : Msg) (hx : IdxOK s.topics) (topic : Str) :
    (subscribers (retainedState s pk0).topics topic).shared = [] ↔ (subscribers s.topics topic).shared = [] := by
  rw [subscribers_retainedState s pk0 hx]

theorem matchingSub_congr {x y : Index} (hp : ∀ q c, plainAt y q c = plainAt x q c) (topic c : Str) (sub : Sub) :
    MatchingSub y topic c sub ↔ MatchingSub x topic c sub := by
  unfold MatchingSub; rw [hp]

theorem aclOk_congr {s s' : Server} (ha : s'.aclDeny = s.aclDeny) (cid topic : Str) (w : Bool) :
    aclOk s' cid topic w = aclOk s cid topic w := by
  unfold aclOk; rw [ha]

/-- entitlement reads `objs`, `clients`, `aclDeny` and the plain subscriptions of the index: nothing else -/
theorem entitledF03_retainedState (s : Server) (pk0 pk : Msg) (n : Nat) :
    EntitledF03 (retainedState s pk0) pk n ↔ EntitledF03 s pk n := by
  unfold EntitledF03
  simp only [(retainedState_quiet s pk0).clients, getObj_retainedState, aclOk_congr (retainedState_aclDeny s pk0),
    matchingSub_congr (retainedState_quiet s pk0).plain]

theorem entitledSession_retainedState (s : Server) (pk0 pk : Msg) (n : Nat) :
    EntitledSession (retainedState s pk0) pk n ↔ EntitledSession s pk n := by
  unfold EntitledSession
  simp only [(retainedState_quiet s pk0).clients, getObj_retainedState, aclOk_congr (retainedState_aclDeny s pk0),
    matchingSub_congr (retainedState_quiet s pk0).plain]

theorem no_hash_level_of_noWild (topic : Str) (hw : (topic.contains plus || topic.contains hash) = false) :
    ∀ t ∈ splitLevels topic, t ≠ [hash] := by
  intro t ht e
  have : hash ∈ topic := mem_splitLevels topic t ht hash (by rw [e]; exact List.mem_singleton.mpr rfl)
  simp at hw
  exact hw.2 this

theorem no_hash_level (topic : Str) (hv : isValidFilter topic true = true) : ∀ t ∈ splitLevels topic, t ≠ [hash] :=
  no_hash_level_of_noWild topic (isValidFilter_pub_no_wild topic hv)

/-! ### the inline API: `Server.Publish` -/

/-- the message an inline publish routes: built by `processPublish` for the inline client (object 0; the packet id of
    the model's inline packet is its QoS), QoS capped at the broker's maximum -/
def inlineMsg (s : Server) (topic payload : Str) (retain : Bool) (qos : Nat) : Msg :=
  inboundMsg s 0 (if qos > s.caps.maximumQos then s.caps.maximumQos else qos) false retain qos topic payload 0

/-- the hypotheses under which an inline publish is routed and nothing else happens in the op.  The inline client
    passes the topic-validity and write-ACL gates of `processPublish` unexamined; `PublishValidate` (no wildcard, no
    empty topic) and the receive-quota test apply to it as to everyone. -/
structure AcceptedInline (s : Server) (topic : Str) : Prop where
  /-- object 0 is the inline client (`init`; kept by every op) -/
  inline0 : (getObj s 0).inline = true
  noWild : (topic.contains plus || topic.contains hash) = false
  nonempty : topic ≠ []
  /-- the inline client's receive quota (2147483647 at `init`, never taken: its publishes are routed at once) -/
  quota : (getObj s 0).recvQuota ≠ 0
  hook : assocGet s.pubHook topic = none
  noDeferred : ∀ m ∈ (getObj s 0).inflight, 0 ≤ m.expiry

theorem processPublish_inline_shape (s : Server) (topic payload : Str) (retain : Bool) (qos : Nat)
    (h : AcceptedInline s topic) :
    processPublish s 0 qos false retain qos topic payload 0 none =
      ((publishToSubscribers (retainedState s (inlineMsg s topic payload retain qos))
          (inlineMsg s topic payload retain qos)).1,
       (publishToSubscribers (retainedState s (inlineMsg s topic payload retain qos))
          (inlineMsg s topic payload retain qos)).2, none) := by
  rw [processPublish_plain _ _ _ _ _ _ _ _ _ (.of_inline h.inline0 h.quota) (by rw [h.inline0]; rfl),
    pubGo_fanout s 0 qos _ (by rw [h.inline0]; rfl) h.hook (by rw [h.inline0]; exact Bool.or_true _),
    pubShaped_no_hook _ _ h.hook]
  rfl

theorem publishValidate_inline (s : Server) (topic : Str) (qos : Nat)
    (hw : (topic.contains plus || topic.contains hash) = false) (hne : topic ≠ []) :
    publishValidate s qos qos topic none = none :=
  publishValidate_none s qos qos topic Iff.rfl hw hne

theorem inlineMsg_fields (s : Server) (topic payload : Str) (retain : Bool) (qos : Nat) :
    (inlineMsg s topic payload retain qos).topic = topic ∧ (inlineMsg s topic payload retain qos).payload = payload ∧
    (inlineMsg s topic payload retain qos).type = 3 ∧ (inlineMsg s topic payload retain qos).ignore = false ∧
    (inlineMsg s topic payload retain qos).origin = (getObj s 0).id ∧
    (qos = 0 → (inlineMsg s topic payload retain qos).qos = 0) := by
  refine ⟨rfl, rfl, rfl, rfl, rfl, fun h => ?_⟩
  subst h
  show (if 0 > s.caps.maximumQos then s.caps.maximumQos else 0) = 0
  rw [if_neg (Nat.not_lt_zero _)]

theorem AcceptedInline.routed {s : Server} {topic : Str} (h : AcceptedInline s topic) (payload : Str) (retain : Bool)
    (qos : Nat) :
    Routed s 0 qos false retain qos topic payload 0 (retainedState s (inlineMsg s topic payload retain qos))
      (inlineMsg s topic payload retain qos) [] where
  valid := publishValidate_inline s topic qos h.noWild h.nonempty
  handler := (processPublish_inline_shape s topic payload retain qos h).trans (by rw [List.nil_append])
  live := by rw [getObj_retainedState]; exact LiveEq.refl _
  ackOnly := fun _ hx => nomatch hx

/-- an accepted inline publish that is QoS 0 after shaping is its routing, shared subscriptions or not -/
theorem step_inlinePublish_accepted_shared (s : Server) (topic payload : Str) (retain : Bool) (qos : Nat)
    (h : AcceptedInline s topic)
    (hq : (inlineMsg s topic payload retain qos).qos = 0 ∨
      ∀ cs ∈ subsMapOf (retainedState s (inlineMsg s topic payload retain qos)) topic, cs.2.qos = 0) :
    step s (.inlinePublish topic payload retain qos) =
      publishToSubscribers (retainedState s (inlineMsg s topic payload retain qos))
        (inlineMsg s topic payload retain qos) := by
  have hn := nextImmediate_none (publishToSubscribers (retainedState s (inlineMsg s topic payload retain qos))
    (inlineMsg s topic payload retain qos)).1 0 (by
      rw [(publishToSubscribers_q0_keep_shared _ _ rfl hq 0).1, getObj_retainedState]; exact h.noDeferred)
  rw [step, (h.routed payload retain qos).receive, hn, List.append_nil, List.nil_append]

/-- with no shared subscription matching the topic the subscriber map `hq` speaks of is the `subs` of the index's answer -/
theorem step_inlinePublish_accepted (s : Server) (topic payload : Str) (retain : Bool) (qos : Nat)
    (h : AcceptedInline s topic)
    (hq : (inlineMsg s topic payload retain qos).qos = 0 ∨
      ∀ cs ∈ (subscribers (retainedState s (inlineMsg s topic payload retain qos)).topics topic).subs, cs.2.qos = 0)
    (hsh : (subscribers (retainedState s (inlineMsg s topic payload retain qos)).topics topic).shared = []) :
    step s (.inlinePublish topic payload retain qos) =
      publishToSubscribers (retainedState s (inlineMsg s topic payload retain qos))
        (inlineMsg s topic payload retain qos) := by
  rw [← subsMapOf_of_shared_nil _ _ hsh] at hq
  exact step_inlinePublish_accepted_shared s topic payload retain qos h hq

end Mochi.Broker

#print axioms Mochi.Broker.processPublish_accepted_shape
#print axioms Mochi.Broker.processPublish_accepted_shape_record
#print axioms Mochi.Broker.processPublish_accepted_qos1
#print axioms Mochi.Broker.step_recv_publish_accepted
#print axioms Mochi.Broker.step_recv_publish_outputs
#print axioms Mochi.Broker.step_recv_publish_releases
#print axioms Mochi.Broker.step_inlinePublish_accepted
