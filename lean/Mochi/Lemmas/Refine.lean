import Mochi.Spec.TopicsRun
import Mochi.Lemmas.Edit
/-!
# The flattened topic trie refines the plain set/map index

For every history of index operations the trie `runOps ops` and the reference `absRun ops` agree on
every lookup, and every operation returns the same value on both.
-/
namespace Mochi.Topics

/-! ### the simulation relation, through lookups only -/

structure Sim (ns : List Node) (ret : List (Str × Retained)) (a : Abs) : Prop where
  subs : ∀ (q : Path) (c : Str), (getNode ns q).bind (fun n => assocGet n.subs c) = assocGet a.subs (c, q)
  shared : ∀ (q : Path) (g c : Str),
    (getNode ns q).bind (fun n => sharedGet n.shared g c) = assocGet a.shared (c, g, q)
  inline : ∀ (q : Path) (i : Nat), (getNode ns q).bind (fun n => assocGet n.inline i) = assocGet a.inline (i, q)
  retained : ret = a.retained
  rsound : ∀ (q : Path) (r : Str), (getNode ns q).bind pRet = some r →
    splitLevels r = q ∧ (assocGet ret r).isSome
  rhas : ∀ t, t ≠ [] → (assocGet ret t).isSome → (getNode ns (splitLevels t)).bind pRet = some t

theorem sim_empty : Sim [] [] {} :=
  ⟨fun _ _ => rfl, fun _ _ _ => rfl, fun _ _ => rfl, rfl, fun _ _ h => by simp [getNode_nil] at h,
   fun _ _ h => by simp [assocGet_nil] at h⟩

/-- the retain clauses in terms of the particles: a particle that carries a retain path sits at the address of that topic,
    and the topic is retained -/
theorem Sim.sound {ns : List Node} {ret : List (Str × Retained)} {a : Abs} (h : Sim ns ret a)
    (hnd : (ns.map (·.path)).Nodup) (n : Node) (hn : n ∈ ns) (hr : n.retainPath ≠ []) :
    splitLevels n.retainPath = n.path ∧ (assocGet ret n.retainPath).isSome :=
  h.rsound n.path n.retainPath (by rw [getNode_of_mem ns hnd n hn]; simp [pRet, hr])

/-- … and every retained topic has its particle, which carries it -/
theorem Sim.has_node {ns : List Node} {ret : List (Str × Retained)} {a : Abs} (h : Sim ns ret a) (t : Str) (ht : t ≠ [])
    (hs : (assocGet ret t).isSome) : ∃ n, getNode ns (splitLevels t) = some n ∧ n.retainPath = t := by
  obtain ⟨n, hg, hp⟩ := Option.bind_eq_some_iff.mp (h.rhas t ht hs)
  refine ⟨n, hg, ?_⟩
  unfold pRet at hp
  split at hp
  · cases hp
  · exact Option.some.inj hp

/-- an operation that leaves the retained map and every retained path alone keeps the retain clauses -/
theorem sim_of_ret_unchanged {ns ns' : List Node} {ret : List (Str × Retained)} {a a' : Abs}
    (h : Sim ns ret a) (hret : a'.retained = a.retained)
    (hr : ∀ q, (getNode ns' q).bind pRet = (getNode ns q).bind pRet)
    (hsubs : ∀ (q : Path) (c : Str), (getNode ns' q).bind (fun n => assocGet n.subs c) = assocGet a'.subs (c, q))
    (hshared : ∀ (q : Path) (g c : Str),
      (getNode ns' q).bind (fun n => sharedGet n.shared g c) = assocGet a'.shared (c, g, q))
    (hinline : ∀ (q : Path) (i : Nat),
      (getNode ns' q).bind (fun n => assocGet n.inline i) = assocGet a'.inline (i, q)) :
    Sim ns' ret a' :=
  ⟨hsubs, hshared, hinline, h.retained.trans hret.symm,
   fun q r hq => h.rsound q r (by rw [← hr]; exact hq),
   fun t ht hs => by rw [hr]; exact h.rhas t ht hs⟩

/-- The lookups of one family (`π k`, keyed `key k q` in the association list `A`) after a rewriting that sets key `k0` of
    its particle to `v` (a value, or none: deleted) are the lookups in `A` with the same update. -/
theorem Edit.agree_upd {κ β K : Type} [DecidableEq κ] [DecidableEq K] (e : Edit) (ns : List Node)
    (hpc : e.create = false → PrefixClosed ns) (π : κ → Node → Option β) (hπ : ∀ k, DeadNone (π k)) (key : κ → Path → K)
    {A A' : List (K × β)} (h : ∀ q k, (getNode ns q).bind (π k) = assocGet A (key k q)) (k0 : κ) (v : Option β)
    (hv : v = none ∨ (e.create = true ∧ e.p ≠ [])) (hset : ∀ k n, π k (e.f n) = if k = k0 then v else π k n)
    (hA' : ∀ K', assocGet A' K' = if K' = key k0 e.p then v else assocGet A K')
    (hkey : ∀ q k, key k q = key k0 e.p → q = e.p ∧ k = k0) (q : Path) (k : κ) :
    (getNode (e.run ns) q).bind (π k) = assocGet A' (key k q) := by
  rw [e.look_upd ns hpc (π k) (hπ k) (k = k0) v hv (hset k) q, hA', h]
  by_cases hk : key k q = key k0 e.p
  · rw [if_pos hk, if_pos (hkey q k hk)]
  · rw [if_neg hk, if_neg (fun hh => hk (by rw [hh.1, hh.2]))]

/-- the clauses of `Sim` for what a rewriting does not touch -/
theorem Sim.edit_same {ns : List Node} {ret : List (Str × Retained)} {a : Abs} (h : Sim ns ret a) (e : Edit) :
    ((∀ n, (e.f n).subs = n.subs) →
      ∀ q c, (getNode (e.run ns) q).bind (fun n => assocGet n.subs c) = assocGet a.subs (c, q)) ∧
    ((∀ n, (e.f n).shared = n.shared) →
      ∀ q g c, (getNode (e.run ns) q).bind (fun n => sharedGet n.shared g c) = assocGet a.shared (c, g, q)) ∧
    ((∀ n, (e.f n).inline = n.inline) →
      ∀ q i, (getNode (e.run ns) q).bind (fun n => assocGet n.inline i) = assocGet a.inline (i, q)) ∧
    ((∀ n, (e.f n).retainPath = n.retainPath) → ∀ q, (getNode (e.run ns) q).bind pRet = (getNode ns q).bind pRet) :=
  ⟨fun hs q c => (e.look_same ns _ (deadNone_subs c) (fun n => by rw [hs]) q).trans (h.subs q c),
   fun hs q g c => (e.look_same ns _ (deadNone_shared g c) (fun n => by rw [hs]) q).trans (h.shared q g c),
   fun hs q i => (e.look_same ns _ (deadNone_inline i) (fun n => by rw [hs]) q).trans (h.inline q i),
   fun hs q => e.look_same ns pRet deadNone_pRet (fun n => by simp only [pRet, hs]) q⟩

/-- a rewriting of the plain subscriptions of a particle: client `c` gets `v` (a subscription, or none: deleted) -/
theorem Sim.edit_subs {ns : List Node} {ret : List (Str × Retained)} {a : Abs} (h : Sim ns ret a) (e : Edit)
    (hpc : e.create = false → PrefixClosed ns) (c : Str) (v : Option Sub) (hv : v = none ∨ (e.create = true ∧ e.p ≠ []))
    (hf : ∀ n, e.f n = { n with subs := match v with | some s => assocSet n.subs c s | none => assocDel n.subs c })
    {A' : List ((Str × Path) × Sub)} (hA' : ∀ K', assocGet A' K' = if K' = (c, e.p) then v else assocGet a.subs K') :
    Sim (e.run ns) ret { a with subs := A' } := by
  obtain ⟨_, f2, f3, f4⟩ := h.edit_same e
  refine sim_of_ret_unchanged h rfl (f4 fun n => by rw [hf]) ?_ (f2 fun n => by rw [hf]) (f3 fun n => by rw [hf])
  exact e.agree_upd ns hpc (fun c n => assocGet n.subs c) deadNone_subs (fun c q => (c, q)) (fun q c => h.subs q c) c v hv
    (fun c' n => by rw [hf]; cases v <;> simp only [assocGet_assocSet, assocGet_assocDel]) hA'
    (fun _ _ hk => ⟨(Prod.mk.inj hk).2, (Prod.mk.inj hk).1⟩)

/-- the same for the shared subscriptions: client `c` in group `g` -/
theorem Sim.edit_shared {ns : List Node} {ret : List (Str × Retained)} {a : Abs} (h : Sim ns ret a) (e : Edit)
    (hpc : e.create = false → PrefixClosed ns) (g c : Str) (v : Option Sub)
    (hv : v = none ∨ (e.create = true ∧ e.p ≠ []))
    (hf : ∀ n, e.f n = { n with shared := match v with | some s => sharedAdd n.shared g c s | none => sharedDel n.shared g c })
    {A' : List ((Str × Str × Path) × Sub)}
    (hA' : ∀ K', assocGet A' K' = if K' = (c, g, e.p) then v else assocGet a.shared K') :
    Sim (e.run ns) ret { a with shared := A' } := by
  obtain ⟨f1, _, f3, f4⟩ := h.edit_same e
  refine sim_of_ret_unchanged h rfl (f4 fun n => by rw [hf]) (f1 fun n => by rw [hf]) (fun q g' c' => ?_)
    (f3 fun n => by rw [hf])
  exact e.agree_upd ns hpc (fun k n => sharedGet n.shared k.1 k.2) (fun k => deadNone_shared k.1 k.2)
    (fun k q => (k.2, k.1, q)) (fun q k => h.shared q k.1 k.2) (g, c) v hv
    (fun k n => by
      rw [hf]
      cases v <;> simp only [sharedGet_sharedAdd, sharedGet_sharedDel, Prod.ext_iff])
    hA' (fun _ _ hk => ⟨(Prod.mk.inj (Prod.mk.inj hk).2).2,
      Prod.ext (Prod.mk.inj (Prod.mk.inj hk).2).1 (Prod.mk.inj hk).1⟩) q (g', c')

/-- the same for the inline subscriptions: identifier `i` -/
theorem Sim.edit_inline {ns : List Node} {ret : List (Str × Retained)} {a : Abs} (h : Sim ns ret a) (e : Edit)
    (hpc : e.create = false → PrefixClosed ns) (i : Nat) (v : Option Sub) (hv : v = none ∨ (e.create = true ∧ e.p ≠ []))
    (hf : ∀ n, e.f n = { n with inline := match v with | some s => assocSet n.inline i s | none => assocDel n.inline i })
    {A' : List ((Nat × Path) × Sub)} (hA' : ∀ K', assocGet A' K' = if K' = (i, e.p) then v else assocGet a.inline K') :
    Sim (e.run ns) ret { a with inline := A' } := by
  obtain ⟨f1, f2, _, f4⟩ := h.edit_same e
  refine sim_of_ret_unchanged h rfl (f4 fun n => by rw [hf]) (f1 fun n => by rw [hf]) (f2 fun n => by rw [hf]) ?_
  exact e.agree_upd ns hpc (fun i n => assocGet n.inline i) deadNone_inline (fun i q => (i, q)) (fun q i => h.inline q i) i v
    hv (fun i' n => by rw [hf]; cases v <;> simp only [assocGet_assocSet, assocGet_assocDel]) hA'
    (fun _ _ hk => ⟨(Prod.mk.inj hk).2, (Prod.mk.inj hk).1⟩)

/-- what `Subscribe` / `InlineSubscribe` report, read off the lookup before them -/
theorem Edit.any_not_isSome (e : Edit) (ns : List Node) (hc : e.create = true) (hp : e.p ≠ []) {β : Type}
    (π : Node → Option β) (hπ : DeadNone π) :
    (e.found ns).any (fun n => !(π n).isSome) = ((getNode ns e.p).bind π).isNone := by
  rw [← e.found_look ns (fun h => Bool.noConfusion (hc.symm.trans h)) π hπ]
  obtain ⟨n, hn⟩ := e.found_create hc hp ns
  rw [hn]
  exact Option.not_isSome (π n)

/-! ### every operation preserves the simulation and returns what the plain sets/maps return -/

theorem sim_subscribe (x : Index) (a : Abs) (h : Sim x.nodes x.retained a) (c : Str) (s : Sub) :
    Sim (applyOp x (.subscribe c s)).nodes (applyOp x (.subscribe c s)).retained (a.applyOp (.subscribe c s)) ∧
      opResult x (.subscribe c s) = a.opResult (.subscribe c s) := by
  simp only [applyOp, Abs.applyOp, opResult, Abs.opResult, Abs.subscribe, subscribe_eq, Edit.apply, subEdit]
  by_cases hs : shareKey s.filter = true
  · have hs' : isShare (isolate (splitLevels s.filter) 0).1 = true := hs
    simp only [hs, hs', if_true]
    exact ⟨h.edit_shared _ (fun h => Bool.noConfusion h) _ c (some s) (.inr ⟨rfl, pathFrom_ne_nil _ _⟩) (fun _ => rfl)
        (fun K => assocGet_assocSet _ _ K _),
      congrArg b2i ((Edit.any_not_isSome _ _ rfl (pathFrom_ne_nil _ _) _ (deadNone_shared _ c)).trans
        (congrArg Option.isNone (h.shared _ _ c)))⟩
  · have hs' : isShare (isolate (splitLevels s.filter) 0).1 = false := by simpa [shareKey] using hs
    simp only [hs, hs', Bool.false_eq_true, if_false]
    exact ⟨h.edit_subs _ (fun h => Bool.noConfusion h) c (some s) (.inr ⟨rfl, pathFrom_ne_nil _ _⟩) (fun _ => rfl)
        (fun K => assocGet_assocSet _ _ K _),
      congrArg b2i ((Edit.any_not_isSome _ _ rfl (pathFrom_ne_nil _ _) _ (deadNone_subs c)).trans
        (congrArg Option.isNone (h.subs _ c)))⟩

theorem sim_unsubscribe (x : Index) (a : Abs) (hpc : PrefixClosed x.nodes) (h : Sim x.nodes x.retained a)
    (f c : Str) :
    Sim (applyOp x (.unsubscribe f c)).nodes (applyOp x (.unsubscribe f c)).retained (a.applyOp (.unsubscribe f c)) ∧
      opResult x (.unsubscribe f c) = a.opResult (.unsubscribe f c) := by
  simp only [applyOp, Abs.applyOp, opResult, Abs.opResult, Abs.unsubscribe, unsubscribe_eq]
  by_cases hs : shareKey f = true
  · have hs' : isShare (isolate (splitLevels f) 0).1 = true := hs
    by_cases hb : shareBare f = true
    · have h1 : (isolate (splitLevels f) 1).2 = false := by simpa [shareBare, hs] using hb
      simp only [hb, hs', h1, if_true, Bool.not_false]
      exact ⟨h, trivial⟩
    · have h1 : (isolate (splitLevels f) 1).2 = true := by simpa [shareBare, hs] using hb
      simp only [hb, hs', h1, if_true, if_false, Bool.not_true, Bool.false_eq_true, Edit.apply, unsubEdit, hs]
      exact ⟨h.edit_shared _ (fun _ => hpc) _ c none (.inl rfl) (fun _ => rfl) (fun K => assocGet_assocDel _ _ K),
        congrArg b2i ((Edit.any_isSome _ _ (fun _ => hpc) _ (deadNone_shared _ c)).trans
          (congrArg Option.isSome (h.shared _ _ c)))⟩
  · have hs' : isShare (isolate (splitLevels f) 0).1 = false := by simpa [shareKey] using hs
    have hb : ¬ shareBare f = true := fun hb => hs (shareBare_shareKey hb)
    simp only [hb, hs, hs', Bool.false_eq_true, if_false, Edit.apply, unsubEdit]
    exact ⟨h.edit_subs _ (fun _ => hpc) c none (.inl rfl) (fun _ => rfl) (fun K => assocGet_assocDel _ _ K),
      congrArg b2i ((Edit.any_isSome _ _ (fun _ => hpc) _ (deadNone_subs c)).trans
        (congrArg Option.isSome (h.subs _ c)))⟩

theorem sim_inlineSubscribe (x : Index) (a : Abs) (h : Sim x.nodes x.retained a) (id : Nat) (s : Sub) :
    Sim (applyOp x (.inlineSubscribe id s)).nodes (applyOp x (.inlineSubscribe id s)).retained
        (a.applyOp (.inlineSubscribe id s)) ∧
      opResult x (.inlineSubscribe id s) = a.opResult (.inlineSubscribe id s) := by
  simp only [applyOp, Abs.applyOp, opResult, Abs.opResult, Abs.inlineSubscribe, inlineSubscribe_eq, Edit.apply]
  exact ⟨h.edit_inline (inlSubEdit id s) (fun h => Bool.noConfusion h) id (some s) (.inr ⟨rfl, pathFrom_ne_nil _ _⟩)
      (fun _ => rfl) (fun K => assocGet_assocSet _ _ K _),
    congrArg b2i (((inlSubEdit id s).any_not_isSome _ rfl (pathFrom_ne_nil _ _) _ (deadNone_inline id)).trans
      (congrArg Option.isNone (h.inline _ id)))⟩

theorem sim_inlineUnsubscribe (x : Index) (a : Abs) (hpc : PrefixClosed x.nodes)
    (h : Sim x.nodes x.retained a) (id : Nat) (f : Str) :
    Sim (applyOp x (.inlineUnsubscribe id f)).nodes (applyOp x (.inlineUnsubscribe id f)).retained
        (a.applyOp (.inlineUnsubscribe id f)) ∧
      opResult x (.inlineUnsubscribe id f) = a.opResult (.inlineUnsubscribe id f) := by
  simp only [applyOp, Abs.applyOp, opResult, Abs.opResult, Abs.inlineUnsubscribe, inlineUnsubscribe_eq, Edit.apply]
  exact ⟨h.edit_inline (inlUnsubEdit id f) (fun _ => hpc) id none (.inl rfl) (fun _ => rfl)
      (fun K => assocGet_assocDel _ _ K),
    congrArg b2i (((inlUnsubEdit id f).any_isSome _ (fun _ => hpc) _ (deadNone_inline id)).trans
      (congrArg Option.isSome (h.inline _ id)))⟩

/-- The retain clauses after the particle of topic `t` got retain path `t'` (`t` or none) and the retained map got `v` under
    `t` (a record or none). -/
theorem sim_retain_clauses {ns ns' : List Node} {ret ret' : List (Str × Retained)} {a : Abs} (h : Sim ns ret a)
    (t t' : Str) (v : Option Retained)
    (hlook : ∀ q, (getNode ns' q).bind pRet =
      if q = splitLevels t then (if t' = [] then none else some t') else (getNode ns q).bind pRet)
    (hret : ∀ k, assocGet ret' k = if k = t then v else assocGet ret k)
    (hset : t' ≠ [] → t' = t ∧ v.isSome) (hdel : v.isSome → t ≠ [] → t' = t) :
    (∀ q r, (getNode ns' q).bind pRet = some r → splitLevels r = q ∧ (assocGet ret' r).isSome) ∧
    (∀ t0, t0 ≠ [] → (assocGet ret' t0).isSome → (getNode ns' (splitLevels t0)).bind pRet = some t0) := by
  constructor
  · intro q r hr
    rw [hlook] at hr
    by_cases hq : q = splitLevels t
    · rw [if_pos hq] at hr
      by_cases ht' : t' = []
      · rw [if_pos ht'] at hr; cases hr
      · rw [if_neg ht'] at hr
        cases hr
        obtain ⟨e, hv⟩ := hset ht'
        rw [hret, e, if_pos rfl]
        exact ⟨hq.symm, hv⟩
    · rw [if_neg hq] at hr
      obtain ⟨h1, h2⟩ := h.rsound q r hr
      rw [hret, if_neg (fun e => hq (by rw [← h1, e]))]
      exact ⟨h1, h2⟩
  · intro t0 ht0 hs
    rw [hlook, hret] at *
    by_cases e : t0 = t
    · subst e
      rw [if_pos rfl] at hs
      rw [if_pos rfl, hdel hs ht0, if_neg ht0]
    · rw [if_neg e] at hs
      rw [if_neg (fun e' => e (splitLevels_inj e'))]
      exact h.rhas t0 ht0 hs

theorem sim_retain (x : Index) (a : Abs) (h : Sim x.nodes x.retained a) (t p : Str) (fl : Bool) :
    Sim (applyOp x (.retain t p fl)).nodes (applyOp x (.retain t p fl)).retained (a.applyOp (.retain t p fl)) ∧
      opResult x (.retain t p fl) = a.opResult (.retain t p fl) := by
  simp only [applyOp, Abs.applyOp, opResult, Abs.opResult, Abs.retain, retainMessage_eq, retOp]
  obtain ⟨f1, f2, f3, _⟩ := h.edit_same (retEdit t p)
  have hlook : ∀ t', (if p.length > 0 then t else []) = t' → ∀ q,
      (getNode ((retEdit t p).run x.nodes) q).bind pRet =
        if q = splitLevels t then (if t' = [] then none else some t') else (getNode x.nodes q).bind pRet := by
    intro t' ht' q
    rw [(retEdit t p).look_upd x.nodes (fun h => Bool.noConfusion h) pRet deadNone_pRet True
      (if t' = [] then none else some t') (.inr ⟨rfl, pathFrom_ne_nil _ _⟩) (fun n => by
        rw [if_pos trivial]
        show pRet { n with retainPath := if p.length > 0 then t else [] } = _
        rw [ht']; rfl) q]
    simp only [and_true, retEdit, plainPath, pathFrom_zero _ (splitLevels_ne_nil t)]
  by_cases hp : p.length > 0
  · simp only [hp, if_true]
    obtain ⟨g1, g2⟩ := sim_retain_clauses h t t (some { topic := t, payload := p, retain := fl }) (hlook t (if_pos hp))
      (fun k => assocGet_assocSet _ _ k _) (fun _ => ⟨rfl, rfl⟩) (fun _ _ => rfl)
    exact ⟨⟨f1 fun _ => rfl, f2 fun _ => rfl, f3 fun _ => rfl, by simp only [h.retained], g1, g2⟩, trivial⟩
  · simp only [hp, if_false]
    obtain ⟨g1, g2⟩ := sim_retain_clauses h t [] none (hlook [] (if_neg hp))
      (fun k => assocGet_assocDel _ _ k) (fun e => absurd rfl e) (fun e => by cases e)
    refine ⟨⟨f1 fun _ => rfl, f2 fun _ => rfl, f3 fun _ => rfl, by simp only [h.retained], g1, g2⟩, ?_⟩
    rw [h.retained]
    cases assocGet a.retained t <;> rfl

theorem sim_step (x : Index) (a : Abs) (hpc : PrefixClosed x.nodes) (h : Sim x.nodes x.retained a) (op : IOp) :
    Sim (applyOp x op).nodes (applyOp x op).retained (a.applyOp op) ∧ opResult x op = a.opResult op := by
  cases op with
  | subscribe c s => exact sim_subscribe x a h c s
  | unsubscribe f c => exact sim_unsubscribe x a hpc h f c
  | inlineSubscribe id s => exact sim_inlineSubscribe x a h id s
  | inlineUnsubscribe id f => exact sim_inlineUnsubscribe x a hpc h id f
  | retain t p fl => exact sim_retain x a h t p fl

theorem sim_applyOp (x : Index) (a : Abs) (hpc : PrefixClosed x.nodes) (h : Sim x.nodes x.retained a) (op : IOp) :
    Sim (applyOp x op).nodes (applyOp x op).retained (a.applyOp op) :=
  (sim_step x a hpc h op).1

theorem opResult_sim (x : Index) (a : Abs) (hpc : PrefixClosed x.nodes) (h : Sim x.nodes x.retained a)
    (op : IOp) : opResult x op = a.opResult op :=
  (sim_step x a hpc h op).2

theorem sim_runOps (ops : List IOp) : Sim (runOps ops).nodes (runOps ops).retained (absRun ops) := by
  have : ∀ (x : Index) (a : Abs), PrefixClosed x.nodes → Sim x.nodes x.retained a →
      Sim (ops.foldl applyOp x).nodes (ops.foldl applyOp x).retained (ops.foldl Abs.applyOp a) := by
    induction ops with
    | nil => exact fun _ _ _ h => h
    | cons op rest ih =>
      exact fun x a hpc h => ih _ _ (prefixClosed_applyOp x hpc op) (sim_applyOp x a hpc h op)
  exact this {} {} (by intro p hp; simp [hasNode] at hp) sim_empty

/-! ### the structural invariants: particle addresses are distinct and non-empty -/

def PathsOK (ps : List Path) : Prop := ps.Nodup ∧ ∀ p ∈ ps, p ≠ []

theorem pathsOK_sublist {l₁ l₂ : List Path} (hs : List.Sublist l₁ l₂) (h : PathsOK l₂) : PathsOK l₁ :=
  ⟨h.1.sublist hs, fun p hp => h.2 p (hs.subset hp)⟩

theorem pathsOK_putNode (ns : List Node) (n : Node) (h : PathsOK (ns.map (·.path))) :
    PathsOK ((putNode ns n).map (·.path)) := by
  rw [map_path_putNode]; exact h

theorem pathsOK_trim (ns : List Node) (p : Path) (fuel : Nat) (h : PathsOK (ns.map (·.path))) :
    PathsOK ((trim ns p fuel).map (·.path)) :=
  pathsOK_sublist ((trim_sublist ns p fuel).map _) h

theorem pathsOK_setPath (ns : List Node) (p : Path) (h : PathsOK (ns.map (·.path))) :
    PathsOK ((setPath ns p).map (·.path)) := by
  refine setPath_ind (Q := fun ns => PathsOK (ns.map (·.path))) ns p h fun acc q ha hq hn => ?_
  have hfresh : q ∉ acc.map (·.path) := fun hm => by
    obtain ⟨m, hm, hmp⟩ := List.mem_map.mp hm
    rw [(hasNode_iff acc q).mpr ⟨m, hm, hmp⟩] at hn
    cases hn
  rw [List.map_append, List.map_cons, List.map_nil]
  refine ⟨List.nodup_append.mpr ⟨ha.1, by simp, fun a ha' b hb e => hfresh ?_⟩, fun p' hp' => ?_⟩
  · have hb' : b = q := List.mem_singleton.mp hb
    rw [← hb', ← e]; exact ha'
  · rcases List.mem_append.mp hp' with hp' | hp'
    · exact ha.2 p' hp'
    · rw [List.mem_singleton.mp hp']; exact prefixes_ne_nil p q hq

theorem pathsOK_applyOp (x : Index) (h : PathsOK (x.nodes.map (·.path))) (op : IOp) :
    PathsOK ((applyOp x op).nodes.map (·.path)) :=
  applyOp_nodes_ind (Q := fun ns => PathsOK (ns.map (·.path))) pathsOK_setPath pathsOK_putNode pathsOK_trim x h op

theorem pathsOK_runOps (ops : List IOp) : PathsOK ((runOps ops).nodes.map (·.path)) :=
  runOps_nodes_ind (Q := fun ns => PathsOK (ns.map (·.path))) pathsOK_setPath pathsOK_putNode pathsOK_trim
    ⟨List.nodup_nil, fun _ h => by simp at h⟩ ops

theorem nodupPaths_runOps (ops : List IOp) : ((runOps ops).nodes.map (·.path)).Nodup :=
  (pathsOK_runOps ops).1

/-- no reachable particle has the empty address (the root is not a particle) -/
theorem pathsNonempty_runOps (ops : List IOp) : ∀ n ∈ (runOps ops).nodes, n.path ≠ [] :=
  fun n hn => (pathsOK_runOps ops).2 n.path (List.mem_map.mpr ⟨n, hn, rfl⟩)

/-! ### the refinement relation -/

/-- the trie `x` and the plain sets/maps `a` hold the same entries: every subscription, shared
    subscription and inline subscription is found in the particle at its filter's path and nowhere
    else, the retained maps are equal, and retained paths and retained records correspond. -/
structure Refines (x : Index) (a : Abs) : Prop where
  subs : ∀ (q : Path) (c : Str),
    (getNode x.nodes q).bind (fun n => assocGet n.subs c) = assocGet a.subs (c, q)
  shared : ∀ (q : Path) (g c : Str),
    (getNode x.nodes q).bind (fun n => sharedGet n.shared g c) = assocGet a.shared (c, g, q)
  inline : ∀ (q : Path) (i : Nat),
    (getNode x.nodes q).bind (fun n => assocGet n.inline i) = assocGet a.inline (i, q)
  retained : x.retained = a.retained
  retainPath_sound : ∀ n ∈ x.nodes, n.retainPath ≠ [] →
    splitLevels n.retainPath = n.path ∧ (assocGet x.retained n.retainPath).isSome
  retained_has_node : ∀ t, t ≠ [] → (assocGet x.retained t).isSome →
    ∃ n, getNode x.nodes (splitLevels t) = some n ∧ n.retainPath = t

theorem refines_of_sim (x : Index) (a : Abs) (hnd : (x.nodes.map (·.path)).Nodup)
    (h : Sim x.nodes x.retained a) : Refines x a :=
  ⟨h.subs, h.shared, h.inline, h.retained, h.sound hnd, h.has_node⟩

/-- **The trie refines the plain sets/maps — subscription clauses and the retained map, for every
    history, with no hypothesis.** -/
theorem refines_runOps_subs (ops : List IOp) :
    (∀ q c, (getNode (runOps ops).nodes q).bind (fun n => assocGet n.subs c) = assocGet (absRun ops).subs (c, q)) ∧
    (∀ q g c, (getNode (runOps ops).nodes q).bind (fun n => sharedGet n.shared g c) =
      assocGet (absRun ops).shared (c, g, q)) ∧
    (∀ q i, (getNode (runOps ops).nodes q).bind (fun n => assocGet n.inline i) =
      assocGet (absRun ops).inline (i, q)) ∧
    (runOps ops).retained = (absRun ops).retained :=
  have h := sim_runOps ops
  ⟨h.subs, h.shared, h.inline, h.retained⟩

/-- the full refinement holds for every history, even one that retains under the empty topic (the
    clause `retained_has_node` already excludes the key `[]`) -/
theorem refines_runOps_all (ops : List IOp) : Refines (runOps ops) (absRun ops) :=
  refines_of_sim _ _ (nodupPaths_runOps ops) (sim_runOps ops)

/-- **The trie refines the plain sets/maps**, stated for the histories that retain under non-empty topics only (the
    hypothesis is not needed: `refines_runOps_all`) -/
theorem refines_runOps (ops : List IOp) (_hret : ∀ t p fl, IOp.retain t p fl ∈ ops → t ≠ []) :
    Refines (runOps ops) (absRun ops) :=
  refines_runOps_all ops

/-- what the operations return (is-new, existed, the counter delta of `RetainMessage`) is what the plain sets/maps return -/
theorem opResult_refines (ops : List IOp) (op : IOp) :
    opResult (runOps ops) op = (absRun ops).opResult op :=
  opResult_sim _ _ (prefixClosed_runOps ops) (sim_runOps ops) op

/-! ### a concrete history, evaluated on both sides -/

/-- `a/b` -/
def exAB : Str := [97, 47, 98]
/-- `a/+` -/
def exAPlus : Str := [97, 47, 43]
/-- `$share/g/a/#` -/
def exShare : Str := [36, 115, 104, 97, 114, 101, 47, 103, 47, 97, 47, 35]

/-- clients `[1]`, `[2]` subscribe to `a/b`, `a/+`; client `[3]` joins `$share/g/a/#`; inline
    subscription 7 on `a/b`; a message is retained on `a/b`; client `[1]` unsubscribes from `a/b` -/
def exHist : List IOp :=
  [.subscribe [1] { filter := exAB, qos := 1 }, .subscribe [2] { filter := exAPlus },
   .subscribe [3] { filter := exShare, qos := 2 }, .inlineSubscribe 7 { filter := exAB },
   .retain exAB [120] true, .unsubscribe exAB [1]]

-- the particles left: a, a/b (inline + retained), a/+, a/#
example : (runOps exHist).nodes.map (·.path) = [[[97]], [[97], [98]], [[97], [43]], [[97], [35]]] := by decide

-- return values of a next operation, on the trie and on the plain sets
example : opResult (runOps exHist) (.subscribe [1] { filter := exAB }) = 1 := by decide
example : (absRun exHist).opResult (.subscribe [1] { filter := exAB }) = 1 := by decide
example : opResult (runOps exHist) (.subscribe [2] { filter := exAPlus }) = 0 := by decide
example : (absRun exHist).opResult (.subscribe [2] { filter := exAPlus }) = 0 := by decide
example : opResult (runOps exHist) (.subscribe [3] { filter := exShare }) = 0 := by decide
example : (absRun exHist).opResult (.subscribe [3] { filter := exShare }) = 0 := by decide
example : opResult (runOps exHist) (.unsubscribe exAB [1]) = 0 := by decide
example : (absRun exHist).opResult (.unsubscribe exAB [1]) = 0 := by decide
example : opResult (runOps exHist) (.unsubscribe exAPlus [2]) = 1 := by decide
example : (absRun exHist).opResult (.unsubscribe exAPlus [2]) = 1 := by decide
example : opResult (runOps exHist) (.unsubscribe exShare [3]) = 1 := by decide
example : (absRun exHist).opResult (.unsubscribe exShare [3]) = 1 := by decide
example : opResult (runOps exHist) (.inlineSubscribe 7 { filter := exAB }) = 0 := by decide
example : (absRun exHist).opResult (.inlineSubscribe 7 { filter := exAB }) = 0 := by decide
example : opResult (runOps exHist) (.inlineUnsubscribe 7 exAB) = 1 := by decide
example : (absRun exHist).opResult (.inlineUnsubscribe 7 exAB) = 1 := by decide
example : opResult (runOps exHist) (.inlineUnsubscribe 8 exAB) = 0 := by decide
example : (absRun exHist).opResult (.inlineUnsubscribe 8 exAB) = 0 := by decide
example : opResult (runOps exHist) (.retain exAB [] false) = -1 := by decide
example : (absRun exHist).opResult (.retain exAB [] false) = -1 := by decide
example : opResult (runOps exHist) (.retain exAPlus [] false) = 0 := by decide
example : (absRun exHist).opResult (.retain exAPlus [] false) = 0 := by decide
example : opResult (runOps exHist) (.retain exAB [121] false) = 1 := by decide
example : (absRun exHist).opResult (.retain exAB [121] false) = 1 := by decide

-- lookups on both sides
example : (getNode (runOps exHist).nodes [[97], [98]]).bind (fun n => assocGet n.subs [1]) = none := by decide
example : assocGet (absRun exHist).subs ([1], [[97], [98]]) = none := by decide
example : (getNode (runOps exHist).nodes [[97], [43]]).bind (fun n => assocGet n.subs [2]) =
    some { filter := exAPlus } := by decide
example : assocGet (absRun exHist).subs ([2], [[97], [43]]) = some { filter := exAPlus } := by decide
example : (getNode (runOps exHist).nodes [[97], [35]]).bind (fun n => sharedGet n.shared [103] [3]) =
    some { filter := exShare, qos := 2 } := by decide
example : assocGet (absRun exHist).shared ([3], [103], [[97], [35]]) = some { filter := exShare, qos := 2 } := by
  decide
example : (getNode (runOps exHist).nodes [[97], [98]]).bind (fun n => assocGet n.inline 7) =
    some { filter := exAB } := by decide
example : assocGet (absRun exHist).inline (7, [[97], [98]]) = some { filter := exAB } := by decide
example : (getNode (runOps exHist).nodes [[97], [98]]).map (·.retainPath) = some exAB := by decide
example : assocGet (runOps exHist).retained exAB = some { topic := exAB, payload := [120], retain := true } := by
  decide
example : assocGet (absRun exHist).retained exAB = some { topic := exAB, payload := [120], retain := true } := by
  decide

-- the hypothesis of `refines_runOps` holds of this history
example : Refines (runOps exHist) (absRun exHist) :=
  refines_runOps exHist (by
    intro t p fl h
    simp only [exHist, List.mem_cons, reduceCtorEq, IOp.retain.injEq, List.mem_nil_iff, or_false, false_or] at h
    rw [h.1]; decide)

-- the empty-topic edge: the record is stored under key `[]`, the particle `[[]]` gets no retained path;
-- `Refines` still holds (its `retained_has_node` clause speaks of non-empty topics only)
example : (runOps [.retain [] [120] true]).retained = [([], { topic := [], payload := [120], retain := true })] ∧
    (getNode (runOps [.retain [] [120] true]).nodes [[]]).map (·.retainPath) = some [] := by decide
example : Refines (runOps [.retain [] [120] true]) (absRun [.retain [] [120] true]) := refines_runOps_all _

end Mochi.Topics
