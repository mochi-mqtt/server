import Mochi.Lemmas.BrokerWalk
import Mochi.Lemmas.Topics
/-!
# Frame lemmas for the sequential broker model (`Mochi/Model/Broker.lean`)

"Who can change what": one inbound packet handled for client object `i`
* leaves every other object `j ≠ i` unchanged except for the five fields a delivery to `j` may change
  (`inflight`, `sendQuota`, `packetID`, `aliasOut`, `aliasCursor`)                      — `SessEq`,
* creates / removes no object, keeps `connOf`, keeps the `Clients` entry of every other client id,
* keeps `id`, `conn`, `inline` of object `i` itself, and either keeps `isOpen` / `stopped` of `i` or
  emits `closed conn`.

All of this is packaged in the relation `Frame i s s' o`; the delivery family
(`publishToClient`, `publishToSubscribers`, …) satisfies the stronger, index-free `Deliv s s'`.
-/
namespace Mochi.Broker
open Mochi.Topics

/-! ### `SessEq`: equality of client objects up to the five delivery fields -/

/-- everything of a client object except the five fields a publish delivered TO this client may change
    (`inflight`, `sendQuota`, `packetID`, `aliasOut`, `aliasCursor`) -/
structure SessEq (a b : Client) : Prop where
  conn : a.conn = b.conn
  id : a.id = b.id
  ver : a.ver = b.ver
  clean : a.clean = b.clean
  sei : a.sei = b.sei
  fsei : a.fsei = b.fsei
  recvMaxProp : a.recvMaxProp = b.recvMaxProp
  tam : a.tam = b.tam
  will : a.will = b.will
  subs : a.subs = b.subs
  recvQuota : a.recvQuota = b.recvQuota
  maxRecv : a.maxRecv = b.maxRecv
  maxSend : a.maxSend = b.maxSend
  aliasIn : a.aliasIn = b.aliasIn
  isOpen : a.isOpen = b.isOpen
  stopped : a.stopped = b.stopped
  takenOver : a.takenOver = b.takenOver
  inline : a.inline = b.inline
  peerGone : a.peerGone = b.peerGone

theorem SessEq.delivered (c : Client) (fl : List Msg) (sq pid : Nat) (ao : List (Str × Nat)) (ac : Nat) :
    SessEq c { c with inflight := fl, sendQuota := sq, packetID := pid, aliasOut := ao, aliasCursor := ac } :=
  ⟨rfl, rfl, rfl, rfl, rfl, rfl, rfl, rfl, rfl, rfl, rfl, rfl, rfl, rfl, rfl, rfl, rfl, rfl, rfl⟩

theorem SessEq.refl (a : Client) : SessEq a a := SessEq.delivered a _ _ _ _ _

theorem SessEq.of_eq {a b : Client} (h : a = b) : SessEq a b := h ▸ SessEq.refl a

theorem SessEq.symm {a b : Client} (h : SessEq a b) : SessEq b a :=
  ⟨h.conn.symm, h.id.symm, h.ver.symm, h.clean.symm, h.sei.symm, h.fsei.symm, h.recvMaxProp.symm, h.tam.symm,
   h.will.symm, h.subs.symm, h.recvQuota.symm, h.maxRecv.symm, h.maxSend.symm, h.aliasIn.symm, h.isOpen.symm,
   h.stopped.symm, h.takenOver.symm, h.inline.symm, h.peerGone.symm⟩

theorem SessEq.trans {a b c : Client} (h : SessEq a b) (g : SessEq b c) : SessEq a c :=
  ⟨h.conn.trans g.conn, h.id.trans g.id, h.ver.trans g.ver, h.clean.trans g.clean, h.sei.trans g.sei,
   h.fsei.trans g.fsei, h.recvMaxProp.trans g.recvMaxProp, h.tam.trans g.tam, h.will.trans g.will,
   h.subs.trans g.subs, h.recvQuota.trans g.recvQuota, h.maxRecv.trans g.maxRecv, h.maxSend.trans g.maxSend,
   h.aliasIn.trans g.aliasIn, h.isOpen.trans g.isOpen, h.stopped.trans g.stopped, h.takenOver.trans g.takenOver,
   h.inline.trans g.inline, h.peerGone.trans g.peerGone⟩

theorem SessEq_iff (a b : Client) : SessEq a b ↔
    (a.conn = b.conn ∧ a.id = b.id ∧ a.ver = b.ver ∧ a.clean = b.clean ∧ a.sei = b.sei ∧ a.fsei = b.fsei ∧
     a.recvMaxProp = b.recvMaxProp ∧ a.tam = b.tam ∧ a.will = b.will ∧ a.subs = b.subs ∧
     a.recvQuota = b.recvQuota ∧ a.maxRecv = b.maxRecv ∧ a.maxSend = b.maxSend ∧ a.aliasIn = b.aliasIn ∧
     a.isOpen = b.isOpen ∧ a.stopped = b.stopped ∧ a.takenOver = b.takenOver ∧ a.inline = b.inline ∧
     a.peerGone = b.peerGone) :=
  ⟨fun h => ⟨h.conn, h.id, h.ver, h.clean, h.sei, h.fsei, h.recvMaxProp, h.tam, h.will, h.subs, h.recvQuota,
             h.maxRecv, h.maxSend, h.aliasIn, h.isOpen, h.stopped, h.takenOver, h.inline, h.peerGone⟩,
   fun ⟨h1, h2, h3, h4, h5, h6, h7, h8, h9, h10, h11, h12, h13, h14, h15, h16, h17, h18, h19⟩ =>
     ⟨h1, h2, h3, h4, h5, h6, h7, h8, h9, h10, h11, h12, h13, h14, h15, h16, h17, h18, h19⟩⟩

/-! the client-level delivery operations -/

theorem SessEq.aliasOutSet (c : Client) (t : Str) : SessEq c (aliasOutSet c t).1 := by
  unfold Mochi.Broker.aliasOutSet
  refine iteInduction (motive := fun r : Client × Nat × Bool => SessEq c r.1) (fun _ => SessEq.refl c) (fun _ => ?_)
  cases assocGet c.aliasOut t with
  | some a => exact SessEq.refl c
  | none =>
    exact iteInduction (motive := fun r : Client × Nat × Bool => SessEq c r.1) (fun _ => SessEq.refl c)
      (fun _ => SessEq.delivered c _ _ _ _ _)

theorem SessEq.packetID' (c : Client) (p : Nat) : SessEq c { c with packetID := p } := SessEq.delivered c _ _ _ _ _

theorem SessEq.flSet (c : Client) (m : Msg) : SessEq c (flSet c m).1 :=
  iteInduction (motive := fun r : Client × Bool => SessEq c r.1) (fun _ => SessEq.delivered c _ _ _ _ _)
    (fun _ => SessEq.delivered c _ _ _ _ _)

theorem SessEq.decSend (c : Client) : SessEq c (decSend c) :=
  iteInduction (motive := SessEq c) (fun _ => SessEq.delivered c _ _ _ _ _) (fun _ => SessEq.refl c)

/-! ### `OwnEq`: what the acting client's own bookkeeping never changes -/

/-- the fields of the ACTING object that no handler writes except `stopClient` (`isOpen`, `stopped`)
    or nothing at all (`id`, `conn`, `inline`) -/
structure OwnEq (a b : Client) : Prop where
  id : a.id = b.id
  conn : a.conn = b.conn
  inline : a.inline = b.inline
  isOpen : a.isOpen = b.isOpen
  stopped : a.stopped = b.stopped

macro "own_rfl" : tactic => `(tactic| exact ⟨rfl, rfl, rfl, rfl, rfl⟩)

theorem OwnEq.refl (a : Client) : OwnEq a a := by own_rfl
theorem OwnEq.symm {a b : Client} (h : OwnEq a b) : OwnEq b a :=
  ⟨h.id.symm, h.conn.symm, h.inline.symm, h.isOpen.symm, h.stopped.symm⟩
theorem OwnEq.trans {a b c : Client} (h : OwnEq a b) (g : OwnEq b c) : OwnEq a c :=
  ⟨h.id.trans g.id, h.conn.trans g.conn, h.inline.trans g.inline, h.isOpen.trans g.isOpen, h.stopped.trans g.stopped⟩
theorem SessEq.own {a b : Client} (h : SessEq a b) : OwnEq a b := ⟨h.id, h.conn, h.inline, h.isOpen, h.stopped⟩

theorem OwnEq.flSet' (c : Client) (m : Msg) : OwnEq c (flSet c m).1 := (SessEq.flSet c m).own
theorem OwnEq.decSend' (c : Client) : OwnEq c (decSend c) := (SessEq.decSend c).own
theorem OwnEq.flDelete' (c : Client) (id : Nat) : OwnEq c (flDelete c id).1 := by
  unfold Mochi.Broker.flDelete; own_rfl
theorem OwnEq.incSend' (c : Client) : OwnEq c (incSend c) := by
  unfold Mochi.Broker.incSend; split <;> own_rfl
theorem OwnEq.incRecv' (c : Client) : OwnEq c (incRecv c) := by
  unfold Mochi.Broker.incRecv; split <;> own_rfl
theorem OwnEq.decRecv' (c : Client) : OwnEq c (decRecv c) := by
  unfold Mochi.Broker.decRecv; split <;> own_rfl

theorem OwnEq.will' (c : Client) (w : Will) : OwnEq c { c with will := w } := by own_rfl

theorem OwnEq.ops : SessOps OwnEq :=
  ⟨OwnEq.refl, OwnEq.trans, OwnEq.flSet', OwnEq.flDelete', OwnEq.decSend', OwnEq.incSend', OwnEq.decRecv',
   OwnEq.incRecv', fun c t => (SessEq.aliasOutSet c t).own, fun _ _ => by own_rfl, fun _ _ => by own_rfl,
   fun _ _ _ => by own_rfl, fun _ => by own_rfl⟩

theorem OwnEq.subs' (c : Client) (l : List (Str × Sub)) : OwnEq c { c with subs := l } := by own_rfl

theorem flSet_will (c : Client) (m : Msg) : (flSet c m).1.will = c.will := (SessEq.flSet c m).will.symm
theorem flDelete_will (c : Client) (id : Nat) : (flDelete c id).1.will = c.will := rfl
theorem decRecv_will (c : Client) : (decRecv c).will = c.will := by unfold decRecv; split <;> rfl
theorem incRecv_will (c : Client) : (incRecv c).will = c.will := by unfold incRecv; split <;> rfl
theorem decSend_will (c : Client) : (decSend c).will = c.will := (SessEq.decSend c).will.symm
theorem incSend_will (c : Client) : (incSend c).will = c.will := by unfold incSend; split <;> rfl

theorem willKept : SessOps (fun a b : Client => b.will = a.will) :=
  ⟨fun _ => rfl, fun h g => g.trans h, flSet_will, flDelete_will, decSend_will, incSend_will, decRecv_will, incRecv_will,
   fun c t => (SessEq.aliasOutSet c t).will.symm, fun _ _ => rfl, fun _ _ => rfl, fun _ _ _ => rfl, fun _ => rfl⟩

theorem OwnEq.flDelete {a b : Client} (h : OwnEq a b) (id : Nat) : OwnEq a (flDelete b id).1 := h.trans (OwnEq.flDelete' b id)
theorem OwnEq.decRecv {a b : Client} (h : OwnEq a b) : OwnEq a (decRecv b) := h.trans (OwnEq.decRecv' b)

/-- reading object `i` back after writing `c` there: still related to anything `c` and the old object
    are both related to (covers the out-of-range index, where the write is a no-op) -/
theorem SessEq.get_set {s : Server} {i : Nat} {c d : Client} (h1 : SessEq (getObj s i) c) (h2 : SessEq c d) :
    SessEq (getObj (setObj s i c) i) d :=
  getObj_setObj_ind (P := fun x => SessEq x d) s i c i (h1.trans h2) fun _ => h2

/-! ### `Deliv`: what the delivery family does to the server -/

/-- `s'` differs from `s` at most in the five delivery fields of its objects (and in server fields
    other than `objs`, `clients`, `connOf`) -/
structure Deliv (s s' : Server) : Prop where
  len : s'.objs.length = s.objs.length
  connOf : s'.connOf = s.connOf
  clients : s'.clients = s.clients
  all : ∀ k, SessEq (getObj s k) (getObj s' k)

theorem Deliv.refl (s : Server) : Deliv s s := ⟨rfl, rfl, rfl, fun _ => SessEq.refl _⟩

theorem Deliv.trans {s s1 s2 : Server} (h : Deliv s s1) (g : Deliv s1 s2) : Deliv s s2 :=
  ⟨g.len.trans h.len, g.connOf.trans h.connOf, g.clients.trans h.clients, fun k => (h.all k).trans (g.all k)⟩

theorem Deliv.upd {s0 s s' : Server} (h : Deliv s0 s) (ho : s'.objs = s.objs) (hc : s'.clients = s.clients)
    (hn : s'.connOf = s.connOf) : Deliv s0 s' :=
  ⟨by rw [ho]; exact h.len, hn.trans h.connOf, hc.trans h.clients,
   fun k => by rw [getObj_of_objs_eq ho k]; exact h.all k⟩

theorem Deliv.set {s0 s : Server} (h : Deliv s0 s) (k : Nat) (c : Client) (hc : SessEq (getObj s0 k) c) :
    Deliv s0 (setObj s k c) :=
  ⟨(setObj_length s k c).trans h.len, h.connOf, h.clients, fun k' => getObj_setObj_ind s k c k' (h.all k') fun e => e ▸ hc⟩

/-! ### `Frame`: what handling something for object `i` does to the server -/

/-- `s'` results from `s` by work done on behalf of client object `i`, having emitted `o` -/
structure Frame (i : Nat) (s s' : Server) (o : List Out) : Prop where
  /-- no object is created or removed -/
  len : s'.objs.length = s.objs.length
  connOf : s'.connOf = s.connOf
  /-- the Clients-map entry of every other client id is untouched -/
  clients : ∀ cid, cid ≠ (getObj s i).id → assocGet s'.clients cid = assocGet s.clients cid
  /-- every other object changes at most in its five delivery fields -/
  other : ∀ k, k ≠ i → SessEq (getObj s k) (getObj s' k)
  id : (getObj s' i).id = (getObj s i).id
  conn : (getObj s' i).conn = (getObj s i).conn
  inline : (getObj s' i).inline = (getObj s i).inline
  /-- `isOpen` / `stopped` of the acting object are kept, or `closed conn` was emitted -/
  stop : ((getObj s' i).isOpen = (getObj s i).isOpen ∧ (getObj s' i).stopped = (getObj s i).stopped) ∨
         ((getObj s i).inline = false → Out.closed (getObj s i).conn ∈ o)

theorem Frame.refl (i : Nat) (s : Server) (o : List Out) : Frame i s s o :=
  ⟨rfl, rfl, fun _ _ => rfl, fun _ _ => SessEq.refl _, rfl, rfl, rfl, Or.inl ⟨rfl, rfl⟩⟩

theorem Frame.id_all {i : Nat} {s s' : Server} {o : List Out} (h : Frame i s s' o) (k : Nat) :
    (getObj s' k).id = (getObj s k).id := by
  by_cases hk : k = i
  · subst hk; exact h.id
  · exact (h.other k hk).id.symm

theorem Frame.trans {i : Nat} {s s1 s2 : Server} {o1 o2 : List Out} (h : Frame i s s1 o1) (g : Frame i s1 s2 o2) :
    Frame i s s2 (o1 ++ o2) := by
  refine ⟨g.len.trans h.len, g.connOf.trans h.connOf, ?_, fun k hk => (h.other k hk).trans (g.other k hk),
    g.id.trans h.id, g.conn.trans h.conn, g.inline.trans h.inline, ?_⟩
  · intro cid hcid
    rw [g.clients cid (by rw [h.id]; exact hcid), h.clients cid hcid]
  · rcases h.stop with ⟨h1, h2⟩ | h1
    · rcases g.stop with ⟨g1, g2⟩ | g1
      · exact Or.inl ⟨g1.trans h1, g2.trans h2⟩
      · refine Or.inr fun hin => List.mem_append_right _ ?_
        have := g1 (h.inline.trans hin)
        rw [h.conn] at this; exact this
    · exact Or.inr fun hin => List.mem_append_left _ (h1 hin)

theorem Frame.mono {i : Nat} {s s' : Server} {o o' : List Out} (h : Frame i s s' o)
    (ho : ∀ c, Out.closed c ∈ o → Out.closed c ∈ o') : Frame i s s' o' :=
  ⟨h.len, h.connOf, h.clients, h.other, h.id, h.conn, h.inline,
   h.stop.imp (fun x => x) (fun g hin => ho _ (g hin))⟩

theorem Frame.nil {i : Nat} {s s' : Server} (h : Frame i s s' []) (o : List Out) : Frame i s s' o :=
  h.mono (fun _ hc => by cases hc)

theorem Frame.stepQ {i : Nat} {s s1 s2 : Server} {o : List Out} (h : Frame i s s1 o) (g : Frame i s1 s2 []) :
    Frame i s s2 o := by
  have := h.trans g
  rw [List.append_nil] at this; exact this

theorem Frame.traced (i : Nat) : Traced (Frame i) := ⟨fun s => Frame.refl i s [], Frame.trans⟩

theorem Deliv.frame {s s' : Server} (h : Deliv s s') (i : Nat) (o : List Out) : Frame i s s' o :=
  ⟨h.len, h.connOf, fun cid _ => by rw [h.clients], fun k _ => h.all k, (h.all i).id.symm, (h.all i).conn.symm,
   (h.all i).inline.symm, Or.inl ⟨(h.all i).isOpen.symm, (h.all i).stopped.symm⟩⟩

theorem Frame.deliv {i : Nat} {s0 s s' : Server} {o : List Out} (h : Frame i s0 s o) (g : Deliv s s') :
    Frame i s0 s' o := h.stepQ (g.frame i [])

theorem Frame.upd {i : Nat} {s0 s s' : Server} {o : List Out} (h : Frame i s0 s o) (ho : s'.objs = s.objs)
    (hc : s'.clients = s.clients) (hn : s'.connOf = s.connOf) : Frame i s0 s' o :=
  h.deliv ((Deliv.refl s).upd ho hc hn)

theorem Frame.setOwn {i : Nat} {s0 s : Server} {o : List Out} (h : Frame i s0 s o) (c : Client)
    (hc : OwnEq (getObj s i) c) : Frame i s0 (setObj s i c) o := by
  refine h.stepQ ⟨setObj_length s i c, rfl, fun _ _ => rfl, fun k hk => ?_, ?_, ?_, ?_, Or.inl ⟨?_, ?_⟩⟩
  · rw [getObj_setObj_ne s i k c hk]; exact SessEq.refl _
  all_goals
    have := ((ObjWalk.pointwise OwnEq.ops i).set s c hc i).symm
    first | exact this.id | exact this.conn | exact this.inline | exact this.isOpen | exact this.stopped

theorem Frame.delClient {i : Nat} {s0 s : Server} {o : List Out} (h : Frame i s0 s o) (cid : Str)
    (hcid : cid = (getObj s i).id) : Frame i s0 { s with clients := assocDel s.clients cid } o := by
  refine h.stepQ ⟨rfl, rfl, fun cid' hne => ?_, fun _ _ => SessEq.refl _, rfl, rfl, rfl, Or.inl ⟨rfl, rfl⟩⟩
  exact assocGet_assocDel_ne _ _ _ (by rw [hcid]; exact hne)

/-! ### the delivery family -/

theorem Deliv.seti {s0 s : Server} (h : Deliv s0 s) (k : Nat) (c : Client) (inf : Info) (hc : SessEq (getObj s0 k) c) :
    Deliv s0 { setObj s k c with info := inf } := (h.set k c hc).upd rfl rfl rfl

theorem publishToClientCore_deliv (s : Server) (i : Nat) (sub : Sub) (f : Bool) (pk : Msg) :
    Deliv s (publishToClientCore s i sub f pk).1 := by
  have h1 : SessEq (getObj s i) (coreClient (getObj s i) pk.topic) :=
    iteInduction (motive := SessEq (getObj s i)) (fun _ => SessEq.aliasOutSet _ _) (fun _ => SessEq.refl _)
  have pid : ∀ p, SessEq (getObj s i) { coreClient (getObj s i) pk.topic with packetID := p } := fun p =>
    h1.trans (SessEq.packetID' _ p)
  exact publishToClientCore_cases (Q := fun r => Deliv s r.1) s i sub f pk rfl rfl
    (fun _ => (Deliv.refl s).set i _ h1) (fun _ _ => (Deliv.refl s).seti i _ _ h1)
    (fun _ _ _ => (Deliv.refl s).seti i _ _ h1)
    (fun p _ _ _ _ _ _ => (Deliv.refl s).seti i _ _
      ((((pid p).trans (SessEq.flSet _ _)).trans (SessEq.decSend _)).trans (SessEq.flSet _ _)))
    (fun p _ _ _ _ _ _ => (Deliv.refl s).seti i _ _ (((pid p).trans (SessEq.flSet _ _)).trans (SessEq.decSend _)))

theorem publishToClient_deliv (s : Server) (i : Nat) (sub : Sub) (f : Bool) (pk : Msg) :
    Deliv s (publishToClient s i sub f pk).1 :=
  publishToClient_state i Deliv.refl (publishToClientCore_deliv · i) s sub f pk

theorem publishToSubscribers_deliv (s : Server) (pk : Msg) : Deliv s (publishToSubscribers s pk).1 :=
  publishToSubscribers_state Deliv.refl Deliv.trans publishToClientCore_deliv s pk

theorem publishRetainedToClient_deliv (s : Server) (i : Nat) (sub : Sub) (ex : Bool) (k : Nat) :
    Deliv s (publishRetainedToClient s i sub ex k).1 :=
  publishRetainedToClient_state i Deliv.refl Deliv.trans (publishToClientCore_deliv · i) s sub ex k

theorem retainMsg_deliv (s : Server) (pk : Msg) : Deliv s (retainMsg s pk) :=
  iteInduction (motive := Deliv s) (fun _ => Deliv.refl s) (fun _ => (Deliv.refl s).upd rfl rfl rfl)

theorem retainedState_deliv (s : Server) (pk : Msg) : Deliv s (retainedState s pk) :=
  iteInduction (motive := Deliv s) (fun _ => retainMsg_deliv s pk) (fun _ => Deliv.refl s)

/-! ### work on the acting object -/

theorem Frame.setStop {i : Nat} {s : Server} {o : List Out} (c : Client)
    (hid : c.id = (getObj s i).id) (hconn : c.conn = (getObj s i).conn) (hinl : c.inline = (getObj s i).inline)
    (ho : (getObj s i).inline = false → Out.closed (getObj s i).conn ∈ o) : Frame i s (setObj s i c) o := by
  refine ⟨setObj_length s i c, rfl, fun _ _ => rfl, fun k hk => ?_, ?_, ?_, ?_, Or.inr ho⟩
  · rw [getObj_setObj_ne s i k c hk]; exact SessEq.refl _
  all_goals
    rcases getObj_setObj_self_cases s i c with e | e <;> rw [e]
    all_goals first | rfl | assumption

theorem Frame.modOwn {i : Nat} {s0 s : Server} {o : List Out} (h : Frame i s0 s o) (f : Client → Client)
    (hf : OwnEq (getObj s i) (f (getObj s i))) : Frame i s0 (modObj s i f) o := h.setOwn _ hf

theorem stopClient_frame (s : Server) (i : Nat) : Frame i s (stopClient s i).1 (stopClient s i).2 := by
  unfold stopClient
  extract_lets +onlyGivenNames c
  split
  · exact Frame.refl i s _
  · refine Frame.setStop _ rfl rfl rfl (fun hin => ?_)
    show Out.closed c.conn ∈ (if c.inline = true then [] else [Out.closed c.conn])
    rw [show c.inline = false from hin]
    exact List.mem_singleton.mpr rfl

theorem stopClient_closed (s : Server) (i : Nat) (hst : (getObj s i).stopped = false)
    (hin : (getObj s i).inline = false) : Out.closed (getObj s i).conn ∈ (stopClient s i).2 := by
  unfold stopClient
  simp only [hst, hin, Bool.false_eq_true, if_false]
  exact List.mem_singleton.mpr rfl

theorem disconnectClient_frame (s : Server) (i : Nat) (code : Nat) :
    Frame i s (disconnectClient s i code).1 (disconnectClient s i code).2 := by
  unfold disconnectClient
  extract_lets +onlyGivenNames c w
  split
  rename_i s' o heq
  have := stopClient_frame s i
  rw [heq] at this
  exact this.mono (fun _ h => List.mem_append_right _ h)

/-- what the acting object's own handlers do, as long as they write nothing -/
theorem Frame.walk (i : Nat) : ObjWalk i OwnEq (fun s s' => Frame i s s' []) :=
  ⟨fun s => Frame.refl i s [], fun h g => h.stepQ g, fun s c h => (Frame.refl i s []).setOwn c h,
   fun s _ => (Frame.refl i s []).upd rfl rfl rfl, fun s _ => (Frame.refl i s []).upd rfl rfl rfl,
   fun s _ => (Frame.refl i s []).upd rfl rfl rfl⟩

theorem Frame.idx (i : Nat) (s : Server) (t : Index) (inf : Info) : Frame i s { s with topics := t, info := inf } [] :=
  (Frame.refl i s []).upd rfl rfl rfl

theorem unsubscribeClient_frame (s : Server) (i : Nat) : Frame i s (unsubscribeClient s i) [] :=
  unsubscribeClient_walk (Frame.walk i) OwnEq.subs' (Frame.idx i) s

theorem clearInflights_frame (s : Server) (i : Nat) : Frame i s (clearInflights s i) [] :=
  clearInflights_walk OwnEq.ops (Frame.walk i) s

theorem processPuback_frame (s : Server) (i id : Nat) : Frame i s (processPuback s i id).1 [] :=
  processPuback_walk OwnEq.ops (Frame.walk i) s id

theorem processPubrec_frame (s : Server) (i id rc : Nat) : Frame i s (processPubrec s i id rc).1 [] :=
  processPubrec_walk OwnEq.ops (Frame.walk i) s id rc

theorem processPubrel_frame (s : Server) (i id rc : Nat) : Frame i s (processPubrel s i id rc).1 [] :=
  processPubrel_walk OwnEq.ops (Frame.walk i) s id rc

theorem processPubcomp_frame (s : Server) (i id : Nat) : Frame i s (processPubcomp s i id).1 [] :=
  processPubcomp_walk OwnEq.ops (Frame.walk i) s id

/-- (the release also consumes one base-64 digit of `nextSeed`, a server field outside the frame) -/
theorem nextImmediate_frame (s : Server) (i : Nat) : Frame i s (nextImmediate s i).1 [] :=
  nextImmediate_walk OwnEq.ops (Frame.walk i) s

theorem processDisconnect_frame (s : Server) (i rc : Nat) (sei : Option Nat) :
    Frame i s (processDisconnect s i rc sei).1 (processDisconnect s i rc sei).2.1 :=
  have h : Frame i s (discState s i sei) [] :=
    (Frame.refl i s []).setOwn _ (by cases sei; exact OwnEq.refl _; exact OwnEq.ops.sei _ _ _)
  processDisconnect_cases (Q := fun r => Frame i s r.1 r.2.1) s i rc sei (fun _ => Frame.refl i s _) (fun _ _ => h)
    (fun _ _ => (h.upd (s' := { discState s i sei with willDelayed := assocDel s.willDelayed (getObj s i).id })
      rfl rfl rfl).trans (stopClient_frame _ i))

theorem processUnsubscribe_frame (s : Server) (i id : Nat) (filters : List Str) :
    Frame i s (processUnsubscribe s i id filters).1 [] := processUnsubscribe_walk (Frame.walk i) OwnEq.subs' (Frame.idx i) s id filters

theorem processSubscribe_frame (s : Server) (i id subId : Nat) (filters : List Sub) :
    Frame i s (processSubscribe s i id subId filters).1 [] :=
  processSubscribe_walk (Frame.walk i) OwnEq.subs' (Frame.idx i)
    (fun s sub ex k => (publishRetainedToClient_deliv s i sub ex k).frame i []) s id subId filters

theorem Frame.fst_mk {α} {i : Nat} {s0 x : Server} {y : α} {o : List Out} (h : Frame i s0 x o) :
    Frame i s0 (x, y).1 o := h

theorem sendLWT_frame (s : Server) (i : Nat) : Frame i s (sendLWT s i).1 [] :=
  sendLWT_cases (Q := fun r => Frame i s r.1 []) s i (fun _ => Frame.refl i s [])
    (fun _ _ _ _ => (Frame.refl i s []).upd rfl rfl rfl)
    (fun pk _ _ _ => Frame.modOwn
      (((Frame.refl i s []).deliv (retainedState_deliv s pk)).deliv (publishToSubscribers_deliv (retainedState s pk) pk))
      (fun c => { c with will := { c.will with flag := false } }) (OwnEq.will' _ _))

theorem sendLWT_isolation (s : Server) (i j : Nat) (h : j ≠ i) : SessEq (getObj s j) (getObj (sendLWT s i).1 j) :=
  (sendLWT_frame s i).other j h

theorem detachA_frame (s : Server) (i : Nat) (withErr : Bool) :
    Frame i s (detachA s i withErr).1 (detachA s i withErr).2 :=
  detachA_cases (Q := fun r => Frame i s r.1 r.2) s i withErr
    (fun _ => ((sendLWT_frame s i).nil _).trans (stopClient_frame _ i))
    (fun _ => (Frame.refl i s []).modOwn (fun c => { c with will := {} }) (OwnEq.will' _ _))

theorem sessionEnded_frame (s : Server) (i : Nat) : Frame i s (sessionEnded s i (getObj s i).id) [] :=
  have h := (clearInflights_frame s i).stepQ (unsubscribeClient_frame _ i)
  h.delClient _ h.id.symm

theorem detachB_frame (s : Server) (i : Nat) : Frame i s (detachB s i) [] :=
  detachB_cases (Q := fun x => Frame i s x []) s i (fun _ => (Frame.refl i s []).upd rfl rfl rfl)
    (fun _ => (sessionEnded_frame s i).upd rfl rfl rfl)

theorem detach_frame (s : Server) (i : Nat) (withErr : Bool) :
    Frame i s (detach s i withErr).1 (detach s i withErr).2 :=
  (detachA_frame s i withErr).stepQ (detachB_frame _ i)

theorem detach_isolation (s : Server) (i j : Nat) (b : Bool) (h : j ≠ i) :
    SessEq (getObj s j) (getObj (detach s i b).1 j) :=
  (detach_frame s i b).other j h

theorem processPublish_frame (s : Server) (i : Nat) (qos : Nat) (dup retain : Bool) (id : Nat) (topic payload : Str)
    (msgExpiry : Nat) (alias : Option Nat) :
    Frame i s (processPublish s i qos dup retain id topic payload msgExpiry alias).1
      (processPublish s i qos dup retain id topic payload msgExpiry alias).2.1 :=
  processPublish_tr (Frame.traced i) i id s qos dup retain topic payload msgExpiry alias
    (fun s' code _ => disconnectClient_frame s' i code) (fun s' t rc _ => by rw [ackRes_fst]; exact Frame.refl i s' _)
    (pubTaken_walk OwnEq.ops (Frame.walk i) s id _) (fun s' pk _ _ => (retainMsg_deliv s' pk).frame i [])
    (fun s' pk _ => (publishToSubscribers_deliv s' pk).frame i _)
    (fun s' ack _ _ => pubAcked_walk OwnEq.ops (Frame.walk i) s' ack) (fun s' ack _ => Frame.refl i s' _)
    (fun s' => recordGone_walk OwnEq.ops (Frame.walk i) s' id _ OwnEq.incRecv')

/-! ### one inbound packet -/

theorem receivePacket_frame (s : Server) (i : Nat) (pk : InPk) :
    Frame i s (receivePacket s i pk).1 (receivePacket s i pk).2.1 := by
  have hr : Frame i s (R07.handler s i pk).1 (R07.handler s i pk).2.1 :=
    handler_cases (Q := fun r => Frame i s r.1 r.2.1) s i pk (fun _ _ _ _ _ _ _ _ _ _ _ => Frame.refl i s _)
      (fun _ _ _ _ _ _ _ _ _ _ => processPublish_frame ..) (fun _ => Frame.refl i s _)
      (fun _ _ _ _ => (processSubscribe_frame ..).nil _) (fun _ _ _ => (processUnsubscribe_frame ..).nil _)
      (fun _ _ _ => (processPuback_frame ..).nil _) (fun _ _ _ => (processPubrec_frame ..).nil _)
      (fun _ _ _ => (processPubrel_frame ..).nil _) (fun _ _ _ => (processPubcomp_frame ..).nil _)
      (fun _ _ => Frame.refl i s _) (fun _ _ => Frame.refl i s _) (fun _ _ _ => processDisconnect_frame ..)
  exact receivePacket_tr (Frame.traced i) i s pk hr (fun s => (nextImmediate_frame s i).nil _)
    fun s' code _ _ => disconnectClient_frame s' i code

theorem Frame.live_or_closed {i : Nat} {s s' : Server} {o : List Out} (h : Frame i s s' o)
    (hin : (getObj s i).inline = false) :
    ((getObj s' i).isOpen = (getObj s i).isOpen ∧ (getObj s' i).stopped = (getObj s i).stopped) ∨
      Out.closed (getObj s i).conn ∈ o :=
  h.stop.imp (fun x => x) (fun g => g hin)

/-- the PINGREQ barrier's output filter keeps every `closed` -/
theorem closed_mem_filter_pingresp (c : Nat) (o : List Out) (h : Out.closed c ∈ o) :
    Out.closed c ∈ o.filter (fun x => match x with | .wrote _ .pingresp => false | _ => true) :=
  List.mem_filter.mpr ⟨h, rfl⟩

theorem recvOn_frame (s : Server) (c : Nat) (pk : InPk) (b : Bool) (i : Nat) (hc : assocGet s.connOf c = some i) :
    Frame i s (recvOn s c pk b).1 (recvOn s c pk b).2 :=
  recvOn_trAt (Frame.traced i) i (fun h => h.mono fun c hc => closed_mem_filter_pingresp c _ hc) s pk
    (receivePacket_frame s i pk) (receivePacket_frame · i _) (fun s b => detach_frame s i b) c b hc

/-! the delivery family, through the equations `split` produces -/

theorem publishToSubscribers_frame {s s' : Server} {pk : Msg} {o : List Out}
    (h : publishToSubscribers s pk = (s', o)) :
    s'.objs.length = s.objs.length ∧ ∀ k, SessEq (getObj s k) (getObj s' k) := by
  have := publishToSubscribers_deliv s pk
  rw [h] at this
  exact ⟨this.len, this.all⟩

theorem publishToClient_frame {s s' : Server} {i : Nat} {sub : Sub} {f : Bool} {pk : Msg} {o : List Out}
    (h : publishToClient s i sub f pk = (s', o)) :
    s'.objs.length = s.objs.length ∧ ∀ k, SessEq (getObj s k) (getObj s' k) := by
  have := publishToClient_deliv s i sub f pk
  rw [h] at this
  exact ⟨this.len, this.all⟩

theorem publishRetainedToClient_frame {s s' : Server} {i : Nat} {sub : Sub} {ex : Bool} {n : Nat} {o : List Out}
    (h : publishRetainedToClient s i sub ex n = (s', o)) :
    s'.objs.length = s.objs.length ∧ ∀ k, SessEq (getObj s k) (getObj s' k) := by
  have := publishRetainedToClient_deliv s i sub ex n
  rw [h] at this
  exact ⟨this.len, this.all⟩

/-- one inbound packet handled for client OBJECT `i` leaves every other object `j` unchanged up to the
    five delivery fields -/
theorem receivePacket_isolation (s : Server) (i j : Nat) (pk : InPk) (h : j ≠ i) :
    SessEq (getObj s j) (getObj (receivePacket s i pk).1 j) :=
  (receivePacket_frame s i pk).other j h

theorem receivePacket_objs_length (s : Server) (i : Nat) (pk : InPk) :
    (receivePacket s i pk).1.objs.length = s.objs.length :=
  (receivePacket_frame s i pk).len

theorem receivePacket_id (s : Server) (i k : Nat) (pk : InPk) :
    (getObj (receivePacket s i pk).1 k).id = (getObj s k).id :=
  (receivePacket_frame s i pk).id_all k

theorem detach_id (s : Server) (i k : Nat) (b : Bool) : (getObj (detach s i b).1 k).id = (getObj s k).id :=
  (detach_frame s i b).id_all k

theorem detach_objs_length (s : Server) (i : Nat) (b : Bool) : (detach s i b).1.objs.length = s.objs.length :=
  (detach_frame s i b).len

/-- `receivePacket` never touches the Clients map and the connection table (`detach` does) -/
theorem receivePacket_clients_other (s : Server) (i : Nat) (pk : InPk) (cid : Str) (h : (getObj s i).id ≠ cid) :
    assocGet (receivePacket s i pk).1.clients cid = assocGet s.clients cid :=
  (receivePacket_frame s i pk).clients cid (Ne.symm h)

theorem receivePacket_connOf (s : Server) (i : Nat) (pk : InPk) : (receivePacket s i pk).1.connOf = s.connOf :=
  (receivePacket_frame s i pk).connOf

/-- one inbound packet on connection `c` (object `i`), with `detach` and the PINGREQ barrier, leaves every
    other object `j` unchanged up to the five delivery fields -/
theorem recvOn_isolation (s : Server) (c : Nat) (pk : InPk) (b : Bool) (i j : Nat)
    (hc : assocGet s.connOf c = some i) (h : j ≠ i) : SessEq (getObj s j) (getObj (recvOn s c pk b).1 j) :=
  (recvOn_frame s c pk b i hc).other j h

theorem recvOn_objs_length (s : Server) (c : Nat) (pk : InPk) (b : Bool) :
    (recvOn s c pk b).1.objs.length = s.objs.length := by
  cases hc : assocGet s.connOf c with
  | none => rw [recvOn_unknown hc]
  | some i => exact (recvOn_frame s c pk b i hc).len

theorem recvOn_connOf (s : Server) (c : Nat) (pk : InPk) (b : Bool) : (recvOn s c pk b).1.connOf = s.connOf := by
  cases hc : assocGet s.connOf c with
  | none => rw [recvOn_unknown hc]
  | some i => exact (recvOn_frame s c pk b i hc).connOf

theorem recvOn_id (s : Server) (c : Nat) (pk : InPk) (b : Bool) (k : Nat) :
    (getObj (recvOn s c pk b).1 k).id = (getObj s k).id := by
  cases hc : assocGet s.connOf c with
  | none => rw [recvOn_unknown hc]
  | some i => exact (recvOn_frame s c pk b i hc).id_all k

theorem recvOn_clients_other (s : Server) (c : Nat) (pk : InPk) (b : Bool) (i : Nat) (cid : Str)
    (hc : assocGet s.connOf c = some i) (hid : (getObj s i).id ≠ cid) :
    assocGet (recvOn s c pk b).1.clients cid = assocGet s.clients cid :=
  (recvOn_frame s c pk b i hc).clients cid (Ne.symm hid)

/-- (`stopped = false` is not needed; neither is `i < s.objs.length`) -/
theorem recvOn_served_or_closed' (s : Server) (c : Nat) (pk : InPk) (b : Bool) (i : Nat)
    (hc : assocGet s.connOf c = some i) (hconn : (getObj s i).conn = c) (hin : (getObj s i).inline = false)
    (hopen : (getObj s i).isOpen = true) :
    (getObj (recvOn s c pk b).1 i).isOpen = true ∨ Out.closed c ∈ (recvOn s c pk b).2 := by
  rcases (recvOn_frame s c pk b i hc).live_or_closed hin with ⟨h1, _⟩ | h
  · exact Or.inl (h1.trans hopen)
  · rw [hconn] at h; exact Or.inr h

theorem recvOn_served_or_closed (s : Server) (c : Nat) (pk : InPk) (b : Bool) (i : Nat)
    (hc : assocGet s.connOf c = some i) (hconn : (getObj s i).conn = c) (hin : (getObj s i).inline = false)
    (hopen : (getObj s i).isOpen = true) (hst : (getObj s i).stopped = false) :
    (getObj (recvOn s c pk b).1 i).isOpen = true ∨ Out.closed c ∈ (recvOn s c pk b).2 :=
  have _ := hst
  recvOn_served_or_closed' s c pk b i hc hconn hin hopen

/-- leaving the read loop with an error closes a live network connection -/
theorem detach_true_closes (s : Server) (i : Nat) (hin : (getObj s i).inline = false)
    (hst : (getObj s i).stopped = false) : Out.closed (getObj s i).conn ∈ (detach s i true).2 := by
  unfold detach detachA
  simp only [if_true]
  have a := sendLWT_frame s i
  have hst2 : (getObj (sendLWT s i).1 i).stopped = false := by
    rcases a.live_or_closed hin with ⟨_, h⟩ | h
    · exact h.trans hst
    · cases h
  have := stopClient_closed (sendLWT s i).1 i hst2 (a.inline.trans hin)
  rw [a.conn] at this
  exact List.mem_append_right _ this

theorem recvOn_error_closes (s : Server) (c : Nat) (pk : InPk) (b : Bool) (i : Nat) (code : Nat)
    (hc : assocGet s.connOf c = some i) (hconn : (getObj s i).conn = c) (hin : (getObj s i).inline = false)
    (hopen : (getObj s i).isOpen = true) (hst : (getObj s i).stopped = false)
    (herr : (receivePacket s i pk).2.2 = some code) : Out.closed c ∈ (recvOn s c pk b).2 := by
  rw [recvOn_ended s c i pk b hc hopen (fun x => nomatch herr.symm.trans x), herr]
  have h1 := receivePacket_frame s i pk
  show Out.closed c ∈ (receivePacket s i pk).2.1 ++ (detach (receivePacket s i pk).1 i true).2
  rcases h1.live_or_closed hin with ⟨_, h⟩ | h
  · have := detach_true_closes (receivePacket s i pk).1 i (h1.inline.trans hin) (h.trans hst)
    rw [h1.conn, hconn] at this
    exact List.mem_append_right _ this
  · rw [hconn] at h
    exact List.mem_append_left _ h

end Mochi.Broker
