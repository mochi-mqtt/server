import Mochi.Lemmas.BrokerConnect
import Mochi.Lemmas.BrokerDelivery
import Mochi.Lemmas.BrokerResend
import Mochi.Lemmas.BrokerCounters
/-!
# The session a CONNECT finds, registers and inherits (C14, C13, C35)

What `attachClient` does to the objects stage by stage is in `Mochi/Lemmas/BrokerAdmit.lean` (`admitA_session`: no session
under the id; a session that is discarded; a session that is resumed), a refused CONNECT as a whole in
`BrokerConnect.lean` (`ConnectRefused`).  Here: the admitted `connect` op on a fresh connection as a whole
(`ConnectAdmitted`, `step_connect_admitted`: session present is `sessionExisted && !clean`, the Clients map afterwards is
`assocSet clients k.id i`, …), the connected-clients limit over every op that is no schedule op (C35), and that
re-subscribing to a duplicate-free subscription map gives the same map.
-/
namespace Mochi.Broker
open Mochi.Topics

/-- the barrier PINGREQ of the `connect` op on a live connection: the release of a deferred message, nothing else -/
theorem recvOn_pingreq_live (u : Server) (conn i : Nat) (hc : assocGet u.connOf conn = some i)
    (ho : (getObj u i).isOpen = true) (hp : (getObj u i).peerGone = false) (hin : (getObj u i).inline = false) :
    (recvOn u conn .pingreq false).1 = (nextImmediate u i).1 := by
  have hk := ((nextImmediate_frame u i).kept_of_nil hin).1
  unfold recvOn
  simp only [hc, ho, Bool.not_true, Bool.false_eq_true, if_false, receivePacket_pingreq_live u i ho hp, hk]

theorem detach_caps (s : Server) (i : Nat) (b : Bool) : (detach s i b).1.caps = s.caps := by
  rw [detach_fst, ← (detachA_quiet s i b).caps]
  exact detachB_cases (Q := fun x => x.caps = (detachA s i b).1.caps) _ i (fun _ => rfl)
    (fun _ => unsubscribeClient_caps (clearInflights _ i) i)

/-- `attachClient` from `Clients.Add` to the read loop: the Clients map stays as `Clients.Add` left it (the taken-over
    handler's clean-up does not delete the entry: its object is marked taken over), the connecting object keeps what
    `writeMsg` reads of it and its subscriptions -/
theorem admitClient_new (t : Server) (i conn : Nat) (k : Connect)
    (hunreg : ∀ c, assocGet t.clients c ≠ some i)
    (htk : ∀ e, assocGet t.clients k.id = some e → (getObj (admitA t i k).1 e).takenOver = true) :
    NewKept i (admitA t i k).1 (admitClient t i conn k).1 := by
  -- `a`: what `admitA` returns; `c`: the CONNACK written
  obtain ⟨a, ha⟩ : ∃ a, a = admitA t i k := ⟨_, rfl⟩
  obtain ⟨c, hc⟩ : ∃ c, c = admitConnack a.1 i conn a.2.2.1 := ⟨_, rfl⟩
  have q2 := admitConnack_quiet a.1 i conn a.2.2.1
  have l2 := (admitConnack_exact a.1 i conn a.2.2.1 i).1
  have hex := fun e (hx : a.2.2.2 = some e) => (admitA_exLive t i k e (ha ▸ hx)).1
  rw [← ha] at htk ⊢
  rw [← hc] at q2 l2
  refine admitClient_trFrom (.ofState (NewKept.refl i) NewKept.trans) i conn k t ha hc rfl (o0 := []) (NewKept.refl i _)
    ⟨q2.clients, q2.caps, q2.connOf, l2, (q2.obj i).subs⟩ (fun e hx => ?_)
    (fun D => have q4 := admitC_quiet D i k a.2.2.1
      ⟨q4.clients, q4.caps, q4.connOf, admitC_live D i k _ i, (q4.obj i).subs⟩)
  obtain ⟨c3, n3, o3⟩ := tookOverDown_kept c.1 (some e)
    fun e' he' => Option.some.inj he' ▸ (q2.obj e).takenOver.trans (htk e (hex e hx))
  have l3 := o3 i fun e' he' x => hunreg k.id (x ▸ Option.some.inj he' ▸ hex e hx)
  exact ⟨c3, detach_caps c.1 e true, n3, l3.live, l3.subs.symm⟩

/-! ### `ClientsConnected` through an admission -/

theorem fc35_detach_connected (s : Server) (i : Nat) (b : Bool) :
    (detach s i b).1.info.connected = s.info.connected - 1 := by
  rw [detach_fst, (detachB_quietC _ i).2, (detachA_act s i b).2]

theorem fc35_admitA_connected (t : Server) (i : Nat) (k : Connect) :
    (admitA t i k).1.info.connected = t.info.connected + 1 := by
  cases he : assocGet t.clients k.id with
  | none => exact (admitA_qc_none t i k he).c
  | some e =>
    rw [(admitA_qc_some t i k e he).c, (stopClient_act (connCounted t) e).2]
    rfl

theorem fc35_admitClient_connected (t : Server) (i conn : Nat) (k : Connect) :
    (admitClient t i conn k).1.info.connected ≤ t.info.connected + 1 :=
  -- after `Clients.Add` the counter only falls
  admitClient_tr (W := fun s s' _ => s.info.connected ≤ t.info.connected + 1 → s'.info.connected ≤ t.info.connected + 1)
    (.ofState (fun _ h => h) fun h g x => g (h x)) i conn k t rfl rfl
    (fun _ => by rw [fc35_admitA_connected]; exact Int.le_refl _)
    (fun h => by rw [(admitConnack_qc _ i conn _).c]; exact h) (fun e _ h => by rw [fc35_detach_connected]; omega)
    (fun s h => by rw [(admitC_qc s i k _).c]; exact h) (by omega)

/-! ### the `connect` op on a fresh connection, whole -/

/-- the state at `Clients.Add` of an admitted CONNECT (`inheritClientSession` done) -/
abbrev connAdded (s : Server) (conn : Nat) (k : Connect) : Server := (admitA (connState s conn k) s.objs.length k).1

/-- an admitted CONNECT on a fresh connection; `s.objs.length` is the new object, `connAdded` the state at
    `Clients.Add`.  The in-flight records at the END of the op are not described: in between, the taken-over connection's
    will is published, `ResendInflightMessages` drops the PUBACK / PUBCOMP records it resent, and the barrier releases a
    deferred message. -/
structure ConnectAdmitted (s : Server) (conn : Nat) (k : Connect) : Prop where
  auth : authAllows s k.id = true
  below : s.info.connected < s.caps.maximumClients
  /-- session present, as `inheritClientSession` returns it -/
  present : (admitA (connState s conn k) s.objs.length k).2.2.1 = (sessionExisted s k.id && !k.clean)
  /-- the take-over of the session's old connection, THE CONNACK, then no CONNACK (`ConnMap`: the old connection is
      another one) -/
  out : ConnMap s → ∃ c' pre seiOut post, c' ≠ conn ∧ TakeoverOut c' pre ∧
    (step s (.connect conn k)).2 = pre ++ [.wrote conn (.connack k.ver (sessionExisted s k.id && !k.clean) 0
      s.caps.receiveMaximum s.caps.maximumQos seiOut)] ++ post ∧ NoConnack post
  clients : (step s (.connect conn k)).1.clients = assocSet s.clients k.id s.objs.length
  connOf : assocGet (step s (.connect conn k)).1.connOf conn = some s.objs.length
  isOpen : (getObj (step s (.connect conn k)).1 s.objs.length).isOpen = true
  onConn : (getObj (step s (.connect conn k)).1 s.objs.length).conn = conn
  caps : (step s (.connect conn k)).1.caps = s.caps
  connected : (step s (.connect conn k)).1.info.connected ≤ s.info.connected + 1
  /-- the op ends with the barrier, which on the new connection is the release of a deferred message -/
  state : (step s (.connect conn k)).1 =
    (nextImmediate (admitClient (connState s conn k) s.objs.length conn k).1 s.objs.length).1
  subs : (getObj (step s (.connect conn k)).1 s.objs.length).subs = (getObj (connAdded s conn k) s.objs.length).subs
  /-- no session is resumed: at `Clients.Add` the new object is the parsed CONNECT's, unchanged -/
  discarded : (sessionExisted s k.id && !k.clean) = false →
    getObj (connAdded s conn k) s.objs.length = parseConnect s conn k
  /-- the session of object `e` is resumed: its in-flight records, its subscriptions entered again -/
  resumed : ∀ e, assocGet s.clients k.id = some e → (sessionExisted s k.id && !k.clean) = true →
    (getObj (connAdded s conn k) s.objs.length).inflight = (getObj s e).inflight ∧
    (getObj (connAdded s conn k) s.objs.length).subs = sp14_inheritSubs (getObj s e).subs []

theorem step_connect_admitted (s : Server) (hw : WF s) (conn : Nat) (k : Connect) (hf : conn ∉ s.connOf.map (·.1)) (hd : connDec s conn k = none) : ConnectAdmitted s conn k := by
  have hreg : ∀ c e, assocGet s.clients c = some e → e < s.objs.length :=
    fun c e he => (hw.clients_valid c e (assocGet_mem _ _ _ he)).1
  have hnew := getObj_connState_new s conn k
  obtain ⟨_, hlt, _⟩ := connState_wf s conn k hw hf
  -- the state at `Clients.Add`
  have hpres : sp14_present (connState s conn k) k = (sessionExisted s k.id && !k.clean) := by
    rw [← sp14_present_eq]
    unfold sp14_present
    show (match assocGet s.clients k.id with | some e => _ | none => false) = _
    cases he : assocGet s.clients k.id with
    | none => rfl
    | some e => dsimp only; rw [getObj_connState_old s conn k e (hreg _ _ he)]
  have A := admitA_session (connState s conn k) s.objs.length k hlt fun e he => Nat.ne_of_gt (hreg k.id e he)
  have live := hnew ▸ A.live
  have hunreg : ∀ c, assocGet (connState s conn k).clients c ≠ some s.objs.length :=
    fun c hc => Nat.lt_irrefl _ (hreg c _ hc)
  -- the taken-over object is marked
  have htk : ∀ e, assocGet (connState s conn k).clients k.id = some e →
      (getObj (admitA (connState s conn k) s.objs.length k).1 e).takenOver = true := fun e he =>
    admitA_marked (connState s conn k) s.objs.length k e he (Nat.ne_of_gt (hreg k.id e he)) (Nat.lt_trans (hreg k.id e he) hlt)
  -- from `Clients.Add` to the read loop, then the barrier
  have B := admitClient_new (connState s conn k) s.objs.length conn k hunreg htk
  have heq := connect_admitted_eq s conn k hd
  rw [← heq] at B
  have hlive := live.trans B.live
  have hconn : assocGet (connect s conn k).1.connOf conn = some s.objs.length := by
    rw [B.connOf, (admitA_keep _ _ k).connOf]
    exact assocGet_append_fresh s.connOf conn _ hf
  have ho : (getObj (connect s conn k).1 s.objs.length).isOpen = true := by rw [hlive.isOpen]; rfl
  have hin : (getObj (connect s conn k).1 s.objs.length).inline = false := by rw [hlive.inline]; rfl
  have hstep : (step s (.connect conn k)).1 = (nextImmediate (connect s conn k).1 s.objs.length).1 := by
    rw [step_connect_open s conn k _ hconn ho,
      recvOn_pingreq_live _ conn _ hconn ho (by rw [hlive.peerGone]; rfl) hin]
  have q := nextImmediate_quiet (connect s conn k).1 s.objs.length
  have o := (nextImmediate_keep (connect s conn k).1 s.objs.length s.objs.length).1
  -- the outputs, with the CONNACK's fields read off the state at `Clients.Add`
  obtain ⟨seiOut, post, e, hn⟩ := step_connect_admitted_out s conn k hd
  rw [live.ver, A.caps, A.present, hpres] at e
  -- an admitted CONNECT passed the limit and the authentication hook
  obtain ⟨below, auth⟩ := refuseCode_cases (connState s conn k) k _ nofun nofun nofun nofun nofun nofun
    (Q := fun r => r = none → s.info.connected < s.caps.maximumClients ∧ authAllows s k.id = true)
    (fun lt ha _ => ⟨lt, ha⟩) hd
  refine ⟨auth, below, A.present.trans hpres, fun hcm => have ⟨c', hc', hto⟩ := admitA_takeover s hw hcm conn k hf
    ⟨c', _, seiOut, post, hc', hto, e, hn⟩, ?_, ?_, ?_, ?_, ?_, ?_, by rw [hstep, heq], ?_,
    fun hp => (A.discarded (hpres.trans hp)).trans hnew, fun e he hp => ?_⟩
  · rw [hstep, q.clients, B.clients]; exact A.clients
  · rw [hstep, q.connOf]; exact hconn
  · rw [hstep, ← o.isOpen]; exact ho
  · rw [hstep, ← o.conn, hlive.conn]; rfl
  · rw [hstep, q.caps, B.caps]; exact A.caps
  · rw [hstep, (nextImmediate_core (P := fun _ => True) _ _).conn, heq]
    exact fc35_admitClient_connected (connState s conn k) s.objs.length conn k
  · rw [hstep, (q.obj _).subs, B.subs]
  · obtain ⟨b1, b2⟩ := A.resumed e he (hpres.trans hp)
    rw [hnew, getObj_connState_old s conn k e (hreg _ _ he)] at b1 b2
    refine ⟨b1.trans ?_, b2⟩
    -- an empty map is not copied: the new object's own is as empty
    by_cases hpos : (getObj s e).inflight.length > 0
    · rw [if_pos hpos]
    · rw [if_neg hpos]
      exact (List.eq_nil_of_length_eq_zero (Nat.eq_zero_of_not_pos hpos)).symm

/-- the outputs of an admitted CONNECT with the CONNACK's fields given: protocol version of the CONNECT, session
    present as `inheritClientSession` decided, the server's receive maximum and maximum QoS -/
theorem sp14_connect_admitted_out (s : Server) (hw : WF s) (hcm : ConnMap s) (conn : Nat) (k : Connect)
    (h : refuseCode (connState s conn k) k (parseConnect s conn k) = none) (hf : conn ∉ s.connOf.map (·.1)) :
    ∃ c' pre seiOut post, c' ≠ conn ∧ TakeoverOut c' pre ∧
      (step s (.connect conn k)).2 = pre ++ [.wrote conn (.connack k.ver (sessionExisted s k.id && !k.clean) 0
        s.caps.receiveMaximum s.caps.maximumQos seiOut)] ++ post ∧ NoConnack post :=
  (step_connect_admitted s hw conn k hf h).out hcm

theorem sp14_connect_refused_state (s : Server) (conn : Nat) (k : Connect) (code : Nat)
    (h : refuseCode (connState s conn k) k (parseConnect s conn k) = some code) (hf : conn ∉ s.connOf.map (·.1)) :
    (step s (.connect conn k)).1 = setObj (connState s conn k) s.objs.length
        { parseConnect s conn k with isOpen := false, stopped := true } :=
  congrArg Prod.fst (step_connect_refused s conn k hf code h).eq

/-! ### C35: `ClientsConnected` never passes `MaximumClients` without schedule ops -/

/-- the capabilities are kept and `ClientsConnected` does not grow -/
structure fc35_R (s s' : Server) : Prop where
  caps : s'.caps = s.caps
  le : s'.info.connected ≤ s.info.connected

theorem fc35_R.refl (s : Server) : fc35_R s s := ⟨rfl, Int.le_refl _⟩
theorem fc35_R.trans {s s1 s2 : Server} (h : fc35_R s s1) (g : fc35_R s1 s2) : fc35_R s s2 :=
  ⟨g.caps.trans h.caps, Int.le_trans g.le h.le⟩

theorem fc35_detach (s : Server) (i : Nat) (b : Bool) : fc35_R s (detach s i b).1 :=
  ⟨detach_caps s i b, by rw [fc35_detach_connected]; omega⟩

theorem fc35_receivePacket (s : Server) (i : Nat) (hi : i < s.objs.length) (pk : InPk) :
    fc35_R s (receivePacket s i pk).1 :=
  ⟨(receivePacket_own s i hi pk).caps, by rw [(receivePacket_act s i pk).2]; exact Int.le_refl _⟩

theorem fc35_modObj (s : Server) (i : Nat) (f : Client → Client) : fc35_R s (modObj s i f) := ⟨rfl, Int.le_refl _⟩

theorem fc35_recvOn (s : Server) (c : Nat) (pk : InPk) (b : Bool) (hw : WF s) : fc35_R s (recvOn s c pk b).1 := by
  cases hc : assocGet s.connOf c with
  | none => rw [recvOn_unknown hc]; exact fc35_R.refl s
  | some i =>
    -- the object exists in every state the handlers reach
    have rp := fun a pk (hi : i < a.objs.length) =>
      And.intro (fc35_receivePacket a i hi pk) ((receivePacket_objs_length a i pk).symm ▸ hi)
    exact (recvOn_trAt (W := fun a b _ => i < a.objs.length → fc35_R a b ∧ i < b.objs.length)
      ⟨fun a hi => ⟨.refl a, hi⟩, fun f g hi => ⟨(f hi).1.trans (g (f hi).2).1, (g (f hi).2).2⟩⟩ i (fun x => x) s pk (rp s pk)
      (rp · _) (fun a b hi => ⟨fc35_detach a i b, (detach_objs_length a i b).symm ▸ hi⟩) c b hc
      (hw.conn_valid c i (assocGet_mem _ _ _ hc))).1

theorem fc35_tickClients_caps (s : Server) (t : Int) : (tickClients s t).1.caps = s.caps :=
  tickClients_cases (J := fun r => r.1.caps = s.caps) s t rfl
    (fun acc e _ _ h => (unsubscribeClient_caps (clearInflights acc.1 e.2) e.2).trans h)

theorem fc35_tick (s : Server) (kind : String) (t : Int) : fc35_R s (step s (.tick kind t)).1 :=
  ⟨step_tick_cases (Q := fun r => r.1.caps = s.caps) s kind t (fc35_tickClients_caps s t) (tickRetained_quiet s t).caps
    (tickInflight_quiet s t).caps (tickWills_quiet s t).caps rfl, by rw [(tick_qc s kind t).c]; exact Int.le_refl _⟩

/-- every op that is not a schedule op and not a `connect` keeps the capabilities and does not increase
    `ClientsConnected` -/
theorem fc35_step_other (s : Server) (op : Op) (hw : WF s) (h0 : 0 < s.objs.length) (hseq : op.isSeq = true)
    (hnc : ∀ conn k, op ≠ .connect conn k) : fc35_R s (step s op).1 :=
  -- well-formedness is carried along: `fc35_recvOn` needs it in the state the packet meets
  (step_seq_tr (W := fun a b _ => WF a → WF b ∧ fc35_R a b)
    ⟨fun a w => ⟨w, .refl a⟩, fun f g w => ⟨(g (f w).1).1, (f w).2.trans (g (f w).1).2⟩⟩ (fun _ m => m) s op hseq
    (conn := fun c k e => absurd e (hnc c k))
    (recv := fun c pk _ w => ⟨recvOn_wf s c pk true w, fc35_recvOn s c pk true w⟩)
    (cut := fun c pk _ _ _ w => ⟨recvOn_wf _ c pk false w, fc35_recvOn _ c pk false w⟩)
    (ping := fun s' c w => ⟨recvOn_wf s' c _ _ w, fc35_recvOn s' c _ _ w⟩)
    (peer := fun s' i w => ⟨w.of_good ((Good.refl s').mod i _ (CW.peerGone' _)), fc35_modObj s' i _⟩)
    (det := fun s' i b w => ⟨detach_wf s' i b w, fc35_detach s' i b⟩)
    (tick := fun kind t e w => by subst e; exact ⟨w.of_good (step_tick_good s kind t), fc35_tick s kind t⟩)
    (pub := fun _ _ _ _ _ w => ⟨receivePacket_wf s 0 _ w, fc35_receivePacket s 0 h0 _⟩)
    (isub := fun _ _ _ _ w => ⟨w.upd rfl rfl rfl rfl, rfl, Int.le_refl _⟩)
    (iunsub := fun _ _ w => ⟨w.upd rfl rfl rfl rfl, rfl, Int.le_refl _⟩)
    hw).2

/-- the `connect` op on a fresh connection: the capabilities are kept; refused, `ClientsConnected` is unchanged;
    admitted, it was below `MaximumClients` and grows by at most one -/
theorem fc35_step_connect (s : Server) (hw : WF s) (conn : Nat) (k : Connect)
    (hf : conn ∉ s.connOf.map (·.1)) :
    (step s (.connect conn k)).1.caps = s.caps ∧
    (step s (.connect conn k)).1.info.connected ≤ s.caps.maximumClients ∨
    fc35_R s (step s (.connect conn k)).1 := by
  cases hd : connDec s conn k with
  | some code => exact .inr (by rw [(step_connect_refused s conn k hf code hd).eq]; exact ⟨rfl, Int.le_refl _⟩)
  | none =>
    have A := step_connect_admitted s hw conn k hf hd
    exact .inl ⟨A.caps, by have := A.below; have := A.connected; omega⟩

/-! ### re-subscribing to a duplicate-free subscription map gives the same map -/

theorem inheritSubs_append (l : List (Str × Sub)) : ∀ (acc : List (Str × Sub)),
    (∀ fs ∈ l, fs.2.filter = fs.1) → ((acc ++ l).map (·.1)).Nodup → sp14_inheritSubs l acc = acc ++ l := by
  induction l with
  | nil => intro acc _ _; simp [sp14_inheritSubs]
  | cons fs rest ih =>
    intro acc hk hnd
    have hfs : fs.2.filter = fs.1 := hk fs List.mem_cons_self
    have hfresh : fs.1 ∉ acc.map (·.1) := by
      intro hm
      rw [List.map_append, List.nodup_append] at hnd
      exact hnd.2.2 _ hm _ (by simp) rfl
    show sp14_inheritSubs rest (assocSet acc fs.2.filter fs.2) = _
    rw [hfs, assocSet_of_none acc fs.1 fs.2 ((assocGet_none_iff acc fs.1).mpr hfresh)]
    have : acc ++ [(fs.1, fs.2)] ++ rest = acc ++ fs :: rest := by simp
    rw [ih (acc ++ [(fs.1, fs.2)]) (fun x hx => hk x (List.mem_cons_of_mem _ hx)) (by rw [this]; exact hnd), this]

theorem sp14_inheritSubs_eq (l : List (Str × Sub)) (hk : ∀ fs ∈ l, fs.2.filter = fs.1) (hnd : (l.map (·.1)).Nodup) :
    sp14_inheritSubs l [] = l := by
  have := inheritSubs_append l [] hk (by simpa using hnd)
  simpa using this

end Mochi.Broker
