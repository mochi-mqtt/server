import Mochi.Model.Reader
import Mochi.Lemmas.Varint
/-! Helper lemmas about the reader model (`Model/Reader.lean`): what `DecodeLength` consumed, the shape
of a successful `ReadFixedHeader`, fuel adequacy of the read loop (termination), framing. -/
namespace Mochi.Reader
open Mochi.Codec Mochi.Varint

theorem decodeLength_append (l rest : List Nat) (r : Nat × Nat) (h : decodeLength l = .ok r) :
    decodeLength (l ++ rest) = .ok r := by
  have := (decodeLength_spec l r.1 r.2 h).2.2.2.2 (l.drop r.2 ++ rest)
  rwa [← List.append_assoc, List.take_append_drop] at this

/-! ### `ReadFixedHeader` -/

/-- the conversion `uint32(fh.Remaining+bu+1)` never wraps: `Remaining ≤ 268435455`, `bu ≤ 4` -/
theorem toUint32_of_le (n bu : Nat) (h : n ≤ maxVBI) (hbu : bu ≤ 4) : toUint32 (n + bu + 1) = n + bu + 1 :=
  Nat.mod_eq_of_lt (by unfold maxVBI at h; omega)

theorem readFixedHeader_ok (m : Nat) (bs : List Nat) (fh : FixedHeader) (used : Nat)
    (h : readFixedHeader m bs = .ok fh used) :
    ∃ b rest fh0 n bu, bs = b :: rest ∧ fixedHeaderDecode b = .ok fh0 ∧ decodeLength rest = .ok (n, bu) ∧
      fh = { fh0 with remaining := n } ∧ used = bu + 1 ∧ ¬ (m > 0 ∧ n + bu + 1 > m) := by
  cases bs with
  | nil => cases h
  | cons b rest =>
    simp only [readFixedHeader] at h
    split at h
    · cases h
    · rename_i fh0 hfh
      split at h
      · cases h
      · cases h
      · rename_i n bu hd
        obtain ⟨_, hbu, _, hn, _⟩ := decodeLength_spec rest n bu hd
        rw [toUint32_of_le n bu hn hbu] at h
        split at h
        · cases h
        · rename_i hsz
          cases h
          exact ⟨b, rest, fh0, n, bu, rfl, hfh, hd, rfl, rfl, by simpa using hsz⟩

theorem readFixedHeader_used (m : Nat) (bs : List Nat) (fh : FixedHeader) (used : Nat)
    (h : readFixedHeader m bs = .ok fh used) : 2 ≤ used ∧ used ≤ 5 ∧ used ≤ bs.length := by
  obtain ⟨b, rest, fh0, n, bu, rfl, _, hd, _, rfl, _⟩ := readFixedHeader_ok m bs fh used h
  obtain ⟨_, _, _, _⟩ := decodeLength_spec rest n bu hd
  simp only [List.length_cons]; omega

/-! ### the read loop: one iteration, fuel adequacy -/

def ReadEvent.isFinal : ReadEvent → Bool
  | .packet _ => false
  | _ => true

/-- One iteration of the read loop, whatever fuel is left: it either ends the loop where it stands, or hands
    one packet on and goes round again behind it. -/
theorem readStreamFuel_succ_cases (cfg : Cfg) (ver : Nat) (bs : List Nat) :
    (∃ last, last.isFinal = true ∧ ∀ fuel, readStreamFuel cfg ver (fuel + 1) bs = ([last], bs)) ∨
    ∃ fh used pk, readFixedHeader cfg.maxPacketSize bs = .ok fh used ∧ readPacket ver fh (bs.drop used) = .ok pk ∧
      ∀ fuel, readStreamFuel cfg ver (fuel + 1) bs =
        (.packet pk :: (readStreamFuel cfg ver fuel (bs.drop (used + fh.remaining))).1,
          (readStreamFuel cfg ver fuel (bs.drop (used + fh.remaining))).2) := by
  cases hfh : readFixedHeader cfg.maxPacketSize bs with
  | needMore => exact .inl ⟨.needMore, rfl, fun _ => by simp only [readStreamFuel, hfh]⟩
  | error e => exact .inl ⟨.error e, rfl, fun _ => by simp only [readStreamFuel, hfh]⟩
  | ok fh used =>
    cases hpk : readPacket ver fh (bs.drop used) with
    | needMore => exact .inl ⟨.needMore, rfl, fun _ => by simp only [readStreamFuel, hfh, hpk]⟩
    | error e => exact .inl ⟨.error (.body e), rfl, fun _ => by simp only [readStreamFuel, hfh, hpk]⟩
    | ok pk => exact .inr ⟨fh, used, pk, rfl, hpk, fun _ => by simp only [readStreamFuel, hfh, hpk]⟩

/-- every packet consumes at least two bytes, so a unit of fuel beyond the length of the stream is never
    used -/
theorem readStreamFuel_succ (cfg : Cfg) (ver : Nat) (fuel : Nat) (bs : List Nat) (h : bs.length ≤ fuel) :
    readStreamFuel cfg ver (fuel + 1) bs = readStreamFuel cfg ver fuel bs := by
  induction fuel generalizing bs with
  | zero =>
    obtain rfl := List.eq_nil_of_length_eq_zero (Nat.le_zero.mp h)
    rfl
  | succ fuel ih =>
    rcases readStreamFuel_succ_cases cfg ver bs with ⟨last, _, e⟩ | ⟨fh, used, pk, hfh, _, e⟩
    · rw [e, e]
    · have hu := readFixedHeader_used _ _ _ _ hfh
      rw [e, e, ih _ (by rw [List.length_drop]; omega)]

/-- **termination**: once the fuel reaches the length of the stream, more fuel changes nothing — the
    read loop never runs out of iterations. -/
theorem readStreamFuel_stable (cfg : Cfg) (ver : Nat) (fuel : Nat) (bs : List Nat) (h : bs.length ≤ fuel) :
    readStreamFuel cfg ver fuel bs = readStream cfg ver bs := by
  induction h with
  | refl => rfl
  | step h ih => rw [readStreamFuel_succ cfg ver _ bs h, ih]

/-- the unfolding equation of the read loop (what one iteration of `Client.Read` does) -/
theorem readStream_step (cfg : Cfg) (ver : Nat) (bs : List Nat) :
    readStream cfg ver bs =
      match readFixedHeader cfg.maxPacketSize bs with
      | .needMore => ([.needMore], bs)
      | .error e => ([.error e], bs)
      | .ok fh used =>
        match readPacket ver fh (bs.drop used) with
        | .needMore => ([.needMore], bs)
        | .error e => ([.error (.body e)], bs)
        | .ok pk =>
          let r := readStream cfg ver (bs.drop (used + fh.remaining))
          (.packet pk :: r.1, r.2) := by
  -- dropping never lengthens: the fuel `bs.length` is enough for every tail of `bs`
  have inner k : readStreamFuel cfg ver bs.length (bs.drop k) = readStream cfg ver (bs.drop k) :=
    readStreamFuel_stable _ _ _ _ (by rw [List.length_drop]; omega)
  rw [← readStreamFuel_stable cfg ver (bs.length + 1) bs (Nat.le_succ _), readStreamFuel]
  simp only [inner]
  rfl

/-! ### framing -/

/-- the bytes one `packet` event accounts for -/
structure Frame where
  hb : Nat                  -- type and flags
  lenBytes : List Nat       -- the variable byte integer "remaining length"
  body : List Nat
  pk : Packet               -- what the body decoded to
deriving Repr

def Frame.bytes (f : Frame) : List Nat := f.hb :: (f.lenBytes ++ f.body)

/-- `f` is one MQTT control packet: its length bytes encode exactly `body.length`, and header byte and
    body decode (at the client's version) to `f.pk` -/
def Frame.Decodes (ver : Nat) (f : Frame) : Prop :=
  ∃ fh, fixedHeaderDecode f.hb = .ok fh ∧
        decodeLength f.lenBytes = .ok (f.body.length, f.lenBytes.length) ∧
        decodeBody ver { fh with remaining := f.body.length } f.body = .ok f.pk

theorem readPacket_ok (ver : Nat) (fh : FixedHeader) (bs : List Nat) (pk : Packet)
    (h : readPacket ver fh bs = .ok pk) :
    fh.remaining ≤ bs.length ∧ decodeBody ver fh (bs.take fh.remaining) = .ok pk := by
  unfold readPacket at h
  split at h
  · cases h
  · rename_i hl
    split at h
    · rename_i hd
      cases h
      exact ⟨Nat.le_of_not_lt hl, hd⟩
    · cases h

/-- a fixed header and a body read in full are one frame at the head of the stream -/
theorem frame_of_read (m ver : Nat) (bs : List Nat) (fh : FixedHeader) (used : Nat) (pk : Packet)
    (hfh : readFixedHeader m bs = .ok fh used) (hpk : readPacket ver fh (bs.drop used) = .ok pk) :
    ∃ f : Frame, f.pk = pk ∧ f.Decodes ver ∧ bs = f.bytes ++ bs.drop (used + fh.remaining) := by
  obtain ⟨b, rest, fh0, n, bu, rfl, hfh0, hd, rfl, rfl, _⟩ := readFixedHeader_ok _ _ _ _ hfh
  obtain ⟨hlen, hbody⟩ := readPacket_ok _ _ _ _ hpk
  obtain ⟨_, _, hb, _, htake⟩ := decodeLength_spec rest n bu hd
  simp only [List.drop_succ_cons, List.length_drop] at hlen hbody
  have hbl : ((rest.drop bu).take n).length = n := by rw [List.length_take, List.length_drop]; omega
  have hll : (rest.take bu).length = bu := by rw [List.length_take]; omega
  refine ⟨⟨b, rest.take bu, (rest.drop bu).take n, pk⟩, rfl, ⟨fh0, hfh0, ?_, ?_⟩, ?_⟩
  · rw [hbl, hll]; have := htake []; rwa [List.append_nil] at this
  · rw [hbl]; exact hbody
  · show b :: rest = b :: (rest.take bu ++ (rest.drop bu).take n) ++ (b :: rest).drop (bu + 1 + n)
    rw [show bu + 1 + n = (bu + n) + 1 by omega, List.drop_succ_cons, ← List.drop_drop, List.cons_append,
      List.append_assoc, List.take_append_drop, List.take_append_drop]

theorem readStreamFuel_frames (cfg : Cfg) (ver : Nat) (fuel : Nat) (bs : List Nat) :
    ∃ (frames : List Frame) (last : ReadEvent),
      (readStreamFuel cfg ver fuel bs).1 = frames.map (fun f => ReadEvent.packet f.pk) ++ [last] ∧
      last.isFinal = true ∧ (∀ f ∈ frames, f.Decodes ver) ∧
      bs = frames.flatMap Frame.bytes ++ (readStreamFuel cfg ver fuel bs).2 := by
  induction fuel generalizing bs with
  | zero => exact ⟨[], .needMore, rfl, rfl, by simp, rfl⟩
  | succ fuel ih =>
    rcases readStreamFuel_succ_cases cfg ver bs with ⟨last, hlast, e⟩ | ⟨fh, used, pk, hfh, hpk, e⟩
    · exact ⟨[], last, by rw [e]; rfl, hlast, by simp, by rw [e]; rfl⟩
    · obtain ⟨f, rfl, hf, hbs⟩ := frame_of_read _ _ _ _ _ _ hfh hpk
      obtain ⟨frames, last, h1, h2, h3, h4⟩ := ih (bs.drop (used + fh.remaining))
      refine ⟨f :: frames, last, by rw [e, h1]; rfl, h2, List.forall_mem_cons.mpr ⟨hf, h3⟩, ?_⟩
      rw [e, List.flatMap_cons, List.append_assoc, ← h4]
      exact hbs

end Mochi.Reader
