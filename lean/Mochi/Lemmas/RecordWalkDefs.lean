import Mochi.Lemmas.BrokerFrame
import Mochi.Lemmas.BrokerExitsDelivery
/-!
# The record of one exchange, kept: the relations of the survival walks

C09 (the record of an OUTBOUND exchange) and C08 (the PUBREC record of an INBOUND QoS 2 exchange) follow one in-flight
record through every handler.  What they share is developed once, over the test `ok m p` that says message `m` is the
record described by `p`:

* `RecWalk.Rec ok c k p` — client object `c` holds such a record under packet identifier `k`;
* `RecWalk.RK ok k a b`  — `b` keeps the record of exchange `k` of `a`, and the parameters that decide whether the session
                        ends with its connection;
* `RecWalk.Surv`, `RecWalk.SurvW` — every object does / every object but the acting one, which does under a condition `own`.
-/
namespace Mochi.Broker
open Mochi.Topics

/-! ### reading the in-flight list -/

theorem flGet_flSet_ne (c : Client) (m : Msg) (k : Nat) (h : m.id ≠ k) : flGet (flSet c m).1 k = flGet c k := by
  unfold flSet
  split
  · unfold flGet
    show List.find? _ (c.inflight.map _) = _
    induction c.inflight with
    | nil => rfl
    | cons x xs ih =>
      rw [List.map_cons, List.find?_cons, List.find?_cons]
      by_cases hx : x.id = m.id
      · have h1 : (x.id == m.id) = true := by simpa using hx
        have h2 : (m.id == k) = false := by simpa using h
        have h3 : (x.id == k) = false := by rw [hx]; exact h2
        simp only [h1, if_true, h2, h3]
        exact ih
      · have h1 : (x.id == m.id) = false := by simpa using hx
        simp only [h1, Bool.false_eq_true, if_false]
        cases (x.id == k) with
        | true => rfl
        | false => exact ih
  · unfold flGet
    show List.find? _ (c.inflight ++ [m]) = _
    rw [List.find?_append]
    have h2 : (m.id == k) = false := by simpa using h
    cases List.find? (fun x => x.id == k) c.inflight with
    | some y => rfl
    | none => simp [h2]

theorem flGet_flDelete_ne (c : Client) (id k : Nat) (h : id ≠ k) : flGet (flDelete c id).1 k = flGet c k := by
  unfold flDelete flGet
  show List.find? _ (c.inflight.filter _) = _
  induction c.inflight with
  | nil => rfl
  | cons x xs ih =>
    rw [List.filter_cons, List.find?_cons]
    by_cases hx : x.id = id
    · have h1 : (x.id != id) = false := by simp [hx]
      have h3 : (x.id == k) = false := by rw [hx]; simpa using h
      simp only [h1, Bool.false_eq_true, if_false, h3]
      exact ih
    · have h1 : (x.id != id) = true := by simpa using hx
      simp only [h1, if_true, List.find?_cons]
      cases (x.id == k) with
      | true => rfl
      | false => exact ih

theorem flGet_of_mem (c : Client) (m : Msg) (hn : (c.inflight.map (·.id)).Nodup) (hm : m ∈ c.inflight) :
    flGet c m.id = some m := by
  unfold flGet
  generalize c.inflight = l at hn hm
  induction l with
  | nil => cases hm
  | cons x xs ih =>
    rw [List.map_cons, List.nodup_cons] at hn
    rw [List.find?_cons]
    rcases List.mem_cons.mp hm with h | h
    · subst h; simp
    · have hx : x.id ≠ m.id := fun e => hn.1 (e ▸ List.mem_map_of_mem h)
      have : (x.id == m.id) = false := by simpa using hx
      rw [this]
      exact ih hn.2 h

theorem nextPacketID_fresh (c : Client) (maxID pid : Nat) (h : nextPacketID c maxID = some pid) :
    flGet c pid = none :=
  (nextPacketID_some h).2.2

/-! ### what a write to a client reads of it -/

theorem SessEq.live {a b : Client} (h : SessEq a b) : LiveEq a b :=
  ⟨h.isOpen.symm, h.peerGone.symm, h.inline.symm, h.conn.symm, h.ver.symm⟩
theorem LiveEq.flDelete' (c : Client) (id : Nat) : LiveEq c (flDelete c id).1 := ⟨rfl, rfl, rfl, rfl, rfl⟩
theorem LiveEq.decRecv' (c : Client) : LiveEq c (decRecv c) := by
  unfold Mochi.Broker.decRecv; split <;> exact ⟨rfl, rfl, rfl, rfl, rfl⟩
theorem LiveEq.incRecv' (c : Client) : LiveEq c (incRecv c) := by
  unfold Mochi.Broker.incRecv; split <;> exact ⟨rfl, rfl, rfl, rfl, rfl⟩
theorem LiveEq.incSend' (c : Client) : LiveEq c (incSend c) := by
  unfold Mochi.Broker.incSend; split <;> exact ⟨rfl, rfl, rfl, rfl, rfl⟩

theorem LiveEq.get_set {s s' : Server} {i : Nat} {c : Client} (ho : s'.objs = (setObj s i c).objs)
    (h : LiveEq (getObj s i) c) : LiveEq (getObj s i) (getObj s' i) := by
  rw [getObj_of_objs_eq ho i]
  exact getObj_setObj_ind (P := LiveEq (getObj s i)) s i c i (LiveEq.refl _) fun _ => h

namespace RecWalk
variable {π : Type} {ok : Msg → π → Bool}

/-! ### client level: what keeps the record -/

def Rec (ok : Msg → π → Bool) (c : Client) (k : Nat) (p : π) : Prop := ∃ m, flGet c k = some m ∧ ok m p = true

theorem Rec.of_infl {a b : Client} {k : Nat} {p : π} (h : b.inflight = a.inflight) (r : Rec ok a k p) : Rec ok b k p := by
  obtain ⟨m, hm, ho⟩ := r
  exact ⟨m, by unfold flGet at hm ⊢; rw [h]; exact hm, ho⟩

theorem Rec.ne_of_none {c : Client} {k id : Nat} {p : π} (r : Rec ok c k p) (h : flGet c id = none) : id ≠ k := by
  rintro rfl
  obtain ⟨m, hm, _⟩ := r
  rw [h] at hm; cases hm

theorem Rec.ne_of_mem {c : Client} {k : Nat} {p : π} (r : Rec ok c k p) (hn : (c.inflight.map (·.id)).Nodup)
    {m : Msg} (hm : m ∈ c.inflight) (hb : ok m p = false) : m.id ≠ k := by
  intro e
  obtain ⟨m0, hm0, ho⟩ := r
  have := flGet_of_mem c m hn hm
  rw [e, hm0] at this
  cases this
  rw [ho] at hb; cases hb

/-- `b` keeps the record of exchange `k` of `a`, and the parameters that decide whether the session ends with its
    connection -/
structure RK (ok : Msg → π → Bool) (k : Nat) (a b : Client) : Prop where
  keep : ∀ p, Rec ok a k p → Rec ok b k p
  ver : b.ver = a.ver
  clean : b.clean = a.clean
  sei : b.sei = a.sei
  takenOver : b.takenOver = a.takenOver

/-- closes `RK ok k a b` when `b` is `a` with fields other than the five rewritten -/
macro "rk_rfl" : tactic => `(tactic| exact ⟨fun _ h => h, rfl, rfl, rfl, rfl⟩)

theorem RK.refl (k : Nat) (a : Client) : RK ok k a a := by rk_rfl
theorem RK.trans {k : Nat} {a b c : Client} (h : RK ok k a b) (g : RK ok k b c) : RK ok k a c :=
  ⟨fun p r => g.keep p (h.keep p r), g.ver.trans h.ver, g.clean.trans h.clean, g.sei.trans h.sei,
   g.takenOver.trans h.takenOver⟩

theorem RK.of_sess_keep {k : Nat} {a b : Client} (h : SessEq a b) (hk : ∀ p, Rec ok a k p → Rec ok b k p) :
    RK ok k a b := ⟨hk, h.ver.symm, h.clean.symm, h.sei.symm, h.takenOver.symm⟩

theorem RK.of_sess {k : Nat} {a b : Client} (h : SessEq a b) (hi : b.inflight = a.inflight) : RK ok k a b :=
  .of_sess_keep h fun _ r => r.of_infl hi

theorem RK.flSet_ne' (k : Nat) (c : Client) (m : Msg) (h : m.id ≠ k) : RK ok k c (flSet c m).1 :=
  .of_sess_keep (SessEq.flSet c m) fun _ ⟨m0, hm0, ho⟩ => ⟨m0, by rw [flGet_flSet_ne c m k h]; exact hm0, ho⟩

theorem RK.flDelete_ne' (k : Nat) (c : Client) (id : Nat) (h : id ≠ k) : RK ok k c (flDelete c id).1 := by
  refine ⟨fun p r => ?_, rfl, rfl, rfl, rfl⟩
  obtain ⟨m0, hm0, ho⟩ := r
  exact ⟨m0, by rw [flGet_flDelete_ne c id k h]; exact hm0, ho⟩

/-- rewriting the record under `m.id` keeps exchange `k` if `m` is itself a record of the exchange (PUBREC → PUBREL) -/
theorem RK.flSet_ok' (k : Nat) (c : Client) (m : Msg) (h : m.id = k → ∀ p, ok m p = true) : RK ok k c (flSet c m).1 := by
  by_cases hk : m.id = k
  · exact .of_sess_keep (SessEq.flSet c m) fun p _ => ⟨m, by rw [← hk]; exact flGet_flSet_self_sv c m, h hk p⟩
  · exact RK.flSet_ne' k c m hk

theorem RK.decSend' (k : Nat) (c : Client) : RK ok k c (decSend c) := by
  unfold Mochi.Broker.decSend; split <;> rk_rfl
theorem RK.incSend' (k : Nat) (c : Client) : RK ok k c (incSend c) := by
  unfold Mochi.Broker.incSend; split <;> rk_rfl
theorem RK.decRecv' (k : Nat) (c : Client) : RK ok k c (decRecv c) := by
  unfold Mochi.Broker.decRecv; split <;> rk_rfl
theorem RK.incRecv' (k : Nat) (c : Client) : RK ok k c (incRecv c) := by
  unfold Mochi.Broker.incRecv; split <;> rk_rfl
theorem RK.aliasOutSet' (k : Nat) (c : Client) (t : Str) : RK ok k c (aliasOutSet c t).1 := by
  obtain ⟨ao, cur, e⟩ := aliasOutSet_eq c t
  rw [e]
  rk_rfl

theorem RK.decSend {k : Nat} {a b : Client} (h : RK ok k a b) : RK ok k a (decSend b) := h.trans (RK.decSend' k b)
theorem RK.incSend {k : Nat} {a b : Client} (h : RK ok k a b) : RK ok k a (incSend b) := h.trans (RK.incSend' k b)
theorem RK.incRecv {k : Nat} {a b : Client} (h : RK ok k a b) : RK ok k a (incRecv b) := h.trans (RK.incRecv' k b)
theorem RK.flSet_ne {k : Nat} {a b : Client} (h : RK ok k a b) (m : Msg) (hm : m.id ≠ k) : RK ok k a (flSet b m).1 :=
  h.trans (RK.flSet_ne' k b m hm)
theorem RK.flDelete_ne {k : Nat} {a b : Client} (h : RK ok k a b) (id : Nat) (hm : id ≠ k) :
    RK ok k a (flDelete b id).1 := h.trans (RK.flDelete_ne' k b id hm)

/-- a condition on the identifier that only has to hold when `a` holds the record at all -/
theorem RK.flSet_if {k : Nat} {a b : Client} (h : RK ok k a b) (m : Msg) (hm : ∀ p, Rec ok a k p → m.id ≠ k) :
    RK ok k a (flSet b m).1 :=
  have e := SessEq.flSet b m
  ⟨fun p r => (h.flSet_ne m (hm p r)).keep p r, e.ver.symm.trans h.ver, e.clean.symm.trans h.clean,
    e.sei.symm.trans h.sei, e.takenOver.symm.trans h.takenOver⟩

theorem RK.flDelete_if {k : Nat} {a b : Client} (h : RK ok k a b) (id : Nat) (hm : ∀ p, Rec ok a k p → id ≠ k) :
    RK ok k a (flDelete b id).1 :=
  ⟨fun p r => ((h.flDelete_ne id (hm p r)).keep p r), h.ver, h.clean, h.sei, h.takenOver⟩

theorem RK.get_set {k : Nat} {s : Server} {i : Nat} {c d : Client} (h1 : RK ok k (getObj s i) c) (h2 : RK ok k c d) :
    RK ok k (getObj (setObj s i c) i) d :=
  getObj_setObj_ind (P := fun z => RK ok k z d) s i c i (h1.trans h2) fun _ => h2

/-! ### server level -/

/-- every object keeps the record of exchange `k` and its session parameters -/
def Surv (ok : Msg → π → Bool) (k : Nat) (s s' : Server) : Prop := ∀ x, RK ok k (getObj s x) (getObj s' x)

/-- work done for object `j`: every OTHER object keeps the record of exchange `k`; object `j` itself does if `own` -/
def SurvW (ok : Msg → π → Bool) (j k : Nat) (own : Prop) (s s' : Server) : Prop :=
  ∀ x, (x ≠ j ∨ own) → RK ok k (getObj s x) (getObj s' x)

theorem Surv.refl (k : Nat) (s : Server) : Surv ok k s s := fun _ => RK.refl k _
theorem Surv.trans {k : Nat} {s s1 s2 : Server} (h : Surv ok k s s1) (g : Surv ok k s1 s2) : Surv ok k s s2 :=
  fun x => (h x).trans (g x)
theorem Surv.upd {k : Nat} {s0 s s' : Server} (h : Surv ok k s0 s) (ho : s'.objs = s.objs) : Surv ok k s0 s' :=
  fun x => by rw [getObj_of_objs_eq ho x]; exact h x
/-- writing an object related to what was there at the START (`SurvW.set`, for the acting object, asks for the
    relation to what is there NOW; here that is the special case `(h i).trans hc`) -/
theorem Surv.set {k : Nat} {s0 s : Server} (h : Surv ok k s0 s) (i : Nat) (c : Client) (hc : RK ok k (getObj s0 i) c) :
    Surv ok k s0 (setObj s i c) :=
  fun x => getObj_setObj_ind (P := RK ok k (getObj s0 x)) s i c x (h x) fun e => e ▸ hc
/-- an object is rewritten by `f`.  `f` is said to keep the record of ANY client: a proof by `rk_rfl` about the term
    `getObj s i` is much slower to check than one about a variable. -/
theorem Surv.mod {k : Nat} {s0 s : Server} (h : Surv ok k s0 s) (i : Nat) (f : Client → Client)
    (hf : ∀ c, RK ok k c (f c)) : Surv ok k s0 (modObj s i f) := h.set i _ ((h i).trans (hf _))

theorem SurvW.refl (j k : Nat) (own : Prop) (s : Server) : SurvW ok j k own s s := fun _ _ => RK.refl k _
theorem SurvW.trans {j k : Nat} {own : Prop} {s s1 s2 : Server} (h : SurvW ok j k own s s1)
    (g : SurvW ok j k own s1 s2) : SurvW ok j k own s s2 := fun x hx => (h x hx).trans (g x hx)
theorem Surv.w {k : Nat} {s s' : Server} (h : Surv ok k s s') (j : Nat) (own : Prop) : SurvW ok j k own s s' :=
  fun x _ => h x
theorem SurvW.surv {j k : Nat} {own : Prop} {s0 s s' : Server} (h : SurvW ok j k own s0 s) (g : Surv ok k s s') :
    SurvW ok j k own s0 s' := h.trans (g.w j own)
theorem SurvW.weaken {j k : Nat} {own own' : Prop} {s s' : Server} (h : SurvW ok j k own s s') (hw : own' → own) :
    SurvW ok j k own' s s' := fun x hx => h x (hx.imp (fun a => a) hw)
theorem SurvW.upd {j k : Nat} {own : Prop} {s0 s s' : Server} (h : SurvW ok j k own s0 s) (ho : s'.objs = s.objs) :
    SurvW ok j k own s0 s' := fun x hx => by rw [getObj_of_objs_eq ho x]; exact h x hx
/-- the acting object is rewritten: related to what is there NOW, if `own` -/
theorem SurvW.set {j k : Nat} {own : Prop} {s0 s : Server} (h : SurvW ok j k own s0 s) (c : Client)
    (hc : own → RK ok k (getObj s j) c) : SurvW ok j k own s0 (setObj s j c) :=
  fun x hx => getObj_setObj_ind (P := RK ok k (getObj s0 x)) s j c x (h x hx) fun e => by
    subst e
    exact (h x hx).trans (hc (hx.resolve_left fun n => n rfl))
theorem SurvW.mod {j k : Nat} {own : Prop} {s0 s : Server} (h : SurvW ok j k own s0 s) (f : Client → Client)
    (hf : own → ∀ c, RK ok k c (f c)) : SurvW ok j k own s0 (modObj s j f) := h.set _ (fun ho => hf ho _)
theorem SurvW.fst_mk {α} {j k : Nat} {own : Prop} {s0 x : Server} {y : α} (h : SurvW ok j k own s0 x) :
    SurvW ok j k own s0 (x, y).1 := h
theorem SurvW.own {j k : Nat} {own : Prop} {s s' : Server} (h : SurvW ok j k own s s') (ho : own) : Surv ok k s s' :=
  fun x => h x (Or.inr ho)

end RecWalk
end Mochi.Broker
