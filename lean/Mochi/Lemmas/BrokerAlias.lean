import Mochi.Lemmas.BrokerInv
import Mochi.Lemmas.BrokerFrame
import Mochi.Lemmas.BrokerExitsFanout
/-!
# C24 over histories: the receiver's view of the outbound topic aliases

`seenBindings outs conn`: what the peer of connection `conn` has learnt from the PUBLISH packets written to it —
the (alias, topic) pairs of the packets that carried BOTH a non-empty topic and an alias, in order.
`AliasSync s outs`: every pair in the outbound alias table of a live client (open, peer present, not inline; Topic
Alias Maximum > 0) is in the view of its connection.  FALSE in general (F24a, F24b — `Props/C24.lean` has the
counterexamples); an invariant of `step` on the class where no delivery is dropped in the op (`info.inflightDropped`
unchanged) and aliased clients have no Receive Maximum (`Calm`: no deferral).

Everything here is in the namespace `Mochi.Broker.A24`.
-/
namespace Mochi.Broker.A24
open Mochi.Topics Mochi.Broker

/-- the binding a written packet teaches the peer of `conn` -/
def pubBinding (conn : Nat) : Out → Option (Nat × Str)
  | .wrote n (.publish _ m _) => if n = conn ∧ 0 < m.alias ∧ m.topic ≠ [] then some (m.alias, m.topic) else none
  | _ => none

/-- the receiver's view: (alias, topic) pairs of the PUBLISH packets written to `conn` with both, in order -/
def seenBindings (outs : List Out) (conn : Nat) : List (Nat × Str) := outs.filterMap (pubBinding conn)

/-- the last binding wins -/
def viewLookup (view : List (Nat × Str)) (a : Nat) : Option Str := (view.reverse.find? (·.1 == a)).map (·.2)

/-- a written PUBLISH names its topic, or carries an alias the view binds -/
def Resolvable (view : List (Nat × Str)) (m : Msg) : Prop :=
  m.topic ≠ [] ∨ (0 < m.alias ∧ (viewLookup view m.alias).isSome = true)

instance (view : List (Nat × Str)) (m : Msg) : Decidable (Resolvable view m) := by
  unfold Resolvable; infer_instance

/-- the client's writes reach a peer -/
def Live (c : Client) : Prop := c.isOpen = true ∧ c.peerGone = false ∧ c.inline = false

instance (c : Client) : Decidable (Live c) := by unfold Live; infer_instance

/-- every (non-empty topic, alias) pair in the outbound table of a live aliased client is in its peer's view -/
def AliasSync (s : Server) (outs : List Out) : Prop :=
  ∀ k, Live (getObj s k) → 0 < (getObj s k).tam → ∀ t a, (t, a) ∈ (getObj s k).aliasOut → t ≠ [] →
    (a, t) ∈ seenBindings outs (getObj s k).conn

/-- the outputs of a whole history -/
def runOuts (s : Server) : List Op → List Out
  | [] => []
  | op :: ops => (step s op).2 ++ runOuts (step s op).1 ops

/-- every PUBLISH in `o` is resolvable in the view accumulated up to and including itself (`pre`: what was written
    before `o`) -/
def ResOuts (pre o : List Out) : Prop :=
  ∀ p q conn ver m me, o = p ++ Out.wrote conn (.publish ver m me) :: q →
    Resolvable (seenBindings (pre ++ p ++ [Out.wrote conn (.publish ver m me)]) conn) m

/-- no aliased client has a Receive Maximum: nothing is ever deferred for it -/
def Calm (c : Client) : Prop := 0 < c.tam → c.maxSend = 0 ∧ c.recvMaxProp = 0

instance (c : Client) : Decidable (Calm c) := by unfold Calm; infer_instance

/-- executable form of `ResOuts`: the (connection, packet) pairs of the PUBLISH packets in `o` that are NOT resolvable
    in the view accumulated up to and including themselves -/
def unresolved (pre : List Out) : List Out → List (Nat × Msg)
  | [] => []
  | x :: xs =>
    (match x with
      | .wrote conn (.publish _ m _) => if Resolvable (seenBindings (pre ++ [x]) conn) m then [] else [(conn, m)]
      | _ => []) ++ unresolved (pre ++ [x]) xs

/-- the class of one op: nothing is dropped (in-flight limit, packet ids exhausted), every client is `Calm` before
    it, and a CONNECT with a Topic Alias Maximum carries no Receive Maximum -/
def OpClass (s : Server) (op : Op) : Prop :=
  (step s op).1.info.inflightDropped = s.info.inflightDropped ∧ (∀ c ∈ s.objs, Calm c) ∧
  (match op with
   | .connect _ k => 0 < k.tam.getD 0 → k.rm.getD 0 = 0
   | .connectHold _ k _ => 0 < k.tam.getD 0 → k.rm.getD 0 = 0
   | _ => True)

instance (s : Server) (op : Op) : Decidable (OpClass s op) := by
  unfold OpClass
  cases op <;> infer_instance

def OpsClass (s : Server) : List Op → Prop
  | [] => True
  | op :: ops => OpClass s op ∧ OpsClass (step s op).1 ops

theorem OpsClass_iff {s : Server} {ops : List Op} : OpsClass s ops ↔ OpsOK OpClass s ops :=
  OpsOK.of_rec (fun _ => trivial) (fun _ _ _ => Iff.rfl) s ops

instance opsClassDec (s : Server) (ops : List Op) : Decidable (OpsClass s ops) :=
  decidable_of_iff _ OpsClass_iff.symm

theorem seenBindings_append (o1 o2 : List Out) (conn : Nat) :
    seenBindings (o1 ++ o2) conn = seenBindings o1 conn ++ seenBindings o2 conn := by
  simp only [seenBindings, List.filterMap_append]

theorem seenBindings_nil (conn : Nat) : seenBindings [] conn = [] := rfl

theorem viewLookup_isSome {view : List (Nat × Str)} {a : Nat} {t : Str} (h : (a, t) ∈ view) :
    (viewLookup view a).isSome = true := by
  unfold viewLookup
  rw [Option.isSome_map, List.find?_isSome]
  exact ⟨(a, t), List.mem_reverse.mpr h, by simp⟩

theorem seen_mono_left {o1 : List Out} (o2 : List Out) {conn : Nat} {x : Nat × Str} (h : x ∈ seenBindings o1 conn) :
    x ∈ seenBindings (o1 ++ o2) conn := by
  rw [seenBindings_append]; exact List.mem_append_left _ h

theorem seen_mono_right (o1 : List Out) {o2 : List Out} {conn : Nat} {x : Nat × Str} (h : x ∈ seenBindings o2 conn) :
    x ∈ seenBindings (o1 ++ o2) conn := by
  rw [seenBindings_append]; exact List.mem_append_right _ h

/-! ### `ResOuts` -/

theorem ResOuts.nil (pre : List Out) : ResOuts pre [] := by
  intro p q conn ver m me h
  cases p <;> cases h

theorem ResOuts.append {pre o1 o2 : List Out} (h1 : ResOuts pre o1) (h2 : ResOuts (pre ++ o1) o2) :
    ResOuts pre (o1 ++ o2) := by
  intro p q conn ver m me h
  rcases List.append_eq_append_iff.mp h with ⟨a', ha, hb⟩ | ⟨c', ha, hb⟩
  · -- p = o1 ++ a', o2 = a' ++ x :: q
    have := h2 a' q conn ver m me hb
    rw [ha, ← List.append_assoc]; exact this
  · -- o1 = p ++ c', x :: q = c' ++ o2
    cases c' with
    | nil =>
      have hp : p = o1 := by simpa using ha.symm
      have := h2 [] q conn ver m me (by simpa using hb.symm)
      rw [hp]; simpa using this
    | cons y ys =>
      have hy : y = Out.wrote conn (.publish ver m me) := by
        have := hb; simp only [List.cons_append, List.cons.injEq] at this; exact this.1.symm
      subst hy
      exact h1 p ys conn ver m me ha

/-- outputs without a PUBLISH -/
def NoPub (o : List Out) : Prop := ∀ conn ver m me, Out.wrote conn (.publish ver m me) ∉ o

theorem ResOuts.of_noPub {pre o : List Out} (h : NoPub o) : ResOuts pre o := by
  intro p q conn ver m me e
  exact absurd (e ▸ List.mem_append_right _ List.mem_cons_self) (h conn ver m me)

/-! ### the Hoare-style relation -/

/-- `s'` with outputs `o` results from `s`: the drop counter only grows, `Calm` objects stay `Calm`, and — when nothing
    was dropped and everything was `Calm` — `AliasSync` is carried from any earlier outputs `pre` to `pre ++ o`, every
    PUBLISH of `o` being resolvable where it stands -/
structure AH (s s' : Server) (o : List Out) : Prop where
  mono : s.info.inflightDropped ≤ s'.info.inflightDropped
  calm : (∀ k, Calm (getObj s k)) → ∀ k, Calm (getObj s' k)
  sync : s'.info.inflightDropped = s.info.inflightDropped → (∀ k, Calm (getObj s k)) →
    ∀ pre, AliasSync s pre → AliasSync s' (pre ++ o) ∧ ResOuts pre o

theorem AH.refl (s : Server) : AH s s [] :=
  ⟨Int.le_refl _, fun h => h, fun _ _ pre h => ⟨by rw [List.append_nil]; exact h, ResOuts.nil pre⟩⟩

theorem AH.trans {s s1 s2 : Server} {o1 o2 : List Out} (h : AH s s1 o1) (g : AH s1 s2 o2) : AH s s2 (o1 ++ o2) := by
  refine ⟨Int.le_trans h.mono g.mono, fun x => g.calm (h.calm x), fun hd hc pre hs => ?_⟩
  have e1 : s1.info.inflightDropped = s.info.inflightDropped := by have := h.mono; have := g.mono; omega
  have e2 : s2.info.inflightDropped = s1.info.inflightDropped := by omega
  obtain ⟨a1, r1⟩ := h.sync e1 hc pre hs
  obtain ⟨a2, r2⟩ := g.sync e2 (h.calm hc) (pre ++ o1) a1
  exact ⟨by rw [← List.append_assoc]; exact a2, r1.append r2⟩

/-- client level: nothing the sync depends on changes -/
structure AK (a b : Client) : Prop where
  conn : b.conn = a.conn
  tam : b.tam = a.tam
  aliasOut : b.aliasOut = a.aliasOut
  live : Live b → Live a
  calm : Calm a → Calm b

theorem AK.refl (a : Client) : AK a a := ⟨rfl, rfl, rfl, fun h => h, fun h => h⟩
theorem AK.trans {a b c : Client} (h : AK a b) (g : AK b c) : AK a c :=
  ⟨g.conn.trans h.conn, g.tam.trans h.tam, g.aliasOut.trans h.aliasOut, fun x => h.live (g.live x),
   fun x => g.calm (h.calm x)⟩

/-- server level: the drop counter and every object's sync-relevant fields are kept -/
structure AQ (s s' : Server) : Prop where
  drop : s'.info.inflightDropped = s.info.inflightDropped
  all : ∀ k, AK (getObj s k) (getObj s' k)

theorem AQ.refl (s : Server) : AQ s s := ⟨rfl, fun _ => AK.refl _⟩
theorem AQ.trans {s s1 s2 : Server} (h : AQ s s1) (g : AQ s1 s2) : AQ s s2 :=
  ⟨g.drop.trans h.drop, fun k => (h.all k).trans (g.all k)⟩

theorem AQ.upd {s0 s s' : Server} (h : AQ s0 s) (ho : s'.objs = s.objs)
    (hd : s'.info.inflightDropped = s.info.inflightDropped) : AQ s0 s' :=
  ⟨hd.trans h.drop, fun k => by rw [getObj_of_objs_eq ho k]; exact h.all k⟩

theorem AQ.set {s0 s : Server} (h : AQ s0 s) (i : Nat) (c : Client) (hc : AK (getObj s i) c) :
    AQ s0 (setObj s i c) :=
  h.trans ⟨rfl, fun k => getObj_setObj_ind s i c k (AK.refl _) fun e => e ▸ hc⟩

theorem AQ.mod {s0 s : Server} (h : AQ s0 s) (i : Nat) (f : Client → Client)
    (hf : AK (getObj s i) (f (getObj s i))) : AQ s0 (modObj s i f) := h.set i _ hf

theorem AQ.sync {s s' : Server} (h : AQ s s') {pre : List Out} (hs : AliasSync s pre) (o : List Out) :
    AliasSync s' (pre ++ o) := by
  intro k hl ht t a hm hne
  have ak := h.all k
  have := hs k (ak.live hl) (by rw [← ak.tam]; exact ht) t a (by rw [← ak.aliasOut]; exact hm) hne
  rw [ak.conn]; exact seen_mono_left o this

theorem AQ.ah {s s' : Server} (h : AQ s s') {o : List Out} (ho : NoPub o) : AH s s' o :=
  ⟨Int.le_of_eq h.drop.symm, fun hc k => (h.all k).calm (hc k),
   fun _ _ _ hs => ⟨h.sync hs o, ResOuts.of_noPub ho⟩⟩

theorem AH.stepQ {s s1 s2 : Server} {o : List Out} (h : AH s s1 o) (g : AQ s1 s2) : AH s s2 o := by
  have := h.trans (g.ah (o := []) (fun _ _ _ _ hm => by cases hm))
  rw [List.append_nil] at this; exact this

/-! ### the core: `publishToClientCore` -/

theorem aliasOutSet_spec (c : Client) (t : Str) :
    (∀ t' al, (t', al) ∈ (aliasOutSet c t).1.aliasOut →
      (t', al) ∈ c.aliasOut ∨ (t' = t ∧ al = (aliasOutSet c t).2.1 ∧ (aliasOutSet c t).2.2 = false ∧ 0 < al)) ∧
    ((aliasOutSet c t).2.2 = true → (t, (aliasOutSet c t).2.1) ∈ c.aliasOut) := by
  unfold aliasOutSet
  by_cases h0 : (c.tam == 0) = true
  · rw [if_pos h0]; exact ⟨fun _ _ h => Or.inl h, fun h => by cases h⟩
  · rw [if_neg h0]
    cases hg : assocGet c.aliasOut t with
    | some a => exact ⟨fun _ _ h => Or.inl h, fun _ => assocGet_mem _ _ _ hg⟩
    | none =>
      by_cases hf : c.aliasCursor + 1 > c.tam
      · simp only [if_pos hf]; exact ⟨fun _ _ h => Or.inl h, fun h => by cases h⟩
      · simp only [if_neg hf]
        refine ⟨fun t' al h => ?_, fun h => by cases h⟩
        rcases List.mem_append.mp h with h | h
        · exact Or.inl h
        · have := List.mem_singleton.mp h
          cases this
          refine Or.inr ⟨?_, ?_, ?_, ?_⟩ <;> first | rfl | trivial | exact Nat.succ_pos _

theorem flSet_aliasOut (c : Client) (m : Msg) : (flSet c m).1.aliasOut = c.aliasOut := by
  unfold flSet; split <;> rfl
theorem decSend_aliasOut (c : Client) : (decSend c).aliasOut = c.aliasOut := by
  unfold decSend; split <;> rfl

theorem live_of_sess {a b : Client} (h : SessEq a b) : Live b → Live a := fun ⟨h1, h2, h3⟩ =>
  ⟨h.isOpen.trans h1, h.peerGone.trans h2, h.inline.trans h3⟩

theorem calm_of_sess {a b : Client} (h : SessEq a b) : Calm a → Calm b := fun x hb => by
  have := x (by rw [h.tam]; exact hb)
  exact ⟨by rw [← h.maxSend]; exact this.1, by rw [← h.recvMaxProp]; exact this.2⟩

/-- what the alias step of `publishToClientCore` yields -/
structure CoreF (c c1 : Client) (pk out1 : Msg) : Prop where
  sess : SessEq c c1
  ty : out1.type = pk.type
  tab : ∀ t al, (t, al) ∈ c1.aliasOut → (t, al) ∈ c.aliasOut ∨ (t = pk.topic ∧ al = out1.alias ∧ out1.topic = pk.topic ∧ 0 < al)
  res : out1.topic = pk.topic ∨ (0 < out1.alias ∧ 0 < c.tam ∧ (pk.topic, out1.alias) ∈ c.aliasOut)

/-- the branches of `publishToClientCore` in which nothing is dropped: what they leave behind.  `hdel`, `hother`, `hal`
    describe the state (every object a `SessEq` image, all but `i` untouched, `i` with the alias table of `c1`).
    `hshape` is the output in any branch (nothing, an event, the PUBLISH): with `F.res` and `hne` it gives `ResOuts`.
    `hfull` says that a live, calm object with an alias maximum IS written the PUBLISH: so a binding that is new in
    the table (`F.tab`) has been seen on the wire, which with `hs` gives `AliasSync` -/
theorem core_finish {s s' : Server} {i : Nat} {c1 : Client} {pk out1 : Msg} {o : List Out}
    (F : CoreF (getObj s i) c1 pk out1) (hne : pk.topic ≠ [])
    (hdel : ∀ k, SessEq (getObj s k) (getObj s' k))
    (hother : ∀ k, k ≠ i → getObj s' k = getObj s k)
    (hal : i < s.objs.length → (getObj s' i).aliasOut = c1.aliasOut)
    (hshape : o = [] ∨ (∃ e, o = [Out.event e]) ∨
      (Live (getObj s i) ∧ ∃ ver m me, o = [Out.wrote (getObj s i).conn (.publish ver m me)] ∧
        m.alias = out1.alias ∧ m.topic = out1.topic))
    (hfull : Live (getObj s i) → 0 < (getObj s i).tam → Calm (getObj s i) →
      ∃ ver m me, o = [Out.wrote (getObj s i).conn (.publish ver m me)] ∧ m.alias = out1.alias ∧ m.topic = out1.topic)
    (pre : List Out) (hc : Calm (getObj s i)) (hs : AliasSync s pre) :
    AliasSync s' (pre ++ o) ∧ ResOuts pre o := by
  constructor
  · intro k hl ht t a hm hne'
    by_cases hk : k = i
    · subst hk
      have se := hdel k
      have hl0 := live_of_sess se hl
      have ht0 : 0 < (getObj s k).tam := by rw [se.tam]; exact ht
      have hik : k < s.objs.length := by
        refine Classical.byContradiction fun hlt => ?_
        have : getObj s k = {} := by
          simp only [getObj, List.getD_eq_getElem?_getD]
          rw [List.getElem?_eq_none (Nat.le_of_not_gt hlt)]; rfl
        rw [this] at ht0; exact absurd ht0 (by decide)
      rw [hal hik] at hm
      rw [← se.conn]
      rcases F.tab t a hm with h | ⟨rfl, rfl, ht3, hpos⟩
      · exact seen_mono_left o (hs k hl0 ht0 t a h hne')
      · obtain ⟨ver, m, me, ho, ha, htm⟩ := hfull hl0 ht0 hc
        apply seen_mono_right
        rw [ho]
        have hp : pubBinding (getObj s k).conn (Out.wrote (getObj s k).conn (.publish ver m me)) =
            some (out1.alias, pk.topic) := by
          have ha0 : 0 < m.alias := by rw [ha]; exact hpos
          show (if (getObj s k).conn = (getObj s k).conn ∧ 0 < m.alias ∧ m.topic ≠ [] then some (m.alias, m.topic)
            else none) = _
          rw [if_pos ⟨rfl, ha0, by rw [htm, ht3]; exact hne⟩, ha, htm, ht3]
        simp only [seenBindings, List.filterMap_cons, hp, List.filterMap_nil, List.mem_singleton]
    · rw [hother k hk] at hl ht hm ⊢
      exact seen_mono_left o (hs k hl ht t a hm hne')
  · rcases hshape with rfl | ⟨e, rfl⟩ | ⟨hl0, ver, m, me, rfl, ha, htm⟩
    · exact ResOuts.nil pre
    · exact ResOuts.of_noPub (fun _ _ _ _ hm => by cases List.mem_singleton.mp hm)
    · intro p q conn ver' m' me' e
      have hp : p = [] := by
        cases p with
        | nil => rfl
        | cons y ys => cases ys <;> cases e
      subst hp
      simp only [List.nil_append, List.cons.injEq, Out.wrote.injEq, WPk.publish.injEq] at e
      obtain ⟨⟨rfl, rfl, rfl, rfl⟩, _⟩ := e
      unfold Resolvable
      rcases F.res with h | ⟨h1, h2, h3⟩
      · exact Or.inl (by rw [htm, h]; exact hne)
      · refine Or.inr ⟨by rw [ha]; exact h1, ?_⟩
        have := hs i hl0 h2 pk.topic out1.alias h3 hne
        rw [ha]
        exact viewLookup_isSome (by
          rw [List.append_nil, seenBindings_append]; exact List.mem_append_left _ this)

theorem coreF (c : Client) (caps : Caps) (sub : Sub) (f : Bool) (pk : Msg) :
    CoreF c (coreClient c pk.topic) pk (coreOut caps c sub f pk) := by
  have h3 := SessEq.aliasOutSet c pk.topic
  have h4 := aliasOutSet_spec c pk.topic
  unfold coreClient coreOut
  by_cases ht : c.tam > 0
  · rw [if_pos ht]
    by_cases ha : (aliasOutSet c pk.topic).2.1 > 0
    · rw [if_pos ⟨ht, ha⟩]
      refine ⟨h3, rfl, fun t al hm => ?_, ?_⟩
      · rcases h4.1 t al hm with h | ⟨h5, h6, h7, h8⟩
        · exact Or.inl h
        · exact Or.inr ⟨h5, h6, by show (if (aliasOutSet c pk.topic).2.2 = true then [] else pk.topic) = pk.topic; rw [h7]; rfl, h8⟩
      · cases hex : (aliasOutSet c pk.topic).2.2 with
        | true => exact Or.inr ⟨ha, ht, h4.2 hex⟩
        | false => exact Or.inl rfl
    · rw [if_neg (fun x => ha x.2)]
      refine ⟨h3, rfl, fun t al hm => ?_, Or.inl rfl⟩
      rcases h4.1 t al hm with h | ⟨_, h6, _, h8⟩
      · exact Or.inl h
      · exact absurd h8 (by rw [h6]; exact ha)
  · rw [if_neg ht, if_neg (fun x => ht x.1)]
    exact ⟨SessEq.refl _, rfl, fun _ _ h => Or.inl h, Or.inl rfl⟩

/-- a PUBLISH written to object `i` unless the client `c` it was prepared for is closed: nothing, or that one packet on
    the connection; a live client gets it -/
theorem write_guarded (s s' : Server) (i : Nat) (m : Msg) (c : Client) (hm : m.type = 3)
    (hse : SessEq (getObj s i) (getObj s' i)) (hc : SessEq (getObj s i) c) :
    ((if !c.isOpen then [] else writeMsg s' i m) = [] ∨ (Live (getObj s i) ∧ ∃ ver m' me,
      (if !c.isOpen then [] else writeMsg s' i m) = [Out.wrote (getObj s i).conn (.publish ver m' me)] ∧
        m'.alias = m.alias ∧ m'.topic = m.topic)) ∧
    (Live (getObj s i) → ∃ ver m' me,
      (if !c.isOpen then [] else writeMsg s' i m) = [Out.wrote (getObj s i).conn (.publish ver m' me)] ∧
        m'.alias = m.alias ∧ m'.topic = m.topic) := by
  obtain ⟨me, hw⟩ := writeMsg_pub s' i m hm
  rw [← hse.isOpen, ← hse.inline, ← hse.peerGone, ← hse.conn] at hw
  by_cases hl : Live (getObj s i)
  · have ho : (!c.isOpen) = false := by rw [← hc.isOpen, hl.1]; rfl
    rw [ho, if_neg Bool.false_ne_true, hw, if_pos (by rw [hl.1, hl.2.1, hl.2.2]; rfl)]
    exact ⟨Or.inr ⟨hl, _, m, me, rfl, rfl, rfl⟩, fun _ => ⟨_, m, me, rfl, rfl, rfl⟩⟩
  · refine ⟨Or.inl ?_, fun h => absurd h hl⟩
    refine iteInduction (motive := fun o : List Out => o = []) (fun _ => rfl) (fun _ => ?_)
    rw [hw, if_neg]
    intro h
    apply hl
    cases h1 : (getObj s i).isOpen <;> cases h2 : (getObj s i).inline <;> cases h3 : (getObj s i).peerGone <;>
      simp_all [Live]

/-- what a branch of `publishToClientCore` leaves behind -/
def CoreOK (s : Server) (i : Nat) (out1 : Msg) (al : List (Str × Nat)) (s' : Server) (o : List Out) : Prop :=
  s'.info.inflightDropped = s.info.inflightDropped + 1 ∨
  (s'.info.inflightDropped = s.info.inflightDropped ∧ (∀ k, k ≠ i → getObj s' k = getObj s k) ∧
   (i < s.objs.length → (getObj s' i).aliasOut = al) ∧
   (o = [] ∨ (∃ e, o = [Out.event e]) ∨
      (Live (getObj s i) ∧ ∃ ver m me, o = [Out.wrote (getObj s i).conn (.publish ver m me)] ∧
        m.alias = out1.alias ∧ m.topic = out1.topic)) ∧
   (Live (getObj s i) → 0 < (getObj s i).tam → Calm (getObj s i) →
      ∃ ver m me, o = [Out.wrote (getObj s i).conn (.publish ver m me)] ∧ m.alias = out1.alias ∧ m.topic = out1.topic))

theorem publishToClientCore_shape (s : Server) (i : Nat) (sub : Sub) (f : Bool) (pk : Msg) (hty : pk.type = 3) :
    ∃ c1 out1, CoreF (getObj s i) c1 pk out1 ∧
      CoreOK s i out1 c1.aliasOut (publishToClientCore s i sub f pk).1 (publishToClientCore s i sub f pk).2 := by
  have F := coreF (getObj s i) s.caps sub f pk
  refine ⟨_, _, F, ?_⟩
  have hty1 := F.ty.trans hty
  -- the object written is the alias client `c1` with the five delivery fields changed
  have wr : ∀ (c : Client) (inf : Info), SessEq (getObj s i) c → c.aliasOut = (coreClient (getObj s i) pk.topic).aliasOut →
      inf.inflightDropped = s.info.inflightDropped →
      (∀ k, k ≠ i → getObj { setObj s i c with info := inf } k = getObj s k) ∧
      (i < s.objs.length → (getObj { setObj s i c with info := inf } i).aliasOut =
        (coreClient (getObj s i) pk.topic).aliasOut) ∧
      SessEq (getObj s i) (getObj { setObj s i c with info := inf } i) := fun c _ hc ha _ =>
    ⟨fun k hk => getObj_setObj_ne s i k c hk, fun hi => (congrArg Client.aliasOut (getObj_setObj_eq s i c hi)).trans ha,
     hc.trans (SessEq.get_set hc (SessEq.refl c)).symm⟩
  have pid : ∀ p m, SessEq (getObj s i) (decSend (flSet { coreClient (getObj s i) pk.topic with packetID := p } m).1) ∧
      (decSend (flSet { coreClient (getObj s i) pk.topic with packetID := p } m).1).aliasOut =
        (coreClient (getObj s i) pk.topic).aliasOut := fun p m =>
    ⟨((F.sess.trans (SessEq.packetID' _ p)).trans (SessEq.flSet _ m)).trans (SessEq.decSend _),
     (decSend_aliasOut _).trans (flSet_aliasOut _ m)⟩
  refine publishToClientCore_cases (Q := fun r => CoreOK s i _ _ r.1 r.2) s i sub f pk rfl rfl (fun _ => ?_)
    (fun _ _ => Or.inl rfl) (fun _ _ _ => Or.inl rfl) (fun p _ _ _ _ _ hd => ?_) (fun p _ _ _ _ _ _ => ?_)
  · obtain ⟨w1, w2, w3⟩ := wr _ s.info F.sess rfl rfl
    obtain ⟨g1, g2⟩ := write_guarded s (setObj s i _) i _ _ hty1 w3 F.sess
    exact Or.inr ⟨rfl, w1, w2, g1.imp id Or.inr, fun hl _ _ => g2 hl⟩
  · obtain ⟨w1, w2, _⟩ := wr _ { s.info with inflight := s.info.inflight + 1 }
      ((pid p _).1.trans (SessEq.flSet _ _)) ((flSet_aliasOut _ _).trans (pid p _).2) rfl
    refine Or.inr ⟨rfl, w1, w2, Or.inl rfl, fun _ ht hcalm => ?_⟩
    rw [← F.sess.maxSend, (hcalm ht).1] at hd
    simp at hd
  · obtain ⟨w1, w2, w3⟩ := wr _ { s.info with inflight := s.info.inflight + 1 } (pid p _).1 (pid p _).2 rfl
    obtain ⟨g1, g2⟩ := write_guarded s (coreStored s i _ _) i { coreOut s.caps (getObj s i) sub f pk with id := p } _
      hty1 w3 F.sess
    exact Or.inr ⟨rfl, w1, w2, g1.imp id Or.inr, fun hl _ _ => g2 hl⟩

/-- the core: one delivery of a PUBLISH with a non-empty topic -/
theorem publishToClientCore_ah (s : Server) (i : Nat) (sub : Sub) (f : Bool) (pk : Msg)
    (hty : pk.type = 3) (hne : pk.topic ≠ []) :
    AH s (publishToClientCore s i sub f pk).1 (publishToClientCore s i sub f pk).2 := by
  obtain ⟨c1, out1, F, hk⟩ := publishToClientCore_shape s i sub f pk hty
  have hdel := (publishToClientCore_deliv s i sub f pk).all
  refine ⟨?_, fun hc k => calm_of_sess (hdel k) (hc k), fun hd hc pre hs => ?_⟩
  · rcases hk with h | ⟨h, _⟩ <;> omega
  · rcases hk with h | ⟨_, h2, h3, h4, h5⟩
    · omega
    · exact core_finish F hne hdel h2 h3 h4 h5 pre (hc i) hs

theorem noPub_inline (l : List (Nat × Sub)) (t p : Str) :
    NoPub (l.map fun (x : Nat × Sub) => Out.inline x.1 t p) := by
  intro conn ver m me hm
  obtain ⟨x, _, hx⟩ := List.mem_map.mp hm
  cases hx

theorem publishToSubscribers_ah (s : Server) (pk : Msg) (hty : pk.type = 3) (hne : pk.topic ≠ []) :
    AH s (publishToSubscribers s pk).1 (publishToSubscribers s pk).2 :=
  publishToSubscribers_cases (J := fun r => AH s r.1 r.2) s pk
    (fun o h => (AQ.refl s).ah (fun conn ver m me hm => by obtain ⟨id, e⟩ := h _ hm; cases e))
    (fun acc cs i _ h => h.trans (publishToClientCore_ah acc.1 i cs.2 false _ ((stamped_fields s pk).2.2.2.1.trans hty)
      ((stamped_fields s pk).1 ▸ hne)))

end Mochi.Broker.A24
