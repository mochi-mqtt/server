import Mochi.Spec.Hooks
/-!
The dispatcher loop of `Model/Hooks.lean` (for `Props/C19.lean`): induction along it, which hooks are consulted,
and — for a body described by `Steps`, what one iteration shows in the trace — the chain of arguments and the
two ways a dispatcher ends (`loop_verdict`).
-/
namespace Mochi.Hooks

section
variable {σ ρ : Type} (m : Method) (body : Hook → σ → Iter σ ρ) (fin : σ → ρ)

@[simp] theorem loop_nil (i : Nat) (s : σ) : loop m body fin i s [] = (fin s, []) := rfl

theorem loop_skip (i : Nat) (s : σ) (h : Hook) (hs : List Hook) (hp : h.provides m = false) :
    loop m body fin i s (h :: hs) = loop m body fin (i + 1) s hs := by
  simp [loop, hp]

theorem loop_stop (i : Nat) (s : σ) (h : Hook) (hs : List Hook) (hp : h.provides m = true) (r : ρ)
    (hst : (body h s).step = .stop r) :
    loop m body fin i s (h :: hs) = (r, [⟨i, m, (body h s).input, (body h s).output⟩]) := by
  simp [loop, hp, hst]

theorem loop_next (i : Nat) (s : σ) (h : Hook) (hs : List Hook) (hp : h.provides m = true) (s' : σ)
    (hst : (body h s).step = .next s') :
    loop m body fin i s (h :: hs) =
      ((loop m body fin (i + 1) s' hs).1,
       ⟨i, m, (body h s).input, (body h s).output⟩ :: (loop m body fin (i + 1) s' hs).2) := by
  simp [loop, hp, hst]

/-- induction along the loop: no hook left; the head does not provide `m`; the body returns on the head; the
    body goes on to the rest -/
theorem loop_induct {motive : Nat → σ → List Hook → ρ × List Call → Prop}
    (nil : ∀ i s, motive i s [] (fin s, []))
    (skip : ∀ i s h hs, h.provides m = false → motive (i + 1) s hs (loop m body fin (i + 1) s hs) →
      motive i s (h :: hs) (loop m body fin (i + 1) s hs))
    (stop : ∀ i s h hs r, h.provides m = true → (body h s).step = .stop r →
      motive i s (h :: hs) (r, [⟨i, m, (body h s).input, (body h s).output⟩]))
    (next : ∀ i s h hs s', h.provides m = true → (body h s).step = .next s' →
      motive (i + 1) s' hs (loop m body fin (i + 1) s' hs) →
      motive i s (h :: hs) ((loop m body fin (i + 1) s' hs).1,
        ⟨i, m, (body h s).input, (body h s).output⟩ :: (loop m body fin (i + 1) s' hs).2)) :
    ∀ hs i s, motive i s hs (loop m body fin i s hs) := by
  intro hs
  induction hs with
  | nil => exact nil
  | cons h hs ih =>
    intro i s
    cases hp : h.provides m with
    | false => rw [loop_skip m body fin i s h hs hp]; exact skip i s h hs hp (ih _ _)
    | true =>
      cases hst : (body h s).step with
      | stop r => rw [loop_stop m body fin i s h hs hp r hst]; exact stop i s h hs r hp hst
      | next s' => rw [loop_next m body fin i s h hs hp s' hst]; exact next i s h hs s' hp hst (ih _ _)

theorem providersFrom_cons_pos (i : Nat) {h : Hook} (hs : List Hook) (hp : h.provides m = true) :
    providersFrom m i (h :: hs) = i :: providersFrom m (i + 1) hs := if_pos hp

theorem providersFrom_cons_neg (i : Nat) {h : Hook} (hs : List Hook) (hp : h.provides m = false) :
    providersFrom m i (h :: hs) = providersFrom m (i + 1) hs := if_neg (by rw [hp]; exact nofun)

theorem getElem?_cons_sub {α} (a : α) (l : List α) {i j : Nat} (h : i + 1 ≤ j) :
    (a :: l)[j - i]? = l[j - (i + 1)]? := by
  have : j - i = (j - (i + 1)) + 1 := by omega
  rw [this, List.getElem?_cons_succ]

theorem mem_providersFrom (hs : List Hook) : ∀ (i j : Nat),
    j ∈ providersFrom m i hs ↔ ∃ k h, j = i + k ∧ hs[k]? = some h ∧ h.provides m = true := by
  induction hs with
  | nil => intro i j; exact ⟨nofun, fun ⟨_, _, _, hg, _⟩ => nomatch hg⟩
  | cons h hs ih =>
    intro i j
    have tail : j ∈ providersFrom m (i + 1) hs ↔ ∃ k h', j = i + (k + 1) ∧ hs[k]? = some h' ∧ h'.provides m = true := by
      rw [ih]
      have e : ∀ k, i + 1 + k = i + (k + 1) := fun k => by rw [Nat.add_assoc, Nat.add_comm 1]
      exact ⟨fun ⟨k, h', r⟩ => ⟨k, h', e k ▸ r⟩, fun ⟨k, h', r⟩ => ⟨k, h', (e k).symm ▸ r⟩⟩
    cases hp : h.provides m with
    | false =>
      rw [providersFrom_cons_neg m i hs hp, tail]
      constructor
      · exact fun ⟨k, h', e, r⟩ => ⟨k + 1, h', e, r⟩
      · rintro ⟨k, h', e, hg, hq⟩
        cases k with
        | zero => rw [Option.some.inj hg, hq] at hp; exact nomatch hp
        | succ k => exact ⟨k, h', e, hg, hq⟩
    | true =>
      rw [providersFrom_cons_pos m i hs hp, List.mem_cons, tail]
      constructor
      · rintro (rfl | ⟨k, h', e, r⟩)
        · exact ⟨0, h, rfl, rfl, hp⟩
        · exact ⟨k + 1, h', e, r⟩
      · rintro ⟨k, h', e, hg, hq⟩
        cases k with
        | zero => exact Or.inl e
        | succ k => exact Or.inr ⟨k, h', e, hg, hq⟩

theorem providersFrom_lb (hs : List Hook) (i j : Nat) (hj : j ∈ providersFrom m i hs) : i ≤ j := by
  obtain ⟨k, _, e, _⟩ := (mem_providersFrom m hs i j).1 hj
  omega

theorem providersFrom_pairwise (hs : List Hook) : ∀ i, (providersFrom m i hs).Pairwise (· < ·) := by
  induction hs with
  | nil => intro i; exact List.Pairwise.nil
  | cons h hs ih =>
    intro i
    cases hp : h.provides m with
    | false => rw [providersFrom_cons_neg m i hs hp]; exact ih (i + 1)
    | true =>
      rw [providersFrom_cons_pos m i hs hp]
      exact List.Pairwise.cons (fun j hj => providersFrom_lb m hs (i + 1) j hj) (ih (i + 1))

theorem loop_idxs_prefix (hs : List Hook) (i : Nat) (s : σ) :
    idxs (loop m body fin i s hs).2 <+: providersFrom m i hs := by
  refine loop_induct m body fin (motive := fun i _ hs r => idxs r.2 <+: providersFrom m i hs) ?_ ?_ ?_ ?_ hs i s
  · exact fun _ _ => List.nil_prefix
  · intro i s h hs hp ih; rw [providersFrom_cons_neg m i hs hp]; exact ih
  · intro i s h hs r hp _; rw [providersFrom_cons_pos m i hs hp]; exact (List.prefix_cons_inj i).2 List.nil_prefix
  · intro i s h hs s' hp _ ih; rw [providersFrom_cons_pos m i hs hp]; exact (List.prefix_cons_inj i).2 ih

theorem loop_call_sound (hs : List Hook) (i : Nat) (s : σ) : ∀ c ∈ (loop m body fin i s hs).2,
    c.method = m ∧ i ≤ c.idx ∧ ∃ h s', hs[c.idx - i]? = some h ∧ h.provides m = true ∧
      c.input = (body h s').input ∧ c.output = (body h s').output := by
  refine loop_induct m body fin (motive := fun i _ hs r => ∀ c ∈ r.2,
    c.method = m ∧ i ≤ c.idx ∧ ∃ h s', hs[c.idx - i]? = some h ∧ h.provides m = true ∧
      c.input = (body h s').input ∧ c.output = (body h s').output) ?_ ?_ ?_ ?_ hs i s
  · exact fun _ _ _ hc => nomatch hc
  · intro i s h hs _ ih c hc
    obtain ⟨hm, hle, h', s', hg, r⟩ := ih c hc
    exact ⟨hm, Nat.le_of_succ_le hle, h', s', (getElem?_cons_sub h hs hle).trans hg, r⟩
  · intro i s h hs r hp _ c hc
    rw [List.mem_singleton.1 hc]
    exact ⟨rfl, Nat.le_refl _, h, s, by rw [Nat.sub_self]; rfl, hp, rfl, rfl⟩
  · intro i s h hs s' hp _ ih c hc
    rcases List.mem_cons.1 hc with rfl | hc
    · exact ⟨rfl, Nat.le_refl _, h, s, by rw [Nat.sub_self]; rfl, hp, rfl, rfl⟩
    · obtain ⟨hm, hle, h', s'', hg, r⟩ := ih c hc
      exact ⟨hm, Nat.le_of_succ_le hle, h', s'', (getElem?_cons_sub h hs hle).trans hg, r⟩

theorem not_isStop_of_next {isStop : Out → Bool}
    (hiff : ∀ h s, isStop (body h s).output = true ↔ ∃ r, (body h s).step = .stop r)
    {h : Hook} {s s' : σ} (hst : (body h s).step = .next s') : isStop (body h s).output = false := by
  cases hb : isStop (body h s).output with
  | false => rfl
  | true =>
    obtain ⟨r, hr⟩ := (hiff h s).1 hb
    rw [hst] at hr; exact nomatch hr

/-- **the two ways a dispatcher ends.**  If the body stops exactly on outputs with `isStop`, then either no
    call had such an output, every providing hook was consulted and the result is `fin` of the end of the chain;
    or the LAST call had such an output, the result is what the body returned there, and no earlier call had one. -/
theorem loop_cases (isStop : Out → Bool)
    (hiff : ∀ h s, isStop (body h s).output = true ↔ ∃ r, (body h s).step = .stop r)
    (inp : σ → Arg) (nxt : Arg → Out → Arg)
    (h1 : ∀ h s, (body h s).input = inp s)
    (h2 : ∀ h s s', (body h s).step = .next s' → inp s' = nxt (inp s) (body h s).output)
    (hs : List Hook) : ∀ (i : Nat) (s : σ),
      ((∀ c ∈ (loop m body fin i s hs).2, isStop c.output = false) ∧
        idxs (loop m body fin i s hs).2 = providersFrom m i hs ∧
        ∃ z, (loop m body fin i s hs).1 = fin z ∧ inp z = chainEnd nxt (inp s) (loop m body fin i s hs).2)
      ∨ (∃ c h s', (loop m body fin i s hs).2.getLast? = some c ∧ isStop c.output = true ∧
          h.provides m = true ∧ hs[c.idx - i]? = some h ∧ i ≤ c.idx ∧
          c.input = (body h s').input ∧ c.output = (body h s').output ∧
          (body h s').step = .stop (loop m body fin i s hs).1 ∧
          ∀ c' ∈ (loop m body fin i s hs).2.dropLast, isStop c'.output = false) := by
  intro i s
  refine loop_induct m body fin (motive := fun i s hs r =>
    ((∀ c ∈ r.2, isStop c.output = false) ∧ idxs r.2 = providersFrom m i hs ∧
      ∃ z, r.1 = fin z ∧ inp z = chainEnd nxt (inp s) r.2)
    ∨ (∃ c h s', r.2.getLast? = some c ∧ isStop c.output = true ∧ h.provides m = true ∧ hs[c.idx - i]? = some h ∧
        i ≤ c.idx ∧ c.input = (body h s').input ∧ c.output = (body h s').output ∧ (body h s').step = .stop r.1 ∧
        ∀ c' ∈ r.2.dropLast, isStop c'.output = false)) ?_ ?_ ?_ ?_ hs i s
  · exact fun i s => Or.inl ⟨fun _ hc => (nomatch hc), rfl, s, rfl, rfl⟩
  · intro i s h hs hp ih
    rcases ih with ⟨hall, hidx, r⟩ | ⟨c, h', s'', hlast, hstop, hq, hget, hle, r⟩
    · exact Or.inl ⟨hall, by rw [providersFrom_cons_neg m i hs hp]; exact hidx, r⟩
    · exact Or.inr ⟨c, h', s'', hlast, hstop, hq, (getElem?_cons_sub h hs hle).trans hget, Nat.le_of_succ_le hle, r⟩
  · intro i s h hs r hp hst
    exact Or.inr ⟨⟨i, m, (body h s).input, (body h s).output⟩, h, s, rfl, (hiff h s).2 ⟨r, hst⟩, hp,
      by rw [Nat.sub_self]; rfl, Nat.le_refl _, rfl, rfl, hst, fun _ hc => absurd hc List.not_mem_nil⟩
  · intro i s h hs s' hp hst ih
    have hns := not_isStop_of_next body hiff hst
    rcases ih with ⟨hall, hidx, z, hz1, hz2⟩ | ⟨c, h', s'', hlast, hstop, hq, hget, hle, hci, hco, hstep, hpre⟩
    · refine Or.inl ⟨List.forall_mem_cons.2 ⟨hns, hall⟩, ?_, z, hz1, ?_⟩
      · rw [providersFrom_cons_pos m i hs hp]; exact congrArg (i :: ·) hidx
      · rw [chainEnd, h1, ← h2 h s s' hst]; exact hz2
    · -- the rest of the trace has a last call, so the head is among all but the last of the whole
      have hne : (loop m body fin (i + 1) s' hs).2 ≠ [] := fun e => by rw [e] at hlast; exact nomatch hlast
      refine Or.inr ⟨c, h', s'', ?_, hstop, hq, (getElem?_cons_sub h hs hle).trans hget, Nat.le_of_succ_le hle,
        hci, hco, hstep, ?_⟩
      · rw [List.getLast?_cons, hlast]; rfl
      · rw [List.dropLast_cons_of_ne_nil hne]
        exact List.forall_mem_cons.2 ⟨hns, hpre⟩

/-- What a trace shows of one iteration of `body`: the hook receives `inp` of the loop-carried value; the iteration
    goes on, after an output without `isStop`, with a value whose `inp` is `nxt` of the call, or returns, after
    an output `o` with `isStop`, some `r` with `ret o r`. -/
def Steps (body : Hook → σ → Iter σ ρ) (inp : σ → Arg) (nxt : Arg → Out → Arg) (isStop : Out → Bool)
    (ret : Out → ρ → Prop) : Prop :=
  ∀ h s, (body h s).input = inp s ∧
    match (body h s).step with
    | .next s' => isStop (body h s).output = false ∧ inp s' = nxt (inp s) (body h s).output
    | .stop r => isStop (body h s).output = true ∧ ret (body h s).output r

variable {body} {inp : σ → Arg} {nxt : Arg → Out → Arg} {isStop : Out → Bool} {ret : Out → ρ → Prop}

theorem Steps.next (hb : Steps body inp nxt isStop ret) {h : Hook} {s s' : σ} (hst : (body h s).step = .next s') :
    isStop (body h s).output = false ∧ inp s' = nxt (inp s) (body h s).output := by
  have := (hb h s).2
  rwa [hst] at this

theorem Steps.stop (hb : Steps body inp nxt isStop ret) {h : Hook} {s : σ} {r : ρ} (hst : (body h s).step = .stop r) :
    isStop (body h s).output = true ∧ ret (body h s).output r := by
  have := (hb h s).2
  rwa [hst] at this

variable (body)

theorem loop_chained (hb : Steps body inp nxt isStop ret) (hs : List Hook) (i : Nat) (s : σ) :
    Chained nxt (inp s) (loop m body fin i s hs).2 := by
  refine loop_induct m body fin (motive := fun _ s _ r => Chained nxt (inp s) r.2) ?_ ?_ ?_ ?_ hs i s
  · exact fun _ _ => trivial
  · exact fun _ _ _ _ _ ih => ih
  · exact fun _ s h _ _ _ _ => ⟨(hb h s).1, trivial⟩
  · intro _ s h _ s' _ hst ih
    refine ⟨(hb h s).1, ?_⟩
    rw [(hb h s).1, ← (hb.next hst).2]
    exact ih

/-- `loop_cases` for a body that `Steps`: no call but the last has an output with `isStop`; the last has none
    either, every providing hook was consulted and the result is `fin` of the end of the chain, or it has one and
    the result is what `ret` says of it -/
theorem loop_verdict (hb : Steps body inp nxt isStop ret) (hs : List Hook) (i : Nat) (s : σ) :
    (∀ c ∈ (loop m body fin i s hs).2.dropLast, isStop c.output = false) ∧
    (((∀ c ∈ (loop m body fin i s hs).2, isStop c.output = false) ∧
        idxs (loop m body fin i s hs).2 = providersFrom m i hs ∧
        ∃ z, (loop m body fin i s hs).1 = fin z ∧ inp z = chainEnd nxt (inp s) (loop m body fin i s hs).2)
      ∨ ∃ c, (loop m body fin i s hs).2.getLast? = some c ∧ isStop c.output = true ∧
          ret c.output (loop m body fin i s hs).1) := by
  have hiff : ∀ h s, isStop (body h s).output = true ↔ ∃ r, (body h s).step = .stop r := by
    intro h s
    refine ⟨fun ht => ?_, fun ⟨r, hst⟩ => (hb.stop hst).1⟩
    cases hst : (body h s).step with
    | stop r => exact ⟨r, rfl⟩
    | next s' => rw [(hb.next hst).1] at ht; exact nomatch ht
  rcases loop_cases m body fin isStop hiff inp nxt (fun h s => (hb h s).1) (fun _ _ _ hst => (hb.next hst).2) hs i s with
    h | ⟨c, h, s', hlast, hstop, _, _, _, _, hco, hstep, hpre⟩
  · exact ⟨fun c hc => h.1 c (List.dropLast_subset _ hc), Or.inl h⟩
  · exact ⟨hpre, Or.inr ⟨c, hlast, hstop, hco ▸ (hb.stop hstep).2⟩⟩

theorem loop_all (hb : Steps body inp nxt (fun _ => false) ret) (hs : List Hook) (i : Nat) (s : σ) :
    idxs (loop m body fin i s hs).2 = providersFrom m i hs ∧
    ∃ z, (loop m body fin i s hs).1 = fin z ∧ inp z = chainEnd nxt (inp s) (loop m body fin i s hs).2 := by
  rcases (loop_verdict m body fin hb hs i s).2 with h | ⟨_, _, h, _⟩
  · exact h.2
  · exact nomatch h

end

theorem notify_trace (m : Method) (a : Arg) (hs : List Hook) (i : Nat) :
    (loop m (notifyBody a) (fun _ => ()) i () hs).2 = (providersFrom m i hs).map (fun j => ⟨j, m, a, .unit⟩) := by
  refine loop_induct m (notifyBody a) _
    (motive := fun i _ hs r => r.2 = (providersFrom m i hs).map (fun j => ⟨j, m, a, .unit⟩)) ?_ ?_ ?_ ?_ hs i ()
  · exact fun _ _ => rfl
  · intro i _ h hs hp ih; rw [providersFrom_cons_neg m i hs hp]; exact ih
  · exact fun _ _ _ _ _ _ hst => nomatch hst
  · intro i _ h hs _ hp _ ih; rw [providersFrom_cons_pos m i hs hp, List.map_cons, ← ih]; rfl

theorem filter_provides_pos (m : Method) {h : Hook} (hs : List Hook) (hp : h.provides m = true) :
    (h :: hs).filter (·.provides m) = h :: hs.filter (·.provides m) :=
  List.filter_cons_of_pos (p := fun x : Hook => x.provides m) hp

theorem filter_provides_neg (m : Method) {h : Hook} (hs : List Hook) (hp : h.provides m = false) :
    (h :: hs).filter (·.provides m) = hs.filter (·.provides m) :=
  List.filter_cons_of_neg (p := fun x : Hook => x.provides m) (by rw [hp]; exact nofun)

theorem any_ret (m : Method) (a : Arg) (ask : Hook → Bool) (hs : List Hook) (i : Nat) :
    (loop m (anyBody a ask) (fun _ => false) i () hs).1 = hs.any fun h => h.provides m && ask h := by
  induction hs generalizing i with
  | nil => rfl
  | cons h hs ih =>
    unfold loop anyBody
    rw [List.any_cons]
    cases h.provides m
    · exact ih _
    · cases ask h
      · exact ih _
      · rfl

theorem connect_ret (pk : Pkt) (hs : List Hook) (i : Nat) :
    (loop .onConnect (connectBody pk) (fun _ => none) i () hs).1 =
      (hs.filter (·.provides .onConnect)).findSome? (·.onConnect pk) := by
  induction hs generalizing i with
  | nil => rfl
  | cons h hs ih =>
    unfold loop connectBody
    cases hp : h.provides .onConnect
    · rw [filter_provides_neg _ hs hp]
      exact ih _
    · rw [filter_provides_pos _ hs hp, List.findSome?_cons]
      cases h.onConnect pk
      · exact ih _
      · rfl

theorem stored_ret (m : Method) (get : Hook → Bytes × Option Err) (hs : List Hook) (i : Nat) :
    (loop m (storedBody get) (fun _ => ([], none)) i () hs).1 =
      (((hs.filter (·.provides m)).map get).find? storedDecides).getD ([], none) := by
  induction hs generalizing i with
  | nil => rfl
  | cons h hs ih =>
    unfold loop storedBody
    cases hp : h.provides m
    · rw [filter_provides_neg _ hs hp]
      exact ih _
    · -- the body returns `get h` as it is, and does so exactly when `storedDecides (get h)`
      rw [filter_provides_pos _ hs hp, List.map_cons, List.find?_cons]
      unfold storedDecides
      cases he : (get h).2 with
      | some e => exact Prod.ext rfl he.symm
      | none =>
        by_cases hl : (get h).1.length > 0
        · rw [decide_eq_true hl]
          dsimp only
          rw [if_pos hl]
          exact Prod.ext rfl he.symm
        · rw [decide_eq_false hl]
          dsimp only
          rw [if_neg hl]
          exact ih _

theorem pureBody_steps (f : Hook → Pkt → Pkt) : Steps (pureBody f) Arg.pkt nextLiteral (fun _ => false) (fun _ _ => True) :=
  fun _ _ => ⟨rfl, rfl, rfl⟩

theorem selectBody_steps (pk : Pkt) :
    Steps (selectBody pk) (Arg.subs · pk) nextLiteral (fun _ => false) (fun _ _ => True) :=
  fun _ _ => ⟨rfl, rfl, rfl⟩

/-- an erring will hook's packet is dropped: the next one receives what this one received -/
theorem willBody_steps : Steps willBody Arg.pkt nextAccepted (fun _ => false) (fun _ _ => True) := by
  intro h s
  refine ⟨rfl, ?_⟩
  unfold willBody
  cases (h.onWill s).2 <;> exact ⟨rfl, rfl⟩

/-- the same for a read hook whose error is not a reject; a reject returns the original packet with it -/
theorem readBody_steps (pk : Pkt) : Steps (readBody pk) Arg.pkt nextAccepted Out.rejects
    (fun o r => ∃ e, o.error = some e ∧ r = (pk, some e)) := by
  intro h s
  refine ⟨rfl, ?_⟩
  unfold readBody Out.rejects Out.error
  cases (h.onPacketRead s).2 with
  | none => exact ⟨rfl, rfl⟩
  | some e =>
    dsimp only
    cases hr : e.isReject
    · exact ⟨rfl, rfl⟩
    · exact ⟨rfl, e, rfl, rfl⟩

theorem authBody_steps (pk : Pkt) : Steps (authBody pk) Arg.pkt nextLiteral (·.error != none)
    (fun o r => ∃ e, o.error = some e ∧ r = (pk, some e)) := by
  intro h s
  refine ⟨rfl, ?_⟩
  unfold authBody Out.error
  cases (h.onAuthPacket s).2 with
  | none => exact ⟨rfl, rfl⟩
  | some e => exact ⟨rfl, e, rfl, rfl⟩

/-- whatever kind of error an `OnPublish` hook returns, the dispatcher returns the original packet with it -/
theorem publishBody_steps (pk : Pkt) : Steps (publishBody pk) Arg.pkt nextLiteral (·.error != none)
    (fun o r => ∃ e, o.error = some e ∧ r = (pk, some e)) := by
  intro h s
  refine ⟨rfl, ?_⟩
  unfold publishBody Out.error
  cases (h.onPublish s).2 with
  | none => exact ⟨rfl, rfl⟩
  | some e =>
    simp only [ite_self]
    exact ⟨rfl, e, rfl, rfl⟩

theorem connectBody_steps (pk : Pkt) : Steps (connectBody pk) (fun _ => .pkt pk) (fun a _ => a) (· != .err none)
    (fun o r => ∃ e, o = .err (some e) ∧ r = some e) := by
  intro h s
  refine ⟨rfl, ?_⟩
  unfold connectBody
  cases h.onConnect pk with
  | none => exact ⟨rfl, rfl⟩
  | some e => exact ⟨rfl, e, rfl, rfl⟩

theorem anyBody_steps (a : Arg) (ask : Hook → Bool) :
    Steps (anyBody a ask) (fun _ => a) (fun a _ => a) (· != .bool false) (fun _ _ => True) := by
  intro h s
  refine ⟨rfl, ?_⟩
  unfold anyBody
  cases ask h
  · exact ⟨rfl, rfl⟩
  · exact ⟨rfl, trivial⟩

theorem nextAccepted_of_no_error {a : Arg} {o : Out} (h : o.error = none) : nextAccepted a o = nextLiteral a o := by
  cases o with
  | pktErr p e =>
    cases e with
    | none => rfl
    | some e => exact nomatch h
  | _ => rfl

theorem chained_congr (nxt nxt' : Arg → Out → Arg) : ∀ (t : List Call) (a : Arg),
    (∀ c ∈ t.dropLast, nxt c.input c.output = nxt' c.input c.output) → Chained nxt a t → Chained nxt' a t := by
  intro t
  induction t with
  | nil => intro a _ _; trivial
  | cons c rest ih =>
    intro a hall hch
    cases rest with
    | nil => exact ⟨hch.1, trivial⟩
    | cons c2 rest2 =>
      refine ⟨hch.1, ?_⟩
      have h0 : nxt c.input c.output = nxt' c.input c.output := hall c (by simp)
      rw [← h0]
      apply ih _ _ hch.2
      intro c' hc'
      exact hall c' (by simp only [List.dropLast_cons_cons, List.mem_cons]; exact Or.inr hc')

end Mochi.Hooks
