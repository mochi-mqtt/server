import Mochi.Lemmas.BrokerSurviveDefs
import Mochi.Lemmas.RecordWalkDeliv
import Mochi.Lemmas.BrokerPublishOp
import Mochi.Lemmas.BrokerWalk
import Mochi.Lemmas.BrokerAdmit
/-!
# The record of one exchange through every handler (the walk)

One `X_sv` lemma per handler, in the style of `Mochi/Lemmas/BrokerFrame.lean`: `SurvW ok i k own s (X s i …).1` —
work for object `i` keeps the record of exchange `k` (and the session parameters) of every other object, and of
object `i` itself under the handler's own condition `own` (the packet does not end the exchange).  Then, op by op:
the session registered under `cid` holds the record after every op that `Ends` does not list.

Two things vary between the exchanges followed (C09: outbound; C08: inbound QoS 2): which messages are the record
(`ok`), and which inbound packets of a client end the exchange (`pe`).  `Kind ok pe k` says what the walk needs of them.
-/
namespace Mochi.Broker
open Mochi.Topics

/-! ### facts the walk uses that do not depend on the record -/

/-- the state in which the acting object already has the session expiry interval the packet leaves it with (only
    DISCONNECT changes it).  The walk starts from here so that `RK.sei` can be an equality: whether the session ends
    with its connection is then decided by the same `sei` before and after the handler -/
def preState (s : Server) (j : Nat) (pk : InPk) : Server :=
  setObj s j { getObj s j with sei := seiAfter (getObj s j) pk }

theorem getObj_preState (s : Server) (j : Nat) (pk : InPk) (hj : j < s.objs.length) :
    getObj (preState s j pk) j = { getObj s j with sei := seiAfter (getObj s j) pk } :=
  getObj_setObj_eq s j _ hj

theorem tickRetained_objs (s : Server) (t : Int) : (tickRetained s t).objs = s.objs :=
  tickRetained_cases (J := fun x => x.objs = s.objs) s t rfl (fun _ _ _ _ h => h) fun _ h => h

theorem OpsFresh_app {s : Server} {a b : List Op} (h : OpsFresh s (a ++ b)) : OpsFresh s a ∧ OpsFresh (run s a) b := by
  simpa only [OpsFresh_iff, OpsOK.append] using h

theorem OpsSchedOK_app {s : Server} {a b : List Op} (h : OpsSchedOK s (a ++ b)) :
    OpsSchedOK s a ∧ OpsSchedOK (run s a) b := by
  simpa only [OpsSchedOK_iff, OpsOK.append] using h

theorem refuseCode_congr_sv {s s' : Server} (h1 : s'.info = s.info) (h2 : s'.caps = s.caps) (h3 : s'.auth = s.auth)
    (k' : Connect) (c : Client) : refuseCode s' k' c = refuseCode s k' c := by
  unfold refuseCode authAllows
  rw [h1, h2, h3]

theorem EndsTakeover_congr {s s' : Server} {cid : Str} {k' : Connect} (hc : s'.clients = s.clients)
    (ho : ∀ e, assocGet s.clients cid = some e → getObj s' e = getObj s e) (x : EndsTakeover s' cid k') :
    EndsTakeover s cid k' := by
  unfold EndsTakeover at x ⊢
  refine ⟨x.1, x.2.imp (fun y => y) (fun y => ?_)⟩
  rw [hc] at y
  cases he : assocGet s.clients cid with
  | none => rw [he] at y; exact y
  | some e =>
    rw [he] at y
    show ((getObj s e).clean && decide ((getObj s e).ver < 5)) = true
    rw [← ho e he]; exact y

namespace RecWalk
variable {π : Type} (ok : Msg → π → Bool) (pe : Client → InPk → Bool)

/-- a PUBREC for exchange `k` leaves a record of the exchange: it has a success code, and the PUBREL record
    `processPubrec` files in place of the record is one -/
def PubrecKept (k id rc : Nat) : Prop :=
  id = k → (decide (rc ≥ 0x80) || !reasonValid 5 rc) = false ∧
    ∀ (n : Nat) p, ok { type := 6, id := id, qos := 1, reasonCode := 0, created := NOW, expiry := NOW + n } p = true

/-- what the walk uses of the record test `ok` and of the packets `pe c pk` said to end exchange `k` for client `c` -/
structure Kind (k : Nat) : Prop where
  /-- a record deferred by flow control is not one: `nextImmediate` deletes it once written (F09) -/
  deferred : ∀ m p, m.expiry < 0 → ok m p = false
  /-- nor is a PUBACK / PUBCOMP record: `ResendInflightMessages` drops those -/
  acks : ∀ m p, (m.type == 4 || m.type == 7) = true → ok m p = false
  /-- of the client, only `inline` matters -/
  inline : ∀ c c' pk, c'.inline = c.inline → pe c' pk = pe c pk
  /-- an acknowledgement that is not said to end the exchange carries another identifier: the handlers delete or
      replace the record under the identifier they are given -/
  puback : ∀ c id rc, pe c (.puback id rc) = false → id ≠ k
  pubcomp : ∀ c id rc, pe c (.pubcomp id rc) = false → id ≠ k
  pubrel : ∀ c id rc, pe c (.pubrel id rc) = false → id ≠ k
  /-- the harness's barrier never ends an exchange -/
  pingreq : ∀ c, pe c .pingreq = false
  /-- … except PUBREC, which may carry `k` and keep the exchange: `PubrecKept` -/
  pubrec : ∀ c id rc, pe c (.pubrec id rc) = false → PubrecKept ok k id rc
  /-- a PUBLISH `k` that does not end the exchange comes from a network client, and the record is a PUBREC record:
      `processPublish` answers 0x91 and leaves it -/
  publish : ∀ c q d r id t pl me al, pe c (.publish q d r id t pl me al) = false → id = k →
    c.inline = false ∧ ∀ m p, ok m p = true → m.type = 5
  /-- a PUBLISH under another identifier is not said to end it (used for the inline publish, which carries its QoS
      as identifier) -/
  publishNe : ∀ c q d r id t pl me al, id ≠ k → pe c (.publish q d r id t pl me al) = false

/-! ### what may end the exchange (`EndsDrop`, `EndsParked`, `EndsTakeover`, `EndsDue`, `EndsExpired` do not depend on
the kind of record) -/

/-- one inbound packet on connection `conn`, for client id `cid` -/
def EndsRecv (s : Server) (cid : Str) (conn : Nat) (pk : InPk) (barrier : Bool) : Prop :=
  match assocGet s.connOf conn with
  | some j => (getObj s j).id = cid ∧ (getObj s j).isOpen = true ∧
      (pe (getObj s j) pk = true ∨ (connEnds s j pk barrier = true ∧ endsWithConn (getObj s j) pk = true))
  | none => False

/-- the peer sends one packet and vanishes: the connection ends in any case -/
def EndsRecvCut (s : Server) (cid : Str) (conn : Nat) (pk : InPk) : Prop :=
  match assocGet s.connOf conn with
  | some j => (getObj s j).id = cid ∧ (getObj s j).isOpen = true ∧ (getObj s j).stopped = false ∧
      (pe (getObj s j) pk = true ∨ endsWithConn (getObj s j) pk = true)
  | none => False

/-- a parked handler runs on: a parked CONNECT as `connect` (stage 1) / with only its barrier left (stage 2); a
    handler parked by `dropHold` / `dropHoldEarly` runs its clean-up -/
def EndsRelease (s : Server) (cid : Str) (conn : Nat) : Prop :=
  match s.pending.find? (·.conn == conn) with
  | some p =>
    (p.stage = 1 ∧ p.refuse = none ∧ EndsTakeover s cid p.k) ∨
    ((getObj (connectRelease { s with pending := s.pending.filter (·.conn != conn) } p).1 p.obj).isOpen = true ∧
      EndsRecv pe (connectRelease { s with pending := s.pending.filter (·.conn != conn) } p).1 cid conn .pingreq false)
  | none => EndsParked s cid conn

def Ends (s : Server) (cid : Str) (k : Nat) : Op → Prop
  | .recv conn pk => EndsRecv pe s cid conn pk true
  | .recvCut conn pk => EndsRecvCut pe s cid conn pk
  | .drop conn => EndsDrop s cid conn
  | .dropHold _ => False
  | .dropHoldEarly _ => False
  | .release conn => EndsRelease pe s cid conn
  | .connect conn k' =>
    (refuseCode s k' (parseConnect s conn k') = none ∧ EndsTakeover s cid k') ∨
    EndsRecv pe (connect s conn k').1 cid conn .pingreq false
  | .connectHold conn k' stage => stage ≠ 1 ∧ refuseCode s k' (parseConnect s conn k') = none ∧ EndsTakeover s cid k'
  | .tick kind t => (kind = "clients" ∧ EndsDue s cid t) ∨ (kind = "inflight" ∧ EndsExpired s cid k t)
  | .inlinePublish _ _ _ qos => (getObj s 0).id = cid ∧ qos = k
  | .inlineSubscribe _ _ => False
  | .inlineUnsubscribe _ _ => False

variable {pe}

/-! ### PUBLISH under the identifier of the open exchange: answered (PUBREC 0x91), the record kept -/

/-- `processPublish` for object `i`: every other object keeps the record; object `i` itself does too when the packet's
    identifier is another one, or it IS the exchange's, `i` is a network client and the record a PUBREC record: such a
    PUBLISH changes nothing in the broker but, possibly, closes the publisher's connection -/
theorem processPublish_sv (k : Nat) (s : Server) (i : Nat) (qos : Nat) (dup retain : Bool) (id : Nat)
    (topic payload : Str) (msgExpiry : Nat) (alias : Option Nat) :
    SurvW ok i k (id = k → (getObj s i).inline = false ∧ ∀ m p, ok m p = true → m.type = 5) s
      (processPublish s i qos dup retain id topic payload msgExpiry alias).1 := by
  intro x hx
  by_cases hid : id = k
  · by_cases hxi : x = i
    · subst hxi
      obtain ⟨hin, h5⟩ := hx.resolve_left (fun n => n rfl) hid
      -- the session parameters: from the walk for another identifier
      have hc := processPublish_surv ok (id + 1) s x qos dup retain id topic payload msgExpiry alias x
        (Or.inr (Nat.ne_of_lt (Nat.lt_succ_self id)))
      refine ⟨fun p r => ?_, hc.ver, hc.clean, hc.sei, hc.takenOver⟩
      have hdup : pubDup (getObj s x) id = true := by
        obtain ⟨m, hm, hok⟩ := r
        unfold pubDup
        rw [hin, hid, hm]
        simp [h5 m p hok]
      have refuse : ∀ code, Rec ok (getObj (pubRefuse s x qos id code).1 x) k p := fun code =>
        pubRefuse_cases (Q := fun q => Rec ok (getObj q.1 x) k p) s x qos id code (fun _ => r)
          (fun _ _ => (disconnectClient_surv ok k s x code x).keep p r) (fun _ _ => by rw [ackRes_fst]; exact r)
      exact processPublish_cases (Q := fun q => Rec ok (getObj q.1 x) k p) s x qos dup retain id topic payload msgExpiry
        alias (fun _ => refuse 0x90) (fun _ _ => (disconnectClient_surv ok k s x 0x93 x).keep p r)
        (fun _ _ _ => refuse 0x87) (fun _ _ _ _ => by rw [ackRes_fst]; exact r)
        (fun h => by rw [h.fresh] at hdup; cases hdup)
    · exact processPublish_surv ok k s i qos dup retain id topic payload msgExpiry alias x (Or.inl hxi)
  · exact processPublish_surv ok k s i qos dup retain id topic payload msgExpiry alias x (Or.inr hid)

/-! ### acknowledgements -/

theorem processPuback_sv (k : Nat) (s : Server) (i id : Nat) : SurvW ok i k (id ≠ k) s (processPuback s i id).1 :=
  processPuback_cases (Q := fun r => SurvW ok i k (id ≠ k) s r.1) s i id (fun _ => SurvW.refl _ _ _ _)
    (fun _ => (SurvW.refl i k _ s).recordGone id incSend (RK.incSend' k) (fun hne _ _ => hne))

theorem processPubrec_sv (k : Nat) (s : Server) (i id rc : Nat) :
    SurvW ok i k (PubrecKept ok k id rc) s (processPubrec s i id rc).1 := by
  -- the PUBREL record takes the place of the record under `id`: it is one of the exchange
  have filed : SurvW ok i k (PubrecKept ok k id rc) s (setObj s i (flSet (decRecv (getObj s i)) (pubrelAck s id)).1) :=
    (SurvW.refl i k _ s).mod (fun c => (flSet (decRecv c) (pubrelAck s id)).1)
      (fun hown c => (RK.decRecv' k c).trans (RK.flSet_ok' k _ _ (fun e p => (hown e).2 _ p)))
  exact processPubrec_cases (Q := fun r => SurvW ok i k _ s r.1) s i id rc rfl
    (fun _ => by rw [ackRes_fst]; exact SurvW.refl _ _ _ _)
    (fun _ hbad => ((SurvW.refl i k _ s).mod (fun c => (flDelete c id).1) (fun hown c =>
      RK.flDelete_ne' k c id (fun e => by rw [(hown e).1] at hbad; cases hbad))).upd rfl)
    (fun _ _ _ => filed) (fun _ _ _ => filed)

theorem processPubrel_sv (k : Nat) (s : Server) (i id rc : Nat) : SurvW ok i k (id ≠ k) s (processPubrel s i id rc).1 :=
  have filed : id ≠ k → ∀ c, RK ok k c (flSet c (pubcompAck s id)).1 := fun hne c => RK.flSet_ne' k c _ hne
  processPubrel_cases (Q := fun r => SurvW ok i k (id ≠ k) s r.1) s i id rc rfl
    (fun _ => by rw [ackRes_fst]; exact SurvW.refl _ _ _ _)
    (fun _ _ => ((SurvW.refl i k _ s).mod (fun c => (flDelete c id).1) (fun hne c => RK.flDelete_ne' k c id hne)).upd rfl)
    (fun _ _ _ => (SurvW.refl i k _ s).mod (fun c => (flSet c (pubcompAck s id)).1) filed)
    (fun _ _ _ => ((SurvW.refl i k _ s).mod (fun c => (flDelete (incSend (incRecv (flSet c (pubcompAck s id)).1)) id).1)
      (fun hne c => (((filed hne c).incRecv).incSend).flDelete_ne id hne)).upd rfl)

theorem processPubcomp_sv (k : Nat) (s : Server) (i id : Nat) : SurvW ok i k (id ≠ k) s (processPubcomp s i id).1 := by
  rw [processPubcomp_eq]
  exact (SurvW.refl i k _ s).recordGone id (fun c => incSend (incRecv c)) (fun c => (RK.incRecv' k c).incSend)
    (fun hne _ _ => hne)

/-! ### the release of a deferred message (finding F09: its record is deleted once written) -/

theorem nextImmediate_sv (hdef : ∀ m p, m.expiry < 0 → ok m p = false) (k : Nat) (s : Server) (i : Nat) :
    SurvW ok i k (ObjWF (getObj s i)) s (nextImmediate s i).1 :=
  nextImmediate_cases (Q := fun r => SurvW ok i k (ObjWF (getObj s i)) s r.1) s i (SurvW.refl _ _ _ _) fun m _ hm =>
    have hmem := List.mem_filter.mp (mem_permuteBy _ _ _ (List.mem_of_mem_head? hm))
    ((SurvW.refl i k _ s).upd (s' := { s with nextSeed := s.nextSeed / 64 }) rfl).recordGone m.id decSend (RK.decSend' k)
      (fun hw p r => r.ne_of_mem hw.ids_nodup hmem.1 (hdef m p (of_decide_eq_true hmem.2)))

/-! ### DISCONNECT -/

theorem setObj_congr_sv (k : Nat) (s : Server) (i : Nat) (a b : Client) (h : RK ok k a b) :
    Surv ok k (setObj s i a) (setObj s i b) := by
  intro x
  by_cases hx : x = i
  · subst hx
    by_cases hl : x < s.objs.length
    · rw [getObj_setObj_eq s x a hl, getObj_setObj_eq s x b hl]; exact h
    · rw [getObj_setObj_ge s x a hl, getObj_setObj_ge s x b hl]; exact RK.refl k _
  · rw [getObj_setObj_ne s i x a hx, getObj_setObj_ne s i x b hx]; exact RK.refl k _

theorem setObj_same_sv (k : Nat) (s : Server) (i : Nat) (a : Client) (h : RK ok k a (getObj s i)) :
    Surv ok k (setObj s i a) s :=
  fun x => getObj_setObj_ind (P := fun z => RK ok k z (getObj s x)) s i a x (RK.refl k _) fun e => e ▸ h

theorem preState_same (k : Nat) (s : Server) (j : Nat) (pk : InPk) (h : seiAfter (getObj s j) pk = (getObj s j).sei) :
    Surv ok k (preState s j pk) s := by
  refine setObj_same_sv ok k s j _ ?_
  generalize getObj s j = c at h ⊢
  exact ⟨fun _ r => r, rfl, rfl, h.symm, rfl⟩

theorem discObj_rk (k : Nat) (c : Client) (rc : Nat) (sei : Option Nat) (h : seiViolation c sei = false) :
    RK ok k { c with sei := seiAfter c (.disconnect rc sei) } (discObj c sei) := by
  cases sei with
  | none => rk_rfl
  | some v =>
    refine ⟨fun _ r => r, rfl, rfl, ?_, rfl⟩
    show v = if (decide (v > 0) && c.sei == 0) = true then c.sei else v
    rw [show (decide (v > 0) && c.sei == 0) = false from h]
    rfl

theorem processDisconnect_sv (k : Nat) (s : Server) (i rc : Nat) (sei : Option Nat) :
    SurvW ok i k True (preState s i (.disconnect rc sei)) (processDisconnect s i rc sei).1 := by
  have hs1 : seiViolation (getObj s i) sei = false →
      Surv ok k (preState s i (.disconnect rc sei)) (discState s i sei) :=
    fun hv => setObj_congr_sv ok k s i _ _ (discObj_rk ok k _ rc sei hv)
  refine processDisconnect_cases (Q := fun r => SurvW ok i k True (preState s i (.disconnect rc sei)) r.1) s i rc sei
    (fun hv => (preState_same ok k s i _ ?_).w _ _) (fun hv _ => (hs1 hv).w _ _)
    (fun hv _ => (((hs1 hv).upd (by rfl)).trans (stopClient_surv ok k
      { discState s i sei with willDelayed := assocDel s.willDelayed (getObj s i).id } i)).w _ _)
  generalize getObj s i = c at hv
  cases sei with
  | none => rfl
  | some v => exact if_pos hv

/-! ### the session clean-up -/

theorem clearInflights_sv (k : Nat) (s : Server) (i : Nat) : SurvW ok i k False s (clearInflights s i) :=
  ((SurvW.refl i k False s).set _ (fun h => h.elim)).upd rfl

section
variable {ok}
theorem RK.endsWithConn0 {k : Nat} {a b : Client} (h : RK ok k a b) : endsWithConn0 b = endsWithConn0 a := by
  unfold Mochi.Broker.endsWithConn0 sessionClean
  rw [h.ver, h.clean, h.sei, h.takenOver]
end

theorem _root_.Mochi.Broker.detachB_clients (s : Server) (i : Nat) (h : endsWithConn0 (getObj s i) = false) :
    (detachB s i).clients = s.clients :=
  detachB_cases (Q := fun t => t.clients = s.clients) s i (fun _ => rfl) fun he => nomatch h.symm.trans he

/-- `detachB`: the session of object `i` is discarded exactly if it is a clean one that was not taken over -/
theorem detachB_sv (k : Nat) (s : Server) (i : Nat) :
    SurvW ok i k (endsWithConn0 (getObj s i) = false) s (detachB s i) :=
  detachB_cases (Q := fun t => SurvW ok i k _ s t) s i (fun _ => (SurvW.refl i k _ s).upd rfl) fun he =>
    (((clearInflights_sv ok k s i).surv (unsubscribeClient_sv ok k _ i)).upd rfl).weaken fun h => nomatch h.symm.trans he

/-! ### leaving the read loop -/

theorem sendLWT_sv (k : Nat) (s : Server) (i : Nat) : Surv ok k s (sendLWT s i).1 :=
  sendLWT_cases (Q := fun r => Surv ok k s r.1) s i (fun _ => Surv.refl k s) (fun _ _ _ _ => (Surv.refl k s).upd rfl)
    (fun pk _ _ _ => ((retainedState_surv ok k s pk).trans (publishToSubscribers_surv ok k _ pk)).mod i _ (fun _ => by rk_rfl))

theorem detachA_sv (k : Nat) (s : Server) (i : Nat) (withErr : Bool) : Surv ok k s (detachA s i withErr).1 :=
  detachA_cases (Q := fun r => Surv ok k s r.1) s i withErr
    (fun _ => (sendLWT_sv ok k s i).trans (stopClient_surv ok k _ i))
    (fun _ => (Surv.refl k s).mod i _ (fun _ => by rk_rfl))

theorem detach_sv (k : Nat) (s : Server) (i : Nat) (withErr : Bool) :
    SurvW ok i k (endsWithConn0 (getObj s i) = false) s (detach s i withErr).1 := by
  have hA := detachA_sv ok k s i withErr
  unfold detach
  generalize detachA s i withErr = r at hA
  exact (hA.w _ _).trans ((detachB_sv ok k r.1 i).weaken (fun h => (hA i).endsWithConn0.trans h))

theorem _root_.Mochi.Broker.detach_clients (s : Server) (i : Nat) (withErr : Bool) (h : endsWithConn0 (getObj s i) = false) :
    (detach s i withErr).1.clients = s.clients := by
  have hA := detachA_sv (π := Unit) (fun _ _ => false) 0 s i withErr
  show (detachB (detachA s i withErr).1 i).clients = _
  rw [detachB_clients _ i ((hA i).endsWithConn0.trans h), (detachA_quiet s i withErr).clients]

/-- the handler `admitA` took the session over from runs its teardown, its object being marked: the session map stays (a
    marked object's session does not end with its connection), every other object changes in its delivery fields at
    most (the will may be delivered to it) -/
theorem _root_.Mochi.Broker.tookOverDown_kept (s : Server) (x : Option Nat)
    (hx : ∀ e, x = some e → (getObj s e).takenOver = true) :
    (tookOverDown s x).1.clients = s.clients ∧ (tookOverDown s x).1.connOf = s.connOf ∧
    ∀ j, (∀ e, x = some e → j ≠ e) → SessEq (getObj s j) (getObj (tookOverDown s x).1 j) := by
  cases x with
  | none => exact ⟨rfl, rfl, fun _ _ => SessEq.refl _⟩
  | some e =>
    have hends : endsWithConn0 (getObj s e) = false := by unfold endsWithConn0; rw [hx e rfl]; exact Bool.and_false _
    exact ⟨detach_clients s e true hends, (detach_frame s e true).connOf, fun j hj => detach_isolation s e j true (hj e rfl)⟩

theorem tookOverDown_sv (k : Nat) (s : Server) (x : Option Nat) (j : Nat) (hj : ∀ e, x = some e → j ≠ e) :
    RK ok k (getObj s j) (getObj (tookOverDown s x).1 j) := by
  cases x with
  | none => exact RK.refl k _
  | some e => exact detach_sv ok k s e true j (Or.inl (hj e rfl))

/-! ### one inbound packet -/

theorem receivePacket_sv (k : Nat) (K : Kind ok pe k) (s : Server) (i : Nat) (pk : InPk) (hw : WF s) :
    SurvW ok i k (pe (getObj s i) pk = false) (preState s i pk) (receivePacket s i pk).1 := by
  have hr : SurvW ok i k (pe (getObj s i) pk = false) (preState s i pk) (R07.handler s i pk).1 := by
    -- every packet but DISCONNECT leaves the session expiry interval alone
    have h0 : seiAfter (getObj s i) pk = (getObj s i).sei →
        SurvW ok i k (pe (getObj s i) pk = false) (preState s i pk) s := fun h => (preState_same ok k s i pk h).w _ _
    unfold R07.handler
    cases pk with
    | publish q d rt id tp pl me al =>
      dsimp only
      cases publishValidate s q id tp al with
      | some _ => exact h0 rfl
      | none => exact (h0 rfl).trans ((processPublish_sv ok k s i q d rt id tp pl me al).weaken (K.publish _ q d rt id tp pl me al))
    | subscribe id si fs =>
      dsimp only
      split
      · exact h0 rfl
      · exact (h0 rfl).trans ((processSubscribe_surv ok k s i id si fs).w _ _)
    | unsubscribe id fs =>
      dsimp only
      split
      · exact h0 rfl
      · exact (h0 rfl).trans ((processUnsubscribe_surv ok k s i id fs).w _ _)
    | puback id rc => exact (h0 rfl).trans ((processPuback_sv ok k s i id).weaken (K.puback _ id rc))
    | pubrec id rc => exact (h0 rfl).trans ((processPubrec_sv ok k s i id rc).weaken (K.pubrec _ id rc))
    | pubrel id rc => exact (h0 rfl).trans ((processPubrel_sv ok k s i id rc).weaken (K.pubrel _ id rc))
    | pubcomp id rc => exact (h0 rfl).trans ((processPubcomp_sv ok k s i id).weaken (K.pubcomp _ id rc))
    | pingreq =>
      dsimp only
      split <;> exact h0 rfl
    | disconnect rc sei => exact (processDisconnect_sv ok k s i rc sei).weaken fun _ => trivial
  have hg : WF (R07.handler s i pk).1 := hw.of_good (handler_state Good.refl i s (processPublish_good s i)
    (processSubscribe_good s i) (processUnsubscribe_good s i) (processPuback_good s i) (processPubrec_good s i)
    (processPubrel_good s i) (processPubcomp_good s i) (processDisconnect_good s i) pk)
  exact receivePacket_cases (Q := fun r => SurvW ok i k _ (preState s i pk) r.1) s i pk rfl
    (fun _ => hr.trans ((nextImmediate_sv ok K.deferred k _ i).weaken fun _ => hg.allWF i))
    (fun code _ => hr.surv (disconnectClient_surv ok k _ i code)) (fun _ _ => hr)

/-! ### the session and its record, op by op -/

/-- the session registered under `cid` holds the record of exchange `k` -/
def Holds (s : Server) (cid : Str) (k : Nat) (p : π) : Prop :=
  ∃ i, assocGet s.clients cid = some i ∧ Rec ok (getObj s i) k p

/-- the object registered under `cid` is `i`, and it holds the record -/
def HoldsAt (s : Server) (cid : Str) (k : Nat) (p : π) (i : Nat) : Prop :=
  assocGet s.clients cid = some i ∧ Rec ok (getObj s i) k p

section
variable {ok} {k : Nat} {p : π} {cid : Str} {s s' : Server} {i : Nat}

theorem Rec.pos {c : Client} (r : Rec ok c k p) : c.inflight.length > 0 := by
  obtain ⟨m, hm, _⟩ := r
  unfold flGet at hm
  cases hl : c.inflight with
  | nil => rw [hl] at hm; cases hm
  | cons x xs => simp

theorem Rec.modObj (j : Nat) (g : Client → Client) (hg : ∀ c, (g c).inflight = c.inflight) {x : Nat}
    (r : Rec ok (getObj s x) k p) : Rec ok (getObj (modObj s j g) x) k p :=
  getObj_setObj_ind (P := fun z => Rec ok z k p) s j _ x r fun e => Rec.of_infl (hg _) (e ▸ r)

theorem Rec.pre (j : Nat) (pk : InPk) {x : Nat} (r : Rec ok (getObj s x) k p) :
    Rec ok (getObj (preState s j pk) x) k p := r.modObj j (fun c => { c with sei := seiAfter c pk }) fun _ => rfl

theorem HoldsAt.holds (h : HoldsAt ok s cid k p i) : Holds ok s cid k p := ⟨i, h⟩

theorem HoldsAt.id (h : HoldsAt ok s cid k p i) (hw : WF s) : (getObj s i).id = cid :=
  (hw.clients_valid cid i (assocGet_mem _ _ _ h.1)).2

theorem HoldsAt.lt (h : HoldsAt ok s cid k p i) (hw : WF s) : i < s.objs.length :=
  (hw.clients_valid cid i (assocGet_mem _ _ _ h.1)).1

theorem HoldsAt.of_surv (h : HoldsAt ok s cid k p i) (hs : Surv ok k s s') (hc : s'.clients = s.clients) :
    HoldsAt ok s' cid k p i := ⟨hc ▸ h.1, (hs i).keep p h.2⟩

theorem HoldsAt.upd (h : HoldsAt ok s cid k p i) (ho : s'.objs = s.objs) (hc : s'.clients = s.clients) :
    HoldsAt ok s' cid k p i := ⟨hc ▸ h.1, getObj_of_objs_eq ho i ▸ h.2⟩

/-- work for object `j`, from a state `s0` whose object `i` has the record: the session of `cid` keeps it unless `j`
    belongs to `cid` and `own` fails -/
theorem HoldsAt.of_survw {s0 : Server} {j : Nat} {own : Prop} (h : HoldsAt ok s cid k p i) (hidi : (getObj s i).id = cid)
    (r0 : Rec ok (getObj s0 i) k p) (hs : SurvW ok j k own s0 s') (hc : own → s'.clients = s.clients)
    (hf : cid ≠ (getObj s j).id → assocGet s'.clients cid = assocGet s.clients cid)
    (hown : (getObj s j).id = cid → own) : HoldsAt ok s' cid k p i := by
  by_cases hid : (getObj s j).id = cid
  · exact ⟨hc (hown hid) ▸ h.1, (hs i (Or.inr (hown hid))).keep p r0⟩
  · exact ⟨(hf fun e => hid e.symm) ▸ h.1, (hs i (Or.inl fun e => hid (e ▸ hidi))).keep p r0⟩

/-- leaving the read loop for object `j`: the session of `cid` is kept unless `j` belongs to `cid` and its session is
    a clean one that was not taken over -/
theorem detach_holds (j : Nat) (b : Bool) (h : HoldsAt ok s cid k p i) (hidi : (getObj s i).id = cid)
    (hcond : (getObj s j).id = cid → endsWithConn0 (getObj s j) = false) : HoldsAt ok (detach s j b).1 cid k p i :=
  h.of_survw hidi h.2 (detach_sv ok k s j b) (detach_clients s j b) ((detach_frame s j b).clients cid) hcond

theorem detachB_holds (j : Nat) (h : HoldsAt ok s cid k p i) (hidi : (getObj s i).id = cid)
    (hcond : (getObj s j).id = cid → endsWithConn0 (getObj s j) = false) : HoldsAt ok (detachB s j) cid k p i :=
  h.of_survw hidi h.2 (detachB_sv ok k s j) (detachB_clients s j) ((detachB_frame s j).clients cid) hcond

theorem HoldsAt.peerGone (j : Nat) (h : HoldsAt ok s cid k p i) :
    HoldsAt ok (modObj s j fun c => { c with peerGone := true }) cid k p i :=
  h.of_surv ((Surv.refl k s).mod j _ fun _ => by rk_rfl) rfl

/-- one packet handled for object `j`, which does not end the exchange; read back: whether the session of `j` ends with
    its connection afterwards -/
theorem receivePacket_holds (K : Kind ok pe k) (pk : InPk) {j : Nat} (hw : WF s) (hj : j < s.objs.length)
    (h : HoldsAt ok s cid k p i) (h1 : (getObj s j).id = cid → pe (getObj s j) pk = false) :
    HoldsAt ok (receivePacket s j pk).1 cid k p i ∧ ((getObj s j).id = cid →
      endsWithConn0 (getObj (receivePacket s j pk).1 j) = endsWithConn (getObj s j) pk) := by
  have hs := (receivePacket_sv ok k K s j pk hw).weaken h1
  have hq := (receivePacket_own s j hj pk).same.clients
  exact ⟨h.of_survw (h.id hw) (h.2.pre j pk) hs (fun _ => hq) (fun _ => congrArg (assocGet · cid) hq) id,
    fun hid => by rw [(hs j (Or.inr hid)).endsWithConn0, getObj_preState _ _ _ hj]; rfl⟩

variable (pe) in
/-- one inbound packet on an open connection of object `j` that neither ends the exchange nor, ending the connection,
    the session; read back: whether the session of `j` ends with its connection afterwards -/
theorem recvOn_holds (K : Kind ok pe k) (conn : Nat) (pk : InPk) (b : Bool) {j : Nat} (hw : WF s)
    (hc : assocGet s.connOf conn = some j) (hopen : (getObj s j).isOpen = true) (h : HoldsAt ok s cid k p i)
    (h1 : (getObj s j).id = cid → pe (getObj s j) pk = false)
    (h2 : (getObj s j).id = cid → connEnds s j pk b = true → endsWithConn (getObj s j) pk = false) :
    HoldsAt ok (recvOn s conn pk b).1 cid k p i ∧ ((getObj s j).id = cid →
      endsWithConn0 (getObj (recvOn s conn pk b).1 j) = endsWithConn (getObj s j) pk) := by
  have hj : j < s.objs.length := hw.conn_valid conn j (assocGet_mem _ _ _ hc)
  let Q : Server → Prop := fun t => HoldsAt ok t cid k p i ∧
    ((getObj s j).id = cid → endsWithConn0 (getObj t j) = endsWithConn (getObj s j) pk)
  -- leaving the read loop from a state `t` reached so far, the connection being one that ends
  have fin : ∀ t bb, WF t → (getObj t j).id = (getObj s j).id → Q t → connEnds s j pk b = true →
      Q (detach t j bb).1 := fun t bb wt idt ⟨ht, et⟩ hce =>
    have e1 : (getObj t j).id = cid → endsWithConn0 (getObj t j) = false := fun hid =>
      (et (idt ▸ hid)).trans (h2 (idt ▸ hid) hce)
    ⟨detach_holds j bb ht (ht.id wt) e1, fun hid =>
      ((detach_sv ok k t j bb j (Or.inr (e1 (idt.symm ▸ hid)))).endsWithConn0).trans (et hid)⟩
  have at_j : ∀ {x}, assocGet s.connOf conn = some x → x = j := fun hx => Option.some.inj (hx.symm.trans hc)
  have R1 := receivePacket_holds K pk hw hj h h1
  have w1 := receivePacket_wf s j pk hw
  have id1 := receivePacket_id s j j pk
  have ce : ∀ {x : Bool}, x = true → (x || !(getObj (receivePacket s j pk).1 j).isOpen ||
      (b && (receivePacket (receivePacket s j pk).1 j .pingreq).2.2.isSome)) = true := fun e => by simp [e]
  -- the barrier PINGREQ, handled in the state the packet left
  have R2 := receivePacket_holds K .pingreq w1 ((receivePacket_own s j hj pk).len ▸ hj) R1.1 fun _ => K.pingreq _
  -- (said of a variable client: about the state the packet left, the unifier would unfold `receivePacket`)
  have ping : ∀ c : Client, endsWithConn c .pingreq = endsWithConn0 c := fun _ => rfl
  have Q2 : Q (receivePacket (receivePacket s j pk).1 j .pingreq).1 :=
    ⟨R2.1, fun hid => (R2.2 (id1.trans hid)).trans ((ping _).trans (R1.2 hid))⟩
  have w2 := receivePacket_wf (receivePacket s j pk).1 j .pingreq w1
  have id2 := (receivePacket_id (receivePacket s j pk).1 j j .pingreq).trans id1
  refine recvOn_cases (Q := fun r => Q r.1) s conn pk b (fun hn => nomatch hc.symm.trans hn)
    (fun x hx hcl => by cases at_j hx; exact nomatch hopen.symm.trans hcl)
    (fun x r hx _ hr he => ?_) (fun x r hx _ hr _ hcl => ?_) (fun x r hx _ hr _ _ _ => ?_)
    (fun x r r2 hx _ hr _ _ hb hr2 he2 => ?_) (fun x r r2 hx _ hr _ _ _ hr2 _ => ?_)
  -- (`dsimp only` takes the state out of the pair: against the pair, the unifier would unfold `detach`)
  all_goals cases at_j hx; subst hr
  · dsimp only
    exact fin (receivePacket s j pk).1 true w1 id1 R1 (by unfold connEnds; exact ce (Option.isSome_iff_ne_none.mpr he))
  · dsimp only
    exact fin (receivePacket s j pk).1 false w1 id1 R1 (by unfold connEnds; simp [hcl])
  · exact R1
  · subst hr2
    dsimp only
    exact fin (receivePacket (receivePacket s j pk).1 j .pingreq).1 true w2 id2 Q2
      (by unfold connEnds; simp [hb, Option.isSome_iff_ne_none.mpr he2])
  · subst hr2
    exact Q2

theorem recvOn_keeps (K : Kind ok pe k) (conn : Nat) (pk : InPk) (b : Bool) (hw : WF s) (h : HoldsAt ok s cid k p i)
    (hne : ¬ EndsRecv pe s cid conn pk b) : HoldsAt ok (recvOn s conn pk b).1 cid k p i := by
  unfold EndsRecv at hne
  cases hc : assocGet s.connOf conn with
  | none => rw [recvOn_unknown hc]; exact h
  | some j =>
    rw [hc] at hne
    by_cases hopen : (getObj s j).isOpen = true
    · exact (recvOn_holds pe K conn pk b hw hc hopen h
        (fun hid => Bool.eq_false_iff.mpr fun e => hne ⟨hid, hopen, Or.inl e⟩)
        (fun hid hce => Bool.eq_false_iff.mpr fun e => hne ⟨hid, hopen, Or.inr ⟨hce, e⟩⟩)).1
    · unfold recvOn
      rw [hc]
      dsimp only
      rw [if_pos (by simpa using hopen)]
      exact h
end

section
variable {ok} {k : Nat} {p : π} {cid : Str} {s : Server} {i : Nat}

theorem peerGone_proj {α} (f : Client → α) (s : Server) (j x : Nat) (h : ∀ c, f { c with peerGone := true } = f c) :
    f (getObj (modObj s j fun c => { c with peerGone := true }) x) = f (getObj s x) := getObj_modObj_proj f s j _ x h

theorem step_drop_holds (conn : Nat) (hw : WF s) (h : HoldsAt ok s cid k p i) (hne : ¬ Ends pe s cid k (.drop conn)) :
    HoldsAt ok (step s (.drop conn)).1 cid k p i :=
  step_drop_cases (Q := fun r => HoldsAt ok r.1 cid k p i) s conn (fun _ => h) (fun _ _ _ => h) fun j hc hst =>
    detach_holds j true (h.peerGone j) ((peerGone_proj (·.id) s j i fun _ => rfl).trans (h.id hw)) fun hid =>
      (peerGone_proj endsWithConn0 s j j fun _ => rfl).trans <| Bool.eq_false_iff.mpr fun e => hne <| by
        show EndsDrop s cid conn
        unfold EndsDrop
        rw [hc]
        exact ⟨(peerGone_proj (·.id) s j j fun _ => rfl).symm.trans hid, hst, e⟩

theorem step_dropHold_holds (conn : Nat) (h : HoldsAt ok s cid k p i) :
    HoldsAt ok (step s (.dropHold conn)).1 cid k p i :=
  step_dropHold_cases (Q := fun r => HoldsAt ok r.1 cid k p i) s conn (fun _ => h) (fun _ _ _ => h) fun j d _ _ hd => by
    subst hd
    exact ((h.peerGone j).of_surv (detachA_sv ok k _ j true) (detachA_quiet _ j true).clients).upd (by rfl) (by rfl)

theorem step_dropHoldEarly_holds (conn : Nat) (h : HoldsAt ok s cid k p i) :
    HoldsAt ok (step s (.dropHoldEarly conn)).1 cid k p i :=
  step_dropHoldEarly_cases (Q := fun r => HoldsAt ok r.1 cid k p i) s conn (fun _ => h) (fun _ _ _ => h) fun j _ _ =>
    (h.upd (s' := { s with parkedEarly := s.parkedEarly ++ [j] }) rfl rfl).peerGone j

theorem step_recvCut_holds (K : Kind ok pe k) (conn : Nat) (pk : InPk) (hw : WF s) (h : HoldsAt ok s cid k p i)
    (hne : ¬ Ends pe s cid k (.recvCut conn pk)) : HoldsAt ok (step s (.recvCut conn pk)).1 cid k p i := by
  -- the packet is handled with the peer gone (`s1`); whether the handler stopped or not, the connection ends
  have key : ∀ j r, assocGet s.connOf conn = some j → ((getObj s j).stopped || !(getObj s j).isOpen) = false →
      r = recvOn (modObj s j fun c => { c with peerGone := true }) conn pk false →
      (HoldsAt ok r.1 cid k p i ∧ WF r.1) ∧ ((getObj s j).id = cid → endsWithConn0 (getObj r.1 j) = false) := by
    intro j r hc hl hr
    subst hr
    have hw1 : WF (modObj s j fun c => { c with peerGone := true }) := hw.of_good ((Good.refl s).mod j _ (by cw_rfl))
    obtain ⟨hst, hop⟩ : (getObj s j).stopped = false ∧ (getObj s j).isOpen = true := by simpa using hl
    have hE : (getObj s j).id = cid → ¬ (pe (getObj s j) pk = true ∨ endsWithConn (getObj s j) pk = true) := fun hid x =>
      hne (by show EndsRecvCut pe s cid conn pk; unfold EndsRecvCut; rw [hc]; exact ⟨hid, hop, hst, x⟩)
    have hid1 := peerGone_proj (·.id) s j j fun _ => rfl
    have hend1 := peerGone_proj (endsWithConn · pk) s j j fun _ => rfl
    have hpk1 := K.inline _ _ pk (peerGone_proj (·.inline) s j j fun _ => rfl)
    obtain ⟨h2, e2⟩ := recvOn_holds pe K conn pk false hw1 hc
      ((peerGone_proj (·.isOpen) s j j fun _ => rfl).trans hop) (h.peerGone j)
      (fun hid => hpk1.trans (Bool.eq_false_iff.mpr fun e => hE (hid1.symm.trans hid) (Or.inl e)))
      (fun hid _ => hend1.trans (Bool.eq_false_iff.mpr fun e => hE (hid1.symm.trans hid) (Or.inr e)))
    exact ⟨⟨h2, recvOn_wf _ conn pk false hw1⟩, fun hid => ((e2 (hid1.trans hid)).trans hend1).trans
      (Bool.eq_false_iff.mpr fun e => hE hid (Or.inr e))⟩
  refine step_recvCut_cases (Q := fun r => HoldsAt ok r.1 cid k p i) s conn pk (fun _ => h) (fun _ _ _ => h)
    (fun j r hc hl hr _ => (key j r hc hl hr).1.1) fun j r hc hl hr _ => ?_
  subst hr
  obtain ⟨⟨h2, w2⟩, e2⟩ := key j _ hc hl rfl
  exact detach_holds j true h2 (h2.id w2) fun hid =>
    e2 (((recvOn_id _ conn pk false j).trans (peerGone_proj (·.id) s j j fun _ => rfl)).symm.trans hid)

theorem step_inlinePublish_holds (K : Kind ok pe k) (topic payload : Str) (retain : Bool) (qos : Nat) (hw : WF s)
    (h : HoldsAt ok s cid k p i) (hne : ¬ Ends pe s cid k (.inlinePublish topic payload retain qos)) :
    HoldsAt ok (step s (.inlinePublish topic payload retain qos)).1 cid k p i :=
  have hq := (receivePacket_quiet s 0 (.publish qos false retain qos topic payload 0 none) rfl).clients
  h.of_survw (h.id hw) (h.2.pre 0 _) (receivePacket_sv ok k K s 0 _ hw) (fun _ => hq)
    (fun _ => congrArg (assocGet · cid) hq) fun hid => K.publishNe _ _ _ _ _ _ _ _ _ fun e => hne ⟨hid, e⟩

theorem step_inlineSubscribe_holds (id : Nat) (filter : Str) (h : HoldsAt ok s cid k p i) :
    HoldsAt ok (step s (.inlineSubscribe id filter)).1 cid k p i :=
  step_inlineSubscribe_cases (Q := fun r => HoldsAt ok r.1 cid k p i) s id filter (fun _ => h)
    fun _ e _ => e ▸ h.upd rfl rfl

theorem step_inlineUnsubscribe_holds (id : Nat) (filter : Str) (h : HoldsAt ok s cid k p i) :
    HoldsAt ok (step s (.inlineUnsubscribe id filter)).1 cid k p i :=
  step_inlineUnsubscribe_cases (Q := fun r => HoldsAt ok r.1 cid k p i) s id filter (fun _ => h)
    fun _ => h.upd rfl rfl

/-! ### housekeeping -/

theorem tickClients_holds (t : Int) (hw : WF s) (h : HoldsAt ok s cid k p i) (hne : ¬ EndsDue s cid t) :
    HoldsAt ok (tickClients s t).1 cid k p i := by
  have hdue : ¬ sessionDue s.caps (getObj s i) t = true := fun e => hne (by unfold EndsDue; rw [h.1]; exact e)
  suffices key : assocGet (tickClients s t).1.clients cid = some i ∧ getObj (tickClients s t).1 i = getObj s i ∧
      (tickClients s t).1.caps = s.caps from ⟨key.1, key.2.1 ▸ h.2⟩
  -- a session that ends is another one: this one is not due
  refine tickClients_cases (J := fun acc => assocGet acc.1.clients cid = some i ∧ getObj acc.1 i = getObj s i ∧
    acc.1.caps = s.caps) s t ⟨h.1, rfl, rfl⟩ fun acc e he hd ⟨h1, h2, h3⟩ => ?_
  have hreg := assocGet_of_mem _ _ _ hw.clients_nodup he
  have hk : e.1 ≠ cid := fun hk => hdue <| by
    cases Option.some.inj ((hk ▸ hreg).symm.trans h.1)
    rw [← h3, ← h2]
    exact hd
  have hei : i ≠ e.2 := fun x => hk ((hw.clients_valid e.1 e.2 he).2.symm.trans (x ▸ h.id hw))
  exact ⟨(assocGet_assocDel_ne _ _ _ fun x => hk x.symm).trans
    ((congrArg (assocGet · cid) (unsubscribeClient_clients_sv _ _)).trans h1),
    (cleanup_getObj_ne acc.1 e.2 i hei).trans h2, (unsubscribeClient_caps _ _).trans h3⟩

theorem publishDue_sv (k : Nat) (acc : Server × List Out) (e : Str × Msg) : Surv ok k acc.1 (publishDue acc e).1 := by
  have h1 := publishToSubscribers_surv ok k acc.1 e.2
  unfold publishDue
  extract_lets r r2
  refine Surv.upd (s := r2.1) ?_ rfl
  simp only [r2]
  split
  · exact (h1.trans (retainedState_surv ok k _ e.2)).mod _ _ (fun _ => by rk_rfl)
  · exact h1

theorem tickWills_sv (k : Nat) (s : Server) (dt : Int) : Surv ok k s (tickWills s dt).1 :=
  tickWills_cases (J := fun r => Surv ok k s r.1) s dt (Surv.refl k s)
    (fun acc e _ _ h => h.trans (publishDue_sv k acc e))

/-- the `inflight` housekeeping removes the expired records — every other record stays what it is -/
theorem tickInflight_holds (t : Int) (hw : WF s) (h : HoldsAt ok s cid k p i) (hne : ¬ EndsExpired s cid k t) :
    HoldsAt ok (tickInflight s t) cid k p i := by
  obtain ⟨m0, hm0, hok⟩ := h.2
  have hexp : ¬ recExpired s.caps m0 t = true := fun e => hne <| by
    unfold EndsExpired
    rw [h.1]
    dsimp only
    rw [hm0]
    exact e
  let P : Server → Prop := fun x => x.caps = s.caps ∧ flGet (getObj x i) k = some m0 ∧ ObjWF (getObj x i)
  suffices key : P (tickInflight s t) from ⟨(tickInflight_quiet s t).clients ▸ h.1, m0, key.2.1, hok⟩
  refine tickInflight_cases_mem (J := P) s t ⟨rfl, hm0, hw.allWF i⟩ fun b b2 e m _ hb hm hx ⟨q1, q2, q3⟩ => ⟨q1, ?_⟩
  refine getObj_setObj_ind (P := fun z => flGet z k = some m0 ∧ ObjWF z) b2 e.2 _ i ⟨q2, q3⟩ fun hei => ?_
  -- `m`, of the same object, is expired: it is not the record
  have hmk : m.id ≠ k := fun emk => hexp <| by
    cases (flGet_of_mem (getObj b i) m hb.2.2.ids_nodup (hei ▸ hm)).symm.trans (emk ▸ hb.2.1)
    rw [← q1]
    exact hx
  rw [← hei]
  exact ⟨(flGet_flDelete_ne _ _ _ hmk).trans q2, flDelete_wf _ _ q3⟩

theorem step_tick_holds (kind : String) (t : Int) (hw : WF s) (h : HoldsAt ok s cid k p i)
    (hne : ¬ Ends pe s cid k (.tick kind t)) : HoldsAt ok (step s (.tick kind t)).1 cid k p i :=
  step_tick_cases_kind (Q := fun r => HoldsAt ok r.1 cid k p i) s kind t
    (fun hk => tickClients_holds t hw h fun e => hne (Or.inl ⟨hk, e⟩))
    (fun _ => h.upd (tickRetained_objs s t) (tickRetained_quiet s t).clients)
    (fun hk => tickInflight_holds t hw h fun e => hne (Or.inr ⟨hk, e⟩))
    (fun _ => h.of_surv (tickWills_sv k s t) (tickWills_quiet s t).clients) h

end

/-! ### resumption and take-over (`inheritClientSession` + `Clients.Add`), and the rest of `attachClient` -/

theorem admitConnack_keep (k : Nat) (s : Server) (n conn : Nat) (present : Bool) (x : Nat) (p : π)
    (r : Rec ok (getObj s x) k p) : Rec ok (getObj (admitConnack s n conn present).1 x) k p :=
  admitConnack_cases (Q := fun q => Rec ok (getObj q.1 x) k p) s n conn present (fun _ => r.modObj n _ fun _ => by rfl)
    fun _ => r

/-- `ResendInflightMessages`: only PUBACK / PUBCOMP records are dropped after being resent -/
theorem admitC_keep (k : Nat) (K : Kind ok pe k) (s : Server) (n : Nat) (k' : Connect) (present : Bool) (hw : ObjWF (getObj s n))
    (x : Nat) (p : π) (r : Rec ok (getObj s x) k p) : Rec ok (getObj (admitC s n k' present).1 x) k p :=
  admitC_cases_mem (J := fun q => Rec ok (getObj q.1 x) k p) s n k' present r fun acc m hm h =>
    iteInduction (motive := fun t : Server => Rec ok (getObj t x) k p) (fun ht =>
      ((SurvW.refl n k (x = n) acc.1).recordGone m.id (fun c => c) (fun _ => RK.refl k _) (fun hx _ _ => by
        subst hx
        exact r.ne_of_mem hw.ids_nodup (mem_permuteBy _ _ _ hm) (K.acks m p ht)) x (Decidable.em (x = n)).symm).keep p h)
      fun _ => h

section
variable {ok} {k : Nat} {p : π} {cid : Str} {s : Server} {i : Nat}

/-- `admitA`: the session of `cid` keeps the record — in the object it was in, or (resumption / take-over by a
    CONNECT for `cid` without Clean Start) in the connecting object `n`, the old object — the one whose handler is
    still to run its teardown, if any — being marked as taken over -/
theorem admitA_holds (n : Nat) (k' : Connect) (hw : WF s) (hn : n < s.objs.length) (hni : n ≠ i)
    (h : HoldsAt ok s cid k p i) (hne : ¬ EndsTakeover s cid k') :
    HoldsAt ok (admitA s n k').1 cid k p (if k'.id = cid then n else i) ∧
    ∀ e, (admitA s n k').2.2.2 = some e → (getObj s e).id = cid → (getObj (admitA s n k').1 e).takenOver = true := by
  by_cases hk : k'.id = cid
  · rw [if_pos hk]
    have hreg : assocGet s.clients k'.id = some i := hk ▸ h.1
    have hE : ¬ (k'.clean = true ∨ ((getObj s i).clean && decide ((getObj s i).ver < 5)) = true) :=
      fun x => hne ⟨hk, x.imp id fun y => by rw [h.1]; exact y⟩
    have hp : sp14_present s k' = true := by
      unfold sp14_present; rw [hreg]
      show (!(k'.clean || ((getObj s i).clean && decide ((getObj s i).ver < 5)))) = true
      rw [Bool.eq_false_iff.mpr fun e => hE (Or.inl e), Bool.eq_false_iff.mpr fun e => hE (Or.inr e)]; rfl
    -- a record means the old object's in-flight map is not empty: it is the new object's map
    have hi := ((admitA_session s n k' hn fun e he => Option.some.inj (hreg.symm.trans he) ▸ hni).resumed i hreg hp).1
    rw [if_pos h.2.pos] at hi
    refine ⟨⟨by rw [admitA_clients, assocGet_assocSet, if_pos hk.symm], h.2.of_infl hi⟩, fun e hex _ => ?_⟩
    cases Option.some.inj ((admitA_exLive s n k' e hex).1.symm.trans hreg)
    exact admitA_marked s n k' i hreg hni (h.lt hw)
  · rw [if_neg hk]
    exact ⟨⟨by rw [admitA_clients, assocGet_assocSet, if_neg fun x => hk x.symm]; exact h.1,
      (admitA_other s n k' i hni.symm fun x => hk (hw.reg_unique x h.1)).symm ▸ h.2⟩, fun e hex hid => absurd
        ((hw.clients_valid _ _ (assocGet_mem _ _ _ (admitA_exLive s n k' e hex).1)).2.symm.trans hid) hk⟩

theorem tookOverDown_holds (x : Option Nat) (hw : WF s) (h : HoldsAt ok s cid k p i)
    (hx : ∀ e, x = some e → (getObj s e).id = cid → (getObj s e).takenOver = true) :
    HoldsAt ok (tookOverDown s x).1 cid k p i ∧ WF (tookOverDown s x).1 := by
  cases x with
  | none => exact ⟨h, hw⟩
  | some e =>
    refine ⟨detach_holds e true h (h.id hw) fun hid => ?_, detach_wf s e true hw⟩
    unfold endsWithConn0
    rw [hx e rfl hid]
    exact Bool.and_false _

theorem admitClient_holds (K : Kind ok pe k) (n conn : Nat) (k' : Connect) (hw : WF s) (hn : n < s.objs.length)
    (hnid : (getObj s n).id = k'.id) (hni : n ≠ i) (h : HoldsAt ok s cid k p i) (hne : ¬ EndsTakeover s cid k') :
    HoldsAt ok (admitClient s n conn k').1 cid k p (if k'.id = cid then n else i) := by
  obtain ⟨H1, T1⟩ := admitA_holds n k' hw hn hni h hne
  have w1 := admitA_wf s n k' hw hn hnid
  have g2 := admitConnack_good (admitA s n k').1 n conn (admitA s n k').2.2.1
  have q2 := admitConnack_quiet (admitA s n k').1 n conn (admitA s n k').2.2.1
  obtain ⟨H3, w3⟩ := tookOverDown_holds (admitA s n k').2.2.2 (w1.of_good g2)
    ⟨q2.clients ▸ H1.1, admitConnack_keep ok k _ n conn _ _ p H1.2⟩ fun e he hid =>
      (q2.obj e).takenOver.trans (T1 e he (((g2.ids e).trans ((admitA_keep s n k').ids e)).symm.trans hid))
  rw [admitClient_fst]
  generalize (tookOverDown _ _).1 = s3 at H3 w3 ⊢
  exact ⟨(admitC_quiet s3 n k' _).clients ▸ H3.1, admitC_keep ok k K s3 n k' _ (w3.allWF n) _ p H3.2⟩

/-! ### connecting -/

theorem HoldsAt.entered (conn : Nat) (k' : Connect) (hw : WF s) (h : HoldsAt ok s cid k p i) :
    HoldsAt ok (connState s conn k') cid k p i :=
  ⟨h.1, (getObj_append_lt (s := s) (s' := connState s conn k') rfl i (h.lt hw)).symm ▸ h.2⟩

theorem EndsTakeover_entered (conn : Nat) (k' : Connect) (hw : WF s) (x : EndsTakeover (connState s conn k') cid k') :
    EndsTakeover s cid k' :=
  EndsTakeover_congr (s := s) (s' := connState s conn k') rfl
    (fun e he => getObj_append_lt (s := s) rfl e (hw.clients_valid cid e (assocGet_mem _ _ _ he)).1) x

theorem connState_new (s : Server) (conn : Nat) (k' : Connect) :
    s.objs.length < (connState s conn k').objs.length ∧ (getObj (connState s conn k') s.objs.length).id = k'.id :=
  ⟨connState_lt s conn k', by rw [getObj_connState_new]; rfl⟩

theorem connect_holds (K : Kind ok pe k) (conn : Nat) (k' : Connect) (hw : WF s) (hf : conn ∉ s.connOf.map (·.1))
    (h : HoldsAt ok s cid k p i)
    (hne : ¬ (refuseCode s k' (parseConnect s conn k') = none ∧ EndsTakeover s cid k')) :
    ∃ i', HoldsAt ok (connect s conn k').1 cid k p i' := by
  have h1 := h.entered conn k' hw
  have w1 : WF (connState s conn k') := hw.addObj _ conn (parseConnect_wf s conn k') hf
  refine connect_cases (Q := fun r => ∃ i', HoldsAt ok r.1 cid k p i') s conn k'
    (fun s1 _ e _ => e ▸ ⟨i, h1.of_surv (stopClient_surv ok k _ _) (stopClient_quiet _ _).clients⟩) fun s1 e hr => ?_
  subst e
  exact ⟨_, admitClient_holds K _ conn k' w1 (connState_new s conn k').1 (connState_new s conn k').2
    (Nat.ne_of_gt (h.lt hw)) h1 fun x =>
      hne ⟨(refuseCode_congr_sv (s := s) rfl rfl rfl k' _).symm.trans hr, EndsTakeover_entered conn k' hw x⟩⟩

theorem step_connect_holds (K : Kind ok pe k) (conn : Nat) (k' : Connect) (hw : WF s) (hf : conn ∉ s.connOf.map (·.1))
    (h : HoldsAt ok s cid k p i) (hne : ¬ Ends pe s cid k (.connect conn k')) :
    Holds ok (step s (.connect conn k')).1 cid k p := by
  obtain ⟨i', h'⟩ := connect_holds K conn k' hw hf h fun x => hne (Or.inl x)
  exact step_connect_cases (Q := fun r => Holds ok r.1 cid k p) s conn k'
    (fun _ _ _ => (recvOn_keeps K conn .pingreq false (connect_wf s conn k' hw hf) h' fun x => hne (Or.inr x)).holds)
    fun _ => h'.holds

theorem step_connectHold_holds (conn : Nat) (k' : Connect) (stage : Nat) (hw : WF s) (hf : conn ∉ s.connOf.map (·.1))
    (h : HoldsAt ok s cid k p i) (hne : ¬ Ends pe s cid k (.connectHold conn k' stage)) :
    Holds ok (step s (.connectHold conn k' stage)).1 cid k p := by
  have h1 := h.entered conn k' hw
  refine connectHold_cases (Q := fun r => Holds ok r.1 cid k p) s conn k' stage (fun s1 _ e _ _ => e ▸ h1.holds)
    (fun s1 _ e _ _ => e ▸ (h1.of_surv (stopClient_surv ok k _ _) (stopClient_quiet _ _).clients).holds)
    (fun s1 e _ _ => e ▸ h1.holds) fun s1 a sD oD e hdec hst ea ed => ?_
  subst e ea
  -- stage 2: admitted, then the teardown of the handler taken over (no CONNACK yet)
  have w1 : WF (connState s conn k') := hw.addObj _ conn (parseConnect_wf s conn k') hf
  obtain ⟨hn, hnid⟩ := connState_new s conn k'
  obtain ⟨H1, T1⟩ := admitA_holds s.objs.length k' w1 hn (Nat.ne_of_gt (h.lt hw)) h1 fun x =>
    hne ⟨by simpa using hst, (refuseCode_congr_sv (s := s) rfl rfl rfl k' _).symm.trans hdec, EndsTakeover_entered conn k' hw x⟩
  have key := (tookOverDown_holds _ (admitA_wf _ _ k' w1 hn hnid) H1 fun e he hid =>
    T1 e he (((admitA_keep _ _ k').ids e).symm.trans hid)).1
  rw [← ed] at key
  exact key.holds

/-! ### a parked handler runs on -/

theorem connectRelease_holds (K : Kind ok pe k) (q : Pending) (hw : WF s) (hobj : q.obj < s.objs.length)
    (hid : (getObj s q.obj).id = q.k.id) (hni : q.stage = 1 → q.obj ≠ i) (h : HoldsAt ok s cid k p i)
    (hne : ¬ (q.stage = 1 ∧ q.refuse = none ∧ EndsTakeover s cid q.k)) :
    ∃ i', HoldsAt ok (connectRelease s q).1 cid k p i' := by
  have st : (q.stage == 1) = true → q.stage = 1 := fun h1 => by simpa using h1
  refine connectRelease_cases (Q := fun r => ∃ i', HoldsAt ok r.1 cid k p i') s q
    (fun _ _ _ => ⟨i, h.of_surv (stopClient_surv ok k s q.obj) (stopClient_quiet s q.obj).clients⟩)
    (fun h1 hr => ⟨_, admitClient_holds K q.obj q.conn q.k hw hobj hid (hni (st h1)) h fun x => hne ⟨st h1, hr, x⟩⟩)
    (fun _ _ => ⟨i, h.upd rfl rfl⟩) fun _ _ => ⟨i, ?_⟩
  have q2 := admitConnack_quiet s q.obj q.conn q.present
  exact ⟨by rw [(admitC_quiet _ q.obj q.k q.present).clients, q2.clients]; exact h.1,
    admitC_keep ok k K _ q.obj q.k q.present ((admitConnack_wf s q.obj q.conn q.present hw).allWF q.obj) i p
      (admitConnack_keep ok k s q.obj q.conn q.present i p h.2)⟩

theorem step_release_holds (K : Kind ok pe k) (conn : Nat) (hw : WF s) (hsync : SyncInv s) (h : HoldsAt ok s cid k p i)
    (hne : ¬ Ends pe s cid k (.release conn)) : Holds ok (step s (.release conn)).1 cid k p := by
  have hne : ¬ EndsRelease pe s cid conn := hne
  unfold EndsRelease EndsParked at hne
  -- a connecting handler: `connectRelease`, then the barrier; one that lost its connection: its clean-up
  have rel : ∀ q, s.pending.find? (·.conn == conn) = some q →
      (∃ i', HoldsAt ok (connectRelease (unparkP s conn) q).1 cid k p i') ∧ WF (connectRelease (unparkP s conn) q).1 :=
    fun q hq =>
    have hmem := List.mem_of_find?_eq_some hq
    have hv := hw.pending_valid q hmem
    ⟨connectRelease_holds K q (hw.filterPending _) hv.1 hv.2 (fun hst e => (hsync.st1 q hmem hst).1 cid (e ▸ h.1))
      (h.upd rfl rfl) fun x => hne (by
        rw [hq]; exact Or.inl ⟨x.1, x.2.1, EndsTakeover_congr (s := s) rfl (fun _ _ => rfl) x.2.2⟩),
      (connectRelease_wf _ q (hw.filterPending _) hv.1 hv.2).1⟩
  refine step_release_cases (Q := fun r => Holds ok r.1 cid k p) s conn (fun q hq hop => ?_)
    (fun q hq _ => (rel q hq).1.elim fun _ h' => h'.holds) (fun _ _ => h.holds) (fun j hq hc hpk => ?_)
    (fun j hq hc _ hpe => ?_) fun _ _ _ _ _ => h.holds
  · obtain ⟨⟨i', h'⟩, w'⟩ := rel q hq
    exact (recvOn_keeps K conn .pingreq false w' h' fun x => hne (by rw [hq]; exact Or.inr ⟨hop, x⟩)).holds
  · rw [hq, hc] at hne
    exact (detachB_holds j (h.upd (s' := unparkB s j) rfl rfl) (h.id hw) fun hid =>
      Bool.eq_false_iff.mpr fun e => hne ⟨hid, Or.inl hpk, e⟩).holds
  · rw [hq, hc] at hne
    exact (detach_holds j true (h.upd (s' := unparkE s j) rfl rfl) (h.id hw) fun hid =>
      Bool.eq_false_iff.mpr fun e => hne ⟨hid, Or.inr hpe, e⟩).holds

end

/-! ### every op -/

/-- **one op.**  In a well-formed state, the session registered under `cid` holds the record of exchange `k` after
    EVERY op — of any of the 12 kinds — that `Ends` does not list: after a resumption / take-over the record is in the
    NEW object; traffic of other clients, drops, ticks and the schedule ops leave it where it is. -/
theorem step_holds (k : Nat) (K : Kind ok pe k) (p : π) (cid : Str) (s : Server) (op : Op) (hw : WF s)
    (hsync : SyncInv s) (hf : OpFresh s op) (h : Holds ok s cid k p) (hne : ¬ Ends pe s cid k op) :
    Holds ok (step s op).1 cid k p := by
  obtain ⟨i, h⟩ := h
  cases op with
  | connect conn k' => exact step_connect_holds K conn k' hw hf h hne
  | connectHold conn k' stage => exact step_connectHold_holds conn k' stage hw hf h hne
  | release conn => exact step_release_holds K conn hw hsync h hne
  | recv conn pk => exact (recvOn_keeps K conn pk true hw h hne).holds
  | recvCut conn pk => exact (step_recvCut_holds K conn pk hw h hne).holds
  | drop conn => exact (step_drop_holds conn hw h hne).holds
  | dropHold conn => exact (step_dropHold_holds conn h).holds
  | dropHoldEarly conn => exact (step_dropHoldEarly_holds conn h).holds
  | tick kind t => exact (step_tick_holds kind t hw h hne).holds
  | inlinePublish topic payload retain qos => exact (step_inlinePublish_holds K topic payload retain qos hw h hne).holds
  | inlineSubscribe id filter => exact (step_inlineSubscribe_holds id filter h).holds
  | inlineUnsubscribe id filter => exact (step_inlineUnsubscribe_holds id filter h).holds

end RecWalk
end Mochi.Broker
