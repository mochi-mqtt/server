import Mochi.Lemmas.BrokerInv
import Mochi.Lemmas.BrokerWalk
/-!
# The "core" of the broker state — topic index, retained store, their two counters — and who writes it (C38, C05, C25)

`core s` is the part of the state the `retained` and `subs` counters talk about: the topic index, the
retained packets, `info.retained`, `info.subs`.  Almost every handler leaves it alone; it changes only at

* `subscribe` sites (`processSubscribe`, `inheritClientSession`),
* `unsubscribe` sites (`processUnsubscribe`, `UnsubscribeClient`),
* `retainMsg`, `tickRetained`, the inline subscribe / unsubscribe API.

`retainMsg` is reached from `processPublish` (the publish itself), from `sendLWT` (a will, at the end of almost every op
kind) and from `tickWills` (a delayed will): the wills held by the sessions and the delayed wills are PENDING retained
writes.  So one walk over all handlers (`X_rs`) carries two things:

* `NW T s` — no session object of `s` holds a will with the retain flag on a topic in `T`, and no delayed will is one
  (an invariant of the state: `T` is the set of topics no pending write may hit);
* a predicate `P` on cores kept by every site — by `retainMsg` only for a packet whose topic is outside `U ⊆ T` (the
  topics whose content the statement protects), by `tickRetained` only if `K`: `GLaws U K P`.

It ends in `step_sites`: from a state with `NW T`, an op that brings no retained will on a topic of `T`, is no retained
publish on a topic of `U` and is not `tick "retained"` unless `K` (`Op.off T U K`) keeps `NW T` and every such `P`.
With `T = U = ∅`, `K` true, the guard is empty: `Laws P`, and every op keeps every lawful `P` (`step_coreP`).  Instances:
`P := retained counter = size of the retained store` (`RetainedOK_laws`, this file), `P := subs counter = number of
subscription entries of a well-formed index` (`SubsOK_laws`), the keys of the retained store (`RetKeysOK_laws`, both in
`CountersIndex.lean`), the retained index (`BrokerRetIndex.lean`); with `U = {t}`: the store at `t`
(`BrokerRetained.lean`).

The same walk records that the handlers below `detachB` / `admitA` never touch `info.connected`,
`parked`, `parkedEarly` (`CoreR`, used for the `connected` counter); above them only `P` is kept (`CoreP`).
-/
namespace Mochi.Broker
open Mochi.Topics

structure Core where
  topics : Index
  rmsgs : List (Str × Msg)
  retained : Int
  subs : Int

def core (s : Server) : Core := ⟨s.topics, s.rmsgs, s.info.retained, s.info.subs⟩

/-- `P` is kept by every site that changes the core -/
structure Laws (P : Core → Prop) : Prop where
  sub : ∀ (s : Server) (cid : Str) (sb : Sub), P (core s) →
    P (core { s with topics := (subscribe s.topics cid sb).1,
                     info := if (subscribe s.topics cid sb).2 then { s.info with subs := s.info.subs + 1 } else s.info })
  unsub : ∀ (s : Server) (f cid : Str), P (core s) →
    P (core { s with topics := (unsubscribe s.topics f cid).1,
                     info := if (unsubscribe s.topics f cid).2 then { s.info with subs := s.info.subs - 1 } else s.info })
  retain : ∀ (s : Server) (pk : Msg), P (core s) → P (core (retainMsg s pk))
  tickRetained : ∀ (s : Server) (now : Int), P (core s) → P (core (tickRetained s now))
  inlSub : ∀ (s : Server) (id : Nat) (sb : Sub), P (core s) → P (core { s with topics := (inlineSubscribe s.topics id sb).1 })
  inlUnsub : ∀ (s : Server) (id : Nat) (f : Str), P (core s) → P (core { s with topics := (inlineUnsubscribe s.topics id f).1 })

theorem trivial_laws : Laws (fun _ => True) :=
  ⟨fun _ _ _ _ => trivial, fun _ _ _ _ => trivial, fun _ _ _ => trivial, fun _ _ _ => trivial, fun _ _ _ _ => trivial,
   fun _ _ _ _ => trivial⟩

/-- `s'` results from `s` keeping `P` of the core, and without touching `info.connected`, `parked`,
    `parkedEarly` -/
structure CoreR (P : Core → Prop) (s s' : Server) : Prop where
  core : P (core s) → P (core s')
  conn : s'.info.connected = s.info.connected
  parked : s'.parked = s.parked
  parkedEarly : s'.parkedEarly = s.parkedEarly

section
variable {P : Core → Prop}

theorem CoreR.refl (s : Server) : CoreR P s s := ⟨fun x => x, rfl, rfl, rfl⟩

theorem CoreR.trans {s s1 s2 : Server} (h : CoreR P s s1) (g : CoreR P s1 s2) : CoreR P s s2 :=
  ⟨fun x => g.core (h.core x), g.conn.trans h.conn, g.parked.trans h.parked, g.parkedEarly.trans h.parkedEarly⟩

theorem CoreR.upd {s0 s s' : Server} (h : CoreR P s0 s) (hc : Mochi.Broker.core s' = Mochi.Broker.core s)
    (h1 : s'.info.connected = s.info.connected) (h2 : s'.parked = s.parked) (h3 : s'.parkedEarly = s.parkedEarly) :
    CoreR P s0 s' :=
  ⟨fun x => by rw [hc]; exact h.core x, h1.trans h.conn, h2.trans h.parked, h3.trans h.parkedEarly⟩

theorem CoreR.set {s0 s : Server} (h : CoreR P s0 s) (i : Nat) (c : Client) : CoreR P s0 (setObj s i c) :=
  h.upd rfl rfl rfl rfl

/-- `CoreR` looks neither at the objects nor at the in-flight counters -/
theorem CoreR.walk (i : Nat) : ObjWalk i (fun _ _ => True) (CoreR P) :=
  ⟨CoreR.refl, CoreR.trans, fun s c _ => (CoreR.refl s).set i c, fun s _ => (CoreR.refl s).upd rfl rfl rfl rfl,
   fun s _ => (CoreR.refl s).upd rfl rfl rfl rfl, fun s _ => (CoreR.refl s).upd rfl rfl rfl rfl⟩

/-- `P` of the core is kept: the weaker relation for the handlers that move `info.connected`, `parked`, `parkedEarly` -/
def CoreP (P : Core → Prop) (s s' : Server) : Prop := P (Mochi.Broker.core s) → P (Mochi.Broker.core s')

theorem CoreP.trans {s s1 s2 : Server} (h : CoreP P s s1) (g : CoreP P s1 s2) : CoreP P s s2 := fun x => g (h x)
theorem CoreR.toP {s s' : Server} (h : CoreR P s s') : CoreP P s s' := h.core
theorem CoreP.upd {s0 s s' : Server} (h : CoreP P s0 s) (hc : Mochi.Broker.core s' = Mochi.Broker.core s) : CoreP P s0 s' :=
  fun x => by rw [hc]; exact h x
theorem CoreP.fst_mk {α} {s0 x : Server} {y : α} (h : CoreP P s0 x) : CoreP P s0 (x, y).1 := h

/-! ### the delivery family: no site -/

theorem publishToClientCore_core (s : Server) (i : Nat) (sub : Sub) (f : Bool) (pk : Msg) :
    CoreR P s (publishToClientCore s i sub f pk).1 :=
  publishToClientCore_walk .top (CoreR.walk i) s sub f pk

theorem publishToSubscribers_core (s : Server) (pk : Msg) : CoreR P s (publishToSubscribers s pk).1 :=
  publishToSubscribers_state CoreR.refl CoreR.trans publishToClientCore_core s pk

theorem publishRetainedToClient_core (s : Server) (i : Nat) (sub : Sub) (ex : Bool) (k : Nat) :
    CoreR P s (publishRetainedToClient s i sub ex k).1 :=
  publishRetainedToClient_state i CoreR.refl CoreR.trans (publishToClientCore_core · i) s sub ex k

end

/-! ### the wills: pending retained writes -/

/-- the will `w` does not retain on a topic of `T` when it is published -/
def WillOK (T : Str → Prop) (w : Will) : Prop := w.flag = true → w.retain = true → ¬ T w.topic

/-- no session holds a will with the retain flag on a topic of `T`; no delayed will is one -/
def NW (T : Str → Prop) (s : Server) : Prop :=
  (∀ j, WillOK T (getObj s j).will) ∧ (∀ e ∈ s.willDelayed, e.2.retain = true → ¬ T e.2.topic)

theorem WillOK.of_eq {T : Str → Prop} {w w' : Will} (h : WillOK T w) (e : w' = w) : WillOK T w' := e ▸ h

theorem WillOK.empty (T : Str → Prop) : WillOK T {} := fun h => by cases h

theorem NW_init (T : Str → Prop) (caps : Caps) : NW T (init caps) := by
  refine ⟨fun j => ?_, fun e h => by cases h⟩
  unfold getObj init
  match j with
  | 0 => exact fun h => by cases h
  | j + 1 => exact fun h => by cases h

theorem NW.none (s : Server) : NW (fun _ => False) s := ⟨fun _ _ _ h => h, fun _ _ _ h => h⟩

section
variable {T : Str → Prop}

theorem NW.updW {s s' : Server} (h : NW T s) (ho : s'.objs = s.objs) (hw : ∀ e ∈ s'.willDelayed, e ∈ s.willDelayed) :
    NW T s' :=
  ⟨fun j => by rw [getObj_of_objs_eq ho j]; exact h.1 j, fun e he => h.2 e (hw e he)⟩

theorem NW.set {s : Server} (h : NW T s) (i : Nat) (c : Client) (hc : WillOK T c.will) : NW T (setObj s i c) :=
  ⟨fun j => getObj_setObj_ind (P := fun z => WillOK T z.will) s i c j (h.1 j) fun _ => hc, h.2⟩

theorem NW.push {s : Server} (h : NW T s) (c : Client) (co : List (Nat × Nat)) (hc : WillOK T c.will) :
    NW T { s with objs := s.objs ++ [c], connOf := co } := by
  refine ⟨fun j => ?_, h.2⟩
  by_cases hj : j < s.objs.length
  · rw [getObj_append_lt (s := s) rfl j hj]; exact h.1 j
  · by_cases hj2 : j = s.objs.length
    · rw [hj2, getObj_append_eq (s := s) rfl]; exact hc
    · have e : getObj { s with objs := s.objs ++ [c], connOf := co } j = {} :=
        getObj_default (by show ¬ j < (s.objs ++ [c]).length; rw [List.length_append]; simp; omega)
      rw [e]; exact WillOK.empty T

end

/-- `willDelayed` and `rmsgs` are untouched -/
def KW (s s' : Server) : Prop := s'.willDelayed = s.willDelayed ∧ s'.rmsgs = s.rmsgs

theorem KW.refl (s : Server) : KW s s := ⟨rfl, rfl⟩
theorem KW.trans {s s1 s2 : Server} (h : KW s s1) (g : KW s1 s2) : KW s s2 := ⟨g.1.trans h.1, g.2.trans h.2⟩

theorem publishToClientCore_kw (s : Server) (i : Nat) (sub : Sub) (f : Bool) (pk : Msg) :
    KW s (publishToClientCore s i sub f pk).1 :=
  publishToClientCore_cases (Q := fun r => KW s r.1) s i sub f pk rfl rfl (fun _ => ⟨rfl, rfl⟩) (fun _ _ => ⟨rfl, rfl⟩)
    (fun _ _ _ => ⟨rfl, rfl⟩) (fun _ _ _ _ _ _ _ => ⟨rfl, rfl⟩) (fun _ _ _ _ _ _ _ => ⟨rfl, rfl⟩)

theorem publishToSubscribers_kw (s : Server) (pk : Msg) : KW s (publishToSubscribers s pk).1 :=
  publishToSubscribers_state KW.refl KW.trans publishToClientCore_kw s pk

theorem publishRetainedToClient_kw (s : Server) (i : Nat) (sub : Sub) (ex : Bool) (k : Nat) :
    KW s (publishRetainedToClient s i sub ex k).1 :=
  publishRetainedToClient_state i KW.refl KW.trans (publishToClientCore_kw · i) s sub ex k

theorem NW.of_deliv {T : Str → Prop} {s s' : Server} (h : NW T s) (d : Deliv s s') (k : KW s s') : NW T s' :=
  ⟨fun j => (h.1 j).of_eq ((d.all j).will.symm), fun e he => h.2 e (k.1 ▸ he)⟩

/-! ### the guarded laws -/

/-- `P` is kept by every site that changes the core — by a retained write only off the topics of `U`, by the retained
    housekeeping only if `K` -/
structure GLaws (U : Str → Prop) (K : Prop) (P : Core → Prop) : Prop where
  sub : ∀ (s : Server) (cid : Str) (sb : Sub), P (core s) →
    P (core { s with topics := (subscribe s.topics cid sb).1,
                     info := if (subscribe s.topics cid sb).2 then { s.info with subs := s.info.subs + 1 } else s.info })
  unsub : ∀ (s : Server) (f cid : Str), P (core s) →
    P (core { s with topics := (unsubscribe s.topics f cid).1,
                     info := if (unsubscribe s.topics f cid).2 then { s.info with subs := s.info.subs - 1 } else s.info })
  retain : ∀ (s : Server) (pk : Msg), ¬ U pk.topic → P (core s) → P (core (retainMsg s pk))
  tickRetained : K → ∀ (s : Server) (now : Int), P (core s) → P (core (tickRetained s now))
  inlSub : ∀ (s : Server) (id : Nat) (sb : Sub), P (core s) → P (core { s with topics := (inlineSubscribe s.topics id sb).1 })
  inlUnsub : ∀ (s : Server) (id : Nat) (f : Str), P (core s) → P (core { s with topics := (inlineUnsubscribe s.topics id f).1 })

theorem Laws.guarded {P : Core → Prop} (L : Laws P) (U : Str → Prop) (K : Prop) : GLaws U K P :=
  ⟨L.sub, L.unsub, fun s pk _ => L.retain s pk, fun _ => L.tickRetained, L.inlSub, L.inlUnsub⟩

theorem GLaws.of_rmsgs {U : Str → Prop} {K : Prop} (Q : List (Str × Msg) → Prop)
    (retain : ∀ (s : Server) (pk : Msg), ¬ U pk.topic → Q s.rmsgs → Q (retainMsg s pk).rmsgs)
    (tick : K → ∀ (s : Server) (now : Int), Q s.rmsgs → Q (Broker.tickRetained s now).rmsgs) :
    GLaws U K (fun k => Q k.rmsgs) :=
  ⟨fun _ _ _ h => h, fun _ _ _ h => h, retain, tick, fun _ _ _ h => h, fun _ _ _ h => h⟩

/-! ### the relation of the walk -/

/-- the will invariant holds in `s'`, `P` of the core is kept, `info.connected`, `parked`, `parkedEarly` are untouched -/
def RS (T : Str → Prop) (P : Core → Prop) (s s' : Server) : Prop := NW T s' ∧ CoreR P s s'

/-- … for the handlers that move `info.connected`, `parked`, `parkedEarly` -/
def RSP (T : Str → Prop) (P : Core → Prop) (s s' : Server) : Prop := NW T s' ∧ CoreP P s s'

section
variable {T U : Str → Prop} {K : Prop} {P : Core → Prop}

theorem RS.refl {s : Server} (h : NW T s) : RS T P s s := ⟨h, CoreR.refl s⟩

theorem RS.trans {s s1 s2 : Server} (h : RS T P s s1) (g : RS T P s1 s2) : RS T P s s2 := ⟨g.1, h.2.trans g.2⟩

theorem RS.andThen {s0 s s' : Server} (h : RS T P s0 s) (g : NW T s → RS T P s s') : RS T P s0 s' := h.trans (g h.1)

theorem RS.updW {s0 s s' : Server} (h : RS T P s0 s) (ho : s'.objs = s.objs)
    (hw : ∀ e ∈ s'.willDelayed, e ∈ s.willDelayed) (hc : core s' = core s)
    (h1 : s'.info.connected = s.info.connected) (h2 : s'.parked = s.parked) (h3 : s'.parkedEarly = s.parkedEarly) :
    RS T P s0 s' :=
  ⟨h.1.updW ho hw, h.2.upd hc h1 h2 h3⟩

theorem RS.upd {s0 s s' : Server} (h : RS T P s0 s) (ho : s'.objs = s.objs)
    (hw : s'.willDelayed = s.willDelayed) (hc : core s' = core s)
    (h1 : s'.info.connected = s.info.connected) (h2 : s'.parked = s.parked) (h3 : s'.parkedEarly = s.parkedEarly) :
    RS T P s0 s' :=
  h.updW ho (fun _ he => hw ▸ he) hc h1 h2 h3

theorem RS.set {s0 s : Server} (h : RS T P s0 s) (i : Nat) (c : Client) (hc : WillOK T c.will) :
    RS T P s0 (setObj s i c) :=
  ⟨h.1.set i c hc, h.2.set i c⟩

theorem RS.mod {s0 s : Server} (h : RS T P s0 s) (i : Nat) (f : Client → Client)
    (hf : WillOK T (f (getObj s i)).will) : RS T P s0 (modObj s i f) := h.set i _ hf

theorem RS.modW {s0 s : Server} (h : RS T P s0 s) (i : Nat) (f : Client → Client) (hf : ∀ c, (f c).will = c.will) :
    RS T P s0 (modObj s i f) := h.mod i f ((h.1.1 i).of_eq (hf _))

/-- from a state with the will invariant: object `i` may be rewritten outside its will -/
theorem RS.walk (i : Nat) : ObjWalk i (fun a b : Client => b.will = a.will) (fun s s' => NW T s → RS T P s s') :=
  ⟨fun _ h => RS.refl h, fun h g hnw => (h hnw).andThen g,
   fun _ c hc hnw => (RS.refl hnw).set i c ((hnw.1 i).of_eq hc), fun _ _ hnw => (RS.refl hnw).upd rfl rfl rfl rfl rfl rfl,
   fun _ _ hnw => (RS.refl hnw).upd rfl rfl rfl rfl rfl rfl, fun _ _ hnw => (RS.refl hnw).upd rfl rfl rfl rfl rfl rfl⟩

theorem RS.delWill {s0 s : Server} (h : RS T P s0 s) (cid : Str) :
    RS T P s0 { s with willDelayed := assocDel s.willDelayed cid } :=
  h.updW rfl (fun e he => ((mem_assocDel_iff _ _ e).mp he).1) rfl rfl rfl rfl

theorem RS.toP {s s' : Server} (h : RS T P s s') : RSP T P s s' := ⟨h.1, h.2.toP⟩

theorem RSP.trans {s s1 s2 : Server} (h : RSP T P s s1) (g : RSP T P s1 s2) : RSP T P s s2 := ⟨g.1, h.2.trans g.2⟩

theorem RSP.andThen {s0 s s' : Server} (h : RSP T P s0 s) (g : NW T s → RSP T P s s') : RSP T P s0 s' := h.trans (g h.1)

theorem RSP.andThenR {s0 s s' : Server} (h : RSP T P s0 s) (g : NW T s → RS T P s s') : RSP T P s0 s' :=
  h.trans (g h.1).toP

theorem RSP.upd {s0 s s' : Server} (h : RSP T P s0 s) (ho : s'.objs = s.objs)
    (hw : s'.willDelayed = s.willDelayed) (hc : core s' = core s) : RSP T P s0 s' :=
  ⟨h.1.updW ho (fun _ he => hw ▸ he), h.2.upd hc⟩

/-- the relation the composite handlers are carried through: from a state with the will invariant -/
theorem RSP.traced : Traced (fun s s' (_ : List Out) => NW T s → RSP T P s s') :=
  .ofState (fun _ w => (RS.refl w).toP) fun h g w => (h w).andThen g

/-! ### the sites -/

theorem RS.sub (L : GLaws U K P) {s0 s : Server} (h : RS T P s0 s) (cid : Str) (sb : Sub) :
    RS T P s0 { s with topics := (subscribe s.topics cid sb).1,
                       info := if (subscribe s.topics cid sb).2 then { s.info with subs := s.info.subs + 1 } else s.info } :=
  ⟨⟨h.1.1, h.1.2⟩, h.2.trans ⟨L.sub s cid sb, by
    show (if (subscribe s.topics cid sb).2 = true then _ else s.info).connected = _
    split <;> rfl, rfl, rfl⟩⟩

theorem RS.unsub (L : GLaws U K P) {s0 s : Server} (h : RS T P s0 s) (f cid : Str) :
    RS T P s0 { s with topics := (unsubscribe s.topics f cid).1,
                       info := if (unsubscribe s.topics f cid).2 then { s.info with subs := s.info.subs - 1 } else s.info } :=
  ⟨⟨h.1.1, h.1.2⟩, h.2.trans ⟨L.unsub s f cid, by
    show (if (unsubscribe s.topics f cid).2 = true then _ else s.info).connected = _
    split <;> rfl, rfl, rfl⟩⟩

theorem retainMsg_rs (L : GLaws U K P) (s : Server) (pk : Msg) (hnw : NW T s) (hne : ¬ U pk.topic) :
    RS T P s (retainMsg s pk) :=
  ⟨iteInduction (motive := NW T) (fun _ => hnw) (fun _ => ⟨hnw.1, hnw.2⟩), by
    refine ⟨L.retain s pk hne, ?_, ?_, ?_⟩ <;> (unfold retainMsg; split <;> rfl)⟩

theorem retainedState_rs (L : GLaws U K P) (s : Server) (pk : Msg) (hnw : NW T s) (hne : pk.retain = true → ¬ U pk.topic) :
    RS T P s (retainedState s pk) :=
  iteInduction (motive := RS T P s) (fun hr => retainMsg_rs L s pk hnw (hne hr)) (fun _ => RS.refl hnw)

theorem tickRetained_nw (s : Server) (now : Int) (hnw : NW T s) : NW T (tickRetained s now) :=
  tickRetained_cases (J := NW T) s now hnw (fun _ _ _ _ h => h) fun _ h => h

theorem tickRetained_rs (L : GLaws U K P) (hK : K) (s : Server) (now : Int) (hnw : NW T s) :
    RS T P s (tickRetained s now) :=
  have h : CoreR (fun _ => True) s (tickRetained s now) :=
    tickRetained_cases (J := CoreR (fun _ => True) s) s now (CoreR.refl s)
      (fun _ _ _ _ h => h.trans ⟨fun _ => trivial, rfl, rfl, rfl⟩) fun _ h => h.trans ⟨fun _ => trivial, rfl, rfl, rfl⟩
  ⟨tickRetained_nw s now hnw, L.tickRetained hK s now, h.conn, h.parked, h.parkedEarly⟩

/-! ### the delivery family -/

theorem publishToSubscribers_rs (s : Server) (pk : Msg) (hnw : NW T s) : RS T P s (publishToSubscribers s pk).1 :=
  ⟨hnw.of_deliv (publishToSubscribers_deliv s pk) (publishToSubscribers_kw s pk), publishToSubscribers_core s pk⟩

theorem publishRetainedToClient_rs (s : Server) (i : Nat) (sub : Sub) (ex : Bool) (k : Nat) (hnw : NW T s) :
    RS T P s (publishRetainedToClient s i sub ex k).1 :=
  ⟨hnw.of_deliv (publishRetainedToClient_deliv s i sub ex k) (publishRetainedToClient_kw s i sub ex k),
   publishRetainedToClient_core s i sub ex k⟩

/-! ### work on the acting object -/

theorem stopClient_rs (s : Server) (i : Nat) (hnw : NW T s) : RS T P s (stopClient s i).1 :=
  iteInduction (motive := fun (r : Server × List Out) => RS T P s r.1) (fun _ => RS.refl hnw)
    (fun _ => (RS.refl hnw).set i _ (hnw.1 i))

theorem disconnectClient_rs (s : Server) (i : Nat) (code : Nat) (hnw : NW T s) :
    RS T P s (disconnectClient s i code).1 := stopClient_rs s i hnw

theorem unsubscribeClient_rs (L : GLaws U K P) (s : Server) (i : Nat) (hnw : NW T s) :
    RS T P s (unsubscribeClient s i) := by
  unfold unsubscribeClient
  have h1 : RS T P s (setObj s i { getObj s i with subs := [] }) := (RS.refl hnw).set i _ (hnw.1 i)
  exact iteInduction (motive := RS T P s) (fun _ => h1) fun _ =>
    foldl_inv (RS T P s) _ _ _ h1 fun _ a h => h.unsub L a.1 _

theorem clearInflights_rs (s : Server) (i : Nat) : NW T s → RS T P s (clearInflights s i) :=
  clearInflights_walk willKept (RS.walk i) s

theorem nextImmediate_rs (s : Server) (i : Nat) : NW T s → RS T P s (nextImmediate s i).1 :=
  nextImmediate_walk willKept (RS.walk i) s

theorem processDisconnect_rs (s : Server) (i rc : Nat) (sei : Option Nat) (hnw : NW T s) :
    RS T P s (processDisconnect s i rc sei).1 :=
  have h : RS T P s (discState s i sei) := (RS.refl hnw).set i _ ((hnw.1 i).of_eq (by cases sei <;> rfl))
  processDisconnect_cases (Q := fun r => RS T P s r.1) s i rc sei (fun _ => RS.refl hnw) (fun _ _ => h)
    (fun _ _ => (h.delWill _).andThen (stopClient_rs _ i))

theorem processUnsubscribe_rs (L : GLaws U K P) (s : Server) (i id : Nat) (filters : List Str) (hnw : NW T s) :
    RS T P s (processUnsubscribe s i id filters).1 :=
  processUnsubscribe_cases (I := fun s' _ => RS T P s s') (Q := fun r => RS T P s r.1) s i id filters (RS.refl hnw)
    (fun _ _ _ h => h) (fun _ _ f _ h => (h.unsub L f _).modW i _ (fun _ => rfl)) (fun _ _ h _ => h) (fun _ _ h _ => h)

theorem processSubscribe_rs (L : GLaws U K P) (s : Server) (i id subId : Nat) (filters : List Sub) (hnw : NW T s) :
    RS T P s (processSubscribe s i id subId filters).1 :=
  processSubscribe_state (R := fun s s' => NW T s → RS T P s s') (RS.walk i).refl (RS.walk i).trans s i id subId filters
    (fun _ sb _ w => ((RS.refl w).sub L _ sb).modW i _ (fun _ => rfl))
    (fun s' sub ex k w => publishRetainedToClient_rs s' i sub ex k w) hnw

/-! ### wills -/

theorem sendLWT_rs (L : GLaws U K P) (hU : ∀ u, U u → T u) (s : Server) (i : Nat) (hnw : NW T s) :
    RS T P s (sendLWT s i).1 := by
  refine sendLWT_cases (Q := fun r => RS T P s r.1) s i (fun _ => RS.refl hnw) (fun pk hpk hf _ => ?_)
    (fun pk hpk hf _ => ?_)
  all_goals
    have hav : pk.retain = true → ¬ T pk.topic := by
      subst hpk
      exact hnw.1 i (by simpa using hf)
  · refine ⟨⟨hnw.1, fun e he => ?_⟩, (CoreR.refl s).upd rfl rfl rfl rfl⟩
    rcases assocSet_mem_cases _ _ _ e he with h | h
    · exact hnw.2 e h
    · rw [h]; exact hav
  · have h1 := retainedState_rs L s pk hnw (fun hr hu => hav hr (hU _ hu))
    exact RS.mod (h1.andThen (publishToSubscribers_rs _ pk)) i
      (fun c => { c with will := { c.will with flag := false } }) (fun h => by cases h)

theorem detachA_rs (L : GLaws U K P) (hU : ∀ u, U u → T u) (s : Server) (i : Nat) (withErr : Bool) (hnw : NW T s) :
    RS T P s (detachA s i withErr).1 :=
  detachA_cases (Q := fun r => RS T P s r.1) s i withErr
    (fun _ => (sendLWT_rs L hU s i hnw).andThen (stopClient_rs _ i))
    (fun _ => (RS.refl hnw).mod i (fun c => { c with will := {} }) (WillOK.empty T))

/-- the publish does not retain on a topic of `U`: its retain flag is off, or its topic is given in the packet
    (not through an alias) and is outside `U` -/
def pubAvoids (U : Str → Prop) (retain : Bool) (topic : Str) : Prop :=
  retain = true → ∀ u, U u → topic ≠ [] ∧ topic ≠ u

theorem aliasTopic_of_ne (aliasIn : List (Nat × Str)) (tamax : Nat) (topic : Str) (alias : Option Nat) (h : topic ≠ []) :
    R07.aliasTopic aliasIn tamax topic alias = topic := by
  unfold R07.aliasTopic
  cases alias with
  | none => rfl
  | some a =>
    refine iteInduction (motive := fun x => x = topic) (fun _ => ?_) (fun _ => rfl)
    refine iteInduction (motive := fun x => x = topic) (fun _ => rfl) (fun _ => ?_)
    cases assocGet aliasIn a with
    | none => rfl
    | some ex => exact if_neg (by rw [List.isEmpty_iff]; exact h)

theorem processPublish_rs (L : GLaws U K P) (s : Server) (i : Nat) (qos : Nat) (dup retain : Bool) (id : Nat)
    (topic payload : Str) (msgExpiry : Nat) (alias : Option Nat) (hnw : NW T s) (hav : pubAvoids U retain topic) :
    RS T P s (processPublish s i qos dup retain id topic payload msgExpiry alias).1 :=
  processPublish_walk willKept (RS.walk i) (fun s code => disconnectClient_rs s i code) s qos dup retain id topic
    payload msgExpiry alias
    (fun s' pk hr ht hnw => retainMsg_rs L s' pk hnw (fun hu =>
      (hav hr _ hu).2 (ht.trans (aliasTopic_of_ne _ _ _ _ (hav hr _ hu).1)).symm))
    (fun s pk => publishToSubscribers_rs s pk) hnw

/-- the inbound packet is not a retained publish on a topic of `U` -/
def InPk.avoids (U : Str → Prop) : InPk → Prop
  | .publish _ _ r _ topic _ _ _ => pubAvoids U r topic
  | _ => True

theorem InPk.avoids_none (pk : InPk) : pk.avoids (fun _ => False) := by
  cases pk <;> first | trivial | exact fun _ _ hu => hu.elim

/-! ### one inbound packet -/

theorem receivePacket_rs (L : GLaws U K P) (s : Server) (i : Nat) (pk : InPk) (hnw : NW T s) (hav : pk.avoids U) :
    RS T P s (receivePacket s i pk).1 := by
  have W := RS.walk (T := T) (P := P) i
  have hr : RS T P s (R07.handler s i pk).1 :=
    handler_cases (Q := fun r => RS T P s r.1) s i pk (fun _ _ _ _ _ _ _ _ _ _ _ => RS.refl hnw)
      (fun _ _ _ _ _ _ _ _ e _ => processPublish_rs L _ _ _ _ _ _ _ _ _ _ hnw (by subst e; exact hav))
      (fun _ => RS.refl hnw)
      (fun _ _ _ _ => processSubscribe_rs L s i _ _ _ hnw)
      (fun _ _ _ => processUnsubscribe_rs L s i _ _ hnw) (fun _ _ _ => processPuback_walk willKept W s _ hnw)
      (fun _ _ _ => processPubrec_walk willKept W s _ _ hnw) (fun _ _ _ => processPubrel_walk willKept W s _ _ hnw)
      (fun _ _ _ => processPubcomp_walk willKept W s _ hnw) (fun _ _ => RS.refl hnw) (fun _ _ => RS.refl hnw)
      (fun _ _ _ => processDisconnect_rs _ _ _ _ hnw)
  exact receivePacket_cases (Q := fun r => RS T P s r.1) s i pk rfl
    (fun _ => hr.andThen (nextImmediate_rs _ i)) (fun code _ => hr.andThen (disconnectClient_rs _ i code))
    (fun _ _ => hr)

theorem sessionEnded_rs (L : GLaws U K P) (s : Server) (i : Nat) (cid : Str) (hnw : NW T s) :
    RS T P s (sessionEnded s i cid) :=
  ((clearInflights_rs s i hnw).andThen (unsubscribeClient_rs L _ i)).upd rfl rfl rfl rfl rfl rfl

theorem detachB_rs (L : GLaws U K P) (s : Server) (i : Nat) (hnw : NW T s) : RSP T P s (detachB s i) :=
  detachB_cases (Q := RSP T P s) s i (fun _ => (RS.refl hnw).toP.upd rfl rfl rfl)
    (fun _ => (sessionEnded_rs L s i (getObj s i).id hnw).toP.upd rfl rfl rfl)

theorem detach_rs (L : GLaws U K P) (hU : ∀ u, U u → T u) (s : Server) (i : Nat) (withErr : Bool) (hnw : NW T s) :
    RSP T P s (detach s i withErr).1 := (detachA_rs L hU s i withErr hnw).toP.andThen (detachB_rs L _ i)

theorem recvOn_rs (L : GLaws U K P) (hU : ∀ u, U u → T u) (s : Server) (c : Nat) (pk : InPk) (b : Bool) (hnw : NW T s)
    (hav : pk.avoids U) : RSP T P s (recvOn s c pk b).1 := by
  cases hc : assocGet s.connOf c with
  | none => rw [recvOn_unknown hc]; exact (RS.refl hnw).toP
  | some i =>
    exact recvOn_trAt RSP.traced i (fun h => h) s pk (fun w => (receivePacket_rs L s i pk w hav).toP)
      (fun s' w => (receivePacket_rs L s' i .pingreq w trivial).toP) (fun s b => detach_rs L hU s i b) c b hc hnw

/-! ### connecting -/

theorem takenOver_rs (s : Server) (e : Nat) (hnw : NW T s) : RS T P s (takenOver s e) :=
  (RS.refl hnw).mod e _ (hnw.1 e)

theorem inflInherited_rs (s : Server) (i e : Nat) (hnw : NW T s) : RS T P s (inflInherited s i e) :=
  iteInduction (motive := RS T P s) (fun _ => (RS.walk i).setInfl s _ _ rfl hnw) (fun _ => RS.refl hnw)

theorem subsInherited_rs (L : GLaws U K P) (s : Server) (i : Nat) (cid : Str) (subs : List (Str × Sub)) (hnw : NW T s) :
    RS T P s (subsInherited s i cid subs) :=
  List.foldlRecOn subs _ (motive := RS T P s) (RS.refl hnw) fun _ h fs _ => (h.sub L cid fs.2).modW i _ (fun _ => rfl)

theorem admitA_rs (L : GLaws U K P) (s : Server) (i : Nat) (k : Connect) (hnw : NW T s) : RSP T P s (admitA s i k).1 := by
  obtain ⟨b, hb, e⟩ := admitA_tr (RSP.traced (T := T) (P := P)) s i k
    (fun w => (RS.refl w).toP.upd rfl rfl rfl) (fun t e _ w => (disconnectClient_rs t e _ w).toP)
    (fun t e _ w => (unsubscribeClient_rs L t e w).toP) (fun t e _ w => (clearInflights_rs t e w).toP)
    (fun t e _ w => (takenOver_rs t e w).toP) (fun t e _ w => (inflInherited_rs t i e w).toP)
    (fun t l w => (subsInherited_rs L t i k.id l w).toP)
  rw [e]
  exact (hb hnw).upd rfl rfl rfl

theorem admitConnack_rs (s : Server) (i conn : Nat) (present : Bool) :
    NW T s → RS T P s (admitConnack s i conn present).1 := admitConnack_walk willKept (RS.walk i) s conn present

theorem admitC_rs (s : Server) (i : Nat) (k : Connect) (present : Bool) : NW T s → RS T P s (admitC s i k present).1 :=
  admitC_walk willKept (RS.walk i) (fun _ _ hnw => (RS.refl hnw).delWill _) s k present

theorem admitClient_rs (L : GLaws U K P) (hU : ∀ u, U u → T u) (s : Server) (i conn : Nat) (k : Connect) (hnw : NW T s) :
    RSP T P s (admitClient s i conn k).1 :=
  admitClient_tr RSP.traced i conn k s rfl rfl (admitA_rs L s i k) (fun w => (admitConnack_rs _ i conn _ w).toP)
    (fun e _ => detach_rs L hU _ e true) (fun s' w => (admitC_rs s' i k _ w).toP) hnw

/-- the CONNECT carries no will with the retain flag on a topic of `T` -/
def Connect.avoids (T : Str → Prop) (k : Connect) : Prop := ∀ w, k.will = some w → w.retain = true → ¬ T w.topic

theorem parseConnect_willOK (s : Server) (conn : Nat) (k : Connect) (hk : k.avoids T) :
    WillOK T (parseConnect s conn k).will := by
  unfold parseConnect
  extract_lets rmProp rmProp' will
  show WillOK T will
  simp only [will]
  cases hw : k.will with
  | none => exact WillOK.empty T
  | some w => exact fun _ hr => hk w hw hr

theorem connState_rs (s : Server) (conn : Nat) (k : Connect) (hnw : NW T s) (hk : k.avoids T) :
    RS T P s (connState s conn k) :=
  ⟨hnw.push _ _ (parseConnect_willOK s conn k hk), (CoreR.refl s).upd rfl rfl rfl rfl⟩

theorem connect_rs (L : GLaws U K P) (hU : ∀ u, U u → T u) (s : Server) (conn : Nat) (k : Connect) (hnw : NW T s)
    (hk : k.avoids T) : RSP T P s (connect s conn k).1 :=
  connect_tr RSP.traced s s conn k (fun w => (connState_rs s conn k w hk).toP) (fun _ _ w => (stopClient_rs _ _ w).toP)
    (admitClient_rs L hU _ _ conn k) hnw

theorem connectHold_rs (L : GLaws U K P) (hU : ∀ u, U u → T u) (s : Server) (conn : Nat) (k : Connect) (stage : Nat)
    (hnw : NW T s) (hk : k.avoids T) : RSP T P s (connectHold s conn k stage).1 := by
  have w1 : RSP T P s (connState s conn k) := (connState_rs s conn k hnw hk).toP
  refine connectHold_cases (Q := fun r => RSP T P s r.1) s conn k stage (fun s1 _ e _ _ => ?_) (fun s1 _ e _ _ => ?_)
    (fun s1 e _ _ => ?_) (fun s1 a sD oD e _ _ ha hd => ?_)
  · rw [e]; exact w1.upd rfl rfl rfl
  · rw [e]; exact w1.andThenR (stopClient_rs _ _)
  · rw [e]; exact w1.upd rfl rfl rfl
  · have w2 : RSP T P s a.1 := by rw [ha, e]; exact w1.andThen (admitA_rs L _ _ k)
    have w3 : RSP T P s sD := by
      have : sD = (tookOverDown a.1 a.2.2.2).1 := by rw [← hd]
      rw [this]
      cases a.2.2.2 with
      | none => exact w2
      | some e' => exact w2.andThen (detach_rs L hU _ e' true)
    exact w3.upd rfl rfl rfl

theorem connectRelease_rs (L : GLaws U K P) (hU : ∀ u, U u → T u) (s : Server) (p : Pending) (hnw : NW T s) :
    RSP T P s (connectRelease s p).1 :=
  connectRelease_cases (Q := fun r => RSP T P s r.1) s p (fun _ _ _ => (stopClient_rs s p.obj hnw).toP)
    (fun _ _ => admitClient_rs L hU s p.obj p.conn p.k hnw) (fun _ _ => (RS.refl hnw).toP.upd rfl rfl rfl)
    (fun _ _ => ((admitConnack_rs s p.obj p.conn p.present hnw).andThen (admitC_rs _ p.obj p.k p.present)).toP)

/-! ### housekeeping -/

theorem tickClients_rs (L : GLaws U K P) (s : Server) (dt : Int) (hnw : NW T s) : RS T P s (tickClients s dt).1 :=
  tickClients_cases (J := fun r => RS T P s r.1) s dt (RS.refl hnw)
    (fun acc e _ _ h => h.andThen (sessionEnded_rs L acc.1 e.2 e.1))

theorem tickInflight_rs (s : Server) (now : Int) (hnw : NW T s) : RS T P s (tickInflight s now) :=
  tickInflight_cases (J := RS T P s) s now (RS.refl hnw)
    (fun b e m _ h => h.andThen (recordGone_walk willKept (RS.walk e.2) b m.id (fun c => c) (fun _ => rfl)))

theorem tickWills_rs (L : GLaws U K P) (hU : ∀ u, U u → T u) (s : Server) (dt : Int) (hnw : NW T s) :
    RS T P s (tickWills s dt).1 :=
  tickWills_cases (J := fun r => RS T P s r.1) s dt (RS.refl hnw) (fun acc e hmem _ h =>
    have g1 := h.andThen (publishToSubscribers_rs acc.1 e.2)
    publishDue_cases (Q := fun r => RS T P s r.1) acc e rfl (fun _ => g1.delWill _) (fun j _ =>
      have g2 := g1.andThen (retainedState_rs L _ e.2 · (fun hr hu => hnw.2 e hmem hr (hU _ hu)))
      (RS.mod g2 j (fun c => { c with will := {} }) (WillOK.empty T)).delWill _))

theorem tick_rs (L : GLaws U K P) (hU : ∀ u, U u → T u) (s : Server) (kind : String) (t : Int) (hnw : NW T s)
    (hK : kind = "retained" → K) : RS T P s (step s (.tick kind t)).1 :=
  step_tick_cases_kind (Q := fun r => RS T P s r.1) s kind t (fun _ => tickClients_rs L s t hnw)
    (fun hk => tickRetained_rs L (hK hk) s t hnw) (fun _ => tickInflight_rs s t hnw)
    (fun _ => tickWills_rs L hU s t hnw) (RS.refl hnw)

/-! ### `step` -/

/-- the op brings no will with the retain flag on a topic of `T`, is no retained publish on a topic of `U`, and is the
    retained-store housekeeping only if `K` -/
def Op.off (T U : Str → Prop) (K : Prop) : Op → Prop
  | .connect _ k => k.avoids T
  | .connectHold _ k _ => k.avoids T
  | .recv _ pk => pk.avoids U
  | .recvCut _ pk => pk.avoids U
  | .inlinePublish topic _ r _ => pubAvoids U r topic
  | .tick kind _ => kind = "retained" → K
  | _ => True

/-- the ops that can add a will: CONNECT without a retained will on a topic of `T` -/
def Op.willAvoids (T : Str → Prop) : Op → Prop
  | .connect _ k => k.avoids T
  | .connectHold _ k _ => k.avoids T
  | _ => True

theorem Op.willAvoids.off {op : Op} (h : op.willAvoids T) : op.off T (fun _ => False) True := by
  cases op with
  | connect conn k => exact h
  | connectHold conn k st => exact h
  | recv conn pk => exact pk.avoids_none
  | recvCut conn pk => exact pk.avoids_none
  | inlinePublish topic payload r q => exact fun _ _ hu => hu.elim
  | tick kind t => exact fun _ => True.intro
  | _ => trivial

theorem Op.willAvoids_none (op : Op) : op.willAvoids (fun _ => False) := by
  cases op with
  | connect conn k => exact fun _ _ _ h => h
  | connectHold conn k st => exact fun _ _ _ h => h
  | _ => trivial

/-- **one op keeps the will invariant and every predicate on the core that its sites keep** -/
theorem step_sites (L : GLaws U K P) (hU : ∀ u, U u → T u) (s : Server) (op : Op) (hnw : NW T s) (hav : op.off T U K) :
    RSP T P s (step s op).1 :=
  have same : ∀ {s s' : Server}, s'.objs = s.objs → s'.willDelayed = s.willDelayed → core s' = core s → NW T s →
      RSP T P s s' := fun ho hw hc w => (RS.refl w).toP.upd ho hw hc
  step_tr RSP.traced (fun _ h => h) s op
    (conn := fun c k e w => connect_rs L hU s c k w (by subst e; exact hav))
    (hold := fun c k st e w => connectHold_rs L hU s c k st w (by subst e; exact hav))
    (recv := fun c pk e w => recvOn_rs L hU s c pk true w (by subst e; exact hav))
    (cut := fun c pk i e _ w => recvOn_rs L hU _ c pk false w (by subst e; exact hav))
    (ping := fun s' c w => recvOn_rs L hU s' c .pingreq false w trivial)
    (peer := fun s' i w => ((RS.refl w).modW i (fun c => { c with peerGone := true }) (fun _ => rfl)).toP)
    (det := fun s' i b => detach_rs L hU s' i b)
    (detA := fun s' i w => (detachA_rs L hU s' i true w).toP)
    (detB := fun s' i => detachB_rs L s' i)
    (park := fun _ _ _ => same rfl rfl rfl)
    (unpark := fun _ => same rfl rfl rfl)
    (rel := fun _ p _ _ => connectRelease_rs L hU _ p)
    (tick := fun kind t e w => by subst e; exact (tick_rs L hU s kind t w hav).toP)
    (pub := fun _ _ _ _ e w => (receivePacket_rs L s 0 _ w (by subst e; exact hav)).toP)
    (isub := fun id sb _ _ w => ⟨⟨w.1, w.2⟩, L.inlSub s id sb⟩)
    (iunsub := fun id f w => ⟨⟨w.1, w.2⟩, L.inlUnsub s id f⟩) hnw

theorem run_sites (L : GLaws U K P) (hU : ∀ u, U u → T u) (s : Server) (ops : List Op) (hnw : NW T s)
    (hav : ∀ op ∈ ops, op.off T U K) : RSP T P s (run s ops) :=
  run_inv (I := RSP T P s) (fun _ op h c => h.andThen (step_sites L hU _ op · c)) (RS.refl hnw).toP
    (OpsOK.forall.mpr hav)

end

/-! ### without a guard: every op keeps every lawful predicate on the core -/

section
variable {P : Core → Prop}

theorem step_coreP (L : Laws P) (s : Server) (op : Op) : CoreP P s (step s op).1 :=
  (step_sites (L.guarded _ True) (fun _ h => h) s op (NW.none s) (Op.willAvoids_none op).off).2

theorem run_coreP (L : Laws P) (s : Server) (ops : List Op) : CoreP P s (run s ops) :=
  (run_sites (L.guarded _ True) (fun _ h => h) s ops (NW.none s) fun op _ => (Op.willAvoids_none op).off).2

/-! what the `connected` counter reads off the walk (`CountersConn.lean`) -/

theorem retainMsg_core (L : Laws P) (s : Server) (pk : Msg) : CoreR P s (retainMsg s pk) :=
  (retainMsg_rs (L.guarded (fun _ => False) True) s pk (NW.none s) fun h => h).2

theorem stopClient_core (s : Server) (i : Nat) : CoreR P s (stopClient s i).1 := (stopClient_rs s i (NW.none s)).2

theorem unsubscribeClient_core (L : Laws P) (s : Server) (i : Nat) : CoreR P s (unsubscribeClient s i) :=
  (unsubscribeClient_rs (L.guarded (fun _ => False) True) s i (NW.none s)).2

theorem nextImmediate_core (s : Server) (i : Nat) : CoreR P s (nextImmediate s i).1 := (nextImmediate_rs s i (NW.none s)).2

theorem detachA_core (L : Laws P) (s : Server) (i : Nat) (withErr : Bool) : CoreR P s (detachA s i withErr).1 :=
  (detachA_rs (L.guarded _ True) (fun _ h => h) s i withErr (NW.none s)).2

theorem receivePacket_core (L : Laws P) (s : Server) (i : Nat) (pk : InPk) : CoreR P s (receivePacket s i pk).1 :=
  (receivePacket_rs (L.guarded _ True) s i pk (NW.none s) pk.avoids_none).2

end

/-! ### first instance: the `retained` counter is the size of the retained store -/

/-- `Info.Retained` is the number of retained packets -/
def RetainedOK (k : Core) : Prop := k.retained = k.rmsgs.length

theorem RetainedOK_laws : Laws RetainedOK := by
  refine ⟨?_, ?_, ?_, ?_, ?_, ?_⟩
  · intro s cid sb h
    show (if (subscribe s.topics cid sb).2 = true then _ else s.info).retained = _
    split <;> exact h
  · intro s f cid h
    show (if (unsubscribe s.topics f cid).2 = true then _ else s.info).retained = _
    split <;> exact h
  · intro s pk h
    unfold retainMsg
    split
    · exact h
    · rfl
  · intro s now _
    rfl
  · intro s id sb h; exact h
  · intro s id f h; exact h

/-- the `retained` conjunct of `Counted` -/
def CountedRetained (s : Server) : Prop := s.info.retained = s.rmsgs.length

theorem CountedRetained_init (caps : Caps) : CountedRetained (init caps) := rfl

theorem CountedRetained_step (s : Server) (op : Op) (h : CountedRetained s) : CountedRetained (step s op).1 :=
  step_coreP RetainedOK_laws s op h

theorem CountedRetained_run (caps : Caps) (ops : List Op) : CountedRetained (run (init caps) ops) :=
  run_coreP RetainedOK_laws _ ops (CountedRetained_init caps)

end Mochi.Broker
