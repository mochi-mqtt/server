import Mochi.Lemmas.IndexEntries
import Mochi.Lemmas.CountersCore
/-!
# C38 — the `subs` counter, and the keys of the retained store

`cnt ns`: the number of (client, filter) subscription entries of the particle list `ns` — plain entries
plus the members of every share group (inline subscriptions are not counted: `Server.Subscribe` does
not touch `Info.Subscriptions`).  For a well-formed index (`NodesWF`: distinct particle addresses, one
entry per client per particle, one entry per group, one entry per member)

* `Subscribe` adds exactly one entry iff it reports "new",
* `Unsubscribe` removes exactly one entry iff it reports "existed",
* retaining a message, the inline API and `trim` change nothing.

Hence `SubsOK` is lawful (`Laws SubsOK`) and, by the core walk, holds after EVERY history.

In the same way `RetKeysOK`: the retained store of the index has the topics of the retained packets the model keeps
beside it (the `retained` counter, which Go reads off the index, is the number of those packets: C38; what a new
subscription is replayed: C05, C25).
-/
namespace Mochi.Topics

/-! ### share groups -/

theorem sharedLen_cons (a : Str) (b : List (Str × Sub)) (rest : List (Str × List (Str × Sub))) :
    sharedLen ((a, b) :: rest) = b.length + sharedLen rest := by
  simp [sharedLen]

theorem sharedLen_append (a b : List (Str × List (Str × Sub))) : sharedLen (a ++ b) = sharedLen a + sharedLen b := by
  simp [sharedLen]

theorem sharedLen_assocSet (sh : List (Str × List (Str × Sub))) (g : Str) (m m' : List (Str × Sub))
    (hm : assocGet sh g = some m) : sharedLen (assocSet sh g m') + m.length = sharedLen sh + m'.length := by
  induction sh with
  | nil => simp [assocGet] at hm
  | cons x xs ih =>
    obtain ⟨a, b⟩ := x
    unfold assocGet at hm
    unfold assocSet
    by_cases h : a = g
    · simp only [h, if_true, Option.some.injEq] at hm ⊢
      subst hm
      rw [sharedLen_cons, sharedLen_cons]
      omega
    · simp only [h, if_false] at hm ⊢
      have := ih hm
      rw [sharedLen_cons, sharedLen_cons]
      omega

theorem sharedLen_assocDel (sh : List (Str × List (Str × Sub))) (g : Str) (m : List (Str × Sub))
    (hnd : (sh.map (·.1)).Nodup) (hm : assocGet sh g = some m) : sharedLen (assocDel sh g) + m.length = sharedLen sh := by
  induction sh with
  | nil => simp [assocGet] at hm
  | cons x xs ih =>
    obtain ⟨a, b⟩ := x
    rw [List.map_cons, List.nodup_cons] at hnd
    unfold assocGet at hm
    by_cases h : a = g
    · simp only [h, if_true, Option.some.injEq] at hm
      subst hm
      subst h
      have hkeep := filter_ne_self xs a hnd.1
      have hd : decide ((a, b).1 ≠ a) = false := by simp
      unfold assocDel
      rw [List.filter_cons, hd, if_neg Bool.false_ne_true, hkeep, sharedLen_cons]
      omega
    · simp only [h, if_false] at hm
      have := ih hnd.2 hm
      have hd : decide ((a, b).1 ≠ g) = true := by simpa using h
      unfold assocDel at this ⊢
      rw [List.filter_cons, hd, if_pos rfl, sharedLen_cons, sharedLen_cons]
      omega

/-- one entry per group, one entry per member -/
structure SharedWF (sh : List (Str × List (Str × Sub))) : Prop where
  groups : (sh.map (·.1)).Nodup
  members : ∀ g ∈ sh, (g.2.map (·.1)).Nodup

theorem SharedWF.nil : SharedWF [] := ⟨List.nodup_nil, fun _ h => by cases h⟩

theorem SharedWF.get {sh : List (Str × List (Str × Sub))} (h : SharedWF sh) {g : Str} {m : List (Str × Sub)}
    (hm : assocGet sh g = some m) : (m.map (·.1)).Nodup :=
  h.members (g, m) (assocGet_mem _ _ _ hm)

theorem sharedLen_sharedAdd (sh : List (Str × List (Str × Sub))) (g c : Str) (s : Sub) :
    (sharedLen (sharedAdd sh g c s) : Int) = sharedLen sh + (if (!(sharedGet sh g c).isSome) = true then 1 else 0) := by
  unfold sharedAdd sharedGet
  cases hm : assocGet sh g with
  | none =>
    simp only []
    rw [sharedLen_append]
    simp [sharedLen]
  | some m =>
    simp only []
    have h1 := sharedLen_assocSet sh g m (assocSet m c s) hm
    have h2 := length_assocSet m c s
    cases hc : (assocGet m c).isSome <;> simp [hc] at h2 ⊢ <;> omega

theorem sharedLen_sharedDel (sh : List (Str × List (Str × Sub))) (g c : Str) (h : SharedWF sh) :
    (sharedLen (sharedDel sh g c) : Int) = sharedLen sh - (if (sharedGet sh g c).isSome = true then 1 else 0) := by
  unfold sharedDel sharedGet
  cases hm : assocGet sh g with
  | none => simp
  | some m =>
    simp only []
    have h2 := length_assocDel m c (h.get hm)
    split
    · rename_i hemp
      have hl : (assocDel m c).length = 0 := by simpa using hemp
      have h1 := sharedLen_assocDel sh g m h.groups hm
      cases hc : (assocGet m c).isSome <;> simp [hc] at h2 ⊢ <;> omega
    · have h1 := sharedLen_assocSet sh g m (assocDel m c) hm
      cases hc : (assocGet m c).isSome <;> simp [hc] at h2 ⊢ <;> omega

/-! ### particles -/

/-- the subscription entries of one particle (plain + members of its share groups) -/
def nodeCount (n : Node) : Nat := n.subs.length + sharedLen n.shared

/-- the subscription entries of the index -/
def cnt (ns : List Node) : Nat := (ns.map nodeCount).sum

structure NodeWF (n : Node) : Prop where
  subs : (n.subs.map (·.1)).Nodup
  shared : SharedWF n.shared

theorem NodeWF.fresh (q : Path) : NodeWF { path := q } := ⟨List.nodup_nil, SharedWF.nil⟩

/-- distinct, non-empty particle addresses; every particle well-formed -/
structure NodesWF (ns : List Node) : Prop where
  paths : PathsOK (ns.map (·.path))
  nodes : ∀ n ∈ ns, NodeWF n

theorem NodesWF.nil : NodesWF [] := ⟨⟨List.nodup_nil, fun _ h => by cases h⟩, fun _ h => by cases h⟩

theorem cnt_cons (n : Node) (ns : List Node) : cnt (n :: ns) = nodeCount n + cnt ns := by simp [cnt]

theorem cnt_append (a b : List Node) : cnt (a ++ b) = cnt a + cnt b := by simp [cnt]

theorem putNode_of_not_mem (ns : List Node) (n : Node) (h : n.path ∉ ns.map (·.path)) : putNode ns n = ns := by
  induction ns with
  | nil => rfl
  | cons m rest ih =>
    rw [putNode_cons]
    rw [List.map_cons, List.mem_cons, not_or] at h
    have : ¬ m.path = n.path := fun e => h.1 e.symm
    simp only [this, if_false]
    rw [ih h.2]

theorem cnt_putNode (ns : List Node) (n n' : Node) (hnd : (ns.map (·.path)).Nodup) (hg : getNode ns n'.path = some n) :
    cnt (putNode ns n') + nodeCount n = cnt ns + nodeCount n' := by
  induction ns with
  | nil => simp [getNode_nil] at hg
  | cons m rest ih =>
    rw [List.map_cons, List.nodup_cons] at hnd
    rw [putNode_cons]
    rw [getNode_cons] at hg
    by_cases hm : m.path = n'.path
    · simp only [hm, if_true, Option.some.injEq] at hg ⊢
      subst hg
      rw [putNode_of_not_mem rest n' (hm ▸ hnd.1), cnt_cons, cnt_cons]
      omega
    · simp only [hm, if_false] at hg ⊢
      have := ih hnd.2 hg
      rw [cnt_cons, cnt_cons]
      omega

theorem cnt_setPath (ns : List Node) (p : Path) : cnt (setPath ns p) = cnt ns := by
  refine setPath_ind (Q := fun acc => cnt acc = cnt ns) ns p rfl fun acc q ha _ _ => ?_
  rw [cnt_append, ha]
  simp [cnt, nodeCount, sharedLen]

theorem cnt_filter (ns : List Node) (f : Node → Bool) (h : ∀ m ∈ ns, f m = false → nodeCount m = 0) :
    cnt (ns.filter f) = cnt ns := by
  induction ns with
  | nil => rfl
  | cons m rest ih =>
    have ih' := ih (fun x hx => h x (List.mem_cons_of_mem _ hx))
    rw [List.filter_cons]
    cases hf : f m
    · simp only [Bool.false_eq_true, if_false]
      rw [cnt_cons, h m List.mem_cons_self hf, ih']
      omega
    · simp only [if_true]
      rw [cnt_cons, cnt_cons, ih']

theorem nodeCount_of_nodeEmpty (ns : List Node) (n : Node) (h : nodeEmpty ns n = true) : nodeCount n = 0 := by
  unfold nodeEmpty at h
  simp only [Bool.and_eq_true, beq_iff_eq] at h
  unfold nodeCount
  omega

/-- `trim` removes particles without entries only -/
theorem cnt_trim (ns : List Node) (hnd : (ns.map (·.path)).Nodup) (p : Path) (fuel : Nat) :
    cnt (trim ns p fuel) = cnt ns := by
  refine (trim_ind (Q := fun ms => (ms.map (·.path)).Nodup ∧ cnt ms = cnt ns) ?_ ns p fuel ⟨hnd, rfl⟩).2
  intro ms p n hn hemp ⟨hms, hc⟩
  refine ⟨(List.filter_sublist.map _).nodup hms, (cnt_filter ms _ fun m hm hf => ?_).trans hc⟩
  have hmp : m.path = p := by simpa using hf
  have := getNode_of_mem ms hms m hm
  rw [hmp, hn] at this
  cases this
  exact nodeCount_of_nodeEmpty ms _ hemp

/-! ### the index operations -/

theorem nodeWF_iff_nodeOK (n : Node) : NodeWF n ↔ NodeOK n :=
  ⟨fun h => ⟨h.subs, h.shared.groups, h.shared.members⟩, fun h => ⟨h.subs, h.shared, h.members⟩⟩

theorem nodesWF_iff (ns : List Node) : NodesWF ns ↔ PathsOK (ns.map (·.path)) ∧ AllNodeOK ns :=
  ⟨fun h => ⟨h.paths, fun n hn => (nodeWF_iff_nodeOK n).1 (h.nodes n hn)⟩,
   fun h => ⟨h.1, fun n hn => (nodeWF_iff_nodeOK n).2 (h.2 n hn)⟩⟩

theorem nodesWF_applyOp (x : Index) (h : NodesWF x.nodes) (op : IOp) : NodesWF (applyOp x op).nodes :=
  have h' := (nodesWF_iff _).1 h
  (nodesWF_iff _).2 ⟨pathsOK_applyOp x h'.1 op, allNodeOK_applyOp x h'.2 op⟩

namespace Edit

/-- the particle found is exchanged for the rewritten one -/
theorem cnt_run (e : Edit) (ns : List Node) (h : PathsOK (ns.map (·.path))) {n : Node} (hn : e.found ns = some n) :
    cnt (e.run ns) + nodeCount n = cnt ns + nodeCount (e.f n) := by
  have hb : PathsOK ((e.base ns).map (·.path)) ∧ cnt (e.base ns) = cnt ns := by
    unfold base
    split
    · exact ⟨pathsOK_setPath ns e.p h, cnt_setPath ns e.p⟩
    · exact ⟨h, rfl⟩
  have hg := e.found_get ns hn
  have hg' : getNode (e.base ns) (e.f n).path = some n := by rw [e.keeps n, getNode_path hg]; exact hg
  have hput := cnt_putNode (e.base ns) n (e.f n) hb.1.1 hg'
  unfold run
  simp only [hn]
  split
  · rw [cnt_trim _ (pathsOK_putNode _ _ hb.1).1]; omega
  · omega

theorem cnt_apply (e : Edit) (d : Int)
    (hd : ∀ n, NodeWF n → (nodeCount (e.f n) : Int) = nodeCount n + if e.q n = true then d else 0)
    (x : Index) (h : NodesWF x.nodes) :
    (cnt (e.apply x).1.nodes : Int) = cnt x.nodes + if (e.apply x).2 = true then d else 0 := by
  rw [apply_nodes, apply_snd]
  cases hn : e.found x.nodes with
  | none => rw [e.run_of_none _ hn]; simp
  | some n =>
    have h1 := e.cnt_run _ h.paths hn
    have h2 := hd n (e.forall_found NodeWF.fresh _ h.nodes n (e.found_mem _ hn))
    simp only [Option.any_some]
    omega

theorem cnt_run_same (e : Edit) (hd : ∀ n, nodeCount (e.f n) = nodeCount n) (ns : List Node)
    (h : PathsOK (ns.map (·.path))) : cnt (e.run ns) = cnt ns := by
  cases hn : e.found ns with
  | none => rw [e.run_of_none _ hn]
  | some n =>
    have h1 := e.cnt_run _ h hn
    rw [hd n] at h1
    omega

end Edit

theorem subscribe_ok (x : Index) (cid : Str) (sb : Sub) (h : NodesWF x.nodes) :
    NodesWF (subscribe x cid sb).1.nodes ∧
      (cnt (subscribe x cid sb).1.nodes : Int) = cnt x.nodes + (if (subscribe x cid sb).2 = true then 1 else 0) := by
  refine ⟨nodesWF_applyOp x h (.subscribe cid sb), ?_⟩
  rw [subscribe_eq]
  by_cases hs : shareKey sb.filter = true
  · rw [subEdit_share hs]
    refine (subShared cid sb).cnt_apply 1 (fun n _ => ?_) x h
    have := sharedLen_sharedAdd n.shared (shareGroup sb.filter) cid sb
    show ((n.subs.length + sharedLen (sharedAdd n.shared (shareGroup sb.filter) cid sb) : Nat) : Int) =
      nodeCount n + if (!(sharedGet n.shared (shareGroup sb.filter) cid).isSome) = true then 1 else 0
    unfold nodeCount
    omega
  · rw [subEdit_plain hs]
    refine (subPlain cid sb).cnt_apply 1 (fun n _ => ?_) x h
    have := length_assocSet n.subs cid sb
    show (((assocSet n.subs cid sb).length + sharedLen n.shared : Nat) : Int) =
      nodeCount n + if (!(assocGet n.subs cid).isSome) = true then 1 else 0
    unfold nodeCount
    by_cases hq : (assocGet n.subs cid).isSome = true <;> simp [hq] at this ⊢ <;> omega

theorem unsubscribe_ok (x : Index) (f cid : Str) (h : NodesWF x.nodes) :
    NodesWF (unsubscribe x f cid).1.nodes ∧
      (cnt (unsubscribe x f cid).1.nodes : Int) = cnt x.nodes - (if (unsubscribe x f cid).2 = true then 1 else 0) := by
  refine ⟨nodesWF_applyOp x h (.unsubscribe f cid), ?_⟩
  rw [unsubscribe_eq]
  by_cases hb : shareBare f = true
  · rw [if_pos hb]; exact (Int.sub_zero _).symm
  · rw [if_neg hb]
    have key : ∀ e : Edit,
        (∀ n, NodeWF n → (nodeCount (e.f n) : Int) = nodeCount n + if e.q n = true then -1 else 0) →
        (cnt (e.apply x).1.nodes : Int) = cnt x.nodes - (if (e.apply x).2 = true then 1 else 0) := fun e hd => by
      rw [e.cnt_apply (-1) hd x h]; split <;> rfl
    by_cases hs : shareKey f = true
    · rw [unsubEdit_share hs]
      refine key _ fun n hn => ?_
      have := sharedLen_sharedDel n.shared (shareGroup f) cid hn.shared
      show ((n.subs.length + sharedLen (sharedDel n.shared (shareGroup f) cid) : Nat) : Int) =
        nodeCount n + if (sharedGet n.shared (shareGroup f) cid).isSome = true then -1 else 0
      unfold nodeCount
      by_cases hq : (sharedGet n.shared (shareGroup f) cid).isSome = true <;> simp [hq] at this ⊢ <;> omega
    · rw [unsubEdit_plain hs]
      refine key _ fun n hn => ?_
      have := length_assocDel n.subs cid hn.subs
      show (((assocDel n.subs cid).length + sharedLen n.shared : Nat) : Int) =
        nodeCount n + if (assocGet n.subs cid).isSome = true then -1 else 0
      unfold nodeCount
      by_cases hq : (assocGet n.subs cid).isSome = true <;> simp [hq] at this ⊢ <;> omega

theorem retainMessage_ok (x : Index) (topic payload : Str) (fl : Bool) (h : NodesWF x.nodes) :
    NodesWF (retainMessage x topic payload fl).1.nodes ∧ cnt (retainMessage x topic payload fl).1.nodes = cnt x.nodes := by
  refine ⟨nodesWF_applyOp x h (.retain topic payload fl), ?_⟩
  rw [retainMessage_nodes]
  exact (retEdit topic payload).cnt_run_same (fun _ => rfl) _ h.paths

theorem inlineSubscribe_ok (x : Index) (id : Nat) (s : Sub) (h : NodesWF x.nodes) :
    NodesWF (inlineSubscribe x id s).1.nodes ∧ cnt (inlineSubscribe x id s).1.nodes = cnt x.nodes := by
  refine ⟨nodesWF_applyOp x h (.inlineSubscribe id s), ?_⟩
  rw [inlineSubscribe_eq, Edit.apply_nodes]
  exact (inlSubEdit id s).cnt_run_same (fun _ => rfl) _ h.paths

theorem inlineUnsubscribe_ok (x : Index) (id : Nat) (f : Str) (h : NodesWF x.nodes) :
    NodesWF (inlineUnsubscribe x id f).1.nodes ∧ cnt (inlineUnsubscribe x id f).1.nodes = cnt x.nodes := by
  refine ⟨nodesWF_applyOp x h (.inlineUnsubscribe id f), ?_⟩
  rw [inlineUnsubscribe_eq, Edit.apply_nodes]
  exact (inlUnsubEdit id f).cnt_run_same (fun _ => rfl) _ h.paths

end Mochi.Topics

namespace Mochi.Broker
open Mochi.Topics

/-- the index is well-formed and `Info.Subscriptions` is its number of subscription entries -/
def SubsOK (k : Core) : Prop := NodesWF k.topics.nodes ∧ k.subs = cnt k.topics.nodes

theorem SubsOK_laws : Laws SubsOK := by
  refine ⟨fun s cid sb h => ?_, fun s f cid h => ?_, fun s pk h => ?_, fun s now h => ?_, fun s id sb h => ?_,
    fun s id f h => ?_⟩
  · obtain ⟨a, b⟩ := subscribe_ok s.topics cid sb h.1
    refine ⟨a, ?_⟩
    show (if (subscribe s.topics cid sb).2 = true then ({ s.info with subs := s.info.subs + 1 } : Info) else s.info).subs =
      (cnt (subscribe s.topics cid sb).1.nodes : Int)
    rw [b, ← show s.info.subs = (cnt s.topics.nodes : Int) from h.2]
    cases (subscribe s.topics cid sb).2
    · exact (Int.add_zero _).symm
    · rfl
  · obtain ⟨a, b⟩ := unsubscribe_ok s.topics f cid h.1
    refine ⟨a, ?_⟩
    show (if (unsubscribe s.topics f cid).2 = true then ({ s.info with subs := s.info.subs - 1 } : Info) else s.info).subs =
      (cnt (unsubscribe s.topics f cid).1.nodes : Int)
    rw [b, ← show s.info.subs = (cnt s.topics.nodes : Int) from h.2]
    cases (unsubscribe s.topics f cid).2
    · exact (Int.sub_zero _).symm
    · rfl
  · unfold retainMsg
    refine iteInduction (motive := fun x : Server => SubsOK (core x)) (fun _ => h) fun _ => ?_
    obtain ⟨a, b⟩ := retainMessage_ok s.topics pk.topic pk.payload pk.retain h.1
    exact ⟨a, h.2.trans (congrArg Int.ofNat b.symm)⟩
  · exact tickRetained_cases (J := fun x => SubsOK (core x)) s now h (fun _ _ _ _ hb => hb) fun _ hb => hb
  · obtain ⟨a, b⟩ := inlineSubscribe_ok s.topics id sb h.1
    exact ⟨a, h.2.trans (congrArg Int.ofNat b.symm)⟩
  · obtain ⟨a, b⟩ := inlineUnsubscribe_ok s.topics id f h.1
    exact ⟨a, h.2.trans (congrArg Int.ofNat b.symm)⟩

/-! ### `RetKeysOK`: the retained store of the index (`Topics.Retained`, whose `Len()` Go reports) has the keys of the
    retained packets `rmsgs` the model keeps beside it -/

/-- the retained packets and the index's retained store have the same topics, in the same order -/
def RetKeysOK (k : Core) : Prop := k.rmsgs.map (·.1) = k.topics.retained.map (·.1)

theorem retainMessage_retained (x : Index) (topic payload : Str) (fl : Bool) :
    (retainMessage x topic payload fl).1.retained =
      if payload.length > 0 then assocSet x.retained topic { topic := topic, payload := payload, retain := fl }
      else assocDel x.retained topic := by
  rw [retainMessage_eq]; rfl

theorem subscribe_retained (x : Index) (cid : Str) (sb : Sub) : (subscribe x cid sb).1.retained = x.retained := by
  rw [subscribe_eq, Edit.apply_retained]

theorem unsubscribe_retained (x : Index) (f cid : Str) : (unsubscribe x f cid).1.retained = x.retained :=
  (congrArg Index.retained (applyOp_eq x (.unsubscribe f cid)) : _)

theorem inlineSubscribe_retained (x : Index) (id : Nat) (sb : Sub) :
    (inlineSubscribe x id sb).1.retained = x.retained := by
  rw [inlineSubscribe_eq, Edit.apply_retained]

theorem inlineUnsubscribe_retained (x : Index) (id : Nat) (f : Str) :
    (inlineUnsubscribe x id f).1.retained = x.retained := by
  rw [inlineUnsubscribe_eq, Edit.apply_retained]

theorem RetKeysOK_laws : Laws RetKeysOK := by
  refine ⟨fun s cid sb h => ?_, fun s f cid h => ?_, fun s pk h => ?_, fun s now h => ?_, fun s id sb h => ?_,
    fun s id f h => ?_⟩
  · exact h.trans (congrArg (List.map (·.1)) (subscribe_retained s.topics cid sb).symm)
  · exact h.trans (congrArg (List.map (·.1)) (unsubscribe_retained s.topics f cid).symm)
  · unfold retainMsg
    refine iteInduction (motive := fun x : Server => RetKeysOK (core x)) (fun _ => h) fun _ => ?_
    show (if pk.payload.length > 0 then assocSet s.rmsgs pk.topic _ else assocDel s.rmsgs pk.topic).map (·.1) =
      (retainMessage s.topics pk.topic pk.payload pk.retain).1.retained.map (·.1)
    rw [retainMessage_retained]
    split
    · exact keys_assocSet _ _ _ _ _ h
    · exact keys_assocDel _ _ _ h
  · exact tickRetained_cases (J := fun x : Server => x.rmsgs.map (·.1) = x.topics.retained.map (·.1)) s now h
      (fun _ _ _ _ hb => keys_assocDel _ _ _ hb) fun _ hb => hb
  · exact h.trans (congrArg (List.map (·.1)) (inlineSubscribe_retained s.topics id sb).symm)
  · exact h.trans (congrArg (List.map (·.1)) (inlineUnsubscribe_retained s.topics id f).symm)

/-- after every history the retained packets and `Topics.Retained` have the same topics -/
theorem RetKeys_run (caps : Caps) (ops : List Op) :
    (run (init caps) ops).rmsgs.map (·.1) = (run (init caps) ops).topics.retained.map (·.1) :=
  run_coreP RetKeysOK_laws _ ops rfl

/-- the `subs` conjunct of `Counted` -/
def CountedSubs (s : Server) : Prop := NodesWF s.topics.nodes ∧ s.info.subs = cnt s.topics.nodes

theorem CountedSubs_init (caps : Caps) : CountedSubs (init caps) := ⟨NodesWF.nil, rfl⟩

theorem CountedSubs_step (s : Server) (op : Op) (h : CountedSubs s) : CountedSubs (step s op).1 :=
  step_coreP SubsOK_laws s op h

theorem CountedSubs_run (caps : Caps) (ops : List Op) : CountedSubs (run (init caps) ops) :=
  run_coreP SubsOK_laws _ ops (CountedSubs_init caps)

end Mochi.Broker
