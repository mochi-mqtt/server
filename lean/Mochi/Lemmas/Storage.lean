import Mochi.Model.Storage
/-!
Helper lemmas for C20–C22: the *logical* store. Every backend's physical key is `enc hashed ⟨kind, suffix⟩`
of a backend-independent logical key; the hook bodies differ only in three behavioural facts. The physical
run of a backend is the image of the logical run under the (injective) key encoding, and the read-back
modulo the `id` field (which holds the physical key string) is a function of the logical store alone.
-/
namespace Mochi.Storage

/-- backend-independent key: the kind and the string the key functions append -/
structure LKey where
  kind : Kind
  suffix : Str
deriving DecidableEq, Repr

/-- the key encoding of the single-keyspace engines (`hashed = false`) and of redis (`hashed = true`) -/
def enc (hashed : Bool) (k : LKey) : PKey :=
  match k.kind with
  | .sys => if hashed then ⟨hPrefix ++ SYS, SYS ++ k.suffix⟩ else ⟨[], SYS ++ k.suffix⟩
  | kind => if hashed then ⟨hPrefix ++ kind.name, k.suffix⟩ else ⟨[], kind.name ++ us :: k.suffix⟩

/-- the behavioural facts of a backend (everything but where the keys live) -/
structure Facts where
  disconnectRewrites : Bool
  storesPacketId : Bool
  takeoverByIs : Bool
deriving DecidableEq, Repr

def Backend.facts (b : Backend) : Facts := ⟨b.disconnectRewrites, b.storesPacketId, b.takeoverByIs⟩

@[simp] theorem Backend.facts_disconnectRewrites (b : Backend) : b.facts.disconnectRewrites = b.disconnectRewrites := rfl
@[simp] theorem Backend.facts_storesPacketId (b : Backend) : b.facts.storesPacketId = b.storesPacketId := rfl
@[simp] theorem Backend.facts_takeoverByIs (b : Backend) : b.facts.takeoverByIs = b.takeoverByIs := rfl

inductive LWrite where
  | set (k : LKey) (r : Record)
  | del (k : LKey)
deriving DecidableEq, Repr

/-- the `ID` field of subscriptions and messages holds the physical key string -/
def withId (r : Record) (id : Str) : Record :=
  match r with
  | .sub s => .sub { s with id := id }
  | .msg m => .msg { m with id := id }
  | r => r

def encW (h : Bool) : LWrite → Write
  | .set k r => .set (enc h k) (withId r (enc h k).key)
  | .del k => .del (enc h k)

abbrev LKV := List (LKey × Record)

def encE (h : Bool) (e : LKey × Record) : PKey × Record := (enc h e.1, withId e.2 (enc h e.1).key)

def LKV.set (kv : LKV) (k : LKey) (r : Record) : LKV := (k, r) :: kv.filter (fun e => e.1 != k)
def LKV.del (kv : LKV) (k : LKey) : LKV := kv.filter (fun e => e.1 != k)

def applyLWrite (kv : LKV) : LWrite → LKV
  | .set k r => kv.set k r
  | .del k => kv.del k

def applyLWrites (kv : LKV) (ws : List LWrite) : LKV := ws.foldl applyLWrite kv

def lClient (id : Str) : LKey := ⟨.client, id⟩
def lSub (id filter : Str) : LKey := ⟨.sub, id ++ colon :: filter⟩
def lRet (topic : Str) : LKey := ⟨.retained, topic⟩
def lIfl (id : Str) (pid : Nat) : LKey := ⟨.inflight, id ++ colon :: formatID pid⟩
def lSys : LKey := ⟨.sys, []⟩

def isTakenOverF (f : Facts) : StopCause → Bool
  | .takenOver => true
  | .wrappedTakenOver => f.takeoverByIs
  | _ => false

/-- the hook events over logical keys (records carry no `id`) -/
def interpL (f : Facts) : Event → List LWrite
  | .established cl => [.set (lClient cl.id) (.client (clientRecord cl))]
  | .willSent cl => [.set (lClient cl.id) (.client (clientRecord cl))]
  | .clientExpired cl => [.del (lClient cl.id)]
  | .disconnect cl expire =>
    (if f.disconnectRewrites then [.set (lClient cl.id) (.client (clientRecord cl))] else []) ++
    (if !expire then [] else if isTakenOverF f cl.stop then [] else [.del (lClient cl.id)])
  | .subscribed cl fs codes =>
    (fs.zip codes).map fun fc => .set (lSub cl.id fc.1.filter)
      (.sub { id := [], t := SUB, client := cl.id, qos := fc.2, filter := fc.1.filter, ident := fc.1.ident, nl := fc.1.nl,
              rh := fc.1.rh, rap := fc.1.rap })
  | .unsubscribed cl fs => fs.map fun f => .del (lSub cl.id f.filter)
  | .retain cl pk del =>
    if del then [.del (lRet pk.topic)] else [.set (lRet pk.topic) (.msg (msgRecord ⟨[], []⟩ RET cl pk 0 0))]
  | .retainedExpired topic => [.del (lRet topic)]
  | .qosPublish cl pk sent _ =>
    [.set (lIfl cl.id pk.pid) (.msg (msgRecord ⟨[], []⟩ IFM cl pk sent (if f.storesPacketId then pk.pid else 0)))]
  | .qosComplete cl pk => [.del (lIfl cl.id pk.pid)]
  | .qosDropped cl pk => [.del (lIfl cl.id pk.pid)]
  | .sysInfo info => [.set lSys (.sys { id := SYS, t := SYS, info := info })]

def stepL (f : Facts) (kv : LKV) (e : Event) : LKV := applyLWrites kv (interpL f e)
def runL (f : Facts) (evs : List Event) : LKV := evs.foldl (stepL f) []

theorem clientKey_enc (b : Backend) (id : Str) : clientKey b id = enc b.hashed (lClient id) := by
  unfold clientKey enc lClient; cases b.hashed <;> simp [Kind.name]

theorem subscriptionKey_enc (b : Backend) (id f : Str) : subscriptionKey b id f = enc b.hashed (lSub id f) := by
  unfold subscriptionKey enc lSub; cases b.hashed <;> simp [Kind.name]

theorem retainedKey_enc (b : Backend) (t : Str) : retainedKey b t = enc b.hashed (lRet t) := by
  unfold retainedKey enc lRet; cases b.hashed <;> simp [Kind.name]

theorem inflightKey_enc (b : Backend) (id : Str) (pid : Nat) : inflightKey b id pid = enc b.hashed (lIfl id pid) := by
  unfold inflightKey enc lIfl; cases b.hashed <;> simp [Kind.name]

theorem sysInfoKey_enc (b : Backend) : sysInfoKey b = enc b.hashed lSys := by
  unfold sysInfoKey enc lSys; cases b.hashed <;> simp

theorem Kind.name_injective {a b : Kind} (h : a.name = b.name) : a = b := by
  cases a <;> cases b <;> first | rfl | exact absurd h (by decide)

/-- reads a logical key back off its encoding: the kind from the first letters of the name, the suffix
    from what follows it -/
def dec (hashed : Bool) (p : PKey) : LKey :=
  match hashed, p.ns.drop hPrefix.length, p.key with
  | true, [67, 76], s => ⟨.client, s⟩
  | true, [83, 85, 66], s => ⟨.sub, s⟩
  | true, [82, 69, 84], s => ⟨.retained, s⟩
  | true, [73, 70, 77], s => ⟨.inflight, s⟩
  | true, _, s => ⟨.sys, s.drop SYS.length⟩
  | false, _, 67 :: 76 :: _ :: s => ⟨.client, s⟩
  | false, _, 83 :: 85 :: _ :: _ :: s => ⟨.sub, s⟩
  | false, _, 82 :: _ :: _ :: _ :: s => ⟨.retained, s⟩
  | false, _, 73 :: _ :: _ :: _ :: s => ⟨.inflight, s⟩
  | false, _, s => ⟨.sys, s.drop SYS.length⟩

theorem dec_enc (h : Bool) (k : LKey) : dec h (enc h k) = k := by
  obtain ⟨kd, s⟩ := k
  cases h <;> cases kd <;> rfl

theorem enc_injective (h : Bool) {k1 k2 : LKey} (he : enc h k1 = enc h k2) : k1 = k2 := by
  rw [← dec_enc h k1, he, dec_enc]

theorem enc_beq (h : Bool) (a k : LKey) : (enc h a == enc h k) = (a == k) := by
  by_cases hk : a = k
  · rw [hk, beq_self_eq_true, beq_self_eq_true]
  · rw [beq_eq_false_iff_ne.2 hk, beq_eq_false_iff_ne.2 fun he => hk (enc_injective h he)]

theorem enc_bne (h : Bool) (a k : LKey) : (enc h a != enc h k) = (a != k) :=
  congrArg not (enc_beq h a k)

theorem scans_enc (b : Backend) (kind : Kind) (k : LKey) : scans b kind (enc b.hashed k) = (k.kind == kind) := by
  obtain ⟨kd, s⟩ := k
  unfold scans
  cases b.hashed <;> cases kd <;> cases kind <;> rfl

theorem isTakenOver_facts (b : Backend) (c : StopCause) : isTakenOver b c = isTakenOverF b.facts c := by
  cases c <;> rfl

theorem interp_enc (b : Backend) (e : Event) : interp b e = (interpL b.facts e).map (encW b.hashed) := by
  cases e with
  | established cl => simp [interp, interpL, updateClient, encW, clientKey_enc, withId]
  | willSent cl => simp [interp, interpL, updateClient, encW, clientKey_enc, withId]
  | clientExpired cl => simp [interp, interpL, encW, clientKey_enc]
  | disconnect cl expire =>
    simp only [interp, interpL, onDisconnect, updateClient, isTakenOver_facts, Backend.facts_disconnectRewrites, clientKey_enc,
      List.map_append]
    congr 1
    · by_cases hd : b.disconnectRewrites = true <;> simp [hd, encW, withId]
    · cases expire
      · simp
      · by_cases ht : isTakenOverF b.facts cl.stop = true <;> simp [ht, encW]
  | subscribed cl fs codes =>
    simp only [interp, interpL, onSubscribed, List.map_map]
    apply List.map_congr_left
    intro fc _
    simp [encW, subRecord, subscriptionKey_enc, withId]
  | unsubscribed cl fs =>
    simp only [interp, interpL, onUnsubscribed, List.map_map]
    apply List.map_congr_left
    intro f _
    simp [encW, subscriptionKey_enc]
  | retain cl pk del =>
    cases del <;> simp [interp, interpL, onRetainMessage, encW, retainedKey_enc, withId, msgRecord]
  | retainedExpired topic => simp [interp, interpL, encW, retainedKey_enc]
  | qosPublish cl pk sent resends =>
    by_cases hs : b.storesPacketId = true <;>
      simp [interp, interpL, onQosPublish, encW, inflightKey_enc, withId, msgRecord, hs]
  | qosComplete cl pk => simp [interp, interpL, onQosComplete, encW, inflightKey_enc]
  | qosDropped cl pk => simp [interp, interpL, onQosComplete, encW, inflightKey_enc]
  | sysInfo info => simp [interp, interpL, onSysInfoTick, encW, sysInfoKey_enc, withId]

theorem filter_bne_map (h : Bool) (L : LKV) (k : LKey) :
    (L.filter (fun e => e.1 != k)).map (encE h) = (L.map (encE h)).filter (fun e => e.1 != enc h k) := by
  induction L with
  | nil => rfl
  | cons x xs ih =>
    simp only [List.filter_cons, List.map_cons]
    have : ((encE h x).1 != enc h k) = (x.1 != k) := enc_bne h x.1 k
    rw [this]
    cases hx : (x.1 != k) <;> simp [ih]

theorem applyWrite_enc (h : Bool) (L : LKV) (w : LWrite) :
    applyWrite (L.map (encE h)) (encW h w) = (applyLWrite L w).map (encE h) := by
  cases w with
  | set k r => simp [applyWrite, applyLWrite, encW, KV.set, LKV.set, filter_bne_map, encE]
  | del k => simp [applyWrite, applyLWrite, encW, KV.del, LKV.del, filter_bne_map]

theorem applyWrites_enc (h : Bool) (L : LKV) (ws : List LWrite) :
    applyWrites (L.map (encE h)) (ws.map (encW h)) = (applyLWrites L ws).map (encE h) := by
  rw [applyWrites, List.foldl_map]
  exact List.foldl_hom _ fun L w => applyWrite_enc h L w

theorem step_enc (b : Backend) (L : LKV) (e : Event) :
    step b (L.map (encE b.hashed)) e = (stepL b.facts L e).map (encE b.hashed) := by
  unfold step stepL; rw [interp_enc, applyWrites_enc]

/-- the physical store of a backend is the encoding of the logical store of its facts -/
theorem run_enc (b : Backend) (evs : List Event) : run b evs = (runL b.facts evs).map (encE b.hashed) :=
  List.foldl_hom (List.map (encE b.hashed)) (init := []) (step_enc b)

def SubRec.eraseId (s : SubRec) : SubRec := { s with id := [] }
def MsgRec.eraseId (m : MsgRec) : MsgRec := { m with id := [] }

/-- forget the `id` fields that hold the physical key string -/
def ReadBack.eraseIds (r : ReadBack) : ReadBack :=
  { r with subs := r.subs.map SubRec.eraseId, retained := r.retained.map MsgRec.eraseId, inflight := r.inflight.map MsgRec.eraseId }

def readbackL (L : LKV) : ReadBack :=
  { clients := L.filterMap fun e => if e.1.kind == .client then e.2.asClient else none
    subs := L.filterMap fun e => if e.1.kind == .sub then e.2.asSub.map SubRec.eraseId else none
    retained := L.filterMap fun e => if e.1.kind == .retained then e.2.asMsg.map MsgRec.eraseId else none
    inflight := L.filterMap fun e => if e.1.kind == .inflight then e.2.asMsg.map MsgRec.eraseId else none
    sys := match L.find? (fun e => e.1 == lSys) with
      | some (_, .sys y) => y
      | _ => {} }

theorem asClient_withId (r : Record) (x : Str) : (withId r x).asClient = r.asClient := by
  cases r <;> rfl

theorem asSub_withId (r : Record) (x : Str) : ((withId r x).asSub).map SubRec.eraseId = r.asSub.map SubRec.eraseId := by
  cases r <;> simp [withId, Record.asSub, SubRec.eraseId]

theorem asMsg_withId (r : Record) (x : Str) : ((withId r x).asMsg).map MsgRec.eraseId = r.asMsg.map MsgRec.eraseId := by
  cases r <;> simp [withId, Record.asMsg, MsgRec.eraseId]

theorem storedSys_enc (b : Backend) (L : LKV) :
    storedSysInfo b (L.map (encE b.hashed)) = (readbackL L).sys := by
  unfold storedSysInfo readbackL
  rw [sysInfoKey_enc, List.find?_map]
  have hp : ((fun e : PKey × Record => e.1 == enc b.hashed lSys) ∘ encE b.hashed) = (fun e : LKey × Record => e.1 == lSys) :=
    funext fun e => enc_beq b.hashed e.1 lSys
  rw [hp]
  cases hf : L.find? (fun e => e.1 == lSys) with
  | none => rfl
  | some e =>
    obtain ⟨k, r⟩ := e
    cases r <;> simp [encE, withId]

/-- the scan of one kind over an encoded store, read modulo what `er` forgets -/
theorem scan_enc {β γ} (b : Backend) (kind : Kind) (L : LKV) (as : Record → Option β) (er : β → γ)
    (has : ∀ r x, (as (withId r x)).map er = (as r).map er) :
    ((L.map (encE b.hashed)).filterMap fun e => if scans b kind e.1 then as e.2 else none).map er =
      L.filterMap fun e => if e.1.kind == kind then (as e.2).map er else none := by
  rw [List.filterMap_map, List.map_filterMap]
  congr 1; funext e
  simp only [Function.comp, encE, scans_enc]
  split
  · exact has _ _
  · rfl

theorem storedClients_enc (b : Backend) (L : LKV) :
    storedClients b (L.map (encE b.hashed)) = (readbackL L).clients := by
  simpa [storedClients, readbackL] using
    scan_enc b .client L Record.asClient id fun r x => congrArg (Option.map id) (asClient_withId r x)

/-- **read-back of a backend, modulo the key-holding `id` fields, is the logical read-back** -/
theorem readback_enc (b : Backend) (L : LKV) : (readback b (L.map (encE b.hashed))).eraseIds = readbackL L := by
  have h1 := storedClients_enc b L
  have h2 := scan_enc b .sub L Record.asSub SubRec.eraseId asSub_withId
  have h3 := scan_enc b .retained L Record.asMsg MsgRec.eraseId asMsg_withId
  have h4 := scan_enc b .inflight L Record.asMsg MsgRec.eraseId asMsg_withId
  have h5 := storedSys_enc b L
  unfold readbackL at h1 h5 ⊢
  simp only [readback, ReadBack.eraseIds, storedSubscriptions, storedRetained, storedInflight, h1, h2, h3, h4, h5]

/-- what a backend returns after any events, modulo ids, depends on its facts alone -/
theorem readback_logical (b : Backend) (evs : List Event) :
    (readback b (run b evs)).eraseIds = readbackL (runL b.facts evs) := by
  rw [run_enc, readback_enc]

theorem foldl_congr {α β} {f g : α → β → α} (l : List β) (h : ∀ a, ∀ b ∈ l, f a b = g a b) (a : α) :
    l.foldl f a = l.foldl g a := by
  induction l generalizing a with
  | nil => rfl
  | cons b l ih =>
    rw [List.foldl_cons, List.foldl_cons, h a b List.mem_cons_self]
    exact ih (fun a b' hb => h a b' (List.mem_cons_of_mem _ hb)) _

theorem runL_congr (f g : Facts) (evs : List Event) (h : ∀ e ∈ evs, interpL f e = interpL g e) : runL f evs = runL g evs :=
  foldl_congr evs (fun L e he => by unfold stepL; rw [h e he]) []

end Mochi.Storage
