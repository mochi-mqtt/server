import Mochi.Lemmas.BrokerBasics
/-!
# The exits of `processPublish`

`processPublish` (server.go `processPublish`) is one long function, and every relation the broker lemmas are organised
by has to be carried through it.  Its text is walked once, here: `processPublish_cases` leads to the refusals, the answer
to a repeated QoS 2 PUBLISH and `pubGo` on the state with the packet taken in; `pubGo_cases` to six exits.  An exit is a
closed term over the stage definitions (`pubTaken`, `pubAcked`, `recordGone … incRecv` — QoS 1: the PUBACK is out, its
record released and the quota returned —: each one write of the publisher's object with a change of the in-flight
counter; `retainedState`: the retained store written), and comes with the tests that lead to it.
-/
namespace Mochi.Broker
open Mochi.Topics

theorem ite_inflight (b : Bool) (x : Server) (n : Int) :
    (if b = true then { x with info := { x.info with inflight := n } } else x) =
      { x with info := { x.info with inflight := if b = true then n else x.info.inflight } } := by
  cases b <;> rfl

/-! ### results and refusals -/

/-- a handler's result when it ends by `DisconnectClient(cl, code)` and returns the code -/
def discRes (s : Server) (i code : Nat) : HRes := ((disconnectClient s i code).1, (disconnectClient s i code).2, some code)

/-- a handler's result when it ends by `publishToSubscribers(pk)` after having written `o` -/
def fanRes (s : Server) (pk : Msg) (o : List Out) : HRes :=
  ((publishToSubscribers s pk).1, o ++ (publishToSubscribers s pk).2, none)

/-- how `processPublish` refuses a PUBLISH with reason `code`: QoS 0 silently, an MQTT 3 client by closing, an MQTT 5
    client by the negative acknowledgement -/
def pubRefuse (s : Server) (i qos id code : Nat) : HRes :=
  if qos == 0 then (s, [], none)
  else if (getObj s i).ver != 5 then discRes s i code
  else ackRes s i (if qos == 2 then 5 else 4) id code

theorem pubRefuse_cases {Q : HRes → Prop} (s : Server) (i qos id code : Nat)
    (silent : (qos == 0) = true → Q (s, [], none))
    (close : (qos == 0) = false → ((getObj s i).ver != 5) = true → Q (discRes s i code))
    (nack : (qos == 0) = false → ((getObj s i).ver != 5) = false →
      Q (ackRes s i (if qos == 2 then 5 else 4) id code)) :
    Q (pubRefuse s i qos id code) := by
  unfold pubRefuse
  cases h1 : qos == 0
  · cases h2 : (getObj s i).ver != 5
    · exact nack h1 h2
    · exact close h1 h2
  · exact silent h1

/-! ### the packet is taken in -/

/-- the client holds the PUBREC record of an earlier QoS 2 PUBLISH under this packet identifier -/
def pubDup (c : Client) (id : Nat) : Bool :=
  !c.inline && (match flGet c id with | some m => m.type == 5 | none => false)

/-- the tests an inbound PUBLISH has passed when `processPublish` takes it in -/
structure PubPassed (s : Server) (i id : Nat) (topic : Str) : Prop where
  valid : (!(getObj s i).inline && !isValidFilter topic true) = false
  quota : ((getObj s i).recvQuota == 0) = false
  acl : (!(getObj s i).inline && !aclOk s (getObj s i).id topic true) = false
  fresh : pubDup (getObj s i) id = false

/-- the alias table after `TopicAliases.Inbound.Set` -/
def aliasBound (tamax : Nat) (aliasIn : List (Nat × Str)) (topic : Str) (alias : Option Nat) : List (Nat × Str) :=
  match alias with
  | some a =>
    if a > 0 then
      if tamax == 0 then aliasIn
      else match assocGet aliasIn a with
        | some _ => if topic.isEmpty then aliasIn else assocSet aliasIn a topic
        | none => assocSet aliasIn a topic
    else aliasIn
  | none => aliasIn

/-- the topic after the inbound alias is resolved (`TopicAliases.Inbound.Set`) -/
def R07.aliasTopic (aliasIn : List (Nat × Str)) (tamax : Nat) (topic : Str) (alias : Option Nat) : Str :=
  match alias with
  | some a =>
    if a > 0 then
      if tamax == 0 then topic
      else match assocGet aliasIn a with
        | some existing => if topic.isEmpty then existing else topic
        | none => topic
    else topic
  | none => topic

def R07.pubTopic (s : Server) (i : Nat) (topic : Str) (alias : Option Nat) : Str :=
  R07.aliasTopic (getObj s i).aliasIn s.caps.topicAliasMaximum topic alias

/-- the message `processPublish` builds from an inbound PUBLISH of client object `i` (no topic alias) -/
def inboundMsg (s : Server) (i : Nat) (qos : Nat) (dup retain : Bool) (id : Nat) (topic payload : Str)
    (msgExpiry : Nat) : Msg :=
  { type := 3, id := id, qos := qos, dup := dup, retain := retain, topic := topic, payload := payload,
    origin := (getObj s i).id, created := NOW,
    expiry := if minimumNZ s.caps.maxMessageExpiry msgExpiry > 0 then NOW + minimumNZ s.caps.maxMessageExpiry msgExpiry else 0,
    ver := (getObj s i).ver, msgExpiry := msgExpiry }

/-- the PUBLISH is taken in: a record under the packet's OWN identifier is dropped (one in-flight map serves both
    directions) and the publisher's inbound alias table becomes `aliasIn` -/
def pubTaken (s : Server) (i id : Nat) (aliasIn : List (Nat × Str)) : Server :=
  if !(getObj s i).inline && (flGet (getObj s i) id).isSome then
    { setObj s i { (flDelete (getObj s i) id).1 with aliasIn := aliasIn } with
      info := { s.info with inflight := s.info.inflight - 1 } }
  else setObj s i { getObj s i with aliasIn := aliasIn }

/-! ### the message is shaped, retained, acknowledged, fanned out -/

/-- QoS clamped to the server's maximum, `ignore` set if the `OnPublish` hook says so -/
def pubShaped (s : Server) (pk : Msg) : Msg :=
  { pk with qos := if pk.qos > s.caps.maximumQos then s.caps.maximumQos else pk.qos,
            ignore := if assocGet s.pubHook pk.topic == some "ignore" then true else pk.ignore }

/-- the state in which an accepted publish is routed: the retained store updated when the message has the retain flag -/
def retainedState (s : Server) (pk : Msg) : Server := if pk.retain then retainMsg s pk else s

/-- the acknowledgement record filed for a PUBLISH of QoS `q` > 0 -/
def pubAck (s : Server) (q id : Nat) : Msg :=
  { type := if q == 2 then 5 else 4, id := id, reasonCode := if q == 2 then 0 else q, created := NOW,
    expiry := NOW + s.caps.maxMessageExpiry }

/-- receive quota taken and the acknowledgement record filed -/
def pubAcked (s : Server) (i : Nat) (ack : Msg) : Server :=
  { setObj s i (flSet (decRecv (getObj s i)) ack).1 with
    info := { s.info with
      inflight := if (flSet (decRecv (getObj s i)) ack).2 then s.info.inflight + 1 else s.info.inflight } }

/-- the record under `id` dropped from object `i` (the in-flight counter follows if there was one), the object then
    rewritten by the quota operation `q` -/
def recordGone (s : Server) (i id : Nat) (q : Client → Client) : Server :=
  { setObj s i (q (flDelete (getObj s i) id).1) with
    info := { s.info with
      inflight := if (flDelete (getObj s i) id).2 then s.info.inflight - 1 else s.info.inflight } }

/-- the model's own words for `recordGone` -/
theorem recordGone_eq (s : Server) (i id : Nat) (q : Client → Client) {s' : Server}
    (h : s' = setObj s i (q (flDelete (getObj s i) id).1)) :
    (if (flDelete (getObj s i) id).2 then { s' with info := { s'.info with inflight := s'.info.inflight - 1 } } else s')
      = recordGone s i id q := by
  rw [h, ite_inflight]
  rfl

theorem recordGone_of_some (s : Server) (i id : Nat) (q : Client → Client) (h : (flGet (getObj s i) id).isSome = true) :
    recordGone s i id q =
      { setObj s i (q (flDelete (getObj s i) id).1) with info := { s.info with inflight := s.info.inflight - 1 } } := by
  unfold recordGone
  rw [show (flDelete (getObj s i) id).2 = true from h, if_pos rfl]

/-- `processPublish` from the state `s2` in which the packet `pk` (alias resolved) has been taken in -/
def pubGo (s2 : Server) (i id : Nat) (pk : Msg) : HRes :=
  if !(getObj s2 i).inline && pk.topic.isEmpty then discRes s2 i 0x82
  else if assocGet s2.pubHook pk.topic == some "reject" then (s2, [], none)
  else if assocGet s2.pubHook pk.topic == some "err" && (getObj s2 i).ver == 5 && (pubShaped s2 pk).qos > 0 then
    ackRes s2 i (if (pubShaped s2 pk).qos == 2 then 5 else 4) id 0x87
  else if (pubShaped s2 pk).qos == 0 || (getObj s2 i).inline then
    fanRes (retainedState s2 (pubShaped s2 pk)) (pubShaped s2 pk) []
  else if dead (getObj (pubAcked (retainedState s2 (pubShaped s2 pk)) i (pubAck s2 (pubShaped s2 pk).qos id)) i) then
    (pubAcked (retainedState s2 (pubShaped s2 pk)) i (pubAck s2 (pubShaped s2 pk).qos id), [], some 0)
  else
    fanRes
      (if (pubShaped s2 pk).qos == 1 then
        recordGone (pubAcked (retainedState s2 (pubShaped s2 pk)) i (pubAck s2 (pubShaped s2 pk).qos id)) i id incRecv
       else pubAcked (retainedState s2 (pubShaped s2 pk)) i (pubAck s2 (pubShaped s2 pk).qos id))
      (pubShaped s2 pk)
      (writeMsg (pubAcked (retainedState s2 (pubShaped s2 pk)) i (pubAck s2 (pubShaped s2 pk).qos id)) i
        (pubAck s2 (pubShaped s2 pk).qos id))

/-- `pk'` is the shaped message, `s6` the state with the acknowledgement filed -/
theorem pubGo_cases {Q : HRes → Prop} (s2 : Server) (i id : Nat) (pk : Msg)
    (unbound : (!(getObj s2 i).inline && pk.topic.isEmpty) = true → Q (discRes s2 i 0x82))
    (rejected : (!(getObj s2 i).inline && pk.topic.isEmpty) = false →
      (assocGet s2.pubHook pk.topic == some "reject") = true → Q (s2, [], none))
    (hookErr : ∀ pk', pk' = pubShaped s2 pk → (!(getObj s2 i).inline && pk.topic.isEmpty) = false →
      (assocGet s2.pubHook pk.topic == some "reject") = false →
      (assocGet s2.pubHook pk.topic == some "err" && (getObj s2 i).ver == 5 && decide (pk'.qos > 0)) = true →
      Q (ackRes s2 i (if pk'.qos == 2 then 5 else 4) id 0x87))
    (fanout : ∀ pk', pk' = pubShaped s2 pk → (!(getObj s2 i).inline && pk.topic.isEmpty) = false →
      (assocGet s2.pubHook pk.topic == some "reject") = false →
      (assocGet s2.pubHook pk.topic == some "err" && (getObj s2 i).ver == 5 && decide (pk'.qos > 0)) = false →
      (pk'.qos == 0 || (getObj s2 i).inline) = true → Q (fanRes (retainedState s2 pk') pk' []))
    (ackLost : ∀ pk' s6, pk' = pubShaped s2 pk → s6 = pubAcked (retainedState s2 pk') i (pubAck s2 pk'.qos id) →
      (!(getObj s2 i).inline && pk.topic.isEmpty) = false →
      (assocGet s2.pubHook pk.topic == some "reject") = false →
      (assocGet s2.pubHook pk.topic == some "err" && (getObj s2 i).ver == 5 && decide (pk'.qos > 0)) = false →
      (pk'.qos == 0 || (getObj s2 i).inline) = false → dead (getObj s6 i) = true → Q (s6, [], some 0))
    (acked : ∀ pk' s6, pk' = pubShaped s2 pk → s6 = pubAcked (retainedState s2 pk') i (pubAck s2 pk'.qos id) →
      (!(getObj s2 i).inline && pk.topic.isEmpty) = false →
      (assocGet s2.pubHook pk.topic == some "reject") = false →
      (assocGet s2.pubHook pk.topic == some "err" && (getObj s2 i).ver == 5 && decide (pk'.qos > 0)) = false →
      (pk'.qos == 0 || (getObj s2 i).inline) = false → dead (getObj s6 i) = false →
      Q (fanRes (if pk'.qos == 1 then recordGone s6 i id incRecv else s6) pk' (writeMsg s6 i (pubAck s2 pk'.qos id)))) :
    Q (pubGo s2 i id pk) := by
  unfold pubGo
  cases h1 : !(getObj s2 i).inline && pk.topic.isEmpty
  · rw [if_neg Bool.false_ne_true]
    cases h2 : assocGet s2.pubHook pk.topic == some "reject"
    · rw [if_neg Bool.false_ne_true]
      cases h3 : (assocGet s2.pubHook pk.topic == some "err" && (getObj s2 i).ver == 5 &&
          decide ((pubShaped s2 pk).qos > 0))
      · rw [if_neg Bool.false_ne_true]
        cases h4 : ((pubShaped s2 pk).qos == 0 || (getObj s2 i).inline)
        · rw [if_neg Bool.false_ne_true]
          cases h5 : dead (getObj (pubAcked (retainedState s2 (pubShaped s2 pk)) i
              (pubAck s2 (pubShaped s2 pk).qos id)) i)
          · rw [if_neg Bool.false_ne_true]; exact acked _ _ rfl rfl h1 h2 h3 h4 h5
          · rw [if_pos rfl]; exact ackLost _ _ rfl rfl h1 h2 h3 h4 h5
        · rw [if_pos rfl]; exact fanout _ rfl h1 h2 h3 h4
      · rw [if_pos rfl]; exact hookErr _ rfl h1 h2 h3
    · rw [if_pos rfl]; exact rejected h1 h2
  · rw [if_pos rfl]; exact unbound h1

/-! ### the model's text equals the cut -/

theorem pubShaped_eq (s : Server) (pk : Msg) :
    (let pk3 := if pk.qos > s.caps.maximumQos then { pk with qos := s.caps.maximumQos } else pk
     if assocGet s.pubHook pk3.topic == some "ignore" then { pk3 with ignore := true } else pk3) = pubShaped s pk := by
  unfold pubShaped
  by_cases h1 : pk.qos > s.caps.maximumQos <;> by_cases h2 : (assocGet s.pubHook pk.topic == some "ignore") = true <;>
    simp only [h1, h2, if_true, if_false, Bool.false_eq_true]

theorem pubAcked_eq (s : Server) (i : Nat) (ack : Msg) {s4 s5 : Server} (h4 : s4 = modObj s i decRecv)
    (h5 : s5 = setObj s4 i (flSet (getObj s4 i) ack).1) :
    (if (flSet (getObj s4 i) ack).2 then { s5 with info := { s5.info with inflight := s5.info.inflight + 1 } } else s5)
      = pubAcked s i ack := by
  have e : getObj s4 i = decRecv (getObj s i) := h4 ▸ getObj_modObj_self s i decRecv rfl
  have e5 : s5 = setObj s i (flSet (decRecv (getObj s i)) ack).1 := by
    rw [h5, e, h4]; exact setObj_setObj s i _ _
  rw [e, e5, ite_inflight]
  rfl

theorem retainMsg_caps (s : Server) (pk : Msg) : (retainMsg s pk).caps = s.caps := by
  unfold retainMsg; split <;> rfl

/-- `Inflight.Delete` of the record under the client's packet id, in the model's own words -/
private def ppDel (s : Server) (i : Nat) (c : Client) (id : Nat) : Server × Client :=
  if !c.inline && (flGet c id).isSome then
    let c' := (flDelete c id).1
    ({ setObj s i c' with info := { s.info with inflight := s.info.inflight - 1 } }, c')
  else (s, c)

/-- the inbound topic alias, in the model's own words -/
private def ppAlias (s : Server) (c : Client) (pk : Msg) (topic : Str) (alias : Option Nat) : Client × Msg :=
  match alias with
  | some a =>
    if a > 0 then
      if s.caps.topicAliasMaximum == 0 then (c, pk)
      else match assocGet c.aliasIn a with
        | some existing => if topic.isEmpty then (c, { pk with topic := existing })
                           else ({ c with aliasIn := assocSet c.aliasIn a topic }, pk)
        | none => ({ c with aliasIn := assocSet c.aliasIn a topic }, pk)
    else (c, pk)
  | none => (c, pk)

private theorem ppAlias_eq (s : Server) (c : Client) (pk : Msg) (alias : Option Nat) :
    ppAlias s c pk pk.topic alias =
      ({ c with aliasIn := aliasBound s.caps.topicAliasMaximum c.aliasIn pk.topic alias },
       { pk with topic := R07.aliasTopic c.aliasIn s.caps.topicAliasMaximum pk.topic alias }) := by
  unfold ppAlias aliasBound R07.aliasTopic
  cases alias with
  | none => rfl
  | some a =>
    dsimp only
    by_cases ha : a > 0
    · rw [if_pos ha, if_pos ha, if_pos ha]
      by_cases hm : (s.caps.topicAliasMaximum == 0) = true
      · rw [if_pos hm, if_pos hm, if_pos hm]
      · rw [if_neg hm, if_neg hm, if_neg hm]
        cases assocGet c.aliasIn a with
        | none => rfl
        | some ex =>
          dsimp only
          by_cases he : pk.topic.isEmpty = true
          · rw [if_pos he, if_pos he, if_pos he]
          · rw [if_neg he, if_neg he, if_neg he]
    · rw [if_neg ha, if_neg ha, if_neg ha]

private theorem ppDel_spec (s : Server) (i id : Nat) (A : List (Nat × Str)) :
    setObj (ppDel s i (getObj s i) id).1 i { (ppDel s i (getObj s i) id).2 with aliasIn := A } = pubTaken s i id A ∧
    (ppDel s i (getObj s i) id).1.caps = s.caps ∧ (ppDel s i (getObj s i) id).2.aliasIn = (getObj s i).aliasIn ∧
    (ppDel s i (getObj s i) id).2.inline = (getObj (ppDel s i (getObj s i) id).1 i).inline ∧
    (ppDel s i (getObj s i) id).2.ver = (getObj (ppDel s i (getObj s i) id).1 i).ver := by
  unfold ppDel pubTaken
  by_cases h : (!(getObj s i).inline && (flGet (getObj s i) id).isSome) = true
  · rw [if_pos h, if_pos h]
    refine ⟨?_, rfl, rfl, ?_, ?_⟩
    · show ({ setObj (setObj s i _) i _ with info := _ } : Server) = _
      rw [setObj_setObj]
    · exact (getObj_setObj_proj (·.inline) s i (flDelete (getObj s i) id).1 rfl).symm
    · exact (getObj_setObj_proj (·.ver) s i (flDelete (getObj s i) id).1 rfl).symm
  · rw [if_neg h, if_neg h]
    exact ⟨rfl, rfl, rfl, rfl, rfl⟩

theorem processPublish_cases {Q : HRes → Prop} (s : Server) (i qos : Nat) (dup retain : Bool) (id : Nat)
    (topic payload : Str) (msgExpiry : Nat) (alias : Option Nat)
    (invalid : (!(getObj s i).inline && !isValidFilter topic true) = true → Q (pubRefuse s i qos id 0x90))
    (noQuota : (!(getObj s i).inline && !isValidFilter topic true) = false →
      ((getObj s i).recvQuota == 0) = true → Q (discRes s i 0x93))
    (denied : (!(getObj s i).inline && !isValidFilter topic true) = false → ((getObj s i).recvQuota == 0) = false →
      (!(getObj s i).inline && !aclOk s (getObj s i).id topic true) = true → Q (pubRefuse s i qos id 0x87))
    (repeated : (!(getObj s i).inline && !isValidFilter topic true) = false → ((getObj s i).recvQuota == 0) = false →
      (!(getObj s i).inline && !aclOk s (getObj s i).id topic true) = false → pubDup (getObj s i) id = true →
      Q (ackRes s i 5 id 0x91))
    (taken : PubPassed s i id topic →
      Q (pubGo (pubTaken s i id (aliasBound s.caps.topicAliasMaximum (getObj s i).aliasIn topic alias)) i id
        { inboundMsg s i qos dup retain id topic payload msgExpiry with topic := R07.pubTopic s i topic alias })) :
    Q (processPublish s i qos dup retain id topic payload msgExpiry alias) := by
  unfold processPublish
  extract_lets +onlyGivenNames c
  cases h1 : !(getObj s i).inline && !isValidFilter topic true
  · rw [if_neg Bool.false_ne_true]
    cases h2 : (getObj s i).recvQuota == 0
    · rw [if_neg Bool.false_ne_true]
      cases h3 : !(getObj s i).inline && !aclOk s (getObj s i).id topic true
      · rw [if_neg Bool.false_ne_true]
        extract_lets +onlyGivenNames e pk pre
        cases h4 : pubDup (getObj s i) id
        · have hpre : pre = none := by
            show (if c.inline = true then none else _) = none
            unfold pubDup at h4
            by_cases hin : c.inline = true
            · rw [if_pos hin]
            · rw [if_neg hin]
              rw [show (getObj s i).inline = false from Bool.eq_false_iff.mpr hin, Bool.not_false, Bool.true_and] at h4
              cases hg : flGet c id with
              | none => rfl
              | some m =>
                rw [show flGet (getObj s i) id = some m from hg] at h4
                dsimp only at h4 ⊢
                rw [if_neg (h4 ▸ Bool.false_ne_true)]
          rw [hpre]
          split
          · rename_i hn
            cases hn
          split
          rename_i s1 c1 hD
          split
          rename_i c2 pk2 hA
          -- the two pairs are `ppDel` and `ppAlias`: the record dropped, the alias resolved
          obtain ⟨hT, hcaps, hal, hin, hver⟩ := ppDel_spec s i id
            (aliasBound s.caps.topicAliasMaximum (getObj s i).aliasIn topic alias)
          rw [show ppDel s i (getObj s i) id = (s1, c1) from hD] at hT hcaps hal hin hver
          dsimp only at hT hcaps hal hin hver
          have hA' : ppAlias s1 c1 pk pk.topic alias = (c2, pk2) := hA
          rw [ppAlias_eq, hcaps, hal] at hA'
          obtain ⟨hc2, hpk2⟩ := Prod.mk.inj hA'
          have hgo : Q (pubGo (setObj s1 i
              { c1 with aliasIn := aliasBound s.caps.topicAliasMaximum (getObj s i).aliasIn pk.topic alias }) i id
              { pk with topic := R07.aliasTopic (getObj s i).aliasIn s.caps.topicAliasMaximum pk.topic alias }) :=
            hT ▸ taken ⟨h1, h2, h3, h4⟩
          rw [hc2, hpk2] at hgo
          have hin2 : c2.inline = (getObj s1 i).inline := hc2 ▸ hin
          have hver2 : c2.ver = (getObj s1 i).ver := hc2 ▸ hver
          clear hc2 hpk2 hA' hA hD hT hcaps hal hin hver hpre
          -- what follows the two pairs is `pubGo`
          refine cast (congrArg Q (Eq.symm ?_)) hgo
          clear hgo
          have e1 : (getObj (setObj s1 i c2) i).inline = c2.inline := getObj_setObj_proj (·.inline) s1 i c2 hin2
          have e2 : (getObj (setObj s1 i c2) i).ver = c2.ver := getObj_setObj_proj (·.ver) s1 i c2 hver2
          unfold pubGo
          rw [e1, e2]
          extract_lets s2 pk3 mode pk4 s3 s4 ackT ackRC ack
          have hpk4 : pk4 = pubShaped s2 pk2 := pubShaped_eq s2 pk2
          have hq3 : pk3.qos = (pubShaped s2 pk2).qos := by rw [← hpk4]; show _ = (if _ then _ else pk3).qos; split <;> rfl
          have ht3 : pk3.topic = pk2.topic := by show (if _ then _ else pk2).topic = _; split <;> rfl
          have hmode : mode = assocGet s2.pubHook pk2.topic := by show assocGet s2.pubHook pk3.topic = _; rw [ht3]
          have hs3 : s3 = retainedState s2 (pubShaped s2 pk2) := by rw [← hpk4]; rfl
          have hack : ack = pubAck s2 (pubShaped s2 pk2).qos id := by
            rw [← hpk4]
            show ({ type := ackT, id := id, reasonCode := ackRC, created := NOW, expiry := NOW + s4.caps.maxMessageExpiry } : Msg) = _
            have : s4.caps = s2.caps := by
              show s3.caps = _
              show (if pk4.retain = true then retainMsg s2 pk4 else s2).caps = _
              split
              · exact retainMsg_caps s2 pk4
              · rfl
            rw [this]; rfl
          rw [hmode, hq3]
          by_cases h1 : (!c2.inline && pk2.topic.isEmpty) = true
          · rw [if_pos h1, if_pos h1]; rfl
          · rw [if_neg h1, if_neg h1]
            by_cases h2 : (assocGet s2.pubHook pk2.topic == some "reject") = true
            · rw [if_pos h2, if_pos h2]
            · rw [if_neg h2, if_neg h2]
              by_cases h3 : (assocGet s2.pubHook pk2.topic == some "err" && c2.ver == 5 && decide ((pubShaped s2 pk2).qos > 0)) = true
              · rw [if_pos h3, if_pos h3]
              · rw [if_neg h3, if_neg h3, hpk4]
                by_cases h4 : ((pubShaped s2 pk2).qos == 0 || c2.inline) = true
                · rw [if_pos h4, if_pos h4, hs3]; rfl
                · rw [if_neg h4, if_neg h4]
                  generalize hfr : flSet (getObj s4 i) ack = fr
                  obtain ⟨c', isNew⟩ := fr
                  have h6 := pubAcked_eq s3 i ack (s4 := s4) (s5 := setObj s4 i c') rfl (by rw [hfr])
                  rw [hfr, hs3, hack] at h6
                  dsimp only at h6 ⊢
                  rw [h6]
                  generalize pubAcked (retainedState s2 (pubShaped s2 pk2)) i (pubAck s2 (pubShaped s2 pk2).qos id) = s6
                  by_cases h5 : dead (getObj s6 i) = true
                  · rw [if_pos h5, if_pos h5]
                  · rw [if_neg h5, if_neg h5]
                    generalize hfd : flDelete (getObj s6 i) id = fd
                    obtain ⟨c'', ok⟩ := fd
                    have h7 := recordGone_eq s6 i id incRecv (s' := setObj s6 i (incRecv c'')) (by rw [hfd])
                    rw [hfd] at h7
                    dsimp only at h7 ⊢
                    rw [h7, hack]
                    rfl
        · have hpre : pre = some (ackRes s i 5 id 0x91) := by
            show (if c.inline = true then none else _) = _
            unfold pubDup at h4
            by_cases hin : c.inline = true
            · rw [show (getObj s i).inline = true from hin] at h4; cases h4
            · rw [if_neg hin]
              rw [show (getObj s i).inline = false from Bool.eq_false_iff.mpr hin, Bool.not_false, Bool.true_and] at h4
              cases hg : flGet c id with
              | none => rw [show flGet (getObj s i) id = none from hg] at h4; cases h4
              | some m =>
                rw [show flGet (getObj s i) id = some m from hg] at h4
                dsimp only at h4 ⊢
                rw [if_pos h4]
          rw [hpre]
          exact repeated h1 h2 h3 h4
      · rw [if_pos rfl]; exact denied h1 h2 h3
    · rw [if_pos rfl]; exact noQuota h1 h2
  · rw [if_pos rfl]; exact invalid h1

theorem getObj_pubTaken (s : Server) (i id : Nat) (A : List (Nat × Str)) (hi : i < s.objs.length) :
    getObj (pubTaken s i id A) i =
      { (if !(getObj s i).inline && (flGet (getObj s i) id).isSome then (flDelete (getObj s i) id).1 else getObj s i)
        with aliasIn := A } := by
  unfold pubTaken
  split
  · exact getObj_setObj_eq s i _ hi
  · exact getObj_setObj_eq s i _ hi

theorem retainedState_objs (s : Server) (pk : Msg) : (retainedState s pk).objs = s.objs := by
  unfold retainedState retainMsg
  split
  · split <;> rfl
  · rfl

theorem getObj_retainedState (s : Server) (pk : Msg) (k : Nat) : getObj (retainedState s pk) k = getObj s k :=
  getObj_of_objs_eq (retainedState_objs s pk) k

theorem getObj_pubAcked (s : Server) (i : Nat) (ack : Msg) (hi : i < s.objs.length) :
    getObj (pubAcked s i ack) i = (flSet (decRecv (getObj s i)) ack).1 :=
  getObj_setObj_eq s i _ hi

theorem pubAck_ne_publish (s : Server) (q id : Nat) : (pubAck s q id).type ≠ 3 := by
  show (if (q == 2) = true then 5 else 4) ≠ 3
  split <;> decide

end Mochi.Broker
