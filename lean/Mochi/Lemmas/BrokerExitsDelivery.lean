import Mochi.Lemmas.BrokerExitsPublish
/-!
# The exits of the delivery, of SUBSCRIBE, of PUBREC and PUBREL, of the will and of the session take-over

As for `processPublish` (`BrokerExitsPublish`): the text of `publishToClientCore`, `processSubscribe`, `processPubrec`,
`processPubrel`, `sendLWT`, `admitA` and `publishValidate` is walked once, here.  The delivery writes the subscriber's
object ONCE, whatever it does (`coreClient`, `coreStored`, `coreDeferred`); the two folds of `processSubscribe` get an
induction rule whose only change of state is `subAccepted`; the others end in a handful of exits, each a closed term
over a stage definition, with the tests that lead to it.  `publishToClient` is the delivery behind two gates, named
once (`Q1.passes`, `publishToClient_passes`).

Where the goal still holds a whole handler body a conditional is taken apart by `iteInduction` with the motive given,
not by `split`, which simplifies the whole goal again at every test.
-/
namespace Mochi.Broker
open Mochi.Topics

/-! ### a new packet identifier -/

theorem nextPacketIDLoop_spec (c : Client) (maxID started : Nat) (fuel i : Nat) (ov : Bool) (r : Nat)
    (h : nextPacketIDLoop c maxID started fuel i ov = some r) : 0 < r ∧ r ≤ maxID ∧ flGet c r = none := by
  induction fuel generalizing i ov with
  | zero => cases h
  | succ fuel ih =>
    unfold nextPacketIDLoop at h
    by_cases h1 : (ov && i == started) = true
    · rw [if_pos h1] at h; cases h
    rw [if_neg h1] at h
    by_cases h2 : i ≥ maxID
    · rw [if_pos h2] at h; exact ih _ _ h
    rw [if_neg h2] at h
    by_cases h3 : (flGet c (i + 1)).isNone = true
    · cases (if_pos h3).symm.trans h
      exact ⟨Nat.succ_pos i, Nat.lt_of_not_le h2, Option.isNone_iff_eq_none.mp h3⟩
    · exact ih _ _ ((if_neg h3).symm.trans h)

theorem nextPacketID_some {c : Client} {maxID pid : Nat} (h : nextPacketID c maxID = some pid) :
    0 < pid ∧ pid ≤ maxID ∧ flGet c pid = none :=
  nextPacketIDLoop_spec c maxID c.packetID _ _ _ pid h

theorem flSet_new {c : Client} {m : Msg} (h : flGet c m.id = none) : (flSet c m).2 = true := by
  unfold flSet
  rw [h]
  rfl

theorem flSet_maxSend (c : Client) (m : Msg) : (flSet c m).1.maxSend = c.maxSend := by
  unfold flSet; split <;> rfl

theorem flSet_isOpen (c : Client) (m : Msg) : (flSet c m).1.isOpen = c.isOpen := by
  unfold flSet; split <;> rfl

theorem decSend_maxSend (c : Client) : (decSend c).maxSend = c.maxSend := by
  unfold decSend; split <;> rfl

theorem decSend_isOpen (c : Client) : (decSend c).isOpen = c.isOpen := by
  unfold decSend; split <;> rfl

/-! ### `publishToClientCore` -/

/-- the subscriber after `OutboundTopicAliases.Set` (only a client with a Topic Alias Maximum has a table) -/
def coreClient (c : Client) (topic : Str) : Client := if c.tam > 0 then (aliasOutSet c topic).1 else c

/-- the outgoing copy: shaped for the subscription, and carrying the alias (the topic blanked once the alias is known
    to the client) if one is assigned -/
def coreOut (caps : Caps) (c : Client) (sub : Sub) (fwdRetained : Bool) (pk : Msg) : Msg :=
  if c.tam > 0 ∧ (aliasOutSet c pk.topic).2.1 > 0 then
    { shapeOut caps c.ver sub fwdRetained pk with
      alias := (aliasOutSet c pk.topic).2.1,
      topic := if (aliasOutSet c pk.topic).2.2 then [] else (shapeOut caps c.ver sub fwdRetained pk).topic }
  else shapeOut caps c.ver sub fwdRetained pk

theorem aliasOutSet_eq (c : Client) (topic : Str) :
    ∃ ao cur, (aliasOutSet c topic).1 = { c with aliasOut := ao, aliasCursor := cur } := by
  unfold aliasOutSet
  refine iteInduction (motive := fun r : Client × Nat × Bool => ∃ ao cur, r.1 = { c with aliasOut := ao, aliasCursor := cur })
    (fun _ => ⟨_, _, rfl⟩) fun _ => ?_
  cases assocGet c.aliasOut topic with
  | some a => exact ⟨_, _, rfl⟩
  | none =>
    exact iteInduction (motive := fun r : Client × Nat × Bool => ∃ ao cur, r.1 = { c with aliasOut := ao, aliasCursor := cur })
      (fun _ => ⟨_, _, rfl⟩) fun _ => ⟨_, _, rfl⟩

theorem coreClient_eq (c : Client) (topic : Str) :
    ∃ ao cur, coreClient c topic = { c with aliasOut := ao, aliasCursor := cur } := by
  unfold coreClient
  exact iteInduction (motive := fun r : Client => ∃ ao cur, r = { c with aliasOut := ao, aliasCursor := cur })
    (fun _ => aliasOutSet_eq c topic) fun _ => ⟨_, _, rfl⟩

theorem coreOut_type (caps : Caps) (c : Client) (sub : Sub) (f : Bool) (pk : Msg) :
    (coreOut caps c sub f pk).type = pk.type := by
  unfold coreOut; split <;> rfl

theorem coreOut_expiry (caps : Caps) (c : Client) (sub : Sub) (f : Bool) (pk : Msg) :
    (coreOut caps c sub f pk).expiry = pk.expiry := by
  unfold coreOut; split <;> rfl

theorem coreOut_qos (caps : Caps) (c : Client) (sub : Sub) (f : Bool) (pk : Msg) :
    (coreOut caps c sub f pk).qos = shapeQos caps sub pk.qos := by
  unfold coreOut; split <;> rfl

theorem coreOut_id (caps : Caps) (c : Client) (sub : Sub) (f : Bool) (pk : Msg) : (coreOut caps c sub f pk).id = 0 := by
  unfold coreOut; split <;> rfl

theorem coreOut_topic (caps : Caps) (c : Client) (sub : Sub) (f : Bool) (pk : Msg) :
    (coreOut caps c sub f pk).topic = pk.topic ∨ (coreOut caps c sub f pk).topic = [] := by
  unfold coreOut
  split
  · show (if _ then [] else pk.topic) = _ ∨ (if _ then [] else pk.topic) = _
    split
    · exact Or.inr rfl
    · exact Or.inl rfl
  · exact Or.inl rfl

/-- the copy is dropped (in-flight window full, packet identifiers exhausted) -/
def coreDropped (s : Server) (i : Nat) (c : Client) : Server :=
  { setObj s i c with info := { s.info with inflightDropped := s.info.inflightDropped + 1 } }

/-- the copy `m` is filed (its identifier is fresh) and send quota taken -/
def coreStored (s : Server) (i : Nat) (c : Client) (m : Msg) : Server :=
  { setObj s i (decSend (flSet c m).1) with info := { s.info with inflight := s.info.inflight + 1 } }

/-- the copy `m` is filed, send quota taken and, none being left, the record marked as deferred instead of written -/
def coreDeferred (s : Server) (i : Nat) (c : Client) (m : Msg) : Server :=
  { setObj s i (flSet (decSend (flSet c m).1) { m with expiry := -1 }).1 with
    info := { s.info with inflight := s.info.inflight + 1 } }

theorem setObj_info_setObj (s : Server) (i : Nat) (a b : Client) (n : Info) :
    setObj { setObj s i a with info := n } i b = { setObj s i b with info := n } := by
  simp only [setObj, List.set_set]

theorem ite_pair {α β} (p : Prop) [Decidable p] (a : α) (b c : β) :
    (if p then (a, b) else (a, c)) = (a, if p then b else c) := by
  split <;> rfl

/-- `c1`, `out1` are the subscriber and the copy once the alias is assigned -/
theorem publishToClientCore_cases {Q : Server × List Out → Prop} (s : Server) (i : Nat) (sub : Sub) (f : Bool) (pk : Msg)
    {c1 : Client} {out1 : Msg} (hc : c1 = coreClient (getObj s i) pk.topic)
    (ho : out1 = coreOut s.caps (getObj s i) sub f pk)
    (direct : ¬ out1.qos > 0 → Q (setObj s i c1, if !c1.isOpen then [] else writeMsg (setObj s i c1) i out1))
    (full : out1.qos > 0 → c1.inflight.length ≥ s.caps.maximumInflight → Q (coreDropped s i c1, []))
    (exhausted : out1.qos > 0 → ¬ c1.inflight.length ≥ s.caps.maximumInflight →
      nextPacketID c1 s.caps.maximumPacketID = none → Q (coreDropped s i c1, [.event s!"idexh({hexStr c1.id})"]))
    (deferred : ∀ pid, out1.qos > 0 → ¬ c1.inflight.length ≥ s.caps.maximumInflight →
      nextPacketID c1 s.caps.maximumPacketID = some pid → 0 < pid → flGet c1 pid = none →
      (c1.sendQuota == 0 && decide (c1.maxSend > 0)) = true →
      Q (coreDeferred s i { c1 with packetID := pid } { out1 with id := pid }, []))
    (stored : ∀ pid, out1.qos > 0 → ¬ c1.inflight.length ≥ s.caps.maximumInflight →
      nextPacketID c1 s.caps.maximumPacketID = some pid → 0 < pid → flGet c1 pid = none →
      (c1.sendQuota == 0 && decide (c1.maxSend > 0)) = false →
      Q (coreStored s i { c1 with packetID := pid } { out1 with id := pid },
         if !c1.isOpen then []
         else writeMsg (coreStored s i { c1 with packetID := pid } { out1 with id := pid }) i { out1 with id := pid })) :
    Q (publishToClientCore s i sub f pk) := by
  unfold publishToClientCore
  extract_lets c out
  generalize hpr : (if c.tam > 0 then _ else (c, out) : Client × Msg) = pr
  have e : pr = (c1, out1) := by
    rw [← hpr, hc, ho]
    unfold coreClient coreOut
    by_cases h : c.tam > 0
    · rw [if_pos h, if_pos h]
      generalize aliasOutSet c pk.topic = t
      obtain ⟨c', a, ex⟩ := t
      by_cases ha : a > 0
      · rw [if_pos (And.intro h ha)]; exact if_pos ha
      · rw [if_neg (fun x => ha x.2)]; exact if_neg ha
    · rw [if_neg h, if_neg h, if_neg (fun x => h x.1)]
  subst e
  refine iteInduction (motive := Q) (fun hq => ?_) (fun hq => by rw [ite_pair]; exact direct hq)
  refine iteInduction (motive := Q) (fun hfull => full hq hfull) (fun hfull => ?_)
  split
  · rename_i hp
    exact exhausted hq hfull hp
  · rename_i pid hp
    obtain ⟨hpos, _, hfree⟩ := nextPacketID_some hp
    extract_lets c2 out2 sentQuota
    have hnew : (flSet c2 out2).2 = true := flSet_new hfree
    split
    rename_i c3 isNew hfl
    rw [hfl] at hnew
    subst hnew
    extract_lets c4 s2 src s3
    have hc4 : c4 = decSend (flSet c2 out2).1 := (if_pos rfl).trans (by rw [hfl])
    have hs3 : s3 = coreStored s i c2 out2 := by
      show (if true = true then ({ setObj (setObj s i c1) i c4 with info := _ } : Server) else s2) = _
      rw [if_pos rfl, setObj_setObj, hc4]
      rfl
    rw [hs3, hc4, decSend_maxSend, decSend_isOpen, flSet_maxSend, flSet_isOpen]
    refine iteInduction (motive := Q) (fun hd => ?_) (fun hd => ?_)
    · unfold coreStored
      rw [setObj_info_setObj]
      exact deferred pid hq hfull hp hpos hfree hd
    · rw [ite_pair]
      exact stored pid hq hfull hp hpos hfree (Bool.eq_false_iff.mpr hd)

/-! ### `publishToClient` -/

/-- the two gates of `publishToClient`: No Local and the read permission -/
def Q1.passes (s : Server) (i : Nat) (sub : Sub) (pk : Msg) : Bool :=
  !(sub.noLocal && pk.origin == (getObj s i).id) && aclOk s (getObj s i).id pk.topic false

theorem publishToClient_passes (s : Server) (i : Nat) (sub : Sub) (f : Bool) (pk : Msg) :
    publishToClient s i sub f pk = if Q1.passes s i sub pk = true then publishToClientCore s i sub f pk else (s, []) := by
  have e : ∀ (a b : Bool) (x y : Server × List Out),
      (if a = true then x else if (!b) = true then x else y) = if (!a && b) = true then y else x := by
    intro a b x y; cases a <;> cases b <;> rfl
  exact e _ _ _ _

/-! ### `processSubscribe` -/

/-- the MQTT 3 downgrade of a SUBACK code: every failure code becomes 0x80 -/
def R07.finCode (ver rc : Nat) : Nat := if rc > 2 && ver < 5 then 0x80 else rc

/-- one filter accepted: entered into the topic index and into the client's own list -/
def subAccepted (s : Server) (i : Nat) (cid : Str) (sub : Sub) : Server :=
  modObj { s with topics := (subscribe s.topics cid sub).1,
                  info := if (subscribe s.topics cid sub).2 then { s.info with subs := s.info.subs + 1 } else s.info }
    i (fun c => { c with subs := assocSet c.subs sub.filter sub })

/-- `I` is an invariant of the per-filter fold (state and reason codes so far),
    `J s'` one of the retained replay that starts in `s'` (state and outputs so far); a filter is refused with some code
    or accepted, then the SUBACK is lost on a dead client or written and followed by the replay. -/
theorem processSubscribe_cases {I : Server → List Nat → Prop} {J : Server → Server × List Out → Prop} {Q : HRes → Prop}
    (s : Server) (i id subId : Nat) (filters : List Sub)
    (start : I s [])
    (refused : ∀ s' rcs rc, I s' rcs → I s' (rcs ++ [R07.finCode (getObj s i).ver rc]))
    (accepted : ∀ s' rcs (sub : Sub), I s' rcs → ¬ (flGet (getObj s i) id).isSome = true →
      ¬ (!isValidFilter sub.filter false) = true → ¬ (sub.noLocal && isSharedFilter sub.filter) = true →
      ¬ (!aclOk s' (getObj s i).id sub.filter false) = true →
      I (subAccepted s' i (getObj s i).id { sub with ident := subId })
        (rcs ++ [R07.finCode (getObj s i).ver (grantedQos s'.caps sub.qos)]))
    (lost : ∀ s' rcs, I s' rcs → dead (getObj s' i) = true → Q (s', [], some 0))
    (replay : ∀ s' rcs, I s' rcs → dead (getObj s' i) = false → J s' (s', []))
    (next : ∀ s' (acc : Server × List Out) sub ex k, J s' acc →
      J s' ((publishRetainedToClient acc.1 i sub ex k).1, acc.2 ++ (publishRetainedToClient acc.1 i sub ex k).2))
    (done : ∀ s' rcs z, I s' rcs → dead (getObj s' i) = false → J s' z →
      Q (z.1, Out.wrote (getObj s' i).conn (.suback (getObj s' i).ver id rcs) :: z.2, none)) :
    Q (processSubscribe s i id subId filters) := by
  unfold processSubscribe
  extract_lets +onlyGivenNames c inUse fin r
  let P : Server × List Nat × List Bool → Prop := fun acc => I acc.1 acc.2.1
  have hr : P r := by
    refine List.foldlRecOn filters _ (motive := P) start (fun acc h sub _ => ?_)
    obtain ⟨s', rcs, exs⟩ := acc
    refine iteInduction (motive := P) (fun _ => refused s' rcs 0x91 h) fun t1 => ?_
    refine iteInduction (motive := P) (fun _ => refused s' rcs 0x8F h) fun t2 => ?_
    refine iteInduction (motive := P) (fun _ => refused s' rcs 0x82 h) fun t3 => ?_
    exact iteInduction (motive := P) (fun _ => refused s' rcs _ h) fun t4 => accepted s' rcs sub h t1 t2 t3 t4
  generalize r = r' at hr
  obtain ⟨s', rcs, exs⟩ := r'
  refine iteInduction (motive := Q) (fun hd => lost s' rcs hr hd) fun hd => ?_
  have hd' : dead (getObj s' i) = false := Bool.eq_false_iff.mpr hd
  refine done s' rcs _ hr hd' ?_
  refine List.foldlRecOn _ _ (motive := J s') (replay s' rcs hr hd') (fun acc h xk _ => ?_)
  exact iteInduction (motive := J s') (fun _ => h) fun _ => next s' acc _ _ _ h

/-! ### `processPubrec`, `processPubrel` -/

theorem dead_flSet (c : Client) (m : Msg) : dead (flSet c m).1 = dead c := by
  unfold flSet; split <;> rfl

theorem dead_decRecv (c : Client) : dead (decRecv c) = dead c := by
  unfold decRecv; split <;> rfl

/-- the PUBREL record `processPubrec` files and writes -/
def pubrelAck (s : Server) (id : Nat) : Msg :=
  { type := 6, id := id, qos := 1, reasonCode := 0, created := NOW, expiry := NOW + s.caps.maxMessageExpiry }

/-- the PUBCOMP record `processPubrel` files and writes -/
def pubcompAck (s : Server) (id : Nat) : Msg :=
  { type := 7, id := id, reasonCode := 0, created := NOW, expiry := NOW + s.caps.maxMessageExpiry }

/-- a failure code ends the exchange: the record under the identifier is dropped -/
def ackDropped (s : Server) (i id : Nat) : Server :=
  { setObj s i (flDelete (getObj s i) id).1 with info := { s.info with inflight := s.info.inflight - 1 } }

/-- the PUBCOMP is out: both quotas returned to `c`, its record released -/
def relDone (s : Server) (i : Nat) (c : Client) (id : Nat) : Server :=
  { setObj s i (flDelete (incSend (incRecv c)) id).1 with
    info := { s.info with
      inflight := if (flDelete (incSend (incRecv c)) id).2 then s.info.inflight - 1 else s.info.inflight } }

/-- `c1` is the client with receive quota taken and the PUBREL record filed -/
theorem processPubrec_cases {Q : HRes → Prop} (s : Server) (i id rc : Nat) {c1 : Client}
    (hc : c1 = (flSet (decRecv (getObj s i)) (pubrelAck s id)).1)
    (unknown : (flGet (getObj s i) id).isNone = true → Q (ackRes s i 6 id 0x92))
    (failed : ¬ (flGet (getObj s i) id).isNone = true → (decide (rc ≥ 0x80) || !reasonValid 5 rc) = true →
      Q (ackDropped s i id, [], none))
    (lost : ¬ (flGet (getObj s i) id).isNone = true → ¬ (decide (rc ≥ 0x80) || !reasonValid 5 rc) = true →
      dead (getObj s i) = true → Q (setObj s i c1, [], some 0))
    (written : ¬ (flGet (getObj s i) id).isNone = true → ¬ (decide (rc ≥ 0x80) || !reasonValid 5 rc) = true →
      dead (getObj s i) = false → Q (setObj s i c1, writeMsg (setObj s i c1) i (pubrelAck s id), none)) :
    Q (processPubrec s i id rc) := by
  unfold processPubrec
  have hd : dead c1 = dead (getObj s i) := by rw [hc, dead_flSet, dead_decRecv]
  subst hc
  refine iteInduction (motive := Q) unknown fun h1 => ?_
  refine iteInduction (motive := Q) (failed h1) fun h2 => ?_
  exact iteInduction (motive := Q) (fun h3 => lost h1 h2 (hd ▸ h3)) fun h3 => written h1 h2 (hd ▸ Bool.eq_false_iff.mpr h3)

/-- `c1` is the client with the PUBCOMP record filed -/
theorem processPubrel_cases {Q : HRes → Prop} (s : Server) (i id rc : Nat) {c1 : Client}
    (hc : c1 = (flSet (getObj s i) (pubcompAck s id)).1)
    (unknown : (flGet (getObj s i) id).isNone = true → Q (ackRes s i 7 id 0x92))
    (failed : ¬ (flGet (getObj s i) id).isNone = true → (decide (rc ≥ 0x80) || !reasonValid 6 rc) = true →
      Q (ackDropped s i id, [], none))
    (lost : ¬ (flGet (getObj s i) id).isNone = true → ¬ (decide (rc ≥ 0x80) || !reasonValid 6 rc) = true →
      dead (getObj s i) = true → Q (setObj s i c1, [], some 0))
    (done : ¬ (flGet (getObj s i) id).isNone = true → ¬ (decide (rc ≥ 0x80) || !reasonValid 6 rc) = true →
      dead (getObj s i) = false → Q (relDone s i c1 id, writeMsg (setObj s i c1) i (pubcompAck s id), none)) :
    Q (processPubrel s i id rc) := by
  unfold processPubrel
  have hd : dead c1 = dead (getObj s i) := by rw [hc, dead_flSet]
  subst hc
  refine iteInduction (motive := Q) unknown fun h1 => ?_
  refine iteInduction (motive := Q) (failed h1) fun h2 => ?_
  refine iteInduction (motive := Q) (fun h3 => lost h1 h2 (hd ▸ h3)) fun h3 => ?_
  extract_lets o c2
  generalize hfd : flDelete c2 id = fd
  obtain ⟨c3, ok⟩ := fd
  have := done h1 h2 (hd ▸ Bool.eq_false_iff.mpr h3)
  unfold relDone at this
  rw [show flDelete (incSend (incRecv (flSet (getObj s i) (pubcompAck s id)).1)) id = (c3, ok) from hfd] at this
  -- the state is written twice and the counter adjusted under a test: one write, one counter
  show Q ((if ok = true then
      { setObj (setObj s i _) i c3 with
        info := { (setObj (setObj s i _) i c3).info with inflight := (setObj (setObj s i _) i c3).info.inflight - 1 } }
    else setObj (setObj s i _) i c3), o, none)
  rw [setObj_setObj, ite_inflight]
  exact this

/-! ### `sendLWT` -/

/-- the will is out: its flag is cleared -/
def willCleared (s : Server) (i : Nat) : Server := modObj s i (fun c => { c with will := { c.will with flag := false } })

/-- the message `sendLWT` builds from the will of client object `c` -/
def willMsg (c : Client) : Msg :=
  { type := 3, retain := c.will.retain, qos := c.will.qos, topic := c.will.topic,
    payload := c.will.payload, origin := c.id, created := NOW }

/-- the event that marks the publication of the will of client id `cid` -/
def willEvent (cid : Str) : Out := .event s!"will({hexStr cid})"

/-- no will, a will with a delay interval (parked), a will published now; `pk` is the will
    as a message -/
theorem sendLWT_cases {Q : Server × List Out → Prop} (s : Server) (i : Nat)
    (noWill : (!(getObj s i).will.flag) = true → Q (s, []))
    (parked : ∀ pk : Msg, pk = willMsg (getObj s i) →
      ¬ (!(getObj s i).will.flag) = true → (getObj s i).will.delay > 0 →
      Q ({ s with willDelayed :=
            assocSet s.willDelayed (getObj s i).id { pk with expiry := NOW + (getObj s i).will.delay } }, []))
    (sent : ∀ pk : Msg, pk = willMsg (getObj s i) →
      ¬ (!(getObj s i).will.flag) = true → ¬ (getObj s i).will.delay > 0 →
      Q (willCleared (publishToSubscribers (retainedState s pk) pk).1 i,
         (publishToSubscribers (retainedState s pk) pk).2 ++ [willEvent (getObj s i).id])) :
    Q (sendLWT s i) := by
  unfold sendLWT
  refine iteInduction (motive := Q) noWill fun h1 => ?_
  extract_lets pk
  exact iteInduction (motive := Q) (parked pk rfl h1) fun h2 => sent pk rfl h1 h2

/-! ### `admitA` -/

/-- one more connected client -/
def connCounted (s : Server) : Server := { s with info := { s.info with connected := s.info.connected + 1 } }

/-- the object registered under the client id is live: its own handler has yet to leave its read loop -/
def admitLive (s : Server) (e : Nat) : Option Nat :=
  if (getObj s e).stopped || s.parkedEarly.contains e || s.pending.any (·.obj == e) then none else some e

/-- `inheritClientSession` marks the old object `e` of the client id (`existing.State.isTakenOver.Store(true)`) -/
def takenOver (s : Server) (e : Nat) : Server := modObj s e (fun x => { x with takenOver := true })

/-- `inheritClientSession`: the in-flight records of the old object `e` go to the new one, whose quotas start afresh -/
def inflInherited (s : Server) (i e : Nat) : Server :=
  if (getObj s e).inflight.length > 0 then
    { modObj s i (fun x =>
        { x with inflight := (getObj s e).inflight, recvQuota := s.caps.receiveMaximum,
                 maxRecv := s.caps.receiveMaximum,
                 sendQuota := if s.caps.receiveMaximum != 0 then x.recvMaxProp else 0,
                 maxSend := if s.caps.receiveMaximum != 0 then x.recvMaxProp else 0 }) with
      info := { s.info with inflight := s.info.inflight + (getObj s e).inflight.length } }
  else s

/-- `inheritClientSession`: the subscriptions of the old session are entered again, for the new object -/
def subsInherited (s : Server) (i : Nat) (cid : Str) (subs : List (Str × Sub)) : Server :=
  subs.foldl (fun s fs => subAccepted s i cid fs.2) s

/-- `Clients.Add` -/
def registered (s : Server) (cid : Str) (i : Nat) : Server := { s with clients := assocSet s.clients cid i }

/-- no object under the client id; one, whose session is discarded; one, whose session is
    inherited.  `s0` has the connection counted, `s1` the old object disconnected (code 0x8E). -/
theorem admitA_cases {Q : Server × List Out × Bool × Option Nat → Prop} (s : Server) (i : Nat) (k : Connect)
    {s0 : Server} (h0 : s0 = connCounted s)
    (fresh : assocGet s.clients k.id = none → Q (registered s0 k.id i, [], false, none))
    (clean : ∀ e s1, assocGet s.clients k.id = some e → s1 = (disconnectClient s0 e 0x8E).1 →
      (k.clean || ((getObj s0 e).clean && decide ((getObj s0 e).ver < 5))) = true →
      Q (registered (takenOver (clearInflights (unsubscribeClient s1 e) e) e) k.id i,
         (disconnectClient s0 e 0x8E).2, false, admitLive s0 e))
    (resumed : ∀ e s2, assocGet s.clients k.id = some e → s2 = takenOver (disconnectClient s0 e 0x8E).1 e →
      ¬ (k.clean || ((getObj s0 e).clean && decide ((getObj s0 e).ver < 5))) = true →
      Q (registered (clearInflights (unsubscribeClient
           (subsInherited (inflInherited s2 i e) i k.id (getObj s2 e).subs) e) e) k.id i,
         (disconnectClient s0 e 0x8E).2, true, admitLive s0 e)) :
    Q (admitA s i k) := by
  subst h0
  unfold admitA
  extract_lets +onlyGivenNames src s0
  cases hc : assocGet s.clients k.id with
  | none =>
    exact fresh hc
  | some e =>
    -- the test does not look at what `disconnectClient` returns: it is taken before the pair is
    show Q (match (if (k.clean || ((getObj s0 e).clean && decide ((getObj s0 e).ver < 5))) = true
        then (takenOver (clearInflights (unsubscribeClient (disconnectClient s0 e 0x8E).1 e) e) e,
              (disconnectClient s0 e 0x8E).2, false)
        else (clearInflights (unsubscribeClient (subsInherited (inflInherited
                (takenOver (disconnectClient s0 e 0x8E).1 e) i e) i k.id
                (getObj (takenOver (disconnectClient s0 e 0x8E).1 e) e).subs) e) e,
              (disconnectClient s0 e 0x8E).2, true) : Server × List Out × Bool) with
      | (s', o1, present) => (registered s' k.id i, o1, present, admitLive s0 e))
    exact iteInduction
      (motive := fun r : Server × List Out × Bool => Q (match r with
        | (s', o1, present) => (registered s' k.id i, o1, present, admitLive s0 e)))
      (fun h => clean e _ hc rfl h) (fun h => resumed e _ hc rfl h)

/-- the live object `admitA` reports as taken over: it was the registered session, not stopped, not parked -/
theorem admitA_exLive (s : Server) (i : Nat) (k : Connect) (e : Nat) (h : (admitA s i k).2.2.2 = some e) :
    assocGet s.clients k.id = some e ∧ (getObj s e).stopped = false ∧ e ∉ s.parkedEarly ∧
      ∀ p ∈ s.pending, p.obj ≠ e := by
  have live : ∀ e', assocGet s.clients k.id = some e' → admitLive (connCounted s) e' = some e →
      assocGet s.clients k.id = some e ∧ (getObj s e).stopped = false ∧ e ∉ s.parkedEarly ∧
        ∀ p ∈ s.pending, p.obj ≠ e := fun e' hce hl => by
    unfold admitLive at hl
    split at hl
    · cases hl
    · rename_i hcond
      cases hl
      simp only [Bool.or_eq_true, not_or, Bool.not_eq_true] at hcond
      obtain ⟨⟨h1, h2⟩, h3⟩ := hcond
      refine ⟨hce, h1, fun hm => ?_, fun p hp hpe => ?_⟩
      · have h2 : s.parkedEarly.contains e = false := h2
        rw [List.contains_iff_mem.mpr hm] at h2; cases h2
      · have h3 : s.pending.any (fun x => x.obj == e) = false := h3
        rw [List.any_eq_true.mpr ⟨p, hp, by simp [hpe]⟩] at h3; cases h3
  exact admitA_cases (Q := fun r => r.2.2.2 = some e → _) s i k rfl (fun _ x => by cases x)
    (fun e' _ hce _ _ => live e' hce) (fun e' _ hce _ _ => live e' hce) h

/-! ### `publishValidate` -/

/-- `PublishValidate` refuses with 0x82 or 0x94; what it lets through has passed its six tests -/
theorem publishValidate_cases {Q : Option Nat → Prop} (s : Server) (q id : Nat) (t : Str) (al : Option Nat)
    (h82 : Q (some 0x82)) (h94 : Q (some 0x94))
    (ok : ¬ (decide (q > 0) && id == 0) = true → ¬ (q == 0 && decide (id > 0)) = true →
      ¬ (t.contains plus || t.contains hash) = true → ¬ al.getD 0 > s.caps.topicAliasMaximum →
      ¬ (t.isEmpty && al.getD 0 == 0) = true → ¬ (al == some 0) = true → Q none) :
    Q (publishValidate s q id t al) := by
  unfold publishValidate
  refine iteInduction (motive := Q) (fun _ => h82) fun h1 => ?_
  refine iteInduction (motive := Q) (fun _ => h82) fun h2 => ?_
  refine iteInduction (motive := Q) (fun _ => h82) fun h3 => ?_
  refine iteInduction (motive := Q) (fun _ => h94) fun h4 => ?_
  refine iteInduction (motive := Q) (fun _ => h82) fun h5 => ?_
  exact iteInduction (motive := Q) (fun _ => h94) fun h6 => ok h1 h2 h3 h4 h5 h6

end Mochi.Broker
