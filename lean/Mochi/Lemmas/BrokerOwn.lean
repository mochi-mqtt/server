import Mochi.Lemmas.BrokerQuiet
/-!
# Handlers that change the subscriptions of ONE session: SUBSCRIBE, UNSUBSCRIBE, `unsubscribeClient`

`Own i s s'`: like `Quiet`, except that object `i` may change its `subs` and the topic index may gain or lose
entries under `i`'s client id — in step: every entry under that id after the step was there before (and is
still a key of `subs` if it was), or is a key of the new `subs`.
-/
namespace Mochi.Broker
open Mochi.Topics

/-- the filters a client object holds subscriptions for -/
def subKeys (c : Client) : List Str := c.subs.map (·.1)

/-- every stored subscription is filed under its own filter, and that filter is not a shared filter without a
    topic part (`$share`, `$share/group`: SUBSCRIBE refuses them, `Unsubscribe` leaves the index alone for them) -/
def KeyOK (c : Client) : Prop := ∀ fs ∈ c.subs, fs.2.filter = fs.1 ∧ shareBare fs.1 = false

theorem KeyOK.notBare {c : Client} (h : KeyOK c) {f : Str} (hf : f ∈ subKeys c) : shareBare f = false := by
  obtain ⟨fs, hfs, hk⟩ := List.mem_map.mp hf
  rw [← hk]; exact (h fs hfs).2

theorem not_mem_subKeys {c : Client} (h : c.subs = []) {f : Str} (hf : f ∈ subKeys c) : False := by
  unfold subKeys at hf
  rw [h] at hf
  cases hf

theorem QC.subKeys {a b : Client} (q : QC a b) : subKeys b = subKeys a := by unfold Mochi.Broker.subKeys; rw [q.subs]

theorem QC.key {a b : Client} (q : QC a b) (h : KeyOK a) : KeyOK b := by unfold KeyOK; rw [q.subs]; exact h

/-! ### association lists -/

theorem mem_keys_assocDel {α β} [DecidableEq α] (m : List (α × β)) (k k' : α)
    (h : k' ∈ m.map (·.1)) (hne : k' ≠ k) : k' ∈ (assocDel m k).map (·.1) := by
  obtain ⟨e, he, hk⟩ := List.mem_map.mp h
  exact List.mem_map.mpr ⟨e, (mem_assocDel_iff m k e).mpr ⟨he, hk ▸ hne⟩, hk⟩

theorem assocGet_isSome_of_mem_keys {α β} [DecidableEq α] (m : List (α × β)) (k : α)
    (h : k ∈ m.map (·.1)) : ∃ v, assocGet m k = some v :=
  (mem_keys_iff_assocGet m k).mp h

/-- a filter SUBSCRIBE accepts is not a shared filter without a topic part -/
theorem isValidFilter_notBare {f : Str} (h : isValidFilter f false = true) : shareBare f = false := by
  cases hb : shareBare f with
  | false => rfl
  | true =>
    exfalso
    unfold shareBare shareKey at hb
    unfold isValidFilter at h
    cases h0 : isShare (isolate (splitLevels f) 0).1 with
    | false => rw [h0] at hb; cases hb
    | true =>
      rw [h0, Bool.true_and] at hb
      cases h1 : (isolate (splitLevels f) 1).2 with
      | true => rw [h1] at hb; cases hb
      | false =>
        cases h2 : (isolate (splitLevels f) 0).2 <;> cases h3 : levelsOK (splitLevels f) <;>
          cases h4 : f.isEmpty <;> simp [h0, h1, h2, h3, h4] at h

/-! ### the relation -/

structure Own (i : Nat) (s s' : Server) : Prop where
  len : s'.objs.length = s.objs.length
  caps : s'.caps = s.caps
  connOf : s'.connOf = s.connOf
  clients : s'.clients = s.clients
  pending : s'.pending = s.pending
  parked : s'.parked = s.parked
  parkedEarly : s'.parkedEarly = s.parkedEarly
  other : ∀ k, k ≠ i → QC (getObj s k) (getObj s' k)
  id : (getObj s' i).id = (getObj s i).id
  takenOver : (getObj s' i).takenOver = (getObj s i).takenOver
  stop : (getObj s i).stopped = true → (getObj s' i).stopped = true
  os : (getObj s i).isOpen = !(getObj s i).stopped → (getObj s' i).isOpen = !(getObj s' i).stopped
  key : KeyOK (getObj s i) → KeyOK (getObj s' i)
  idx : IdxOK s.topics → IdxOK s'.topics
  /-- entries under other client ids were there before -/
  ent_other : IdxOK s.topics → ∀ c f, c ≠ (getObj s i).id → Entry s'.topics c f → Entry s.topics c f
  /-- an entry under `i`'s id was there before (and is still a key of `subs` if it was one), or is a key now
      (`KeyOK`: no key of `subs` is a shared filter without a topic part, for which `Unsubscribe` does not touch
      the index) -/
  ent_own : IdxOK s.topics → KeyOK (getObj s i) → ∀ f, Entry s'.topics (getObj s i).id f →
    (Entry s.topics (getObj s i).id f ∧ (f ∈ subKeys (getObj s i) → f ∈ subKeys (getObj s' i))) ∨
      f ∈ subKeys (getObj s' i)
  /-- the plain entries of other client ids stay -/
  hp_other : IdxOK s.topics → ∀ c f, c ≠ (getObj s i).id → HasPlain s.topics c f → HasPlain s'.topics c f
  /-- if every plain filter of `subs` had its entry, it still has -/
  hp_own : IdxOK s.topics →
    (∀ f ∈ subKeys (getObj s i), shareKey f = false → HasPlain s.topics (getObj s i).id f) →
    ∀ f ∈ subKeys (getObj s' i), shareKey f = false → HasPlain s'.topics (getObj s i).id f

theorem Quiet.own {s s' : Server} (h : Quiet s s') (i : Nat) : Own i s s' := by
  have hk := h.obj i
  refine ⟨h.len, h.caps, h.connOf, h.clients, h.pending, h.parked, h.parkedEarly, fun k _ => h.obj k, hk.id,
    hk.takenOver, hk.stop, hk.os, ?_, h.idx, ?_, ?_, ?_, ?_⟩
  · exact hk.key
  · intro _ c f _ he
    exact (Entry.congr h.plain h.shared c f).mp he
  · intro _ _ f he
    refine Or.inl ⟨(Entry.congr h.plain h.shared _ f).mp he, fun hm => ?_⟩
    exact hk.subKeys ▸ hm
  · intro _ c f _ hp
    exact hp.congr h.plain
  · intro _ hall f hf hs
    exact (hall f (hk.subKeys ▸ hf) hs).congr h.plain

theorem Own.refl (i : Nat) (s : Server) : Own i s s := (Quiet.refl s).own i

/-- `QC` without the subscriptions, of which only the shape of the keys is kept: what `Own` says of every object, the
    acting one included -/
structure QK (a b : Client) : Prop where
  id : b.id = a.id
  takenOver : b.takenOver = a.takenOver
  stop : a.stopped = true → b.stopped = true
  os : a.isOpen = !a.stopped → b.isOpen = !b.stopped
  key : KeyOK a → KeyOK b

theorem QC.qk {a b : Client} (q : QC a b) : QK a b := ⟨q.id, q.takenOver, q.stop, q.os, q.key⟩

theorem Own.qk {i : Nat} {s s' : Server} (g : Own i s s') (k : Nat) : QK (getObj s k) (getObj s' k) := by
  by_cases hk : k = i
  · subst hk; exact ⟨g.id, g.takenOver, g.stop, g.os, g.key⟩
  · exact (g.other k hk).qk

theorem Own.trans {i : Nat} {s s1 s2 : Server} (h : Own i s s1) (g : Own i s1 s2) : Own i s s2 := by
  refine ⟨g.len.trans h.len, g.caps.trans h.caps, g.connOf.trans h.connOf, g.clients.trans h.clients,
    g.pending.trans h.pending, g.parked.trans h.parked, g.parkedEarly.trans h.parkedEarly,
    fun k hk => (h.other k hk).trans (g.other k hk), g.id.trans h.id, g.takenOver.trans h.takenOver,
    fun x => g.stop (h.stop x), fun x => g.os (h.os x), fun x => g.key (h.key x), fun x => g.idx (h.idx x), ?_, ?_,
    ?_, ?_⟩
  rotate_right 2
  · intro hx c f hc hp
    exact g.hp_other (h.idx hx) c f (by rw [h.id]; exact hc) (h.hp_other hx c f hc hp)
  · intro hx hall f hf hs
    have := g.hp_own (h.idx hx) (by rw [h.id]; exact h.hp_own hx hall) f hf hs
    rw [h.id] at this; exact this
  · intro hx c f hc he
    exact h.ent_other hx c f hc (g.ent_other (h.idx hx) c f (by rw [h.id]; exact hc) he)
  · intro hx hko f he
    have he' : Entry s2.topics (getObj s1 i).id f := by rw [h.id]; exact he
    rcases g.ent_own (h.idx hx) (h.key hko) f he' with ⟨e1, k1⟩ | k2
    · rw [h.id] at e1
      rcases h.ent_own hx hko f e1 with ⟨e0, k0⟩ | k1'
      · exact Or.inl ⟨e0, fun x => k1 (k0 x)⟩
      · exact Or.inr (k1 k1')
    · exact Or.inr k2

theorem Own.quiet {i : Nat} {s s1 s2 : Server} (h : Own i s s1) (g : Quiet s1 s2) : Own i s s2 := h.trans (g.own i)

theorem Own.upd8 {i : Nat} {s0 s s' : Server} (h : Own i s0 s) (ho : s'.objs = s.objs := by rfl)
    (hcp : s'.caps = s.caps := by rfl) (hn : s'.connOf = s.connOf := by rfl) (hc : s'.clients = s.clients := by rfl)
    (hp : s'.pending = s.pending := by rfl) (hpk : s'.parked = s.parked := by rfl)
    (hpe : s'.parkedEarly = s.parkedEarly := by rfl) (ht : s'.topics.nodes = s.topics.nodes := by rfl) :
    Own i s0 s' :=
  h.quiet ((Quiet.refl s).upd8 ho hcp hn hc hp hpk hpe ht)

theorem Own.fst_mk {α} {i : Nat} {s0 x : Server} {y : α} (h : Own i s0 x) : Own i s0 (x, y).1 := h

/-! ### one SUBSCRIBE filter, one UNSUBSCRIBE filter -/

/-- object `i` rewritten in its `subs` only (`hf`), the topic index replaced: the frame part of `Own` -/
theorem Own.of_step {i : Nat} {s : Server} (t : Index) (n : Info) (f : Client → Client)
    (hf : ∀ c, f c = { c with subs := (f c).subs })
    (hself : getObj (modObj { s with topics := t, info := n } i f) i = f (getObj s i))
    (hkey : ∀ c, KeyOK c → KeyOK (f c)) (hidx : IdxOK s.topics → IdxOK t)
    (ho : IdxOK s.topics → ∀ c f', c ≠ (getObj s i).id → Entry t c f' → Entry s.topics c f')
    (hw : IdxOK s.topics → KeyOK (getObj s i) → ∀ f', Entry t (getObj s i).id f' →
      (Entry s.topics (getObj s i).id f' ∧ (f' ∈ subKeys (getObj s i) → f' ∈ subKeys (f (getObj s i)))) ∨
      f' ∈ subKeys (f (getObj s i)))
    (hpo : IdxOK s.topics → ∀ c f', c ≠ (getObj s i).id → HasPlain s.topics c f' → HasPlain t c f')
    (hpw : IdxOK s.topics →
      (∀ f' ∈ subKeys (getObj s i), shareKey f' = false → HasPlain s.topics (getObj s i).id f') →
      ∀ f' ∈ subKeys (f (getObj s i)), shareKey f' = false → HasPlain t (getObj s i).id f') :
    Own i s (modObj { s with topics := t, info := n } i f) := by
  refine ⟨setObj_length _ i _, rfl, rfl, rfl, rfl, rfl, rfl, fun k hk => ?_, ?_, ?_, ?_, ?_, ?_, hidx, ho, ?_, hpo, ?_⟩
  · have : getObj (modObj { s with topics := t, info := n } i f) k = getObj s k :=
      getObj_setObj_ne { s with topics := t, info := n } i k _ hk
    rw [this]; exact QC.refl _
  · rw [hself, hf]
  · rw [hself, hf]
  · rw [hself, hf]; exact fun x => x
  · rw [hself, hf]; exact fun x => x
  · rw [hself]; exact hkey _
  · rw [hself]; exact hw
  · rw [hself]; exact hpw

theorem subscribeStep_own (s : Server) (i : Nat) (hi : i < s.objs.length) (sub : Sub) (n : Info)
    (hnb : shareBare sub.filter = false) :
    Own i s (modObj { s with topics := (subscribe s.topics (getObj s i).id sub).1, info := n } i
      (fun c => { c with subs := assocSet c.subs sub.filter sub })) := by
  refine Own.of_step _ _ _ (fun _ => rfl) (getObj_setObj_eq _ i _ hi) ?_ (fun hx => idxOK_subscribe _ hx _ _) ?_ ?_ ?_
    ?_
  rotate_right 2
  · intro _ c f' _ hp
    exact hp.subscribe_keep _ _
  · intro _ hall f' hf' hs'
    obtain ⟨fs, hfs, hfk⟩ := List.mem_map.mp hf'
    rcases assocSet_mem_cases _ _ _ _ hfs with h | h
    · exact (hall f' (List.mem_map.mpr ⟨fs, h, hfk⟩) hs').subscribe_keep _ _
    · rw [h] at hfk
      have hfk : sub.filter = f' := hfk
      rw [← hfk] at hs' ⊢
      exact HasPlain.subscribe_self _ _ _ hs'
  · intro c hc fs hfs
    rcases assocSet_mem_cases _ _ _ _ hfs with h | h
    · exact hc fs h
    · rw [h]; exact ⟨rfl, hnb⟩
  · intro _ c f' hc he
    rcases Entry.of_subscribe he with h | ⟨h, _⟩
    · exact h
    · exact absurd h hc
  · intro _ _ f' he
    rcases Entry.of_subscribe he with h | ⟨_, h⟩
    · exact Or.inl ⟨h, fun hm => (mem_keys_assocSet _ _ _ _).mpr (Or.inr hm)⟩
    · right
      rw [h]
      exact (mem_keys_assocSet _ _ _ _).mpr (Or.inl rfl)

theorem unsubscribeStep_own (s : Server) (i : Nat) (f : Str) (n : Info) :
    Own i s (modObj { s with topics := (unsubscribe s.topics f (getObj s i).id).1, info := n } i
      (fun c => { c with subs := assocDel c.subs f })) := by
  -- also out of range: the default object has no subscriptions to lose
  refine Own.of_step _ _ _ (fun _ => rfl) (getObj_modObj_self _ i _ rfl) ?_ (fun hx => idxOK_unsubscribe _ hx _ _) ?_ ?_
    ?_ ?_
  rotate_right 2
  · intro hx c f' hc hp
    exact hp.unsubscribe_keep hx.pc _ _ (Or.inl hc)
  · intro hx hall f' hf' hs'
    obtain ⟨fs, hfs, hfk⟩ := List.mem_map.mp hf'
    have hne : f' ≠ f := by
      have := (List.mem_filter.mp hfs).2
      simp only [ne_eq, decide_eq_true_eq] at this
      rw [← hfk]; exact this
    exact (hall f' (List.mem_map.mpr ⟨fs, (List.mem_filter.mp hfs).1, hfk⟩) hs').unsubscribe_keep hx.pc _ _
      (Or.inr hne)
  · intro c hc fs hfs
    exact hc fs ((List.mem_filter.mp hfs).1)
  · intro hx c f' _ he
    exact (Entry.of_unsubscribe hx he).1
  · intro hx hko f' he
    obtain ⟨h1, h2⟩ := Entry.of_unsubscribe hx he
    refine Or.inl ⟨h1, fun hm => ?_⟩
    exact mem_keys_assocDel _ _ _ hm fun e => h2 ⟨rfl, e, e ▸ hko.notBare hm⟩

/-- the loop of `UnsubscribeClient`: only the topic index and the counters change; what is left in the index was
    there before and is not one of the unsubscribed filters of that client -/
theorem unsubFold_spec (cid : Str) (l : List (Str × Sub)) (b : Server) :
    (∃ t n, l.foldl (fun s (fs : Str × Sub) =>
        let r := unsubscribe s.topics fs.1 cid
        { s with topics := r.1, info := if r.2 then { s.info with subs := s.info.subs - 1 } else s.info }) b =
        { b with topics := t, info := n } ∧
      (IdxOK b.topics → IdxOK t ∧
        (∀ c f, Entry t c f → Entry b.topics c f ∧ ¬ (c = cid ∧ f ∈ l.map (·.1) ∧ shareBare f = false)) ∧
        ∀ c f, c ≠ cid → HasPlain b.topics c f → HasPlain t c f)) := by
  induction l generalizing b with
  | nil =>
    exact ⟨b.topics, b.info, rfl, fun hx => ⟨hx, fun c f he => ⟨he, fun h => by cases h.2.1⟩, fun _ _ _ hp => hp⟩⟩
  | cons fs rest ih =>
    rw [List.foldl_cons]
    obtain ⟨t, n, he, hsp⟩ := ih
      { b with topics := (unsubscribe b.topics fs.1 cid).1,
               info := if (unsubscribe b.topics fs.1 cid).2 then { b.info with subs := b.info.subs - 1 } else b.info }
    refine ⟨t, n, he, fun hx => ?_⟩
    obtain ⟨hx', hent, hpl⟩ := hsp (idxOK_unsubscribe _ hx _ _)
    refine ⟨hx', fun c f hcf => ?_, fun c f hc hp => hpl c f hc (hp.unsubscribe_keep hx.pc _ _ (Or.inl hc))⟩
    obtain ⟨h1, h2⟩ := hent c f hcf
    obtain ⟨h3, h4⟩ := Entry.of_unsubscribe hx h1
    refine ⟨h3, ?_⟩
    rintro ⟨rfl, hm, hb⟩
    rw [List.map_cons, List.mem_cons] at hm
    rcases hm with hm | hm
    · exact h4 ⟨rfl, hm, hm ▸ hb⟩
    · exact h2 ⟨rfl, hm, hb⟩

theorem unsubscribeClient_own (s : Server) (i : Nat) (hto : (getObj s i).takenOver = false) :
    Own i s (unsubscribeClient s i) := by
  unfold unsubscribeClient
  extract_lets +onlyGivenNames c s1
  rw [if_neg (by rw [show c.takenOver = false from hto]; exact Bool.false_ne_true)]
  obtain ⟨t, n, he, hsp⟩ := unsubFold_spec c.id c.subs s1
  rw [he]
  show Own i s (modObj { s with topics := t, info := n } i (fun c => { c with subs := [] }))
  refine Own.of_step _ _ _ (fun _ => rfl) (getObj_modObj_self _ i _ rfl) ?_ (fun hx => (hsp hx).1) ?_ ?_ ?_ ?_
  · intro _ _ fs hfs
    cases hfs
  · intro hx c' f _ hcf
    exact ((hsp hx).2.1 c' f hcf).1
  · intro hx hko f hcf
    obtain ⟨h1, h2⟩ := (hsp hx).2.1 _ f hcf
    exact Or.inl ⟨h1, fun hm => absurd ⟨rfl, hm, hko.notBare hm⟩ h2⟩
  · intro hx c' f hc hp
    exact (hsp hx).2.2 c' f hc hp
  · intro hx _ f hf _
    cases hf

/-! ### one inbound packet -/

/-- every handler but SUBSCRIBE and UNSUBSCRIBE is quiet: a transitive relation that `Quiet` implies is respected by
    an inbound packet once it is by these two -/
theorem receivePacket_of_quiet {R : Server → Server → Prop} (q : ∀ {a b}, Quiet a b → R a b)
    (trans : ∀ {s s1 s2}, R s s1 → R s1 s2 → R s s2) (i : Nat) (s : Server)
    (sub : ∀ id si fs, R s (processSubscribe s i id si fs).1) (unsub : ∀ id fs, R s (processUnsubscribe s i id fs).1)
    (pk : InPk) : R s (receivePacket s i pk).1 :=
  receivePacket_tr (.ofState (fun s => q (Quiet.refl s)) trans) i s pk
    (handler_state (fun s => q (Quiet.refl s)) i s (fun _ _ _ _ _ _ _ _ => q (processPublish_quiet ..)) sub unsub
      (fun _ => q (processPuback_quiet ..)) (fun _ _ => q (processPubrec_quiet ..))
      (fun _ _ => q (processPubrel_quiet ..)) (fun _ => q (processPubcomp_quiet ..))
      (fun _ _ => q (processDisconnect_quiet ..)) pk)
    (fun s => q (nextImmediate_quiet s i)) (fun s code _ _ => q (disconnectClient_quiet s i code))

/-- SUBSCRIBE and UNSUBSCRIBE use the client id read before their loop: `Own i` is carried through them from states in
    which `i` is in range and still has that id -/
theorem receivePacket_own (s : Server) (i : Nat) (hi : i < s.objs.length) (pk : InPk) :
    Own i s (receivePacket s i pk).1 :=
  receivePacket_of_quiet (fun q => q.own i) Own.trans i s
    (fun id si fs => processSubscribe_state
      (R := fun a b => i < a.objs.length ∧ (getObj a i).id = (getObj s i).id → Own i a b) (fun a _ => Own.refl i a)
      (fun h g p => (h p).trans (g ⟨(h p).len ▸ p.1, (h p).id.trans p.2⟩)) s i id si fs
      (fun s' sub hv p => p.2 ▸ subscribeStep_own s' i p.1 sub _ (isValidFilter_notBare hv))
      (fun s' sub ex k _ => (publishRetainedToClient_quiet s' i sub ex k).own i) ⟨hi, rfl⟩)
    (fun id fs => processUnsubscribe_state (R := fun a b => (getObj a i).id = (getObj s i).id → Own i a b)
      (fun a _ => Own.refl i a) (fun h g p => (h p).trans (g ((h p).id.trans p))) s i id fs
      (fun s' f p => p ▸ unsubscribeStep_own s' i f _) rfl)
    pk

/-- SUBSCRIBE and UNSUBSCRIBE are the only packets that touch subscriptions -/
def InPk.isSub : InPk → Bool
  | .subscribe .. => true
  | .unsubscribe .. => true
  | _ => false

theorem receivePacket_quiet (s : Server) (i : Nat) (pk : InPk) (hpk : pk.isSub = false) :
    Quiet s (receivePacket s i pk).1 :=
  receivePacket_tr (.ofState Quiet.refl Quiet.trans) i s pk
    (handler_cases (Q := fun r => Quiet s r.1) s i pk (fun _ _ _ _ _ _ _ _ _ _ _ => Quiet.refl s)
      (fun q d r id t p me al _ _ => processPublish_quiet s i q d r id t p me al) (fun _ => Quiet.refl s)
      (fun _ _ _ e => by subst e; cases hpk) (fun _ _ e => by subst e; cases hpk)
      (fun id _ _ => processPuback_quiet s i id) (fun id rc _ => processPubrec_quiet s i id rc)
      (fun id rc _ => processPubrel_quiet s i id rc) (fun id _ _ => processPubcomp_quiet s i id)
      (fun _ _ => Quiet.refl s) (fun _ _ => Quiet.refl s) (fun rc sei _ => processDisconnect_quiet s i rc sei))
    (nextImmediate_quiet · i) (fun s' code _ _ => disconnectClient_quiet s' i code)

end Mochi.Broker
