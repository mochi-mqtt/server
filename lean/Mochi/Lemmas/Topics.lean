import Mochi.Spec.Topics
/-! Basic facts about the primitives of the topic index: level lists, association lists, particle lookups. -/
namespace Mochi.Topics

/-! ### topic levels -/

theorem splitLevels_ne_nil (f : Str) : splitLevels f ≠ [] := by
  cases f with
  | nil => simp [splitLevels]
  | cons c rest =>
    unfold splitLevels
    split
    · simp
    · split <;> simp

theorem join_split (f : Str) : joinLevels (splitLevels f) = f := by
  induction f with
  | nil => rfl
  | cons c rest ih =>
    unfold splitLevels
    cases hs : splitLevels rest with
    | nil => exact absurd hs (splitLevels_ne_nil rest)
    | cons l ls =>
      rw [hs] at ih
      split
      · rename_i h; subst h; simp [joinLevels, ih]
      · cases ls <;> simp [joinLevels] at ih ⊢ <;> exact ih

theorem splitLevels_inj {a b : Str} (h : splitLevels a = splitLevels b) : a = b := by
  rw [← join_split a, ← join_split b, h]

theorem contains_len_one (l : Level) (c : Nat) : (l.contains c && l.length == 1) = (l == [c]) := by
  match l with
  | [] => simp
  | [a] => by_cases h : a = c <;> simp [h, Ne.symm]
  | a :: b :: r => simp

/-- the code's test "holds the wildcard byte only if it has length one" says "is the wildcard level or holds none" -/
theorem wildLevel_eq (l : Level) (c : Nat) :
    (!l.contains c || l.length == 1) = (!l.contains c || l == [c]) := by
  rw [← contains_len_one]; cases l.contains c <;> rfl

theorem levelsOK_eq (ls : Path) : levelsOK ls = specLevelsOK ls := by
  induction ls with
  | nil => rfl
  | cons l rest ih =>
    cases rest with
    | nil =>
      simp only [levelsOK, specLevelsOK, wildLevel_eq, List.dropLast, List.all_nil, List.getLast?_singleton,
        List.all_cons, Bool.true_and, Bool.and_true]
    | cons l2 r2 =>
      simp only [levelsOK] at ih ⊢
      rw [ih, wildLevel_eq]
      simp only [specLevelsOK, List.dropLast, List.all_cons, List.getLast?_cons_cons]
      ac_rfl

/-! ### association lists -/

theorem assocGet_nil {α β} [DecidableEq α] (k : α) : assocGet ([] : List (α × β)) k = none := rfl

theorem assocDel_cons {α β} [DecidableEq α] (k0 : α) (v0 : β) (m : List (α × β)) (k : α) :
    assocDel ((k0, v0) :: m) k = if k0 = k then assocDel m k else (k0, v0) :: assocDel m k := by
  unfold assocDel
  by_cases h : k0 = k <;> simp [h]

theorem assocGet_assocSet {α β} [DecidableEq α] (m : List (α × β)) (k k' : α) (v : β) :
    assocGet (assocSet m k v) k' = if k' = k then some v else assocGet m k' := by
  induction m with
  | nil => simp only [assocSet, assocGet, eq_comm]
  | cons kv rest ih =>
    obtain ⟨k0, v0⟩ := kv
    by_cases h : k' = k
    · subst h; by_cases h0 : k0 = k' <;> simp [assocSet, assocGet, h0, ih]
    · have h' : ¬ k = k' := fun e => h e.symm
      by_cases h0 : k0 = k
      · subst h0; simp [assocSet, assocGet, h, h']
      · simp [assocSet, assocGet, h0, h, ih]

theorem assocGet_assocDel {α β} [DecidableEq α] (m : List (α × β)) (k k' : α) :
    assocGet (assocDel m k) k' = if k' = k then none else assocGet m k' := by
  induction m with
  | nil => simp [assocDel, assocGet]
  | cons kv rest ih =>
    obtain ⟨k0, v0⟩ := kv
    rw [assocDel_cons]
    by_cases h : k' = k
    · subst h; by_cases h0 : k0 = k' <;> simp [assocGet, h0, ih]
    · have h' : ¬ k = k' := fun e => h e.symm
      by_cases h0 : k0 = k
      · subst h0; simp [assocGet, h, h', ih]
      · simp [assocGet, h0, h, ih]

theorem assocGet_append {α β} [DecidableEq α] (m m' : List (α × β)) (k : α) :
    assocGet (m ++ m') k = (assocGet m k).or (assocGet m' k) := by
  induction m with
  | nil => simp [assocGet]
  | cons kv rest ih =>
    obtain ⟨k0, v0⟩ := kv
    simp only [List.cons_append, assocGet, ih]
    split <;> simp

theorem assocGet_mem {α β} [DecidableEq α] (m : List (α × β)) (k : α) (v : β)
    (h : assocGet m k = some v) : (k, v) ∈ m := by
  induction m with
  | nil => cases h
  | cons kv rest ih =>
    obtain ⟨k0, v0⟩ := kv
    simp only [assocGet] at h
    split at h
    · rename_i hk
      cases h; subst hk
      exact List.mem_cons_self
    · exact List.mem_cons_of_mem _ (ih h)

theorem mem_keys_iff_assocGet {α β} [DecidableEq α] (m : List (α × β)) (k : α) :
    k ∈ m.map Prod.fst ↔ ∃ v, assocGet m k = some v := by
  induction m with
  | nil => simp [assocGet]
  | cons kv rest ih =>
    obtain ⟨k0, v0⟩ := kv
    by_cases h : k0 = k
    · subst h; simp [assocGet]
    · simp [assocGet, h, Ne.symm h, ih]

theorem mem_keys_assocSet {α β} [DecidableEq α] (m : List (α × β)) (k : α) (v : β) (k' : α) :
    k' ∈ (assocSet m k v).map Prod.fst ↔ k' = k ∨ k' ∈ m.map Prod.fst := by
  induction m with
  | nil => simp [assocSet]
  | cons kv rest ih =>
    obtain ⟨a, b⟩ := kv
    unfold assocSet
    by_cases h : a = k
    · subst h; simp
    · simp only [h, if_false, List.map_cons, List.mem_cons, ih]
      exact or_left_comm

theorem assocSet_ne_nil {α β} [DecidableEq α] (m : List (α × β)) (k : α) (v : β) : assocSet m k v ≠ [] := by
  cases m with
  | nil => simp [assocSet]
  | cons x xs =>
    unfold assocSet
    split <;> simp

theorem assocGet_assocSet_ne {α β} [DecidableEq α] (m : List (α × β)) (k k' : α) (v : β) (h : k' ≠ k) :
    assocGet (assocSet m k v) k' = assocGet m k' := by
  rw [assocGet_assocSet, if_neg h]

theorem assocGet_assocDel_ne {α β} [DecidableEq α] (m : List (α × β)) (k k' : α) (h : k' ≠ k) :
    assocGet (assocDel m k) k' = assocGet m k' := by
  rw [assocGet_assocDel, if_neg h]

theorem assocGet_none_iff {α β} [DecidableEq α] (m : List (α × β)) (k : α) :
    assocGet m k = none ↔ k ∉ m.map Prod.fst := by
  rw [mem_keys_iff_assocGet, Option.eq_none_iff_forall_ne_some, not_exists]

theorem assocGet_append_fresh {α β} [DecidableEq α] (m : List (α × β)) (k : α) (v : β) (h : k ∉ m.map (·.1)) :
    assocGet (m ++ [(k, v)]) k = some v := by
  rw [assocGet_append, (assocGet_none_iff m k).mpr h]
  simp [assocGet]

theorem assocGet_isSome_iff_key {α β} [DecidableEq α] (m : List (α × β)) (k : α) :
    (assocGet m k).isSome = true ↔ k ∈ m.map (·.1) := by
  rw [Option.isSome_iff_exists]
  exact (mem_keys_iff_assocGet m k).symm

theorem assocGet_isSome_iff {α β} [DecidableEq α] (m : List (α × β)) (k : α) :
    (assocGet m k).isSome = true ↔ ∃ v, (k, v) ∈ m :=
  (assocGet_isSome_iff_key m k).trans
    ⟨fun h => by obtain ⟨e, he, rfl⟩ := List.mem_map.mp h; exact ⟨e.2, he⟩, fun ⟨v, hv⟩ => List.mem_map.mpr ⟨(k, v), hv, rfl⟩⟩

theorem assocSet_of_none {α β} [DecidableEq α] (m : List (α × β)) (k : α) (v : β) (h : assocGet m k = none) :
    assocSet m k v = m ++ [(k, v)] := by
  induction m with
  | nil => rfl
  | cons x xs ih =>
    obtain ⟨a, b⟩ := x
    unfold assocGet at h
    unfold assocSet
    by_cases hx : a = k
    · rw [if_pos hx] at h; cases h
    · rw [if_neg hx] at h ⊢; rw [ih h]; rfl

theorem mem_assocDel_iff {α β} [DecidableEq α] (m : List (α × β)) (k : α) (e : α × β) :
    e ∈ assocDel m k ↔ e ∈ m ∧ e.1 ≠ k := by
  unfold assocDel
  simp [List.mem_filter]

theorem assocSet_mem_cases {α β} [DecidableEq α] (m : List (α × β)) (k : α) (v : β) (e : α × β)
    (h : e ∈ assocSet m k v) : e ∈ m ∨ e = (k, v) := by
  induction m with
  | nil =>
    unfold assocSet at h
    exact Or.inr (List.mem_singleton.mp h)
  | cons x xs ih =>
    obtain ⟨a, b⟩ := x
    unfold assocSet at h
    split at h
    · rcases List.mem_cons.mp h with h | h
      · exact Or.inr h
      · exact Or.inl (List.mem_cons_of_mem _ h)
    · rcases List.mem_cons.mp h with h | h
      · exact Or.inl (h ▸ List.mem_cons_self)
      · rcases ih h with h | h
        · exact Or.inl (List.mem_cons_of_mem _ h)
        · exact Or.inr h

theorem assocSet_nodup_keys {α β} [DecidableEq α] (m : List (α × β)) (k : α) (v : β)
    (h : (m.map (·.1)).Nodup) : ((assocSet m k v).map (·.1)).Nodup := by
  induction m with
  | nil =>
    unfold assocSet
    exact List.nodup_cons.mpr ⟨List.not_mem_nil, List.nodup_nil⟩
  | cons x xs ih =>
    obtain ⟨a, b⟩ := x
    rw [List.map_cons, List.nodup_cons] at h
    unfold assocSet
    split
    · rename_i hak
      rw [List.map_cons, List.nodup_cons]
      exact ⟨hak ▸ h.1, h.2⟩
    · rename_i hak
      rw [List.map_cons, List.nodup_cons]
      refine ⟨fun hmem => ?_, ih h.2⟩
      rcases (mem_keys_assocSet xs k v a).mp hmem with e | e
      · exact hak e
      · exact h.1 e

theorem assocDel_nodup_keys {α β} [DecidableEq α] (m : List (α × β)) (k : α)
    (h : (m.map (·.1)).Nodup) : ((assocDel m k).map (·.1)).Nodup :=
  (List.filter_sublist.map _).nodup h

theorem assocGet_of_mem {α β} [DecidableEq α] (m : List (α × β)) (k : α) (v : β)
    (hnd : (m.map (·.1)).Nodup) (h : (k, v) ∈ m) : assocGet m k = some v := by
  induction m with
  | nil => cases h
  | cons x xs ih =>
    obtain ⟨a, b⟩ := x
    rw [List.map_cons, List.nodup_cons] at hnd
    unfold assocGet
    rcases List.mem_cons.mp h with h | h
    · cases h; simp
    · have : ¬ a = k := by
        intro e
        subst e
        exact hnd.1 (List.mem_map.mpr ⟨(a, v), h, rfl⟩)
      simp only [this, if_false]
      exact ih hnd.2 h

theorem length_assocSet {α β} [DecidableEq α] (m : List (α × β)) (k : α) (v : β) :
    (assocSet m k v).length = m.length + (if (assocGet m k).isSome then 0 else 1) := by
  induction m with
  | nil => simp [assocSet, assocGet]
  | cons x xs ih =>
    obtain ⟨a, b⟩ := x
    unfold assocSet assocGet
    by_cases h : a = k
    · simp [h]
    · simp only [h, if_false, List.length_cons, ih]
      omega

theorem filter_ne_self {α β} [DecidableEq α] (m : List (α × β)) (k : α) (h : k ∉ m.map (·.1)) :
    m.filter (fun kv => kv.1 ≠ k) = m := by
  rw [List.filter_eq_self]
  intro e he
  have : e.1 ≠ k := fun q => h (q ▸ List.mem_map.mpr ⟨e, he, rfl⟩)
  simpa using this

theorem length_assocDel {α β} [DecidableEq α] (m : List (α × β)) (k : α) (hnd : (m.map (·.1)).Nodup) :
    (assocDel m k).length + (if (assocGet m k).isSome then 1 else 0) = m.length := by
  induction m with
  | nil => simp [assocDel, assocGet]
  | cons x xs ih =>
    obtain ⟨a, b⟩ := x
    rw [List.map_cons, List.nodup_cons] at hnd
    have ih' := ih hnd.2
    unfold assocDel at ih' ⊢
    unfold assocGet
    rw [List.filter_cons]
    by_cases h : a = k
    · subst h
      have hkeep := filter_ne_self xs a hnd.1
      have hd : decide ((a, b).1 ≠ a) = false := by simp
      rw [hd, hkeep]
      simp
    · have hd : decide ((a, b).1 ≠ k) = true := by simpa using h
      rw [hd]
      simp only [if_true, h, if_false, List.length_cons]
      omega

theorem keys_assocSet {α β γ} [DecidableEq α] (m : List (α × β)) (m' : List (α × γ)) (k : α) (v : β) (v' : γ)
    (h : m.map (·.1) = m'.map (·.1)) : (assocSet m k v).map (·.1) = (assocSet m' k v').map (·.1) := by
  induction m generalizing m' with
  | nil =>
    cases m' with
    | nil => rfl
    | cons y ys => simp at h
  | cons x xs ih =>
    cases m' with
    | nil => simp at h
    | cons y ys =>
      obtain ⟨a, b⟩ := x
      obtain ⟨a', b'⟩ := y
      simp only [List.map_cons, List.cons.injEq] at h
      obtain ⟨h1, h2⟩ := h
      have h1' : a = a' := h1
      subst h1'
      unfold assocSet
      by_cases hk : a = k
      · simp only [hk, if_true, List.map_cons, h2]
      · simp only [hk, if_false, List.map_cons, ih ys h2]

theorem keys_assocDel_eq {α β} [DecidableEq α] (m : List (α × β)) (k : α) :
    (assocDel m k).map (·.1) = (m.map (·.1)).filter (· ≠ k) :=
  (List.filter_map (p := (· ≠ k)) (f := (·.1)) (l := m)).symm

theorem keys_assocDel {α β γ} [DecidableEq α] (m : List (α × β)) (m' : List (α × γ)) (k : α)
    (h : m.map (·.1) = m'.map (·.1)) : (assocDel m k).map (·.1) = (assocDel m' k).map (·.1) := by
  rw [keys_assocDel_eq, keys_assocDel_eq, h]

/-! ### shared subscriptions -/

theorem sharedGet_sharedAdd (sh : List (Str × List (Str × Sub))) (g c g' c' : Str) (s : Sub) :
    sharedGet (sharedAdd sh g c s) g' c' = if g' = g ∧ c' = c then some s else sharedGet sh g' c' := by
  unfold sharedAdd
  cases hg : assocGet sh g with
  | none =>
    simp only [sharedGet, assocGet_append]
    by_cases hgg : g' = g
    · subst hgg
      simp only [hg, Option.none_or, assocGet, if_true, true_and]
      by_cases hc : c = c'
      · subst hc; simp
      · have : ¬ c' = c := fun e => hc e.symm
        simp [hc, this]
    · have : ¬ g = g' := fun e => hgg e.symm
      simp only [assocGet, this, if_false, Option.or_none, hgg, false_and]
  | some m =>
    simp only [sharedGet, assocGet_assocSet]
    by_cases hgg : g' = g
    · subst hgg
      simp only [if_true, true_and, assocGet_assocSet, hg]
    · simp [hgg]

theorem sharedGet_sharedDel (sh : List (Str × List (Str × Sub))) (g c g' c' : Str) :
    sharedGet (sharedDel sh g c) g' c' = if g' = g ∧ c' = c then none else sharedGet sh g' c' := by
  unfold sharedDel
  cases hg : assocGet sh g with
  | none =>
    simp only [sharedGet]
    by_cases hgg : g' = g
    · subst hgg; simp [hg]
    · simp [hgg]
  | some m =>
    simp only
    split
    · rename_i he
      have he' : assocDel m c = [] := by simpa using he
      simp only [sharedGet, assocGet_assocDel]
      by_cases hgg : g' = g
      · subst hgg
        simp only [if_true, true_and, hg]
        by_cases hc : c' = c
        · simp [hc]
        · have := assocGet_assocDel m c c'
          rw [he'] at this
          simp only [hc, if_false, assocGet_nil] at this
          simp [hc, this]
      · simp [hgg]
    · simp only [sharedGet, assocGet_assocSet]
      by_cases hgg : g' = g
      · subst hgg
        simp only [if_true, true_and, assocGet_assocDel, hg]
      · simp [hgg]

theorem sharedLen_mem (sh : List (Str × List (Str × Sub))) (h : sharedLen sh = 0) (gm : Str × List (Str × Sub))
    (hm : gm ∈ sh) : gm.2 = [] := by
  induction sh with
  | nil => simp at hm
  | cons x rest ih =>
    simp only [sharedLen, List.map_cons, List.sum_cons] at h ih
    rcases List.mem_cons.mp hm with rfl | hm
    · exact List.eq_nil_of_length_eq_zero (by omega)
    · exact ih (by omega) hm

theorem sharedGet_of_mem {m : List (Str × List (Str × Sub))} (hk : (m.map Prod.fst).Nodup)
    {g : Str × List (Str × Sub)} (hg : g ∈ m) (hm : (g.2.map Prod.fst).Nodup) {c : Str} {sub : Sub} (h : (c, sub) ∈ g.2) :
    sharedGet m g.1 c = some sub := by
  unfold sharedGet
  rw [assocGet_of_mem _ _ _ hk hg]
  exact assocGet_of_mem _ _ _ hm h

theorem sharedGet_mem {m : List (Str × List (Str × Sub))} {f c : Str} {sub : Sub} (h : sharedGet m f c = some sub) :
    ∃ mm, (f, mm) ∈ m ∧ (c, sub) ∈ mm := by
  unfold sharedGet at h
  cases hg : assocGet m f with
  | none => rw [hg] at h; cases h
  | some mm => rw [hg] at h; exact ⟨mm, assocGet_mem _ _ _ hg, assocGet_mem _ _ _ h⟩

theorem sharedGet_of_sharedLen (sh : List (Str × List (Str × Sub))) (h : sharedLen sh = 0) (g c : Str) :
    sharedGet sh g c = none := by
  unfold sharedGet
  cases hg : assocGet sh g with
  | none => rfl
  | some m =>
    have : m = [] := sharedLen_mem sh h (g, m) (assocGet_mem sh g m hg)
    subst this
    rfl

/-! ### particle lookups -/

theorem hasNode_iff (ns : List Node) (p : Path) : hasNode ns p = true ↔ ∃ n ∈ ns, n.path = p := by
  simp [hasNode]

theorem hasNode_append (ns ms : List Node) (p : Path) :
    hasNode (ns ++ ms) p = (hasNode ns p || hasNode ms p) := by
  simp [hasNode]

theorem getNode_nil (q : Path) : getNode [] q = none := rfl

theorem getNode_cons (m : Node) (rest : List Node) (q : Path) :
    getNode (m :: rest) q = if m.path = q then some m else getNode rest q := by
  unfold getNode
  rw [List.find?_cons]
  by_cases h : m.path = q
  · rw [show (m.path == q) = true by simp [h], if_pos h]
  · rw [show (m.path == q) = false by simp [h], if_neg h]

theorem getNode_append (ns ms : List Node) (q : Path) :
    getNode (ns ++ ms) q = (getNode ns q).or (getNode ms q) := by
  unfold getNode; exact List.find?_append

theorem getNode_path {ns : List Node} {q : Path} {n : Node} (h : getNode ns q = some n) : n.path = q := by
  unfold getNode at h
  simpa using List.find?_some h

theorem getNode_mem {ns : List Node} {q : Path} {n : Node} (h : getNode ns q = some n) : n ∈ ns := by
  unfold getNode at h
  exact List.mem_of_find?_eq_some h

theorem hasNode_eq_isSome (ns : List Node) (q : Path) : hasNode ns q = (getNode ns q).isSome := by
  rw [Bool.eq_iff_iff]; simp [hasNode, getNode]

theorem getNode_of_mem (ns : List Node) (hnd : (ns.map (·.path)).Nodup) (n : Node) (hn : n ∈ ns) :
    getNode ns n.path = some n := by
  induction ns with
  | nil => simp at hn
  | cons m rest ih =>
    rw [getNode_cons]
    rw [List.map_cons, List.nodup_cons] at hnd
    rcases List.mem_cons.mp hn with rfl | hn
    · simp
    · have : ¬ m.path = n.path := fun e => hnd.1 (List.mem_map.mpr ⟨n, hn, e.symm⟩)
      simp only [this, if_false]
      exact ih hnd.2 hn

theorem getNode_iff (ns : List Node) (hnd : (ns.map (·.path)).Nodup) (p : Path) (n : Node) :
    getNode ns p = some n ↔ n ∈ ns ∧ n.path = p :=
  ⟨fun h => ⟨getNode_mem h, getNode_path h⟩, fun ⟨h, e⟩ => e ▸ getNode_of_mem ns hnd n h⟩

theorem mem_children (ns : List Node) (cur : Path) (a : Node) :
    a ∈ children ns cur ↔ a ∈ ns ∧ ∃ k, a.path = cur ++ [k] := by
  unfold children
  simp only [List.mem_filter, Bool.and_eq_true, beq_iff_eq]
  constructor
  · rintro ⟨ha, hlen, hdl⟩
    refine ⟨ha, ?_⟩
    have hne : a.path ≠ [] := by intro e; rw [e] at hlen; simp at hlen
    refine ⟨a.path.getLast hne, ?_⟩
    rw [← hdl]
    exact (List.dropLast_concat_getLast hne).symm
  · rintro ⟨ha, k, hk⟩
    exact ⟨ha, by simp [hk], by simp [hk]⟩

theorem putNode_cons (m : Node) (rest : List Node) (n : Node) :
    putNode (m :: rest) n = (if m.path = n.path then n else m) :: putNode rest n := by
  unfold putNode
  by_cases h : m.path = n.path <;> simp [h]

theorem mem_putNode (ns : List Node) (n m : Node) (h : m ∈ putNode ns n) : m = n ∨ m ∈ ns := by
  unfold putNode at h
  obtain ⟨x, hx, e⟩ := List.mem_map.mp h
  split at e
  · exact Or.inl e.symm
  · exact Or.inr (e ▸ hx)

theorem seek_some {ns : List Node} {p : Path} {n : Node} (h : seek ns p = some n) : getNode ns p = some n := by
  unfold seek at h
  split at h
  · exact h
  · cases h

theorem map_path_putNode (ns : List Node) (n : Node) : (putNode ns n).map (·.path) = ns.map (·.path) := by
  induction ns with
  | nil => rfl
  | cons m rest ih =>
    rw [putNode_cons, List.map_cons, List.map_cons, ih]
    by_cases h : m.path = n.path <;> simp [h]

theorem hasNode_putNode (ns : List Node) (n : Node) (p : Path) :
    hasNode (putNode ns n) p = hasNode ns p := by
  have h : ∀ ms : List Node, hasNode ms p = true ↔ p ∈ ms.map (·.path) := by
    intro ms; simp [hasNode]
  rw [Bool.eq_iff_iff, h, h, map_path_putNode]

theorem getNode_putNode (ns : List Node) (n : Node) (q : Path) :
    getNode (putNode ns n) q = if q = n.path then (getNode ns q).map (fun _ => n) else getNode ns q := by
  induction ns with
  | nil => simp [putNode, getNode_nil]
  | cons m rest ih =>
    rw [putNode_cons, getNode_cons, getNode_cons, ih]
    by_cases hq : q = n.path
    · subst hq
      by_cases hm : m.path = n.path <;> simp [hm]
    · have hq' : ¬ n.path = q := fun e => hq e.symm
      by_cases hm : m.path = n.path
      · simp [hm, hq, hq']
      · simp [hm, hq]

theorem getNode_putNode_ne (ns : List Node) (n : Node) (q : Path) (h : q ≠ n.path) :
    getNode (putNode ns n) q = getNode ns q := by
  rw [getNode_putNode, if_neg h]

theorem getNode_putNode_eq (ns : List Node) (n m : Node) (h : getNode ns n.path = some m) :
    getNode (putNode ns n) n.path = some n := by
  rw [getNode_putNode, if_pos rfl, h]; rfl

theorem getNode_putNode_none (ns : List Node) (n : Node) (q : Path) (h : getNode ns q = none) :
    getNode (putNode ns n) q = none := by
  rw [getNode_putNode, h]; split <;> rfl

theorem getNode_filter_ne (ns : List Node) (p q : Path) (hne : q ≠ p) :
    getNode (ns.filter (fun m => m.path != p)) q = getNode ns q := by
  induction ns with
  | nil => rfl
  | cons m rest ih =>
    rw [List.filter_cons, getNode_cons]
    by_cases hm : m.path = p
    · have : ¬ p = q := fun e => hne e.symm
      simp [hm, this, ih]
    · simp [hm, getNode_cons, ih]

theorem getNode_filter_self (ns : List Node) (p : Path) :
    getNode (ns.filter (fun m => m.path != p)) p = none := by
  induction ns with
  | nil => rfl
  | cons m rest ih =>
    rw [List.filter_cons]
    by_cases h : m.path = p <;> simp [h, getNode_cons, ih]

theorem hasNode_filter_ne (ns : List Node) (p q : Path) :
    hasNode (ns.filter (fun m => m.path != p)) q = true ↔ hasNode ns q = true ∧ q ≠ p := by
  by_cases h : q = p
  · subst h; simp [hasNode_eq_isSome, getNode_filter_self]
  · simp [hasNode_eq_isSome, getNode_filter_ne _ _ _ h, h]

/-! ### `prefixes`, `setPath`, `pathFrom` -/

theorem mem_prefixes (p q : Path) : q ∈ prefixes p ↔ ∃ k, 0 < k ∧ k ≤ p.length ∧ q = p.take k := by
  induction p generalizing q with
  | nil => simp [prefixes]; intro x h1 h2; omega
  | cons l rest ih =>
    simp only [prefixes, List.mem_cons, List.mem_map, ih]
    constructor
    · rintro (h | ⟨a, ⟨k, hk1, hk2, rfl⟩, rfl⟩)
      · exact ⟨1, by omega, by simp, by simp [h]⟩
      · exact ⟨k + 1, by omega, by simp; omega, by simp⟩
    · rintro ⟨k, hk1, hk2, rfl⟩
      match k, hk1 with
      | 1, _ => left; simp
      | k + 2, _ => right; exact ⟨rest.take (k + 1), ⟨k + 1, by omega, by simp at hk2; omega, rfl⟩, by simp⟩

theorem prefixes_ne_nil (p q : Path) (h : q ∈ prefixes p) : q ≠ [] := by
  obtain ⟨k, hk1, hk2, rfl⟩ := (mem_prefixes p q).mp h
  intro he
  have := congrArg List.length he
  rw [List.length_take] at this
  simp only [List.length_nil] at this
  omega

theorem self_mem_prefixes (p : Path) (h : p ≠ []) : p ∈ prefixes p :=
  (mem_prefixes p p).mpr ⟨p.length, by cases p <;> simp_all, Nat.le_refl _, by simp⟩

theorem setPath_ind {Q : List Node → Prop} (ns : List Node) (p : Path) (h : Q ns)
    (hstep : ∀ acc q, Q acc → q ∈ prefixes p → hasNode acc q = false → Q (acc ++ [{ path := q }])) :
    Q (setPath ns p) := by
  unfold setPath
  have : ∀ qs : List Path, (∀ q ∈ qs, q ∈ prefixes p) → ∀ acc, Q acc →
      Q (qs.foldl (fun acc q => if hasNode acc q then acc else acc ++ [{ path := q }]) acc) := by
    intro qs
    induction qs with
    | nil => exact fun _ _ ha => ha
    | cons q rest ih =>
      intro hq acc ha
      rw [List.foldl_cons]
      apply ih (fun q' h' => hq q' (List.mem_cons_of_mem _ h'))
      split
      · exact ha
      · rename_i hn
        exact hstep acc q ha (hq q List.mem_cons_self) (Bool.eq_false_iff.mpr hn)
  exact this _ (fun _ hq => hq) ns h

theorem getNode_setPath (ns : List Node) (p q : Path) :
    getNode (setPath ns p) q = (getNode ns q).or (if q ∈ prefixes p then some { path := q } else none) := by
  unfold setPath
  generalize prefixes p = qs
  induction qs generalizing ns with
  | nil => simp
  | cons q0 rest ih =>
    rw [List.foldl_cons, ih, hasNode_eq_isSome]
    by_cases hq : q = q0
    · subst hq
      cases hg : getNode ns q <;> simp [hg, getNode_append, getNode_cons]
    · have hq' : ¬ q0 = q := fun e => hq e.symm
      cases hg : getNode ns q0 <;> simp [hq, hq', getNode_append, getNode_cons, getNode_nil]

theorem getNode_setPath_self (ns : List Node) (p : Path) (h : p ≠ []) :
    ∃ n, getNode (setPath ns p) p = some n := by
  rw [getNode_setPath, if_pos (self_mem_prefixes p h)]
  cases getNode ns p <;> simp

theorem hasNode_setPath (ns : List Node) (p q : Path) :
    hasNode (setPath ns p) q = true ↔ hasNode ns q = true ∨ q ∈ prefixes p := by
  rw [hasNode_eq_isSome, hasNode_eq_isSome, getNode_setPath]
  cases getNode ns q <;> by_cases h : q ∈ prefixes p <;> simp [h]

theorem pathFrom_ne_nil (ls : Path) (d : Nat) : pathFrom ls d ≠ [] := by
  unfold pathFrom
  split
  · rename_i h
    intro he
    have := congrArg List.length he
    simp at this
    omega
  · simp

theorem pathFrom_zero (ls : Path) (h : ls ≠ []) : pathFrom ls 0 = ls := by
  unfold pathFrom
  have : 0 < ls.length := by cases ls <;> simp_all
  simp [this]

end Mochi.Topics
