import Mochi.Lemmas.PacketRoundtrip
/-!
Round trip of whole packets (on `PacketRoundtrip`): CONNECT (flag byte, optional will block with its own property
block, optional user name and password), as one walk of `connectDecode`.
-/
namespace Mochi.Codec
open Mochi.Varint

def connectFlags (c : ConnectParams) : Nat :=
  encodeBool c.clean * 2 ||| encodeBool c.willFlag * 4 ||| (c.willQos * 8) % 256 |||
    encodeBool c.willRetain * 32 ||| encodeBool c.passwordFlag * 64 ||| encodeBool c.usernameFlag * 128

/-- the flag byte is a table of 128 rows -/
theorem connectFlags_roundtrip : ∀ (wq : Fin 4) (cl wf wr pf uf : Bool),
    let f := encodeBool cl * 2 ||| encodeBool wf * 4 ||| (wq.val * 8) % 256 ||| encodeBool wr * 32 ||| encodeBool pf * 64 |||
      encodeBool uf * 128
    decide (bit f 1 > 0) = cl ∧ decide (bit f 2 > 0) = wf ∧ (f / 8) % 4 = wq.val ∧ decide (bit f 5 > 0) = wr ∧
      decide (bit f 6 > 0) = pf ∧ decide (bit f 7 > 0) = uf ∧ f % 2 = 0 := by
  decide +kernel

def segPass (c : ConnectParams) : Str := if c.passwordFlag then encodeBytes c.password else []
def segUser (c : ConnectParams) : Str := if c.usernameFlag then encodeBytes c.username else []
def segWill (ver : Nat) (mods : Mods) (c : ConnectParams) : Str :=
  if c.willFlag then
    (if ver == 5 then propsEncode tWillProperties mods 0 c.willProperties else []) ++
      (encodeBytes c.willTopic ++ encodeBytes c.willPayload)
  else []

/-- well-formedness of the will block -/
def WFWill (ver : Nat) (mods : Mods) (c : ConnectParams) : Prop :=
  wfStr c.willTopic ∧ wfBin c.willPayload ∧
  (ver = 5 → WFProps c.willProperties ∧ propsBodyLenC tWillProperties mods 0 c.willProperties ≤ maxVBI)

/-- everything behind the keep-alive: property block, client identifier, will, user name, password -/
def segRest (pk : Packet) : Str :=
  (if pk.protocolVersion == 5 then propsEncode 1 pk.mods 0 pk.properties else []) ++
    (encodeBytes pk.connect.clientIdentifier ++
      (segWill pk.protocolVersion pk.mods pk.connect ++ (segUser pk.connect ++ segPass pk.connect)))

def connectBody (pk : Packet) : Str :=
  encodeBytes pk.connect.protocolName ++ (pk.protocolVersion % 256 :: connectFlags pk.connect ::
    (encodeUint16 pk.connect.keepalive ++ segRest pk))

def WFConnect (pk : Packet) : Prop :=
  WFHeader pk.fixedHeader ∧ pk.protocolVersion < 256 ∧ wfBin pk.connect.protocolName ∧ pk.connect.keepalive < 65536 ∧
  pk.connect.willQos < 4 ∧ wfStr pk.connect.clientIdentifier ∧
  (pk.connect.willFlag = true → WFWill pk.protocolVersion pk.mods pk.connect) ∧
  (pk.connect.usernameFlag = true → wfBin pk.connect.username) ∧
  (pk.connect.passwordFlag = true → wfBin pk.connect.password) ∧
  (pk.protocolVersion = 5 → WFProps pk.properties ∧ propsBodyLenC 1 pk.mods 0 pk.properties ≤ maxVBI)

/-- what a CONNECT carries: the reserved flag bit is written as 0; will topic, payload and properties
    only with the will flag; user name and password only with their flags -/
def connectNorm (pk : Packet) : Packet :=
  let c := pk.connect
  { basePacket pk (connectBody pk) with
    reservedBit := 0,
    properties := if pk.protocolVersion == 5 then normProps 1 pk.mods 0 pk.properties else {},
    connect := {
      protocolName := c.protocolName, clean := c.clean, willFlag := c.willFlag, willQos := c.willQos,
      willRetain := c.willRetain, passwordFlag := c.passwordFlag, usernameFlag := c.usernameFlag,
      keepalive := c.keepalive, clientIdentifier := c.clientIdentifier,
      willProperties := if c.willFlag && pk.protocolVersion == 5 then
        normProps tWillProperties pk.mods 0 c.willProperties else {},
      willTopic := if c.willFlag then c.willTopic else [],
      willPayload := if c.willFlag then c.willPayload else [],
      username := if c.usernameFlag then c.username else [],
      password := if c.passwordFlag then c.password else [] } }

theorem connectFlags_bits (c : ConnectParams) (h : c.willQos < 4) :
    decide (bit (connectFlags c) 1 > 0) = c.clean ∧ decide (bit (connectFlags c) 2 > 0) = c.willFlag ∧
    (connectFlags c / 8) % 4 = c.willQos ∧ decide (bit (connectFlags c) 5 > 0) = c.willRetain ∧
    decide (bit (connectFlags c) 6 > 0) = c.passwordFlag ∧ decide (bit (connectFlags c) 7 > 0) = c.usernameFlag ∧
    connectFlags c % 2 = 0 :=
  connectFlags_roundtrip ⟨c.willQos, h⟩ c.clean c.willFlag c.willRetain c.passwordFlag c.usernameFlag

/-- the will properties of an MQTT 5 CONNECT, read into a packet that has none yet -/
theorem willProps_reads {name : String} {pkt : Nat} {mods : Mods} {n : Nat} {p : Props} {buf t : Str} {off ver : Nat}
    (pk : Packet) (hpk : pk.connect.willProperties = {})
    (h : At buf off ((if ver == 5 then propsEncode pkt mods n p else []) ++ t))
    (hp : ver = 5 → WFProps p ∧ propsBodyLenC pkt mods n p ≤ maxVBI) :
    Reads buf t { pk with connect := { pk.connect with
        willProperties := if ver == 5 then normProps pkt mods n p else {} } }
      (if ver == 5 then do
          let (wp, off) ← decodePropsAt name pkt buf off pk.connect.willProperties
          pure ({ pk with connect := { pk.connect with willProperties := wp } }, off)
        else pure (pk, off)) := by
  by_cases hv : (ver == 5) = true
  · simp only [hv, if_true] at h ⊢
    exact (hpk ▸ props_reads (name := name) rfl h (hp (eq_of_beq hv))).seq fun _ ho => .ret _ ho
  · simp only [hv] at h ⊢
    exact hpk ▸ .ret pk h

theorem connect_body_walk (pk : Packet) (ht : pk.fixedHeader.type = 1) (h : WFConnect pk) :
    connectDecode (basePacket pk (connectBody pk)) (connectBody pk) = .ok (connectNorm pk) := by
  obtain ⟨_, hpv, hpn, hka, hwq, hcid, hww, hwu, hwp, hp⟩ := h
  obtain ⟨f1, f2, f3, f4, f5, f6, f7⟩ := connectFlags_bits pk.connect hwq
  unfold connectDecode
  have h0 : At (connectBody pk) 0 (encodeBytes pk.connect.protocolName ++ (pk.protocolVersion :: connectFlags pk.connect ::
      (encodeUint16 pk.connect.keepalive ++ segRest pk))) := by
    rw [← Nat.mod_eq_of_lt hpv]; exact At.zero _
  refine ((bytes_reads h0 hpn).wrap _).bind fun o1 h1 => ?_
  refine ((byte_reads h1).wrap _).bind fun o2 h2 => ?_
  refine ((byte_reads h2).wrap _).bind fun o3 h3 => ?_
  refine ((u16_reads h3 hka).wrap _).bind fun o4 h4 => ?_
  -- from here on the packet carries the flags that were read: name them by what the encoder wrote
  simp only [f1, f2, f3, f4, f5, f6, f7]
  refine (pkProps_reads _ rfl ht h4 hp).bind fun o5 h5 => ?_
  refine ((string_reads h5 hcid).wrap _).bind fun o6 h6 => ?_
  -- the will block, present iff the will flag is set
  refine (Reads.opt (c := pk.connect.willFlag = true)
    (fun p : Packet => { p with connect := { p.connect with
      willProperties := if pk.connect.willFlag && pk.protocolVersion == 5 then
        normProps tWillProperties pk.mods 0 pk.connect.willProperties else p.connect.willProperties,
      willTopic := if pk.connect.willFlag then pk.connect.willTopic else p.connect.willTopic,
      willPayload := if pk.connect.willFlag then pk.connect.willPayload else p.connect.willPayload } })
    h6 (fun hw hw6 => ?will) fun hn => by simp [hn]).bind fun o7 h7 => ?_
  case will =>
    -- (taken apart by projections: `obtain` would carry the goal, by now a large term, through a `cases`)
    have hW : wfStr _ ∧ wfBin _ ∧ _ := hww hw
    rw [List.append_assoc, List.append_assoc] at hw6
    simp only [hw, if_true, Bool.true_and]
    refine (willProps_reads _ rfl hw6 hW.2.2).seq fun o h => ?_
    refine ((string_reads h hW.1).wrap _).seq fun o h => ?_
    refine ((bytes_reads h hW.2.1).wrap _).seq fun o h => ?_
    exact .ret _ h
  -- the user name, present iff its flag is set
  refine (Reads.opt (c := pk.connect.usernameFlag = true)
    (fun p : Packet => { p with connect := { p.connect with
      username := if pk.connect.usernameFlag then pk.connect.username else p.connect.username } })
    h7 (fun hu hu7 => ?user) fun hn => by simp [hn]).bind fun o8 h8 => ?_
  case user =>
    simp only [hu, if_true]
    rw [if_neg (hu7.not_ge (by rw [encodeBytes_length]; omega))]
    exact ((bytes_reads hu7 (hwu hu)).wrap _).seq fun o h => .ret _ h
  -- the password ends the packet
  by_cases hpw : pk.connect.passwordFlag = true
  · have h8' : At (connectBody pk) o8 (encodeBytes pk.connect.password ++ []) := by
      rw [List.append_nil]; simpa only [segPass, if_pos hpw] using h8
    refine (if_pos hpw).trans (((bytes_reads h8' (hwp hpw)).wrap _).bind fun _ _ => congrArg Except.ok ?_)
    simp [connectNorm, basePacket, hpw]
  · refine (if_neg hpw).trans (congrArg Except.ok ?_)
    simp [connectNorm, basePacket, hpw]

theorem C26_connect_roundtrip (pk : Packet) (ht : pk.fixedHeader.type = 1) (h : WFConnect pk) :
    RoundTrips pk (connectBody pk) (connectNorm pk) := by
  refine ⟨?_, header_roundtrip _ h.1, (decodeBody_connect pk _ ht).trans (connect_body_walk pk ht h)⟩
  rw [encodePacket_connect pk ht]
  simp only [connectEncode, withHeader_eq, connectBody, segRest, segWill, segUser, segPass, connectFlags, ht,
    tWillProperties]
  simp [List.append_assoc]

end Mochi.Codec
