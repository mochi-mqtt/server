import Mochi.Lemmas.BrokerCounters
import Mochi.Lemmas.BrokerPublishOp
/-!
# The retained store along histories (C05, C25)

Who can change the retained packets `rmsgs` at a topic?  Only `retainMsg` (a retained publish — from a client, the
inline API, or a will with the retain flag) and `tickRetained` (housekeeping): the walk over the sites of the core
(`step_sites`, `Mochi/Lemmas/CountersCore.lean`) for predicates that read the store at the topics of `U`:

* `GLaws.kept U f` — "the store at the topics of `U` reads `f`" is kept by every site but a retained write on `U` and the
  housekeeping;
* `GLaws.gone U` — "nothing is stored at the topics of `U`" is kept by the housekeeping too: it only removes
  (`tickRetained_look`).

`RKr T U s s'` — the will invariant `NW T s'`, and the lookup of `rmsgs` at every topic in `U` is the same in `s'` as in
`s` (`U ⊆ T`).  `step_rk`: an op that is not a retained publish on a topic of `U`, not a `tick "retained"`, and not a
CONNECT carrying a retained will on a topic of `T` (`Op.avoids`) keeps the store at `U`; `NW_step`: the will invariant
alone needs only the last (`Op.willAvoids`).
-/
namespace Mochi.Broker
open Mochi.Topics

/-! ### the retained-store housekeeping -/

theorem retDue_of_expired (caps : Caps) (now : Int) (m : Msg)
    (h : (m.ver = 5 ∧ 0 < m.expiry ∧ m.expiry < now) ∨
         (0 < caps.maxMessageExpiry ∧ m.expiry = m.created + caps.maxMessageExpiry ∧ m.expiry < now)) :
    retDue caps now m = true := by
  unfold retDue
  rcases h with ⟨hv, he, hlt⟩ | ⟨hm, he, hlt⟩
  · simp [hv, he, hlt]
  · have h1 : caps.maxMessageExpiry > 0 := hm
    have h2 : now - m.created > (caps.maxMessageExpiry : Int) := by omega
    simp [h1, h2]

/-- one iteration of `tickRetained` -/
def trStep (now : Int) (s : Server) (e : Str × Msg) : Server :=
  if retDue s.caps now e.2 then
    { s with rmsgs := assocDel s.rmsgs e.1, topics := { s.topics with retained := assocDel s.topics.retained e.1 } }
  else s

theorem tickRetainedLoop_eq (s : Server) (now : Int) :
    tickRetained.tickRetainedLoop s now = s.rmsgs.foldl (trStep now) s := rfl

theorem trStep_caps (now : Int) (s : Server) (e : Str × Msg) : (trStep now s e).caps = s.caps := by
  unfold trStep; split <;> rfl
theorem trStep_objs (now : Int) (s : Server) (e : Str × Msg) : (trStep now s e).objs = s.objs := by
  unfold trStep; split <;> rfl
theorem trStep_willDelayed (now : Int) (s : Server) (e : Str × Msg) : (trStep now s e).willDelayed = s.willDelayed := by
  unfold trStep; split <;> rfl

theorem trStep_look (now : Int) (s : Server) (e : Str × Msg) (t : Str) :
    assocGet (trStep now s e).rmsgs t = if retDue s.caps now e.2 = true ∧ t = e.1 then none else assocGet s.rmsgs t := by
  unfold trStep
  by_cases h : retDue s.caps now e.2 = true
  · rw [if_pos h]
    show assocGet (assocDel s.rmsgs e.1) t = _
    rw [assocGet_assocDel]
    by_cases ht : t = e.1
    · rw [if_pos ht, if_pos ⟨h, ht⟩]
    · rw [if_neg ht, if_neg (fun x => ht x.2)]
  · rw [if_neg h, if_neg (fun x => h x.1)]

theorem trFold_caps (now : Int) (L : List (Str × Msg)) (b : Server) : (L.foldl (trStep now) b).caps = b.caps := by
  induction L generalizing b with
  | nil => rfl
  | cons x xs ih => rw [List.foldl_cons, ih, trStep_caps]

/-- the lookup after the housekeeping loop: gone iff some entry under the topic is due (with two entries under one key,
    a due later one deletes the key) -/
theorem trFold_look (now : Int) (L : List (Str × Msg)) (b : Server) (t : Str) :
    assocGet (L.foldl (trStep now) b).rmsgs t =
      if L.any (fun e => decide (e.1 = t) && retDue b.caps now e.2) = true then none else assocGet b.rmsgs t := by
  induction L generalizing b with
  | nil => rfl
  | cons x xs ih =>
    rw [List.foldl_cons, ih, trStep_caps, trStep_look, List.any_cons]
    by_cases hx : retDue b.caps now x.2 = true ∧ t = x.1
    · rw [if_pos hx, ite_self, hx.1, hx.2, decide_eq_true rfl]; rfl
    · rw [if_neg hx]
      have : (decide (x.1 = t) && retDue b.caps now x.2) = false := by
        rw [Bool.and_eq_false_iff, decide_eq_false_iff_not]
        by_cases hd : retDue b.caps now x.2 = true
        · exact Or.inl fun e => hx ⟨hd, e.symm⟩
        · exact Or.inr (Bool.not_eq_true _ ▸ hd)
      rw [this, Bool.false_or]

theorem tickRetained_look (s : Server) (now : Int) (t : Str) :
    assocGet (tickRetained s now).rmsgs t =
      if s.rmsgs.any (fun e => decide (e.1 = t) && retDue s.caps now e.2) = true then none else assocGet s.rmsgs t :=
  trFold_look now s.rmsgs s t

theorem tickRetained_gone (s : Server) (now : Int) (t : Str) (m : Msg) (hm : assocGet s.rmsgs t = some m)
    (hd : retDue s.caps now m = true) : assocGet (tickRetained s now).rmsgs t = none := by
  rw [tickRetained_look, if_pos]
  exact List.any_eq_true.mpr ⟨(t, m), assocGet_mem _ _ _ hm, by rw [hd, decide_eq_true rfl]; rfl⟩

theorem tickRetained_mono (s : Server) (now : Int) (t : Str) :
    assocGet (tickRetained s now).rmsgs t = none ∨ assocGet (tickRetained s now).rmsgs t = assocGet s.rmsgs t := by
  rw [tickRetained_look]
  exact iteInduction (motive := fun x => x = none ∨ x = assocGet s.rmsgs t) (fun _ => Or.inl rfl) fun _ => Or.inr rfl

theorem tickRetained_kept (s : Server) (now : Int) (t : Str)
    (hk : ∀ e ∈ s.rmsgs, e.1 = t → retDue s.caps now e.2 = false) :
    assocGet (tickRetained s now).rmsgs t = assocGet s.rmsgs t := by
  rw [tickRetained_look, if_neg]
  intro h
  obtain ⟨e, he, h⟩ := List.any_eq_true.mp h
  rw [Bool.and_eq_true, decide_eq_true_iff] at h
  rw [hk e he h.1] at h
  cases h.2

theorem step_tick_retained (s : Server) (now : Int) : step s (.tick "retained" now) = (tickRetained s now, []) := by
  rw [step]
  rw [if_neg (by decide), if_pos (by decide)]

/-! ### the store at the topics of `U` -/

/-- a retained publish on another topic (beside `retainMsg_look_self`, `Mochi/Props/C05.lean`) -/
theorem retainMsg_look_ne (s : Server) (pk : Msg) (t : Str) (h : t ≠ pk.topic) :
    assocGet (retainMsg s pk).rmsgs t = assocGet s.rmsgs t :=
  iteInduction (motive := fun x : Server => assocGet x.rmsgs t = assocGet s.rmsgs t) (fun _ => rfl) fun _ =>
    iteInduction (motive := fun m => assocGet m t = assocGet s.rmsgs t)
      (fun _ => assocGet_assocSet_ne _ _ _ _ h) (fun _ => assocGet_assocDel_ne _ _ _ h)

theorem GLaws.kept (U : Str → Prop) (f : Str → Option Msg) :
    GLaws U False (fun k => ∀ u, U u → assocGet k.rmsgs u = f u) :=
  GLaws.of_rmsgs (fun m => ∀ u, U u → assocGet m u = f u)
    (fun s pk hne h u hu => (retainMsg_look_ne s pk u (fun e => hne (e ▸ hu))).trans (h u hu)) (fun h => h.elim)

theorem GLaws.gone (U : Str → Prop) : GLaws U True (fun k => ∀ u, U u → assocGet k.rmsgs u = none) :=
  GLaws.of_rmsgs (fun m => ∀ u, U u → assocGet m u = none)
    (fun s pk hne h u hu => (retainMsg_look_ne s pk u (fun e => hne (e ▸ hu))).trans (h u hu))
    (fun _ s now h u hu => (tickRetained_mono s now u).elim id (fun e => e.trans (h u hu)))

/-- the will invariant holds in `s'`, and the retained store at every topic of `U` is the same as in `s` -/
def RKr (T U : Str → Prop) (s s' : Server) : Prop :=
  NW T s' ∧ ∀ u, U u → assocGet s'.rmsgs u = assocGet s.rmsgs u

/-- the op is not a retained publish on a topic of `U`, not the retained-store housekeeping, and not a CONNECT with a
    retained will on a topic of `T` -/
def Op.avoids (T U : Str → Prop) : Op → Prop
  | .connect _ k => k.avoids T
  | .connectHold _ k _ => k.avoids T
  | .recv _ pk => pk.avoids U
  | .recvCut _ pk => pk.avoids U
  | .inlinePublish topic _ r _ => pubAvoids U r topic
  | .tick kind _ => kind ≠ "retained"
  | _ => True

section
variable {T U : Str → Prop}

theorem Op.avoids.off {op : Op} (h : op.avoids T U) (K : Prop) : op.off T U K := by
  cases op with
  | tick kind t => exact fun hk => absurd hk h
  | _ => exact h

/-- **every op that avoids `U` keeps the retained store at `U`** (and the will invariant for `T ⊇ U`) -/
theorem step_rk (hU : ∀ u, U u → T u) (s : Server) (op : Op) (hnw : NW T s) (hav : op.avoids T U) :
    RKr T U s (step s op).1 :=
  have h := step_sites (GLaws.kept U (assocGet s.rmsgs)) hU s op hnw (hav.off False)
  ⟨h.1, h.2 fun _ _ => rfl⟩

/-- every op keeps "no retained will on a topic of `T`", unless it is a CONNECT bringing one -/
theorem NW_step (s : Server) (op : Op) (hnw : NW T s) (hw : op.willAvoids T) : NW T (step s op).1 :=
  (step_sites (trivial_laws.guarded _ True) (fun _ h => h.elim) s op hnw hw.off).1

/-! ### along histories -/

theorem NW_run (s : Server) (ops : List Op) (hnw : NW T s) (hw : ∀ op ∈ ops, op.willAvoids T) : NW T (run s ops) :=
  (run_sites (trivial_laws.guarded _ True) (fun _ h => h.elim) s ops hnw fun op h => (hw op h).off).1

theorem run_rk (hU : ∀ u, U u → T u) (s : Server) (ops : List Op) (hnw : NW T s) (hav : ∀ op ∈ ops, op.avoids T U) :
    RKr T U s (run s ops) :=
  have h := run_sites (GLaws.kept U (assocGet s.rmsgs)) hU s ops hnw fun op h => (hav op h).off False
  ⟨h.1, h.2 fun _ _ => rfl⟩

end

end Mochi.Broker
