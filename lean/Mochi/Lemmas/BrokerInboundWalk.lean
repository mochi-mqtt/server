import Mochi.Lemmas.RecordWalk
/-!
# C08 — the PUBREC record of an open inbound QoS 2 exchange: the record, the ops that end the exchange, the `Kind` instance

The survival walk of `Mochi/Lemmas/RecordWalk.lean` (`RecWalk.step_holds`) for the record of an INBOUND exchange (C09
follows the record of an OUTBOUND one: `Mochi/Lemmas/BrokerSurvive.lean`): only the record predicate and the list of
packets that end the exchange differ.  Everything here lives in the namespace `Mochi.Broker.Q08`.

* `Q08.Rec c k p`       — client object `c` has, under packet identifier `k`, exactly the record `p`, `p` is of type 5
                           (PUBREC: filed by `processPublish` for an accepted QoS 2 PUBLISH) and is not a record deferred
                           by flow control (`0 ≤ expiry`: `nextImmediate` deletes a deferred record once written, F09 —
                           a PUBREC record never is one: `processPublish` files it with `expiry = NOW + maximum`);
* `Q08.Holds s cid k p` — the object REGISTERED under `cid` has that record;
* `Q08.Ends s cid k op` — decidable: `op` may end the exchange in state `s`.

What differs from C09's `Ends`: a PUBLISH of the client under the SAME identifier does NOT end the exchange
(`processPublish` answers PUBREC 0x91 and returns: server.go:920-925) — unless the connection ends by it and the session
with the connection, which `connEnds ∧ endsWithConn` covers; a PUBREC `k` from the client ends it whatever its reason
code (one in-flight map for both directions, F10: `processPubrec` deletes the record or REPLACES it by a PUBREL record,
server.go:1214-1231).
-/
namespace Mochi.Broker.Q08
open Mochi.Topics

/-! ### the record -/

/-- `m` is the PUBREC record `p` of an inbound QoS 2 exchange -/
def recOk (m p : Msg) : Bool := decide (m = p) && decide (0 ≤ m.expiry) && m.type == 5

def Rec (c : Client) (k : Nat) (p : Msg) : Prop := ∃ m, flGet c k = some m ∧ recOk m p = true

instance (c : Client) (k : Nat) (p : Msg) : Decidable (Rec c k p) :=
  match h : flGet c k with
  | some m =>
    if h' : recOk m p = true then isTrue ⟨m, h, h'⟩
    else isFalse (by rintro ⟨m', hm, hr⟩; rw [h] at hm; cases hm; exact h' hr)
  | none => isFalse (by rintro ⟨m', hm, _⟩; rw [h] at hm; cases hm)

/-- the session registered under `cid` holds the PUBREC record `p` of the inbound exchange `k` -/
def Holds (s : Server) (cid : Str) (k : Nat) (p : Msg) : Prop :=
  ∃ i, assocGet s.clients cid = some i ∧ Rec (getObj s i) k p

instance (s : Server) (cid : Str) (k : Nat) (p : Msg) : Decidable (Holds s cid k p) :=
  match h : assocGet s.clients cid with
  | some i =>
    if h' : Rec (getObj s i) k p then isTrue ⟨i, h, h'⟩
    else isFalse (by rintro ⟨i', hi, hr⟩; rw [h] at hi; cases hi; exact h' hr)
  | none => isFalse (by rintro ⟨i', hi, _⟩; rw [h] at hi; cases hi)

/-! ### what may end the exchange -/

/-- the packets of client object `c` that end (or overwrite — F10: ONE in-flight map serves both directions) the PUBREC
    record under `k`: the client's PUBREL `k` (the legitimate end), and PUBACK `k`, PUBCOMP `k`, PUBREC `k` (answers to a
    message the BROKER would have sent under that identifier); a PUBLISH with identifier `k` does not — except for the
    inline client, whose PUBLISH is not analysed here (model artefact: the inline client never files a PUBREC record) -/
def pkEnds (c : Client) (k : Nat) : InPk → Bool
  | .puback id _ => id == k
  | .pubcomp id _ => id == k
  | .pubrec id _ => id == k
  | .pubrel id _ => id == k
  | .publish _ _ _ id _ _ _ _ => id == k && c.inline
  | _ => false

/-- one inbound packet on connection `conn`, for client id `cid` -/
def EndsRecv (s : Server) (cid : Str) (k : Nat) (conn : Nat) (pk : InPk) (barrier : Bool) : Prop :=
  match assocGet s.connOf conn with
  | some j => (getObj s j).id = cid ∧ (getObj s j).isOpen = true ∧
      (pkEnds (getObj s j) k pk = true ∨ (connEnds s j pk barrier = true ∧ endsWithConn (getObj s j) pk = true))
  | none => False

instance (s : Server) (cid : Str) (k conn : Nat) (pk : InPk) (b : Bool) : Decidable (EndsRecv s cid k conn pk b) := by
  unfold EndsRecv; split <;> infer_instance

/-- the peer sends one packet and vanishes: the connection ends in any case -/
def EndsRecvCut (s : Server) (cid : Str) (k : Nat) (conn : Nat) (pk : InPk) : Prop :=
  match assocGet s.connOf conn with
  | some j => (getObj s j).id = cid ∧ (getObj s j).isOpen = true ∧ (getObj s j).stopped = false ∧
      (pkEnds (getObj s j) k pk = true ∨ endsWithConn (getObj s j) pk = true)
  | none => False

instance (s : Server) (cid : Str) (k conn : Nat) (pk : InPk) : Decidable (EndsRecvCut s cid k conn pk) := by
  unfold EndsRecvCut; split <;> infer_instance

/-- a parked handler runs on: a parked CONNECT as `connect` (stage 1) / with only its barrier left (stage 2); a
    handler parked by `dropHold` / `dropHoldEarly` runs its clean-up -/
def EndsRelease (s : Server) (cid : Str) (k : Nat) (conn : Nat) : Prop :=
  match s.pending.find? (·.conn == conn) with
  | some p =>
    (p.stage = 1 ∧ p.refuse = none ∧ EndsTakeover s cid p.k) ∨
    ((getObj (connectRelease { s with pending := s.pending.filter (·.conn != conn) } p).1 p.obj).isOpen = true ∧
      EndsRecv (connectRelease { s with pending := s.pending.filter (·.conn != conn) } p).1 cid k conn .pingreq false)
  | none => EndsParked s cid conn

instance (s : Server) (cid : Str) (k conn : Nat) : Decidable (EndsRelease s cid k conn) := by
  unfold EndsRelease; split <;> infer_instance

/-- **the ops that may end the inbound exchange `k` of client `cid` in state `s`** (`EndsDrop`, `EndsParked`,
    `EndsTakeover`, `EndsDue`, `EndsExpired` are those of `Mochi/Lemmas/BrokerSurviveDefs.lean`: they do not depend on
    the kind of record) -/
def Ends (s : Server) (cid : Str) (k : Nat) : Op → Prop
  | .recv conn pk => EndsRecv s cid k conn pk true
  | .recvCut conn pk => EndsRecvCut s cid k conn pk
  | .drop conn => EndsDrop s cid conn
  | .dropHold _ => False            -- parked BEFORE the session clean-up: the `release` ends it
  | .dropHoldEarly _ => False
  | .release conn => EndsRelease s cid k conn
  | .connect conn k' =>
    (refuseCode s k' (parseConnect s conn k') = none ∧ EndsTakeover s cid k') ∨
    -- the barrier PINGREQ of the op is an inbound packet on the new connection like any other
    EndsRecv (connect s conn k').1 cid k conn .pingreq false
  | .connectHold conn k' stage =>
    -- parked in the authentication hook (stage 1): nothing is registered yet
    stage ≠ 1 ∧ refuseCode s k' (parseConnect s conn k') = none ∧ EndsTakeover s cid k'
  | .tick kind t => (kind = "clients" ∧ EndsDue s cid t) ∨ (kind = "inflight" ∧ EndsExpired s cid k t)
  | .inlinePublish _ _ _ qos =>
    -- the inline client (object 0) "receives" a PUBLISH whose packet identifier is its QoS
    (getObj s 0).id = cid ∧ qos = k
  | .inlineSubscribe _ _ => False
  | .inlineUnsubscribe _ _ => False

instance (s : Server) (cid : Str) (k : Nat) (op : Op) : Decidable (Ends s cid k op) := by
  cases op <;> unfold Ends <;> infer_instance

/-! ### what keeps the record

`Rec c k p` unfolds to `RecWalk.Rec recOk c k p`; `RK` is a structure of its own with the fields of `RecWalk.RK recOk`
(`.walk` / `.of_walk` convert). -/

/-- `b` keeps the record of exchange `k` of `a`, and the parameters that decide whether the session ends with its
    connection -/
structure RK (k : Nat) (a b : Client) : Prop where
  keep : ∀ p, Rec a k p → Rec b k p
  ver : b.ver = a.ver
  clean : b.clean = a.clean
  sei : b.sei = a.sei
  takenOver : b.takenOver = a.takenOver

theorem RK.walk {k : Nat} {a b : Client} (h : RK k a b) : RecWalk.RK recOk k a b :=
  ⟨h.keep, h.ver, h.clean, h.sei, h.takenOver⟩
theorem RK.of_walk {k : Nat} {a b : Client} (h : RecWalk.RK recOk k a b) : RK k a b :=
  ⟨h.keep, h.ver, h.clean, h.sei, h.takenOver⟩

theorem RK.of_eq {k : Nat} {a b : Client} (h : a = b) : RK k a b := h ▸ .of_walk (.refl k a)

theorem RK.of_sess {k : Nat} {a b : Client} (h : SessEq a b) (hi : b.inflight = a.inflight) : RK k a b :=
  .of_walk (.of_sess h hi)

/-- rewriting the record under `m.id` keeps exchange `k` if `m` is itself a record of the exchange (PUBREC → PUBREL) -/
theorem RK.flSet_ok' (k : Nat) (c : Client) (m : Msg) (h : m.id = k → ∀ p, recOk m p = true) : RK k c (flSet c m).1 :=
  .of_walk (.flSet_ok' k c m h)

theorem RK.decRecv {k : Nat} {a b : Client} (h : RK k a b) : RK k a (decRecv b) :=
  .of_walk (h.walk.trans (.decRecv' k b))

/-! ### the walk -/

/-- the inbound exchange `k` is of the kind the walk follows -/
theorem inboundKind (k : Nat) : RecWalk.Kind recOk (fun c => pkEnds c k) k where
  deferred m p h := by
    have : ¬ (0 ≤ m.expiry) := by omega
    simp [recOk, this]
  acks m p h := by
    have : m.type = 4 ∨ m.type = 7 := by simpa using h
    rcases this with e | e <;> simp [recOk, e]
  inline c c' pk h := by cases pk <;> simp [pkEnds, h]
  puback _ id _ h := by simpa [pkEnds] using h
  pubcomp _ id _ h := by simpa [pkEnds] using h
  pubrel _ id _ h := by simpa [pkEnds] using h
  pingreq _ := rfl
  pubrec _ id _ h e := by simp [pkEnds, e] at h
  publish c _ _ _ id _ _ _ _ h e := by
    have h : (id == k && c.inline) = false := h
    have e' : (id == k) = true := by simpa using e
    rw [e', Bool.true_and] at h
    exact ⟨h, fun m p hm => by simpa using (Bool.and_eq_true_iff.mp hm).2⟩
  publishNe _ _ _ _ id _ _ _ _ h := by simp [pkEnds, h]

theorem Ends.of_walk {s : Server} {cid : Str} {k : Nat} {op : Op} (h : RecWalk.Ends (fun c => pkEnds c k) s cid k op) :
    Ends s cid k op := by
  cases op <;> exact h

/-! ### op by op: the cases of `RecWalk.step_holds` for this record; `i` is the object registered under `cid` -/

theorem step_recv_holds (k : Nat) (p : Msg) (cid : Str) (s : Server) (conn : Nat) (pk : InPk) (i : Nat) (hw : WF s)
    (h : RecWalk.HoldsAt recOk s cid k p i) (hne : ¬ Ends s cid k (.recv conn pk)) :
    RecWalk.HoldsAt recOk (step s (.recv conn pk)).1 cid k p i :=
  RecWalk.recvOn_keeps (inboundKind k) conn pk true hw h fun e => hne (.of_walk e)

theorem step_drop_holds (k : Nat) (p : Msg) (cid : Str) (s : Server) (conn : Nat) (i : Nat) (hw : WF s)
    (h : RecWalk.HoldsAt recOk s cid k p i) (hne : ¬ Ends s cid k (.drop conn)) :
    RecWalk.HoldsAt recOk (step s (.drop conn)).1 cid k p i :=
  RecWalk.step_drop_holds (pe := fun c => pkEnds c k) conn hw h fun e => hne (.of_walk e)

theorem step_dropHold_holds (k : Nat) (p : Msg) (cid : Str) (s : Server) (conn : Nat) (i : Nat)
    (h : RecWalk.HoldsAt recOk s cid k p i) : RecWalk.HoldsAt recOk (step s (.dropHold conn)).1 cid k p i :=
  RecWalk.step_dropHold_holds conn h

theorem step_dropHoldEarly_holds (k : Nat) (p : Msg) (cid : Str) (s : Server) (conn : Nat) (i : Nat)
    (h : RecWalk.HoldsAt recOk s cid k p i) : RecWalk.HoldsAt recOk (step s (.dropHoldEarly conn)).1 cid k p i :=
  RecWalk.step_dropHoldEarly_holds conn h

theorem step_recvCut_holds (k : Nat) (p : Msg) (cid : Str) (s : Server) (conn : Nat) (pk : InPk) (i : Nat) (hw : WF s)
    (h : RecWalk.HoldsAt recOk s cid k p i) (hne : ¬ Ends s cid k (.recvCut conn pk)) :
    RecWalk.HoldsAt recOk (step s (.recvCut conn pk)).1 cid k p i :=
  RecWalk.step_recvCut_holds (inboundKind k) conn pk hw h fun e => hne (.of_walk e)

theorem step_inlinePublish_holds (k : Nat) (p : Msg) (cid : Str) (s : Server) (topic payload : Str) (retain : Bool)
    (qos : Nat) (i : Nat) (hw : WF s) (h : RecWalk.HoldsAt recOk s cid k p i)
    (hne : ¬ Ends s cid k (.inlinePublish topic payload retain qos)) :
    RecWalk.HoldsAt recOk (step s (.inlinePublish topic payload retain qos)).1 cid k p i :=
  RecWalk.step_inlinePublish_holds (inboundKind k) topic payload retain qos hw h fun e => hne (.of_walk e)

theorem step_inlineSubscribe_holds (k : Nat) (p : Msg) (cid : Str) (s : Server) (id : Nat) (filter : Str) (i : Nat)
    (h : RecWalk.HoldsAt recOk s cid k p i) : RecWalk.HoldsAt recOk (step s (.inlineSubscribe id filter)).1 cid k p i :=
  RecWalk.step_inlineSubscribe_holds id filter h

theorem step_inlineUnsubscribe_holds (k : Nat) (p : Msg) (cid : Str) (s : Server) (id : Nat) (filter : Str) (i : Nat)
    (h : RecWalk.HoldsAt recOk s cid k p i) :
    RecWalk.HoldsAt recOk (step s (.inlineUnsubscribe id filter)).1 cid k p i :=
  RecWalk.step_inlineUnsubscribe_holds id filter h

theorem step_tick_holds (k : Nat) (p : Msg) (cid : Str) (s : Server) (kind : String) (t : Int) (i : Nat) (hw : WF s)
    (h : RecWalk.HoldsAt recOk s cid k p i) (hne : ¬ Ends s cid k (.tick kind t)) :
    RecWalk.HoldsAt recOk (step s (.tick kind t)).1 cid k p i :=
  RecWalk.step_tick_holds (pe := fun c => pkEnds c k) kind t hw h fun e => hne (.of_walk e)

theorem step_connect_holds (k : Nat) (p : Msg) (cid : Str) (s : Server) (conn : Nat) (k' : Connect) (hw : WF s)
    (hf : conn ∉ s.connOf.map (·.1)) (h : Holds s cid k p) (hne : ¬ Ends s cid k (.connect conn k')) :
    Holds (step s (.connect conn k')).1 cid k p :=
  h.elim fun _ hi => RecWalk.step_connect_holds (inboundKind k) conn k' hw hf hi fun e => hne (.of_walk e)

theorem step_connectHold_holds (k : Nat) (p : Msg) (cid : Str) (s : Server) (conn : Nat) (k' : Connect) (stage : Nat)
    (hw : WF s) (hf : conn ∉ s.connOf.map (·.1)) (h : Holds s cid k p)
    (hne : ¬ Ends s cid k (.connectHold conn k' stage)) :
    Holds (step s (.connectHold conn k' stage)).1 cid k p :=
  h.elim fun _ hi =>
    RecWalk.step_connectHold_holds (pe := fun c => pkEnds c k) conn k' stage hw hf hi fun e => hne (.of_walk e)

theorem step_release_holds (k : Nat) (p : Msg) (cid : Str) (s : Server) (conn : Nat) (hw : WF s) (hsync : SyncInv s)
    (h : Holds s cid k p) (hne : ¬ Ends s cid k (.release conn)) : Holds (step s (.release conn)).1 cid k p :=
  h.elim fun _ hi => RecWalk.step_release_holds (inboundKind k) conn hw hsync hi fun e => hne (.of_walk e)

end Mochi.Broker.Q08
