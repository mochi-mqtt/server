import Mochi.Lemmas.BrokerInv
import Mochi.Lemmas.BrokerWalk
import Mochi.Lemmas.BrokerExitsFanout
import Mochi.Lemmas.Refine
/-!
# C38 — the `inflight` counter

`sumAll s`: the number of in-flight records held by ALL client objects.  `defect s = info.inflight - sumAll s`.
`Infl i d s s'`: `s'` results from `s` by work done on behalf of client object `i`, the defect moved by `d`,
objects that are neither `i` nor registered in the Clients map kept their in-flight records, and the
object invariant `isOpen = !stopped` is kept.  One `X_infl` lemma per handler, all with `d = 0`, stated as
`InflW i s s'` (`Infl i 0 s s'` for a well-formed `s` in which `i` exists), which is reflexive and transitive and so
goes through the walks of `BrokerWalk.lean`.
-/
namespace Mochi.Broker
open Mochi.Topics

/-! ### client level -/

/-- `Client.Stop` is the only writer of `isOpen` and `stopped` -/
def OS (c : Client) : Prop := c.isOpen = !c.stopped

/-- `b` results from `a` with `e` more in-flight records; id, well-formedness and `isOpen = !stopped` are kept -/
structure CL (e : Int) (a b : Client) : Prop where
  cw : CW a b
  os : OS a → OS b
  len : ObjWF a → (b.inflight.length : Int) = a.inflight.length + e

/-- closes `CL 0 a b` when `b` is `a` with fields other than `id`, `inflight`, the quotas, `isOpen`, `stopped` rewritten -/
macro "cl_rfl" : tactic =>
  `(tactic| exact ⟨⟨rfl, fun h => ⟨h.1, h.2, h.3⟩⟩, fun h => h, fun _ => (Int.add_zero _).symm⟩)

theorem CL.refl (a : Client) : CL 0 a a := ⟨CW.refl a, fun h => h, fun _ => (Int.add_zero _).symm⟩

theorem CL.trans {e1 e2 : Int} {a b c : Client} (h : CL e1 a b) (g : CL e2 b c) : CL (e1 + e2) a c :=
  ⟨h.cw.trans g.cw, fun x => g.os (h.os x), fun x => by rw [g.len (h.cw.wf x), h.len x]; omega⟩

theorem CL.cast {e e' : Int} {a b : Client} (h : CL e a b) (he : e = e') : CL e' a b := he ▸ h

theorem CL.of_eq {a b : Client} (h : a = b) : CL 0 a b := h ▸ CL.refl a

theorem flSet_snd (c : Client) (m : Msg) : (flSet c m).2 = !(flGet c m.id).isSome := by
  unfold flSet
  split
  · rename_i h; simp [h]
  · rename_i h; simp at h; simp [h]

theorem flDelete_snd (c : Client) (id : Nat) : (flDelete c id).2 = (flGet c id).isSome := rfl

theorem CL.flSet' (c : Client) (m : Msg) : CL (if (flSet c m).2 then 1 else 0) c (flSet c m).1 := by
  refine ⟨CW.flSet' c m, ?_, fun _ => ?_⟩
  · unfold flSet; split <;> exact fun h => h
  · unfold flSet
    split <;> simp

theorem filter_id_length (l : List Msg) (id : Nat) (h : (l.map (·.id)).Nodup) :
    ((l.filter (fun m => m.id != id)).length : Int) =
      l.length + (if (l.find? (fun m => m.id == id)).isSome then -1 else 0) := by
  induction l with
  | nil => simp
  | cons x xs ih =>
    rw [List.map_cons, List.nodup_cons] at h
    by_cases hx : x.id = id
    · have hkeep : xs.filter (fun m => m.id != id) = xs := by
        rw [List.filter_eq_self]
        intro a ha
        have : a.id ≠ id := fun e => h.1 (hx ▸ e ▸ List.mem_map.mpr ⟨a, ha, rfl⟩)
        simp [this]
      simp [hx, hkeep]
      omega
    · have := ih h.2
      have hb : (x.id == id) = false := by simp [hx]
      have hn : (x.id != id) = true := by simp [hx]
      simp only [List.filter_cons, hn, if_true, List.find?_cons, hb, List.length_cons]
      push_cast
      omega

theorem CL.flDelete' (c : Client) (id : Nat) : CL (if (flDelete c id).2 then -1 else 0) c (flDelete c id).1 := by
  refine ⟨CW.flDelete' c id, fun h => h, fun hw => ?_⟩
  exact filter_id_length c.inflight id hw.1

theorem decSend_inflight (c : Client) : (decSend c).inflight = c.inflight := by
  unfold decSend; split <;> rfl
theorem decRecv_inflight (c : Client) : (decRecv c).inflight = c.inflight := by
  unfold decRecv; split <;> rfl
theorem incSend_inflight (c : Client) : (incSend c).inflight = c.inflight := by
  unfold incSend; split <;> rfl
theorem incRecv_inflight (c : Client) : (incRecv c).inflight = c.inflight := by
  unfold incRecv; split <;> rfl

theorem CL.kept {a b : Client} (cw : CW a b) (ow : OwnEq a b) (hi : b.inflight = a.inflight) : CL 0 a b :=
  ⟨cw, fun h => by unfold OS at h ⊢; rw [← ow.isOpen, ← ow.stopped]; exact h,
   fun _ => by rw [hi]; exact (Int.add_zero _).symm⟩

theorem CL.decSend' (c : Client) : CL 0 c (decSend c) := .kept (CW.decSend' c) (OwnEq.ops.decSend c) (decSend_inflight c)
theorem CL.decRecv' (c : Client) : CL 0 c (decRecv c) := .kept (CW.decRecv' c) (OwnEq.ops.decRecv c) (decRecv_inflight c)
theorem CL.incSend' (c : Client) : CL 0 c (incSend c) := .kept (CW.incSend' c) (OwnEq.ops.incSend c) (incSend_inflight c)
theorem CL.incRecv' (c : Client) : CL 0 c (incRecv c) := .kept (CW.incRecv' c) (OwnEq.ops.incRecv c) (incRecv_inflight c)

theorem CL.coreClient' (c : Client) (t : Str) : CL 0 c (coreClient c t) := by
  obtain ⟨ao, cur, e⟩ := coreClient_eq c t
  rw [e]; cl_rfl

theorem CL.trans0 {a b c : Client} (h : CL 0 a b) (g : CL 0 b c) : CL 0 a c := (h.trans g).cast (by omega)

theorem CL.will' (c : Client) (w : Will) : CL 0 c { c with will := w } := by cl_rfl
theorem CL.subs' (c : Client) (l : List (Str × Sub)) : CL 0 c { c with subs := l } := by cl_rfl
theorem CL.sei' (c : Client) (v : Nat) : CL 0 c { c with sei := v, fsei := true } := by cl_rfl
theorem CL.aliasIn' (c : Client) (a : List (Nat × Str)) : CL 0 c { c with aliasIn := a } := by cl_rfl
theorem CL.takenOver' (c : Client) : CL 0 c { c with takenOver := true } := by cl_rfl
theorem CL.peerGone' (c : Client) : CL 0 c { c with peerGone := true } := by cl_rfl

theorem CL.discObj' (c : Client) (sei : Option Nat) : CL 0 c (discObj c sei) := by
  cases sei with
  | none => exact CL.refl c
  | some v => exact CL.sei' c v

theorem flGet_congr {a b : Client} (h : a.inflight = b.inflight) (id : Nat) : flGet a id = flGet b id := by
  unfold flGet; rw [h]

/-! ### server level -/

/-- the in-flight records of ALL objects, registered or not: what `info.inflight` counts (a session taken over and
    not yet cleaned up still holds its records) -/
def sumAll (s : Server) : Nat := (s.objs.map (·.inflight.length)).sum

/-- reported minus actual -/
def defect (s : Server) : Int := s.info.inflight - (sumAll s : Int)

/-- object `j` is in the Clients map -/
def Reg (s : Server) (j : Nat) : Prop := ∃ id, (id, j) ∈ s.clients

theorem Reg.lt {s : Server} {j : Nat} (h : Reg s j) (hw : WF s) : j < s.objs.length := by
  obtain ⟨id, hm⟩ := h
  exact (hw.clients_valid id j hm).1

theorem Reg.of_assocGet {s : Server} {cid : Str} {j : Nat} (h : assocGet s.clients cid = some j) : Reg s j :=
  ⟨cid, assocGet_mem _ _ _ h⟩

theorem Reg.mono {s s' : Server} {j : Nat} (h : Reg s' j) (hs : s'.clients.Sublist s.clients) : Reg s j := by
  obtain ⟨id, hm⟩ := h
  exact ⟨id, hs.subset hm⟩

theorem sum_map_set {α} (f : α → Nat) (l : List α) (j : Nat) (x : α) (hj : j < l.length) :
    ((l.set j x).map f).sum + f l[j] = (l.map f).sum + f x := by
  induction l generalizing j with
  | nil => cases hj
  | cons y ys ih =>
    cases j with
    | zero => simp; omega
    | succ j =>
      have := ih j (by simpa using hj)
      simp only [List.set_cons_succ, List.map_cons, List.sum_cons, List.getElem_cons_succ]
      omega

theorem getObj_eq_getElem (s : Server) (j : Nat) (hj : j < s.objs.length) : getObj s j = s.objs[j] := by
  simp [getObj, List.getD_eq_getElem?_getD, hj]

theorem sumAll_setObj (s : Server) (j : Nat) (c : Client) (hj : j < s.objs.length) :
    (sumAll (setObj s j c) : Int) = sumAll s + c.inflight.length - (getObj s j).inflight.length := by
  have := sum_map_set (fun (c : Client) => c.inflight.length) s.objs j c hj
  rw [getObj_eq_getElem s j hj]
  unfold sumAll setObj
  simp only []
  omega

/-- `s'` results from `s` by work on behalf of object `i`: the defect of the in-flight counter moved by `d` -/
structure Infl (i : Nat) (d : Int) (s s' : Server) : Prop where
  good : Good s s'
  os : (∀ k, OS (getObj s k)) → ∀ k, OS (getObj s' k)
  infl : defect s' = defect s + d
  /-- objects that are neither the acting one nor registered keep their in-flight records.  Unregistered objects
      matter: a take-over copies the old session's records into the connecting object BEFORE `Clients.Add`, so an
      object that is not in the map yet holds records that `sumAll` counts -/
  unreg : ∀ k, k ≠ i → ¬ Reg s k → (getObj s' k).inflight = (getObj s k).inflight

theorem Infl.refl (i : Nat) (s : Server) : Infl i 0 s s :=
  ⟨Good.refl s, fun h => h, (Int.add_zero _).symm, fun _ _ _ => rfl⟩

theorem Infl.trans {i : Nat} {d1 d2 : Int} {s s1 s2 : Server} (h : Infl i d1 s s1) (g : Infl i d2 s1 s2) :
    Infl i (d1 + d2) s s2 :=
  ⟨h.good.trans g.good, fun x => g.os (h.os x), by rw [g.infl, h.infl]; omega,
   fun k hk hr => by rw [g.unreg k hk (fun r => hr (r.mono h.good.clients)), h.unreg k hk hr]⟩

theorem Infl.cast {i : Nat} {d d' : Int} {s s' : Server} (h : Infl i d s s') (he : d = d') : Infl i d' s s' := he ▸ h

theorem Infl.trans0 {i : Nat} {s s1 s2 : Server} (h : Infl i 0 s s1) (g : Infl i 0 s1 s2) : Infl i 0 s s2 :=
  (h.trans g).cast (by omega)

theorem Infl.toReg {j : Nat} {d : Int} {s s' : Server} (h : Infl j d s s') (hj : Reg s j) (i : Nat) : Infl i d s s' :=
  ⟨h.good, h.os, h.infl, fun k _ hr => h.unreg k (fun e => hr (e ▸ hj)) hr⟩

theorem Infl.upd {i : Nat} {d : Int} {s0 s s' : Server} (h : Infl i d s0 s) (ho : s'.objs = s.objs)
    (hc : s'.clients = s.clients) (hn : s'.connOf = s.connOf) (hp : s'.pending = s.pending)
    (hi : s'.info.inflight = s.info.inflight) : Infl i d s0 s' :=
  ⟨h.good.upd ho hc hn hp, fun x k => by rw [getObj_of_objs_eq ho k]; exact h.os x k,
   by rw [← h.infl]; unfold defect sumAll; rw [ho, hi],
   fun k hk hr => by rw [getObj_of_objs_eq ho k]; exact h.unreg k hk hr⟩

theorem Infl.inflTo {i : Nat} {d : Int} {s0 s : Server} (h : Infl i d s0 s) (m : Int) :
    Infl i (d + (m - s.info.inflight)) s0 { s with info := { s.info with inflight := m } } :=
  ⟨h.good.upd rfl rfl rfl rfl, h.os, by have := h.infl; unfold defect sumAll at *; simp only []; omega, h.unreg⟩

theorem Infl.set {i : Nat} {d e : Int} {s0 s : Server} (h : Infl i d s0 s) (hw : WF s0) (j : Nat)
    (hj : j < s0.objs.length) (hreg : j = i ∨ Reg s0 j) (c : Client) (hcl : CL e (getObj s j) c) :
    Infl i (d - e) s0 (setObj s j c) := by
  have hj' : j < s.objs.length := by rw [h.good.len]; exact hj
  refine ⟨h.good.set j c hcl.cw, fun x k => ?_, ?_, fun k hk hr => ?_⟩
  · by_cases hkj : k = j
    · subst hkj
      rw [getObj_setObj_eq s k c hj']
      exact hcl.os (h.os x k)
    · rw [getObj_setObj_ne s j k c hkj]; exact h.os x k
  · have hlen := hcl.len (h.good.wf hw.allWF j)
    have := sumAll_setObj s j c hj'
    have hd := h.infl
    unfold defect at *
    show s.info.inflight - (sumAll (setObj s j c) : Int) = _
    omega
  · have hkj : k ≠ j := fun x => hreg.elim (fun e => hk (x.trans e)) fun e => hr (x ▸ e)
    rw [getObj_setObj_ne s j k c hkj]
    exact h.unreg k hk hr

theorem Infl.setReg {i : Nat} {d e : Int} {s0 s : Server} (h : Infl i d s0 s) (hw : WF s0) (j : Nat) (hreg : Reg s0 j)
    (c : Client) (hcl : CL e (getObj s j) c) : Infl i (d - e) s0 (setObj s j c) :=
  h.set hw j (hreg.lt hw) (Or.inr hreg) c hcl

theorem Infl.delClient {i : Nat} {d : Int} {s0 s : Server} (h : Infl i d s0 s) (cid : Str) :
    Infl i d s0 { s with clients := assocDel s.clients cid } :=
  ⟨h.good.delClient cid, h.os, h.infl, h.unreg⟩

theorem getObj_set_own {s : Server} {i : Nat} (c : Client) (hi : i < s.objs.length) : getObj (setObj s i c) i = c :=
  getObj_setObj_eq s i c hi

theorem Infl.len {i : Nat} {d : Int} {s s' : Server} (h : Infl i d s s') : s'.objs.length = s.objs.length := h.good.len

theorem Infl.wf {i : Nat} {d : Int} {s s' : Server} (h : Infl i d s s') (hw : WF s) : WF s' := hw.of_good h.good

theorem Infl.trans' {i j : Nat} {d1 d2 : Int} {s s1 s2 : Server} (h : Infl i d1 s s1) (g : Infl j d2 s1 s2)
    (hj : j = i ∨ Reg s j) : Infl i (d1 + d2) s s2 :=
  ⟨h.good.trans g.good, fun x => g.os (h.os x), by rw [g.infl, h.infl]; omega,
   fun k hk hr => by
     have hkj : k ≠ j := fun x => hj.elim (fun e => hk (x.trans e)) fun e => hr (x ▸ e)
     rw [g.unreg k hkj (fun r => hr (r.mono h.good.clients)), h.unreg k hk hr]⟩

theorem Infl.lt {i : Nat} {d : Int} {s s' : Server} (h : Infl i d s s') {j : Nat} (hj : j < s.objs.length) :
    j < s'.objs.length := by rw [h.len]; exact hj

/-- `Infl i 0` for an acting object in range in a well-formed state: the form in which it is carried through the
    handlers that only compose others (the conditions are re-established after every piece) -/
def InflW (i : Nat) (s s' : Server) : Prop := WF s → i < s.objs.length → Infl i 0 s s'

theorem InflW.refl (i : Nat) (s : Server) : InflW i s s := fun _ _ => Infl.refl i s

theorem InflW.trans {i : Nat} {s s1 s2 : Server} (h : InflW i s s1) (g : InflW i s1 s2) : InflW i s s2 :=
  fun hw hi => (h hw hi).trans0 (g ((h hw hi).wf hw) ((h hw hi).lt hi))

theorem InflW.of {i : Nat} {s s' : Server} (h : Infl i 0 s s') : InflW i s s' := fun _ _ => h

theorem InflW.fst_mk {α} {i : Nat} {s0 x : Server} {y : α} (h : InflW i s0 x) : InflW i s0 (x, y).1 := h

theorem InflW.upd {i : Nat} {s0 s s' : Server} (h : InflW i s0 s) (ho : s'.objs = s.objs) (hc : s'.clients = s.clients)
    (hn : s'.connOf = s.connOf) (hp : s'.pending = s.pending) (hi : s'.info.inflight = s.info.inflight) :
    InflW i s0 s' := fun hw hi' => (h hw hi').upd ho hc hn hp hi

theorem InflW.delClient {i : Nat} {s0 s : Server} (h : InflW i s0 s) (cid : Str) :
    InflW i s0 { s with clients := assocDel s.clients cid } := fun hw hi => (h hw hi).delClient cid

theorem InflW.write {i : Nat} {e : Int} (s : Server) (c : Client) (n : Int) (hcl : CL e (getObj s i) c)
    (hn : n = s.info.inflight + e) : InflW i s { setObj s i c with info := { s.info with inflight := n } } :=
  fun hw hi => (((Infl.refl i s).set hw i hi (Or.inl rfl) c hcl).inflTo n).cast (by
    subst hn
    show 0 - e + (s.info.inflight + e - s.info.inflight) = 0
    omega)

theorem InflW.set {i : Nat} (s : Server) (c : Client) (hcl : CL 0 (getObj s i) c) : InflW i s (setObj s i c) :=
  fun hw hi => ((Infl.refl i s).set hw i hi (Or.inl rfl) c hcl).cast (by omega)

theorem InflW.transReg {i j : Nat} {s s1 s2 : Server} (h : InflW i s s1) (g : InflW j s1 s2) (hj : Reg s j) :
    InflW i s s2 := fun hw hi =>
  ((h hw hi).trans' (g ((h hw hi).wf hw) ((h hw hi).lt (hj.lt hw))) (Or.inr hj)).cast (by omega)

theorem info_ite_inflight (b : Bool) (x y : Info) (hx : x.inflight = y.inflight) :
    (if b = true then x else y).inflight = y.inflight := by
  cases b
  · rfl
  · exact hx

theorem isSome_of_not_isNone {α} {o : Option α} (h : ¬ o.isNone = true) : o.isSome = true := by
  cases o <;> simp_all

theorem CL.flSet_old (c : Client) (m : Msg) (h : (flGet c m.id).isSome = true) : CL 0 c (flSet c m).1 :=
  (CL.flSet' c m).cast (by rw [flSet_snd, h]; rfl)

theorem CL.flDelete_some (c : Client) (id : Nat) (h : (flGet c id).isSome = true) : CL (-1) c (flDelete c id).1 :=
  (CL.flDelete' c id).cast (by rw [flDelete_snd, h]; rfl)

/-! ### the delivery family -/

theorem publishToClientCore_infl (s : Server) (i : Nat) (sub : Sub) (f : Bool) (pk : Msg) :
    InflW i s (publishToClientCore s i sub f pk).1 := by
  have hc1 := CL.coreClient' (getObj s i) pk.topic
  generalize hc : coreClient (getObj s i) pk.topic = c1 at hc1
  generalize ho : coreOut s.caps (getObj s i) sub f pk = out1
  have hs1 : InflW i s (setObj s i c1) := .set s c1 hc1
  -- the copy filed under a fresh identifier: one record more, and the counter incremented
  have hst : ∀ pid, flGet c1 pid = none →
      CL (0 + 0 + 1 + 0) (getObj s i) (decSend (flSet { c1 with packetID := pid } { out1 with id := pid }).1) :=
    fun pid hfree => ((hc1.trans (by cl_rfl)).trans
      ((CL.flSet' _ _).cast (by rw [flSet_new (c := { c1 with packetID := pid }) (m := { out1 with id := pid }) hfree]; rfl))).trans (CL.decSend' _)
  refine publishToClientCore_cases (Q := fun r => InflW i s r.1) s i sub f pk hc.symm ho.symm (fun _ => hs1)
    (fun _ _ => hs1.upd rfl rfl rfl rfl rfl) (fun _ _ _ => hs1.upd rfl rfl rfl rfl rfl)
    (fun pid _ _ _ _ hfree _ => ?_) (fun pid _ _ _ _ hfree _ => .write s _ _ (hst pid hfree) (by omega))
  -- `Set` of the id that was just stored: the record is replaced
  refine .write s _ _ ((hst pid hfree).trans (CL.flSet_old _ _ ?_)) (by omega)
  rw [flGet_congr (decSend_inflight _)]
  rw [flGet_flSet_self_sv _ { out1 with id := pid }]
  rfl

theorem publishToSubscribers_infl (s : Server) (pk : Msg) (i : Nat) : InflW i s (publishToSubscribers s pk).1 :=
  publishToSubscribers_cases (J := fun r => InflW i s r.1) s pk (fun _ _ => .refl i s) fun acc cs k hk h hw hi =>
    (h.transReg (publishToClientCore_infl acc.1 k cs.2 false _) ((Reg.of_assocGet hk).mono (h hw hi).good.clients)) hw hi

theorem publishRetainedToClient_infl (s : Server) (i : Nat) (sub : Sub) (ex : Bool) (k : Nat) :
    InflW i s (publishRetainedToClient s i sub ex k).1 :=
  publishRetainedToClient_state i (InflW.refl i) InflW.trans (publishToClientCore_infl · i) s sub ex k

theorem retainMsg_infl (s : Server) (pk : Msg) (i : Nat) : InflW i s (retainMsg s pk) := by
  unfold retainMsg
  exact iteInduction (motive := InflW i s) (fun _ => .refl i s) fun _ => (InflW.refl i s).upd rfl rfl rfl rfl rfl

/-! ### work on the acting object -/

theorem stopClient_infl (s : Server) (i : Nat) : InflW i s (stopClient s i).1 := by
  unfold stopClient
  exact iteInduction (motive := fun r : Server × List Out => InflW i s r.1) (fun _ => .refl i s) fun _ =>
    .set s _ ⟨⟨rfl, fun h => ⟨h.1, h.2, h.3⟩⟩, fun _ => rfl, fun _ => (Int.add_zero _).symm⟩

theorem disconnectClient_infl (s : Server) (i : Nat) (code : Nat) : InflW i s (disconnectClient s i code).1 :=
  stopClient_infl s i

theorem unsubscribeClient_infl (s : Server) (i : Nat) : InflW i s (unsubscribeClient s i) := by
  unfold unsubscribeClient
  have h1 : InflW i s (setObj s i { getObj s i with subs := [] }) := .set s _ (CL.subs' _ _)
  refine iteInduction (motive := InflW i s) (fun _ => h1) fun _ => ?_
  exact foldl_inv (InflW i s) _ _ _ h1 fun b a h => h.upd rfl rfl rfl rfl (info_ite_inflight _ _ _ rfl)

theorem clearInflights_infl (s : Server) (i : Nat) : InflW i s (clearInflights s i) :=
  .write s _ _ (e := -((getObj s i).inflight.length : Int))
    ⟨⟨rfl, fun h => ⟨List.nodup_nil, h.2, h.3⟩⟩, fun h => h, fun _ => (Int.add_right_neg _).symm⟩ rfl

theorem recordGone_infl (s : Server) (i id : Nat) (q : Client → Client) (hq : ∀ c, CL 0 c (q c)) :
    InflW i s (recordGone s i id q) :=
  .write s _ _ ((CL.flDelete' _ id).trans (hq _)) (by split <;> omega)

theorem processPuback_infl (s : Server) (i id : Nat) : InflW i s (processPuback s i id).1 :=
  processPuback_cases (Q := fun r => InflW i s r.1) s i id (fun _ => .refl i s) fun _ =>
    recordGone_infl s i id _ CL.incSend'

theorem processPubrec_infl (s : Server) (i id rc : Nat) : InflW i s (processPubrec s i id rc).1 := by
  -- the PUBREL record replaces the one the PUBLISH was filed under
  have hc : ¬ (flGet (getObj s i) id).isNone = true →
      InflW i s (setObj s i (flSet (decRecv (getObj s i)) (pubrelAck s id)).1) := fun hn =>
    .set s _ ((CL.decRecv' _).trans0 (CL.flSet_old _ (pubrelAck s id)
      ((flGet_congr (decRecv_inflight _) id).symm ▸ isSome_of_not_isNone hn)))
  exact processPubrec_cases (Q := fun r => InflW i s r.1) s i id rc rfl (fun _ => (ackRes_fst ..).symm ▸ .refl i s)
    (fun hn _ => .write s _ _ (CL.flDelete_some _ id (isSome_of_not_isNone hn)) rfl) (fun hn _ _ => hc hn)
    fun hn _ _ => hc hn

theorem processPubrel_infl (s : Server) (i id rc : Nat) : InflW i s (processPubrel s i id rc).1 := by
  have hc : ¬ (flGet (getObj s i) id).isNone = true →
      CL 0 (getObj s i) (flSet (getObj s i) (pubcompAck s id)).1 := fun hn =>
    CL.flSet_old _ (pubcompAck s id) (isSome_of_not_isNone hn)
  exact processPubrel_cases (Q := fun r => InflW i s r.1) s i id rc rfl (fun _ => (ackRes_fst ..).symm ▸ .refl i s)
    (fun hn _ => .write s _ _ (CL.flDelete_some _ id (isSome_of_not_isNone hn)) rfl) (fun hn _ _ => .set s _ (hc hn))
    fun hn _ _ => .write s _ _ ((((hc hn).trans (CL.incRecv' _)).trans (CL.incSend' _)).trans (CL.flDelete' _ id))
      (by split <;> omega)

theorem processPubcomp_infl (s : Server) (i id : Nat) : InflW i s (processPubcomp s i id).1 := by
  rw [processPubcomp_eq]
  exact .fst_mk (recordGone_infl s i id _ fun c => (CL.incRecv' c).trans0 (CL.incSend' _))

theorem nextImmediate_infl (s : Server) (i : Nat) : InflW i s (nextImmediate s i).1 :=
  nextImmediate_cases (Q := fun r => InflW i s r.1) s i (.refl i s) fun m _ _ =>
    (InflW.upd (s' := { s with nextSeed := s.nextSeed / 64 }) (.refl i s) rfl rfl rfl rfl rfl).trans
      (recordGone_infl _ i m.id _ CL.decSend')

theorem processDisconnect_infl (s : Server) (i rc : Nat) (sei : Option Nat) :
    InflW i s (processDisconnect s i rc sei).1 := by
  have h1 : InflW i s (discState s i sei) := .set s _ (CL.discObj' _ sei)
  refine processDisconnect_cases (Q := fun r => InflW i s r.1) s i rc sei (fun _ => .refl i s) (fun _ _ => h1)
    fun _ _ => .fst_mk (InflW.trans ?_ (stopClient_infl _ i))
  exact h1.upd rfl rfl rfl rfl rfl

theorem unsubDropped_infl (s : Server) (i : Nat) (cid f : Str) : InflW i s (unsubDropped s i cid f) := by
  refine InflW.trans ?_ (.set _ _ (CL.subs' _ _))
  exact (InflW.refl i s).upd rfl rfl rfl rfl (info_ite_inflight _ _ _ rfl)

theorem processUnsubscribe_infl (s : Server) (i id : Nat) (filters : List Str) :
    InflW i s (processUnsubscribe s i id filters).1 :=
  processUnsubscribe_cases (I := fun s' _ => InflW i s s') (Q := fun r => InflW i s r.1) s i id filters (.refl i s)
    (fun _ _ _ h => h) (fun s' _ f _ h => h.trans (unsubDropped_infl s' i _ f)) (fun _ _ h _ => h) fun _ _ h _ => h

theorem subAccepted_infl (s : Server) (i : Nat) (cid : Str) (sb : Sub) : InflW i s (subAccepted s i cid sb) := by
  refine InflW.trans ?_ (.set _ _ (CL.subs' _ _))
  exact (InflW.refl i s).upd rfl rfl rfl rfl (info_ite_inflight _ _ _ rfl)

theorem processSubscribe_infl (s : Server) (i id subId : Nat) (filters : List Sub) :
    InflW i s (processSubscribe s i id subId filters).1 :=
  processSubscribe_state (InflW.refl i) InflW.trans s i id subId filters (fun s' sb _ => subAccepted_infl s' i _ sb)
    (publishRetainedToClient_infl · i)

theorem retainedState_infl (s : Server) (pk : Msg) (i : Nat) : InflW i s (retainedState s pk) :=
  iteInduction (motive := InflW i s) (fun _ => retainMsg_infl s pk i) fun _ => .refl i s

theorem sendLWT_infl (s : Server) (i : Nat) : InflW i s (sendLWT s i).1 :=
  sendLWT_cases (Q := fun r => InflW i s r.1) s i (fun _ => .refl i s)
    (fun _ _ _ _ => (InflW.refl i s).upd rfl rfl rfl rfl rfl) fun pk _ _ _ =>
      ((retainedState_infl s pk i).trans (publishToSubscribers_infl _ pk i)).trans (.set _ _ (CL.will' _ _))

theorem detachA_infl (s : Server) (i : Nat) (withErr : Bool) : InflW i s (detachA s i withErr).1 :=
  detachA_cases (Q := fun r => InflW i s r.1) s i withErr (fun _ => (sendLWT_infl s i).trans (stopClient_infl _ i))
    fun _ => .set s _ (CL.will' _ _)

theorem sessionEnded_infl (s : Server) (i : Nat) (cid : Str) : InflW i s (sessionEnded s i cid) :=
  ((clearInflights_infl s i).trans (unsubscribeClient_infl _ i)).delClient cid

theorem detachB_infl (s : Server) (i : Nat) : InflW i s (detachB s i) :=
  detachB_cases (Q := InflW i s) s i (fun _ => (InflW.refl i s).upd rfl rfl rfl rfl rfl)
    fun _ => (sessionEnded_infl s i _).upd rfl rfl rfl rfl rfl

theorem detach_infl (s : Server) (i : Nat) (withErr : Bool) : InflW i s (detach s i withErr).1 :=
  detach_tr (.ofState (InflW.refl i) InflW.trans) i (detachA_infl · i) (detachB_infl · i) s withErr

theorem pubTaken_infl (s : Server) (i id : Nat) (A : List (Nat × Str)) : InflW i s (pubTaken s i id A) := by
  unfold pubTaken
  exact iteInduction (motive := InflW i s)
    (fun hc => .write s _ _ ((CL.flDelete_some _ id ((Bool.and_eq_true _ _).mp hc).2).trans (CL.aliasIn' _ A)) rfl)
    fun _ => .set s _ (CL.aliasIn' _ A)

theorem processPublish_infl (s : Server) (i : Nat) (qos : Nat) (dup retain : Bool) (id : Nat) (topic payload : Str)
    (msgExpiry : Nat) (alias : Option Nat) :
    InflW i s (processPublish s i qos dup retain id topic payload msgExpiry alias).1 :=
  processPublish_tr (.ofState (InflW.refl i) InflW.trans) i id s qos dup retain topic payload msgExpiry alias
    (fun s' code _ => disconnectClient_infl s' i code) (fun s' _ _ _ => by rw [ackRes_fst]; exact InflW.refl i s')
    (pubTaken_infl s i id _) (fun s pk _ _ => retainMsg_infl s pk i) (fun s' pk _ => publishToSubscribers_infl s' pk i)
    (fun s ack _ _ => .write s _ _ ((CL.decRecv' _).trans (CL.flSet' _ ack)) (by split <;> omega))
    (fun s' _ _ => InflW.refl i s') fun s => recordGone_infl s i id incRecv CL.incRecv'

/-! ### one inbound packet -/

theorem receivePacket_infl (s : Server) (i : Nat) (pk : InPk) : InflW i s (receivePacket s i pk).1 :=
  receivePacket_tr (.ofState (InflW.refl i) InflW.trans) i s pk
    (handler_state (InflW.refl i) i s (processPublish_infl s i) (processSubscribe_infl s i)
      (processUnsubscribe_infl s i) (processPuback_infl s i) (processPubrec_infl s i) (processPubrel_infl s i)
      (processPubcomp_infl s i) (processDisconnect_infl s i) pk)
    (nextImmediate_infl · i) (fun s' code _ _ => disconnectClient_infl s' i code)

theorem conn_lt {s : Server} (hw : WF s) {c i : Nat} (hc : assocGet s.connOf c = some i) : i < s.objs.length :=
  hw.conn_valid c i (assocGet_mem _ _ _ hc)

theorem recvOn_infl (s : Server) (c : Nat) (pk : InPk) (b : Bool) (hw : WF s) (i : Nat)
    (hc : assocGet s.connOf c = some i) : Infl i 0 s (recvOn s c pk b).1 :=
  recvOn_trAt (.ofState (InflW.refl i) InflW.trans) i (fun h => h) s pk (receivePacket_infl s i pk) (receivePacket_infl · i _)
    (detach_infl · i) c b hc hw (conn_lt hw hc)

/-! ### the invariant -/

/-- no handler parked in the authentication hook (`stage 1`) belongs to object `i` -/
def NotPend1 (s : Server) (i : Nat) : Prop := ∀ p ∈ s.pending, p.stage = 1 → p.obj ≠ i

/-- the `inflight` conjunct of `Counted`, with what its proof needs -/
structure InflInv (s : Server) : Prop where
  /-- `Info.Inflight` is the number of in-flight records held by all client objects -/
  eq : s.info.inflight = sumAll s
  os : ∀ k, OS (getObj s k)
  /-- a client whose handler is parked in the authentication hook has no session yet -/
  pend : ∀ p ∈ s.pending, p.stage = 1 → ¬ Reg s p.obj ∧ (getObj s p.obj).inflight = []
  /-- a parked handler's connection is its object's connection -/
  pconn : ∀ p ∈ s.pending, assocGet s.connOf p.conn = some p.obj
  /-- one connection per object -/
  cinj : ∀ c1 c2 i, assocGet s.connOf c1 = some i → assocGet s.connOf c2 = some i → c1 = c2
  /-- object 0 (the inline client) exists and has no connection handler -/
  nz : 0 < s.objs.length
  pnz : ∀ p ∈ s.pending, p.obj ≠ 0

theorem InflInv.conn_of {s : Server} (h : InflInv s) {q : Pending} {c : Nat} (hq : q ∈ s.pending)
    (hc : assocGet s.connOf c = some q.obj) : q.conn = c := h.cinj _ _ _ (h.pconn q hq) hc

theorem InflInv.of_infl {s s' : Server} {i : Nat} (h : InflInv s) (g : Infl i 0 s s') (hs : NotPend1 s i) :
    InflInv s' := by
  refine ⟨?_, g.os h.os, ?_, ?_, ?_, by rw [g.len]; exact h.nz, by rw [g.good.pending]; exact h.pnz⟩
  · have h1 := g.infl
    have h2 := h.eq
    unfold defect at h1
    omega
  · intro p hp h1
    rw [g.good.pending] at hp
    obtain ⟨hr, he⟩ := h.pend p hp h1
    exact ⟨fun r => hr (r.mono g.good.clients), by rw [g.unreg p.obj (hs p hp h1) hr]; exact he⟩
  · intro p hp
    rw [g.good.pending] at hp
    rw [g.good.connOf]
    exact h.pconn p hp
  · rw [g.good.connOf]; exact h.cinj

theorem InflInv.upd {s s' : Server} (h : InflInv s) (ho : s'.objs = s.objs) (hc : s'.clients = s.clients)
    (hn : s'.connOf = s.connOf) (hp : s'.pending = s.pending) (hi : s'.info.inflight = s.info.inflight) :
    InflInv s' := by
  refine ⟨by rw [hi, h.eq]; unfold sumAll; rw [ho], fun k => by rw [getObj_of_objs_eq ho k]; exact h.os k, ?_, ?_, ?_,
    by rw [ho]; exact h.nz, by rw [hp]; exact h.pnz⟩
  · intro p hp' h1
    rw [hp] at hp'
    obtain ⟨hr, he⟩ := h.pend p hp' h1
    refine ⟨fun r => hr ?_, by rw [getObj_of_objs_eq ho]; exact he⟩
    unfold Reg at r ⊢
    rw [hc] at r
    exact r
  · intro p hp'
    rw [hp] at hp'
    rw [hn]
    exact h.pconn p hp'
  · rw [hn]; exact h.cinj

theorem InflInv.filterPending {s : Server} (h : InflInv s) (f : Pending → Bool) :
    InflInv { s with pending := s.pending.filter f } :=
  ⟨h.eq, h.os, fun p hp => h.pend p (List.mem_filter.mp hp).1, fun p hp => h.pconn p (List.mem_filter.mp hp).1, h.cinj,
   h.nz, fun p hp => h.pnz p (List.mem_filter.mp hp).1⟩

theorem forall_mem_snoc {α} {P : α → Prop} {l : List α} {a : α} (h : ∀ x ∈ l, P x) (ha : P a) : ∀ x ∈ l ++ [a], P x :=
  fun x hx => (List.mem_append.mp hx).elim (h x) fun e => List.mem_singleton.mp e ▸ ha

theorem InflInv.addPending {s : Server} (h : InflInv s) (p : Pending)
    (h1 : p.stage = 1 → ¬ Reg s p.obj ∧ (getObj s p.obj).inflight = [])
    (h2 : assocGet s.connOf p.conn = some p.obj) (h3 : p.obj ≠ 0) : InflInv { s with pending := s.pending ++ [p] } :=
  ⟨h.eq, h.os, forall_mem_snoc h.pend h1, forall_mem_snoc h.pconn h2, h.cinj, h.nz, forall_mem_snoc h.pnz h3⟩

theorem InflInv.addClient {s : Server} (h : InflInv s) (cid : Str) (i : Nat) (hi : NotPend1 s i) :
    InflInv { s with clients := assocSet s.clients cid i } := by
  refine ⟨h.eq, h.os, ?_, h.pconn, h.cinj, h.nz, h.pnz⟩
  intro p hp h1
  obtain ⟨hr, he⟩ := h.pend p hp h1
  refine ⟨?_, he⟩
  rintro ⟨id, hm⟩
  rcases assocSet_mem_cases _ _ _ _ hm with hm | hm
  · exact hr ⟨id, hm⟩
  · cases hm
    exact hi p hp h1 rfl

theorem OS_default : OS ({} : Client) := rfl

theorem OS_all_iff (s : Server) : (∀ k, OS (getObj s k)) ↔ ∀ c ∈ s.objs, OS c := getObj_forall_iff OS_default s

theorem assocGet_snoc {α β} [DecidableEq α] (m : List (α × β)) (k0 : α) (v0 : β) (k : α) (v : β)
    (h : assocGet (m ++ [(k0, v0)]) k = some v) : assocGet m k = some v ∨ (assocGet m k = none ∧ k = k0 ∧ v = v0) := by
  rw [assocGet_append] at h
  cases hm : assocGet m k with
  | some x =>
    rw [hm] at h
    exact Or.inl h
  | none =>
    rw [hm] at h
    simp only [Option.none_or, assocGet] at h
    split at h
    · rename_i hk
      cases h
      exact Or.inr ⟨rfl, hk.symm, rfl⟩
    · cases h

theorem InflInv.entered {s : Server} (h : InflInv s) (hw : WF s) (conn : Nat) (k : Connect) :
    InflInv (connState s conn k) := by
  refine ⟨?_, ?_, ?_, ?_, ?_, Nat.zero_lt_of_lt (connState_lt s conn k), h.pnz⟩
  · show s.info.inflight = ((sumAll (connState s conn k) : Nat) : Int)
    rw [h.eq]
    unfold sumAll connState
    simp [show (parseConnect s conn k).inflight = [] from rfl]
  · rw [OS_all_iff]
    intro x hx
    rcases List.mem_append.mp hx with hx | hx
    · exact (OS_all_iff s).mp h.os x hx
    · rw [List.mem_singleton.mp hx]; rfl
  · intro p hp h1
    obtain ⟨hr, he⟩ := h.pend p hp h1
    refine ⟨hr, ?_⟩
    rw [getObj_connState_old s conn k p.obj (hw.pending_valid p hp).1]
    exact he
  · intro p hp
    show assocGet (s.connOf ++ [(conn, s.objs.length)]) p.conn = some p.obj
    rw [assocGet_append, h.pconn p hp]
    rfl
  · intro c1 c2 i h1 h2
    rcases assocGet_snoc _ _ _ _ _ h1 with a | ⟨a0, a1, a2⟩
    · rcases assocGet_snoc _ _ _ _ _ h2 with b | ⟨b0, b1, b2⟩
      · exact h.cinj c1 c2 i a b
      · have := conn_lt hw a
        omega
    · rcases assocGet_snoc _ _ _ _ _ h2 with b | ⟨b0, b1, b2⟩
      · have := conn_lt hw b
        omega
      · rw [a1, b1]

theorem InflInv_init (caps : Caps) : InflInv (init caps) := by
  have no : ∀ {P : Pending → Prop}, ∀ p ∈ ([] : List Pending), P p := fun _ h => nomatch h
  refine ⟨rfl, ?_, no, no, (fun _ _ _ h => nomatch h), Nat.zero_lt_one, no⟩
  rw [OS_all_iff]
  intro c hc
  rw [List.mem_singleton.mp hc]
  rfl

/-! ### connecting -/

/-- `inheritClientSession` hands the old object's records to the new one, which held none -/
theorem inflInherited_infl {s0 s : Server} {i : Nat} (h : InflW i s0 s) (e : Nat)
    (hempty : (getObj s i).inflight = []) : InflW i s0 (inflInherited s i e) := by
  unfold inflInherited
  refine iteInduction (motive := InflW i s0) (fun _ => h.trans fun hw hi => ?_) fun _ => h
  refine InflW.write (e := ((getObj s e).inflight.length : Int)) s _ _
    ⟨⟨rfl, fun _ => ⟨(hw.allWF e).1, Nat.le_refl _, Nat.le_refl _⟩⟩, fun x => x, fun _ => ?_⟩ rfl hw hi
  show ((getObj s e).inflight.length : Int) = ((getObj s i).inflight.length : Int) + (getObj s e).inflight.length
  rw [hempty]; simp

theorem subsInherited_infl (s : Server) (i : Nat) (cid : Str) (subs : List (Str × Sub)) :
    InflW i s (subsInherited s i cid subs) :=
  List.foldlRecOn subs _ (motive := InflW i s) (.refl i s) fun b hb fs _ => hb.trans (subAccepted_infl b i cid fs.2)

/-- `admitA` is an `Infl` transition for the new object followed by `Clients.Add` -/
theorem admitA_infl (s : Server) (i : Nat) (k : Connect) (hw : WF s) (hi : i < s.objs.length) (hfresh : ¬ Reg s i)
    (hempty : (getObj s i).inflight = []) :
    ∃ b, Infl i 0 s b ∧ (admitA s i k).1 = { b with clients := assocSet b.clients k.id i } := by
  -- work on the existing object `e` (registered): seen as acting object `e` it leaves `i` alone
  have hd : ∀ e, InflW e s (disconnectClient (connCounted s) e 0x8E).1 := fun e =>
    (InflW.upd (s' := connCounted s) (.refl e s) rfl rfl rfl rfl rfl).trans (disconnectClient_infl _ e _)
  refine admitA_cases (Q := fun r => ∃ b, Infl i 0 s b ∧ r.1 = registered b k.id i) s i k rfl
    (fun _ => ⟨connCounted s, (Infl.refl i s).upd rfl rfl rfl rfl rfl, rfl⟩) (fun e s1 he h1 _ => ?_)
    (fun e s2 he h2 _ => ?_)
  · subst h1
    have hreg : Reg s e := Reg.of_assocGet he
    exact ⟨_, ((((hd e).trans (unsubscribeClient_infl _ e)).trans (clearInflights_infl _ e)).trans
      (.set _ _ (CL.takenOver' _)) hw (hreg.lt hw)).toReg hreg i, rfl⟩
  · subst h2
    have hreg : Reg s e := Reg.of_assocGet he
    have hs2 : Infl e 0 s (takenOver (disconnectClient (connCounted s) e 0x8E).1 e) :=
      (hd e).trans (.set _ _ (CL.takenOver' _)) hw (hreg.lt hw)
    have hs3 := inflInherited_infl (.of (hs2.toReg hreg i)) e
      ((hs2.unreg i (fun x => hfresh (x ▸ hreg)) hfresh).trans hempty)
    exact ⟨_, (((hs3.trans (subsInherited_infl _ i k.id _)).transReg (unsubscribeClient_infl _ e) hreg).transReg
      (clearInflights_infl _ e) hreg) hw hi, rfl⟩

theorem admitA_inv_cnt (s : Server) (i : Nat) (k : Connect) (hw : WF s) (hi : i < s.objs.length) (h : InflInv s)
    (hfresh : ¬ Reg s i) (hempty : (getObj s i).inflight = []) (hpi : NotPend1 s i) : InflInv (admitA s i k).1 := by
  obtain ⟨b, hb, he⟩ := admitA_infl s i k hw hi hfresh hempty
  rw [he]
  refine (h.of_infl hb hpi).addClient k.id i ?_
  intro p hp
  rw [hb.good.pending] at hp
  exact hpi p hp

theorem admitConnack_infl (s : Server) (i conn : Nat) (present : Bool) : InflW i s (admitConnack s i conn present).1 :=
  admitConnack_cases (Q := fun r => InflW i s r.1) s i conn present (fun _ => .fst_mk (.set s _ (CL.sei' _ _)))
    fun _ => .refl i s

theorem admitC_infl (s : Server) (i : Nat) (k : Connect) (present : Bool) : InflW i s (admitC s i k present).1 :=
  admitC_cases (J := fun acc => InflW i s acc.1) s i k present ((InflW.refl i s).upd rfl rfl rfl rfl rfl) fun acc m h =>
    iteInduction (motive := InflW i s) (fun _ => h.trans (recordGone_infl acc.1 i m.id (fun c => c) CL.refl)) fun _ => h

/-- what `admitClient` needs of the object it admits -/
structure Fresh (s : Server) (i : Nat) (k : Connect) : Prop where
  lt : i < s.objs.length
  id : (getObj s i).id = k.id
  unreg : ¬ Reg s i
  empty : (getObj s i).inflight = []
  notPend : NotPend1 s i

theorem NotPend1.of_reg {s : Server} {e : Nat} (h : InflInv s) (hr : Reg s e) : NotPend1 s e :=
  fun p hp h1 he => (h.pend p hp h1).1 (he ▸ hr)

theorem NotPend1.keep {s s' : Server} {i : Nat} (h : NotPend1 s i) (hp : s'.pending = s.pending) : NotPend1 s' i :=
  fun p hp' => h p (hp ▸ hp')

theorem tookOverDown_inv_cnt {t : Server} (w : WF t) (it : InflInv t) (ex : Option Nat)
    (hex : ∀ e, ex = some e → e < t.objs.length ∧ NotPend1 t e) :
    InflInv (tookOverDown t ex).1 ∧ Good t (tookOverDown t ex).1 := by
  cases ex with
  | none => exact ⟨it, Good.refl t⟩
  | some e =>
    have g := detach_infl t e true w (hex e rfl).1
    exact ⟨it.of_infl g (hex e rfl).2, g.good⟩

/-- the core of `attachClient` between the increment and the read loop, as `admitClient` runs it (`s2`: the CONNACK,
    `s4`: `admitC`) and as `connectHold` does before it parks at stage 2 (no work in between): `admitA`, work for the
    admitted object, the teardown of the handler taken over, work for the admitted object -/
theorem admitted_inv_cnt (s : Server) (i : Nat) (k : Connect) (hw : WF s) (h : InflInv s) (hf : Fresh s i k)
    {s2 s4 : Server} (g2 : InflW i (admitA s i k).1 s2) (g4 : InflW i (tookOverDown s2 (admitA s i k).2.2.2).1 s4) :
    InflInv s4 ∧ Keep s s4 := by
  have w1 : WF (admitA s i k).1 := admitA_wf s i k hw hf.lt hf.id
  have k1 : Keep s (admitA s i k).1 := admitA_keep s i k
  have np1 : NotPend1 (admitA s i k).1 i := hf.notPend.keep k1.pending
  have g2 := g2 w1 (by rw [k1.len]; exact hf.lt)
  obtain ⟨i3, gd3⟩ := tookOverDown_inv_cnt (g2.wf w1)
    ((admitA_inv_cnt s i k hw hf.lt h hf.unreg hf.empty hf.notPend).of_infl g2 np1) (admitA s i k).2.2.2 fun e he =>
      have hre : Reg s e := Reg.of_assocGet (admitA_exLive s i k e he).1
      ⟨by rw [g2.len, k1.len]; exact hre.lt hw, ((NotPend1.of_reg h hre).keep k1.pending).keep g2.good.pending⟩
  have k3 := (k1.trans g2.good.keep).trans gd3.keep
  have g4 := g4 ((g2.wf w1).of_good gd3) (by rw [k3.len]; exact hf.lt)
  exact ⟨i3.of_infl g4 (hf.notPend.keep k3.pending), k3.trans g4.good.keep⟩

theorem admitClient_inv_cnt (s : Server) (i conn : Nat) (k : Connect) (hw : WF s) (h : InflInv s) (hf : Fresh s i k) :
    InflInv (admitClient s i conn k).1 := by
  rw [admitClient_fst]
  exact (admitted_inv_cnt s i k hw h hf (admitConnack_infl _ i conn _) (admitC_infl _ i k _)).1

theorem fresh_new (s : Server) (hw : WF s) (conn : Nat) (k : Connect) :
    Fresh (connState s conn k) s.objs.length k := by
  refine ⟨connState_lt s conn k, by rw [getObj_connState_new]; rfl, fun r => ?_, by rw [getObj_connState_new]; rfl,
    fun p hp _ he => ?_⟩
  · exact Nat.lt_irrefl _ (Reg.lt (s := s) r hw)
  · exact Nat.lt_irrefl _ (he ▸ (hw.pending_valid p hp).1)

theorem entered_inv_cnt (s : Server) (conn : Nat) (k : Connect) (hw : WF s) (h : InflInv s)
    (hf : conn ∉ s.connOf.map (·.1)) :
    WF (connState s conn k) ∧ InflInv (connState s conn k) ∧ Fresh (connState s conn k) s.objs.length k :=
  ⟨hw.addObj _ conn (parseConnect_wf s conn k) hf, h.entered hw conn k, fresh_new s hw conn k⟩

theorem connect_inv_cnt (s : Server) (conn : Nat) (k : Connect) (hw : WF s) (h : InflInv s)
    (hf : conn ∉ s.connOf.map (·.1)) :
    InflInv (connect s conn k).1 ∧ (connect s conn k).1.pending = s.pending ∧
      (connect s conn k).1.connOf = s.connOf ++ [(conn, s.objs.length)] := by
  obtain ⟨w1, i1, f1⟩ := entered_inv_cnt s conn k hw h hf
  refine connect_cases (Q := fun r => InflInv r.1 ∧ r.1.pending = s.pending ∧
      r.1.connOf = s.connOf ++ [(conn, s.objs.length)]) s conn k (fun _ _ e _ => ?_) fun _ e _ => ?_
  · subst e
    have g := stopClient_infl _ _ w1 f1.lt
    exact ⟨i1.of_infl g f1.notPend, g.good.pending, g.good.connOf⟩
  · subst e
    have kp := (admitClient_wf _ _ conn k w1 f1.lt f1.id).2
    exact ⟨admitClient_inv_cnt _ _ conn k w1 i1 f1, kp.pending, kp.connOf⟩

theorem connectHold_inv_cnt (s : Server) (conn : Nat) (k : Connect) (stage : Nat) (hw : WF s) (h : InflInv s)
    (hf : conn ∉ s.connOf.map (·.1)) : InflInv (connectHold s conn k stage).1 := by
  obtain ⟨w1, i1, f1⟩ := entered_inv_cnt s conn k hw h hf
  have hco : assocGet (connState s conn k).connOf conn = some s.objs.length := assocGet_append_fresh _ _ _ hf
  have hpark1 : ∀ (rf : Option Nat), InflInv { connState s conn k with pending := (connState s conn k).pending ++
      [{ conn := conn, obj := s.objs.length, k := k, stage := 1, refuse := rf }] } :=
    fun rf => i1.addPending _ (fun _ => ⟨f1.unreg, f1.empty⟩) hco (Nat.ne_of_gt h.nz)
  refine connectHold_cases (Q := fun r => InflInv r.1) s conn k stage (fun _ _ e _ _ => e ▸ hpark1 _)
    (fun _ _ e _ _ => e ▸ i1.of_infl (stopClient_infl _ _ w1 f1.lt) f1.notPend) (fun _ e _ _ => e ▸ hpark1 _) ?_
  rintro _ _ sD oD rfl _ _ rfl hD
  obtain rfl : sD = _ := congrArg Prod.fst hD
  obtain ⟨i3, k3⟩ := admitted_inv_cnt _ _ k w1 i1 f1 (InflW.refl _ _) (InflW.refl _ _)
  exact i3.addPending _ (fun h1 => by cases h1) (k3.connOf ▸ hco) (Nat.ne_of_gt h.nz)

theorem connectRelease_inv_cnt (s : Server) (p : Pending) (hw : WF s) (h : InflInv s) (hi : p.obj < s.objs.length)
    (hid : (getObj s p.obj).id = p.k.id) (hnp : NotPend1 s p.obj)
    (h1 : p.stage = 1 → ¬ Reg s p.obj ∧ (getObj s p.obj).inflight = []) : InflInv (connectRelease s p).1 :=
  connectRelease_cases (Q := fun r => InflInv r.1) s p (fun _ _ _ => h.of_infl (stopClient_infl s p.obj hw hi) hnp)
    (fun hst _ => admitClient_inv_cnt s p.obj p.conn p.k hw h ⟨hi, hid, (h1 (eq_of_beq hst)).1, (h1 (eq_of_beq hst)).2, hnp⟩)
    (fun _ _ => h.upd rfl rfl rfl rfl rfl)
    fun _ _ => h.of_infl (((admitConnack_infl s p.obj p.conn p.present).trans (admitC_infl _ p.obj p.k p.present)) hw hi) hnp

/-! ### housekeeping -/

theorem tickClients_infl (s : Server) (dt : Int) (i : Nat) : InflW i s (tickClients s dt).1 :=
  tickClients_cases (J := fun acc => InflW i s acc.1) s dt (.refl i s) fun acc e he _ h =>
    h.transReg (sessionEnded_infl acc.1 e.2 e.1) ⟨e.1, he⟩

theorem tickRetained_infl (s : Server) (now : Int) (i : Nat) : InflW i s (tickRetained s now) :=
  tickRetained_cases (J := InflW i s) s now (.refl i s) (fun _ _ _ _ h => h.upd rfl rfl rfl rfl rfl)
    fun _ h => h.upd rfl rfl rfl rfl rfl

theorem tickInflight_infl (s : Server) (now : Int) (i : Nat) : InflW i s (tickInflight s now) :=
  tickInflight_cases (J := InflW i s) s now (.refl i s) fun b e m he h =>
    h.transReg (recordGone_infl b e.2 m.id (fun c => c) CL.refl) ⟨e.1, he⟩

theorem publishDue_infl (acc : Server × List Out) (e : Str × Msg) (i : Nat) : InflW i acc.1 (publishDue acc e).1 :=
  have h := publishToSubscribers_infl acc.1 e.2 i
  publishDue_cases (Q := fun r => InflW i acc.1 r.1) acc e rfl (fun _ => h.upd rfl rfl rfl rfl rfl) fun j hj hw hi =>
    InflW.upd ((h.trans (retainedState_infl _ e.2 i)).transReg (InflW.set (i := j) (retainedState _ e.2) _ (CL.will' _ {}))
      ((Reg.of_assocGet hj).mono (h hw hi).good.clients)) rfl rfl rfl rfl rfl hw hi

theorem tickWills_infl (s : Server) (dt : Int) (i : Nat) : InflW i s (tickWills s dt).1 :=
  tickWills_cases (J := fun acc => InflW i s acc.1) s dt (.refl i s) fun acc e _ _ h => h.trans (publishDue_infl acc e i)

/-! ### `step` -/

/-- the object whose handler an op makes read from (or lose) its connection -/
def opObj (s : Server) : Op → Option Nat
  | .recv c _ | .recvCut c _ | .drop c | .dropHold c | .dropHoldEarly c => assocGet s.connOf c
  | _ => none

/-- schedule sanity for the in-flight counter: a handler parked in the authentication hook (`connectHold … 1`)
    has not read anything beyond its CONNECT packet, so no packet is delivered on — and no loss is noticed
    for — its connection before it is released -/
def OpSched1 (s : Server) (op : Op) : Prop := ∀ i, opObj s op = some i → NotPend1 s i

instance (s : Server) (i : Nat) : Decidable (NotPend1 s i) := by unfold NotPend1; infer_instance

instance (s : Server) (op : Op) : Decidable (OpSched1 s op) :=
  match h : opObj s op with
  | none => isTrue (fun i hi => by rw [h] at hi; cases hi)
  | some j =>
    if hj : NotPend1 s j then isTrue (fun i hi => by rw [h] at hi; cases hi; exact hj)
    else isFalse (fun g => hj (g j h))

theorem recvOn_inv_cnt {s : Server} (conn : Nat) (pk : InPk) (b : Bool) (hw : WF s) (h : InflInv s)
    (hnp : ∀ i, assocGet s.connOf conn = some i → NotPend1 s i) : InflInv (recvOn s conn pk b).1 := by
  cases hc : assocGet s.connOf conn with
  | none => rw [recvOn_unknown hc]; exact h
  | some i => exact h.of_infl (recvOn_infl s conn pk b hw i hc) (hnp i hc)

/-- a parked connecting handler is released: the state it has run in, and that no handler parked in the
    authentication hook belongs to its connection any more -/
structure PendingReleased (s : Server) (conn : Nat) (p : Pending) : Prop where
  mem : p ∈ s.pending
  onConn : p.conn = conn
  free : NotPend1 (unparkP s conn) p.obj
  wf : WF (connectRelease (unparkP s conn) p).1
  keep : Keep (unparkP s conn) (connectRelease (unparkP s conn) p).1
  inv : InflInv (connectRelease (unparkP s conn) p).1

theorem release_inv_cnt (s : Server) (conn : Nat) (p : Pending) (hw : WF s) (h : InflInv s)
    (hp : s.pending.find? (·.conn == conn) = some p) : PendingReleased s conn p := by
  have hmem : p ∈ s.pending := List.mem_of_find?_eq_some hp
  have hpc : p.conn = conn := by simpa using List.find?_some hp
  have hv := hw.pending_valid p hmem
  have hnp : NotPend1 (unparkP s conn) p.obj := by
    intro q hq _ he
    obtain ⟨hq1, hq2⟩ := List.mem_filter.mp hq
    rw [h.conn_of hq1 (he ▸ h.pconn p hmem), hpc] at hq2
    simp at hq2
  obtain ⟨w1, k1⟩ := connectRelease_wf (unparkP s conn) p (hw.filterPending _) hv.1 hv.2
  exact ⟨hmem, hpc, hnp, w1, k1,
    connectRelease_inv_cnt _ p (hw.filterPending _) (h.filterPending _) hv.1 hv.2 hnp (h.pend p hmem)⟩

/-- **the in-flight invariant is kept by every op** of a well-scheduled history -/
theorem InflInv_step (s : Server) (op : Op) (hw : WF s) (hf : OpFresh s op) (hs : OpSched1 s op) (h : InflInv s) :
    InflInv (step s op).1 := by
  have lost : ∀ i, InflW i s (modObj s i (fun c => { c with peerGone := true })) := fun i =>
    .set s _ (CL.peerGone' _)
  cases op with
  | connect conn k =>
    obtain ⟨i1, hp1, hc1⟩ := connect_inv_cnt s conn k hw h hf
    refine step_connect_cases (Q := fun r => InflInv r.1) s conn k (fun _ _ _ => ?_) fun _ => i1
    refine recvOn_inv_cnt conn .pingreq false (connect_wf s conn k hw hf) i1 fun i hi => ?_
    rw [hc1, assocGet_append_fresh _ _ _ hf] at hi
    cases hi
    intro p hp _ he
    rw [hp1] at hp
    have := (hw.pending_valid p hp).1
    omega
  | recv conn pk =>
    exact recvOn_inv_cnt conn pk true hw h hs
  | drop conn =>
    exact step_drop_cases (Q := fun r => InflInv r.1) s conn (fun _ => h) (fun _ _ _ => h) fun i hc _ =>
      h.of_infl (((lost i).trans (detach_infl _ i true)) hw (conn_lt hw hc)) (hs i hc)
  | recvCut conn pk =>
    have g : ∀ i r, assocGet s.connOf conn = some i →
        r = recvOn (modObj s i (fun c => { c with peerGone := true })) conn pk false → InflW i s r.1 :=
      fun i r hc hr => hr ▸ (lost i).trans fun w _ => recvOn_infl _ conn pk false w i hc
    exact step_recvCut_cases (Q := fun r => InflInv r.1) s conn pk (fun _ => h) (fun _ _ _ => h)
      (fun i r hc _ hr _ => h.of_infl (g i r hc hr hw (conn_lt hw hc)) (hs i hc))
      fun i r hc _ hr _ => h.of_infl (((g i r hc hr).trans (detach_infl r.1 i true)) hw (conn_lt hw hc)) (hs i hc)
  | dropHold conn =>
    exact step_dropHold_cases (Q := fun r => InflInv r.1) s conn (fun _ => h) (fun _ _ _ => h) fun i d hc _ hd =>
      h.of_infl (InflW.upd (s := d.1) (hd ▸ (lost i).trans (detachA_infl _ i true)) rfl rfl rfl rfl rfl hw
        (conn_lt hw hc)) (hs i hc)
  | dropHoldEarly conn =>
    exact step_dropHoldEarly_cases (Q := fun r => InflInv r.1) s conn (fun _ => h) (fun _ _ _ => h) fun i hc _ =>
      h.of_infl ((InflW.upd (s' := { s with parkedEarly := s.parkedEarly ++ [i] }) (.refl i s) rfl rfl rfl rfl rfl).trans
        (.set _ _ (CL.peerGone' _)) hw (conn_lt hw hc)) (hs i hc)
  | release conn =>
    -- a handler parked after its read loop: no handler parked in the authentication hook is on its connection
    have hnp : ∀ i, s.pending.find? (·.conn == conn) = none → assocGet s.connOf conn = some i → NotPend1 s i := by
      intro i hnone hc q hq _ he
      have := List.find?_eq_none.mp hnone q hq
      simp [h.conn_of hq (he ▸ hc)] at this
    refine step_release_cases (Q := fun r => InflInv r.1) s conn (fun p hp _ => ?_)
      (fun p hp _ => (release_inv_cnt s conn p hw h hp).inv) (fun _ _ => h) (fun i hp hc _ => ?_)
      (fun i hp hc _ _ => ?_) fun _ _ _ _ _ => h
    · have R := release_inv_cnt s conn p hw h hp
      refine recvOn_inv_cnt conn .pingreq false R.wf R.inv fun i hi => ?_
      rw [R.keep.connOf, show (unparkP s conn).connOf = s.connOf from rfl, ← R.onConn, h.pconn p R.mem] at hi
      cases hi
      exact R.free.keep R.keep.pending
    · exact h.of_infl ((InflW.upd (s' := unparkB s i) (.refl i s) rfl rfl rfl rfl rfl).trans (detachB_infl _ i) hw
        (conn_lt hw hc)) (hnp i hp hc)
    · exact h.of_infl ((InflW.upd (s' := unparkE s i) (.refl i s) rfl rfl rfl rfl rfl).trans (detach_infl _ i true) hw
        (conn_lt hw hc)) (hnp i hp hc)
  | connectHold conn k stage => exact connectHold_inv_cnt s conn k stage hw h hf
  | tick kind t =>
    have hnp : NotPend1 s 0 := fun p hp _ => h.pnz p hp
    exact step_tick_cases (Q := fun r => InflInv r.1) s kind t (h.of_infl (tickClients_infl s t 0 hw h.nz) hnp)
      (h.of_infl (tickRetained_infl s t 0 hw h.nz) hnp) (h.of_infl (tickInflight_infl s t 0 hw h.nz) hnp)
      (h.of_infl (tickWills_infl s t 0 hw h.nz) hnp) h
  | inlinePublish topic payload retain qos =>
    exact h.of_infl (receivePacket_infl s 0 _ hw h.nz) (fun p hp _ => h.pnz p hp)
  | inlineSubscribe id filter =>
    exact step_inlineSubscribe_cases (Q := fun r => InflInv r.1) s id filter (fun _ => h)
      fun _ e _ => e ▸ h.upd rfl rfl rfl rfl rfl
  | inlineUnsubscribe id filter =>
    exact step_inlineUnsubscribe_cases (Q := fun r => InflInv r.1) s id filter (fun _ => h)
      fun _ => h.upd rfl rfl rfl rfl rfl

def OpsSched1 (s : Server) : List Op → Prop
  | [] => True
  | op :: ops => OpSched1 s op ∧ OpsSched1 (step s op).1 ops

theorem OpsSched1_iff {s : Server} {ops : List Op} : OpsSched1 s ops ↔ OpsOK OpSched1 s ops :=
  OpsOK.of_rec (fun _ => trivial) (fun _ _ _ => Iff.rfl) s ops

instance instDecidableOpsSched1 (s : Server) (ops : List Op) : Decidable (OpsSched1 s ops) :=
  decidable_of_iff _ OpsSched1_iff.symm

/-- **the in-flight invariant holds after every well-scheduled history** -/
theorem InflInv_run (caps : Caps) (ops : List Op) (hf : OpsFresh (init caps) ops) (hs : OpsSched1 (init caps) ops) :
    InflInv (run (init caps) ops) :=
  (run_inv (I := fun s => WF s ∧ InflInv s)
    (fun s op i c => ⟨WF_step s op i.1 c.1, InflInv_step s op i.1 c.1 c.2 i.2⟩) ⟨WF_init caps, InflInv_init caps⟩
    ((OpsFresh_iff.mp hf).and (OpsSched1_iff.mp hs))).2

end Mochi.Broker
