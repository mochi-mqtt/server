import Mochi.Lemmas.BrokerIndexSync
import Mochi.Lemmas.Gather
import Mochi.Lemmas.CountersConn
import Mochi.Lemmas.BrokerExitsDelivery
import Mochi.Lemmas.BrokerExitsFanout
/-!
# Who is written a publish: `publishToSubscribers`, entry by entry (C03)

For an application message of QoS 0 (`pk.type = 3`, `pk.qos = 0`) the outputs of `publishToSubscribers s pk` are
characterised exactly, as a function of the state `s` BEFORE the publish:

* `pubConn o` — the connection a written PUBLISH goes to (`none` for every other output);
* `recipient s pk cs` — the connection the entry `cs = (client id, merged subscription)` of the subscriber map
  is served on, if it is served: the id is registered, the object is open, not inline, its peer not gone, the
  No Local option of the MERGED subscription does not exclude the publisher, the id may read the topic;
* `fold_pubConns` — the connections written to, in order, are exactly the recipients of the entries, in order.
* `subsMapOf s topic` — the subscriber map `publishToSubscribers` iterates, WITH the selected shared members merged
  in; `publishToSubscribers_eq_fold_shared`: the publish is the loop over it; `subsMapOf_nodup`: one entry per client id.

The state only changes in the five delivery fields of the served objects (`Deliv`) — the gates of later entries
read none of them — and, QoS being 0, not at all outside `objs`.

What turns this into a statement about subscriptions and sessions: the subscriber map in terms of
the matching entries of the index (`Mochi.Topics`: the `$` rule of `gatherSubscriptions` against that of the matcher,
keys and merged No Local); entitlement (`EntitledF03`, as the model implements it, and `EntitledSpec`, as C03 states
it); `ConnMap` (every network object is the one its connection number is mapped to), kept by every op that is no
schedule op (`CK`); `matching_iff_session`; and the reachable states `ReachSeq` (such ops interleaved with changes of
configuration, `SameTables`) with the invariants they satisfy.
-/
namespace Mochi.Broker
open Mochi.Topics

/-! ### one delivery of a QoS 0 message -/

/-- a written copy of the application message `pk`: a PUBLISH with its payload, QoS 0 -/
def IsCopy (pk : Msg) (o : Out) : Prop :=
  ∃ n ver m me, o = Out.wrote n (.publish ver m me) ∧ m.type = 3 ∧ m.payload = pk.payload ∧ m.qos = 0 ∧
    m.origin = pk.origin ∧ m.dup = false ∧ m.id = 0

/-- the connection a written PUBLISH goes to -/
def pubConn : Out → Option Nat
  | .wrote n (.publish _ _ _) => some n
  | _ => none

theorem ite_gt_eq_min (a b : Nat) : (if a > b then b else a) = min a b :=
  iteInduction (motive := fun x => x = min a b) (fun h => (Nat.min_eq_right (Nat.le_of_lt h)).symm)
    (fun h => (Nat.min_eq_left (Nat.le_of_not_gt h)).symm)

theorem shapeQos_eq_min (caps : Caps) (sub : Sub) (q : Nat) :
    shapeQos caps sub q = min (min q sub.qos) caps.maximumQos := by
  unfold shapeQos
  simp only [ite_gt_eq_min]

theorem shapeQos_zero_of (caps : Caps) (sub : Sub) (q : Nat) (h : q = 0 ∨ sub.qos = 0) : shapeQos caps sub q = 0 := by
  rw [shapeQos_eq_min]; omega

theorem shapeQos_sub_zero (caps : Caps) (sub : Sub) (q : Nat) (h : sub.qos = 0) : shapeQos caps sub q = 0 :=
  shapeQos_zero_of caps sub q (Or.inr h)

/-- `publishToClientCore` for a message that is QoS 0 after shaping (QoS 0 itself, or the subscription is): the
    object is rewritten (alias table only) and, if it is open, the shaped copy is written -/
theorem publishToClientCore_q0 (s : Server) (i : Nat) (sub : Sub) (f : Bool) (pk : Msg)
    (hq : pk.qos = 0 ∨ sub.qos = 0) :
    ∃ c1 m, SessEq (getObj s i) c1 ∧
      (m.type = pk.type ∧ m.payload = pk.payload ∧ m.qos = 0 ∧ m.origin = pk.origin ∧ m.dup = false ∧ m.id = 0) ∧
      publishToClientCore s i sub f pk =
        (setObj s i c1, if c1.isOpen = true then writeMsg (setObj s i c1) i m else []) := by
  obtain ⟨c1, hc⟩ : ∃ c1, c1 = coreClient (getObj s i) pk.topic := ⟨_, rfl⟩
  obtain ⟨m, hm⟩ : ∃ m, m = coreOut s.caps (getObj s i) sub f pk := ⟨_, rfl⟩
  have hz : m.qos = 0 := by rw [hm, coreOut_qos]; exact shapeQos_zero_of s.caps sub pk.qos hq
  have hpos : ¬ m.qos > 0 := by rw [hz]; exact Nat.lt_irrefl 0
  refine ⟨c1, m, ?_, ?_, ?_⟩
  · rw [hc]
    unfold coreClient
    split
    · exact SessEq.aliasOutSet _ _
    · exact SessEq.refl _
  · have hf : m.payload = pk.payload ∧ m.origin = pk.origin ∧ m.dup = false := by
      rw [hm]; unfold coreOut; split <;> exact ⟨rfl, rfl, rfl⟩
    exact ⟨by rw [hm, coreOut_type], hf.1, hz, hf.2.1, hf.2.2, by rw [hm, coreOut_id]⟩
  · refine publishToClientCore_cases
      (Q := fun r => r = (setObj s i c1, if c1.isOpen = true then writeMsg (setObj s i c1) i m else []))
      s i sub f pk hc hm (fun _ => ?_) (fun h => absurd h hpos) (fun h => absurd h hpos)
      (fun _ h => absurd h hpos) (fun _ h => absurd h hpos)
    cases c1.isOpen <;> rfl

/-- the gates of `publishToClient` and of `writeMsg` for entry `sub` of client object `i`: not excluded by
    No Local, authorised to read the topic, open, not inline, peer not gone -/
def gate (s : Server) (i : Nat) (sub : Sub) (pk : Msg) : Bool :=
  !(sub.noLocal && pk.origin == (getObj s i).id) && aclOk s (getObj s i).id pk.topic false &&
    (getObj s i).isOpen && !(getObj s i).inline && !(getObj s i).peerGone

theorem gate_congr {s t : Server} (d : Deliv s t) (ha : t.aclDeny = s.aclDeny) (i : Nat) (sub : Sub) (pk : Msg) :
    gate t i sub pk = gate s i sub pk := by
  have e := d.all i
  unfold gate aclOk
  rw [ha, ← e.id, ← e.isOpen, ← e.inline, ← e.peerGone]

/-- one entry of the subscriber map, QoS 0: who is written, and what happens to the state -/
theorem publishToClient_q0 (t : Server) (i : Nat) (sub : Sub) (pk : Msg) (hi : i < t.objs.length)
    (hq : pk.qos = 0 ∨ sub.qos = 0) (ht : pk.type = 3) :
    Deliv t (publishToClient t i sub false pk).1 ∧ (publishToClient t i sub false pk).1.aclDeny = t.aclDeny ∧
    (publishToClient t i sub false pk).2.filterMap pubConn =
      (if gate t i sub pk = true then [(getObj t i).conn] else []) ∧
    ∀ x ∈ (publishToClient t i sub false pk).2, IsCopy pk x := by
  have nothing : Deliv t t ∧ t.aclDeny = t.aclDeny ∧ ([] : List Out).filterMap pubConn = [] ∧
      ∀ x ∈ ([] : List Out), IsCopy pk x :=
    ⟨Deliv.refl t, rfl, rfl, fun x hx => by cases hx⟩
  have hg : gate t i sub pk =
      (Q1.passes t i sub pk && (getObj t i).isOpen && !(getObj t i).inline && !(getObj t i).peerGone) := rfl
  rw [publishToClient_passes]
  cases hp : Q1.passes t i sub pk with
  | false => rw [hg, hp]; exact nothing
  | true =>
    rw [if_pos rfl]
    obtain ⟨c1, m, hc1, hm, heq⟩ := publishToClientCore_q0 t i sub false pk hq
    obtain ⟨me, hw⟩ := writeMsg_pub (setObj t i c1) i m (hm.1.trans ht)
    rw [getObj_setObj_eq t i c1 hi] at hw
    -- both gates passed: what is left of `gate` is `writeMsg`'s own test, which subsumes `isOpen`
    have ho : (publishToClientCore t i sub false pk).2 =
        if gate t i sub pk = true then [Out.wrote (getObj t i).conn (.publish c1.ver m me)] else [] := by
      have hgate : gate t i sub pk = (c1.isOpen && !c1.inline && !c1.peerGone) := by
        rw [hg, hp, hc1.isOpen, hc1.inline, hc1.peerGone]
        rfl
      rw [heq, hgate, hc1.conn]
      show (if c1.isOpen = true then writeMsg (setObj t i c1) i m else []) = _
      rw [hw]
      cases c1.isOpen <;> rfl
    rw [ho, heq]
    refine ⟨(Deliv.refl t).set i c1 hc1, rfl, ?_, fun x hx => ?_⟩
    · split <;> rfl
    · split at hx
      · rw [List.mem_singleton] at hx
        exact ⟨_, _, m, me, hx, hm.1.trans ht, hm.2⟩
      · cases hx

/-! ### the loop of `publishToSubscribers` -/

/-- the loop body of `publishToSubscribers` -/
def deliverStep (pk : Msg) (acc : Server × List Out) (cs : Str × Sub) : Server × List Out :=
  match assocGet acc.1.clients cs.1 with
  | none => acc
  | some i =>
    let (s', o) := publishToClient acc.1 i cs.2 false pk
    (s', acc.2 ++ o)

/-- the connection on which the entry `cs` of the subscriber map is served, if it is: as a function of the state
    BEFORE the publish -/
def recipient (s : Server) (pk : Msg) (cs : Str × Sub) : Option Nat :=
  match assocGet s.clients cs.1 with
  | none => none
  | some i => if gate s i cs.2 pk = true then some (getObj s i).conn else none

theorem fold_pubConns (s : Server) (pk : Msg) (hcv : ∀ id i, (id, i) ∈ s.clients → i < s.objs.length)
    (ht : pk.type = 3) (L : List (Str × Sub)) (hq : pk.qos = 0 ∨ ∀ cs ∈ L, cs.2.qos = 0) :
    ∀ acc : Server × List Out, Deliv s acc.1 → acc.1.aclDeny = s.aclDeny →
      Deliv s (L.foldl (deliverStep pk) acc).1 ∧ (L.foldl (deliverStep pk) acc).1.aclDeny = s.aclDeny ∧
      (L.foldl (deliverStep pk) acc).2.filterMap pubConn = acc.2.filterMap pubConn ++ L.filterMap (recipient s pk) ∧
      ∀ x ∈ (L.foldl (deliverStep pk) acc).2, x ∈ acc.2 ∨ IsCopy pk x := by
  induction L with
  | nil =>
    intro acc d ha
    exact ⟨d, ha, by simp, fun x hx => Or.inl hx⟩
  | cons cs rest ih =>
    have hq1 : pk.qos = 0 ∨ cs.2.qos = 0 := hq.imp id (fun h => h cs List.mem_cons_self)
    replace ih := ih (hq.imp id (fun h c hc => h c (List.mem_cons_of_mem _ hc)))
    intro acc d ha
    rw [List.foldl_cons]
    cases hc : assocGet s.clients cs.1 with
    | none =>
      have e : deliverStep pk acc cs = acc := by
        unfold deliverStep
        rw [d.clients, hc]
      have hr : recipient s pk cs = none := by unfold recipient; rw [hc]
      rw [e, List.filterMap_cons, hr]
      exact ih acc d ha
    | some i =>
      have hi : i < acc.1.objs.length := by rw [d.len]; exact hcv _ _ (assocGet_mem _ _ _ hc)
      obtain ⟨p1, p2, p3, p4⟩ := publishToClient_q0 acc.1 i cs.2 pk hi hq1 ht
      have e : deliverStep pk acc cs =
          ((publishToClient acc.1 i cs.2 false pk).1, acc.2 ++ (publishToClient acc.1 i cs.2 false pk).2) := by
        unfold deliverStep
        rw [d.clients, hc]
      have hr : recipient s pk cs = if gate s i cs.2 pk = true then some (getObj s i).conn else none := by
        unfold recipient; rw [hc]
      rw [e]
      obtain ⟨q1, q2, q3, q4⟩ := ih ((publishToClient acc.1 i cs.2 false pk).1, acc.2 ++ (publishToClient acc.1 i cs.2 false pk).2)
        (d.trans p1) (p2.trans ha)
      refine ⟨q1, q2, ?_, ?_⟩
      · rw [q3, List.filterMap_append, p3, gate_congr d ha, ← (d.all i).conn, List.filterMap_cons, hr,
          List.append_assoc]
        cases gate s i cs.2 pk <;> rfl
      · intro x hx
        rcases q4 x hx with h | h
        · rcases List.mem_append.mp h with h | h
          · exact Or.inl h
          · exact Or.inr (p4 x h)
        · exact Or.inr h

/-! ### `publishToSubscribers` as the loop over the subscriber map `subsMapOf` (= the plain entries when no shared
    subscription matches) -/

/-- the subscriber map `publishToSubscribers` iterates: the plain entries, and — if any shared subscription
    matches — the selected members merged in -/
def subsMapOf (s : Server) (topic : Str) : List (Str × Sub) :=
  if (subscribers s.topics topic).shared.length > 0 then
    mergeSharedSelected (subscribers s.topics topic).subs
      (selectShared s.pickSeed
        { subscribers s.topics topic with shared := permuteBy s.orderSeed (subscribers s.topics topic).shared })
  else (subscribers s.topics topic).subs

theorem subsMapOf_of_shared_nil (s : Server) (topic : Str) (h : (subscribers s.topics topic).shared = []) :
    subsMapOf s topic = (subscribers s.topics topic).subs := by
  unfold subsMapOf
  rw [h]
  rfl

/-! ### one entry per client id -/

theorem nodup_assocSet {β} (m : List (Str × β)) (k : Str) (v : β) (h : (m.map Prod.fst).Nodup) :
    ((assocSet m k v).map Prod.fst).Nodup :=
  assocSet_nodup_keys m k v h

theorem nodup_gatherSubOne (topic : Str) (m : List (Str × Sub)) (e : Str × Sub) (h : (m.map Prod.fst).Nodup) :
    ((gatherSubOne topic m e).map Prod.fst).Nodup := by
  unfold gatherSubOne
  split
  · exact h
  · split <;> exact nodup_assocSet _ _ _ h

theorem nodup_gatherStep (ns : List Node) (topic : Str) (acc : Subscribers) (g : Gather)
    (h : (acc.subs.map Prod.fst).Nodup) : ((gatherStep ns topic acc g).subs.map Prod.fst).Nodup := by
  cases g with
  | subs p =>
    simp only [gatherStep]
    split
    · exact h
    · exact List.foldlRecOn _ _ (motive := fun m => (m.map Prod.fst).Nodup) h
        fun m hm e _ => nodup_gatherSubOne topic m e hm
  | shared p => simp only [gatherStep]; (repeat' split) <;> exact h
  | inline p => simp only [gatherStep]; (repeat' split) <;> exact h

theorem subscribers_subs_nodup (x : Index) (topic : Str) : ((subscribers x topic).subs.map Prod.fst).Nodup := by
  unfold subscribers
  split
  · simp
  · exact List.foldlRecOn _ _ (b := {}) (motive := fun acc => (acc.subs.map Prod.fst).Nodup) List.nodup_nil
      fun acc h g _ => nodup_gatherStep x.nodes topic acc g h

theorem mergeSharedSelected_nodup (subs sel : List (Str × Sub)) (h : (subs.map Prod.fst).Nodup) :
    ((mergeSharedSelected subs sel).map Prod.fst).Nodup := by
  unfold mergeSharedSelected
  exact List.foldlRecOn _ _ (motive := fun m : List (Str × Sub) => (m.map Prod.fst).Nodup) h
    fun m hm e _ => by split <;> exact nodup_assocSet _ _ _ hm

theorem subsMapOf_nodup (s : Server) (topic : Str) : ((subsMapOf s topic).map Prod.fst).Nodup := by
  unfold subsMapOf
  split
  · exact mergeSharedSelected_nodup _ _ (subscribers_subs_nodup s.topics topic)
  · exact subscribers_subs_nodup s.topics topic

theorem publishToSubscribers_eq_fold_shared (s : Server) (pk : Msg) (hig : pk.ignore = false) :
    publishToSubscribers s pk =
      (subsMapOf s pk.topic).foldl (deliverStep (stamped s pk))
        (s, (subscribers s.topics pk.topic).inline.map fun x => Out.inline x.1 pk.topic pk.payload) := by
  rw [← (stamped_fields s pk).1, ← (stamped_fields s pk).2.1]
  unfold publishToSubscribers
  rw [if_neg (by rw [hig]; exact Bool.false_ne_true)]
  rfl

theorem publishToSubscribers_eq_fold (s : Server) (pk : Msg) (hig : pk.ignore = false)
    (hsh : (subscribers s.topics pk.topic).shared = []) :
    publishToSubscribers s pk =
      (subscribers s.topics pk.topic).subs.foldl (deliverStep (stamped s pk))
        (s, (subscribers s.topics pk.topic).inline.map fun x => Out.inline x.1 pk.topic pk.payload) := by
  rw [publishToSubscribers_eq_fold_shared s pk hig, subsMapOf_of_shared_nil s _ hsh]

theorem gate_stamped (s : Server) (pk : Msg) (i : Nat) (sub : Sub) : gate s i sub (stamped s pk) = gate s i sub pk := by
  unfold gate
  rw [(stamped_fields s pk).1, (stamped_fields s pk).2.2.2.2]

theorem recipient_stamped (s : Server) (pk : Msg) : recipient s (stamped s pk) = recipient s pk := by
  funext cs
  unfold recipient
  split
  · rfl
  · rw [gate_stamped]

theorem IsCopy_stamped {s : Server} {pk : Msg} {x : Out} (h : IsCopy (stamped s pk) x) : IsCopy pk x := by
  obtain ⟨n, ver, m, me, h1, h2, h3, h4, h5, h6⟩ := h
  exact ⟨n, ver, m, me, h1, h2, h3.trans (stamped_fields s pk).2.1, h4, h5.trans (stamped_fields s pk).2.2.2.2, h6⟩

/-- the connections written a PUBLISH, in order, are the recipients of the entries of the subscriber map (plain
    and selected shared, merged), in order — no hypothesis on shared subscriptions -/
theorem publishToSubscribers_pubConns_shared (s : Server) (pk : Msg)
    (hcv : ∀ id i, (id, i) ∈ s.clients → i < s.objs.length)
    (hig : pk.ignore = false) (ht : pk.type = 3)
    (hq : pk.qos = 0 ∨ ∀ cs ∈ subsMapOf s pk.topic, cs.2.qos = 0) :
    (publishToSubscribers s pk).2.filterMap pubConn = (subsMapOf s pk.topic).filterMap (recipient s pk) ∧
    ∀ x ∈ (publishToSubscribers s pk).2, (∃ id, x = Out.inline id pk.topic pk.payload) ∨ IsCopy pk x := by
  rw [publishToSubscribers_eq_fold_shared s pk hig]
  obtain ⟨_, _, q3, q4⟩ := fold_pubConns s (stamped s pk) hcv
    ((stamped_fields s pk).2.2.2.1.trans ht) (subsMapOf s pk.topic)
    (hq.imp (fun h => (stamped_fields s pk).2.2.1.trans h) id)
    (s, (subscribers s.topics pk.topic).inline.map fun x => Out.inline x.1 pk.topic pk.payload) (Deliv.refl s) rfl
  refine ⟨?_, fun x hx => ?_⟩
  · have : ((subscribers s.topics pk.topic).inline.map fun x => Out.inline x.1 pk.topic pk.payload).filterMap pubConn
        = [] := by
      rw [List.filterMap_map]
      exact List.filterMap_eq_nil_iff.mpr fun _ _ => rfl
    rw [q3, recipient_stamped]
    show List.filterMap pubConn _ ++ _ = _
    rw [this, List.nil_append]
  · rcases q4 x hx with h | h
    · obtain ⟨a, _, rfl⟩ := List.mem_map.mp h
      exact Or.inl ⟨a.1, rfl⟩
    · exact Or.inr (IsCopy_stamped h)

/-- **the connections written a PUBLISH, in order, are the recipients of the entries of the subscriber map, in
    order**; every output is an inline delivery or a copy of the message -/
theorem publishToSubscribers_pubConns (s : Server) (pk : Msg)
    (hcv : ∀ id i, (id, i) ∈ s.clients → i < s.objs.length)
    (hig : pk.ignore = false) (ht : pk.type = 3)
    (hq : pk.qos = 0 ∨ ∀ cs ∈ (subscribers s.topics pk.topic).subs, cs.2.qos = 0)
    (hsh : (subscribers s.topics pk.topic).shared = []) :
    (publishToSubscribers s pk).2.filterMap pubConn =
      (subscribers s.topics pk.topic).subs.filterMap (recipient s pk) ∧
    ∀ x ∈ (publishToSubscribers s pk).2, (∃ id, x = Out.inline id pk.topic pk.payload) ∨ IsCopy pk x := by
  rw [← subsMapOf_of_shared_nil s _ hsh] at hq ⊢
  exact publishToSubscribers_pubConns_shared s pk hcv hig ht hq

theorem mem_pubConns {o : List Out} {n : Nat} :
    n ∈ o.filterMap pubConn ↔ ∃ ver m me, Out.wrote n (.publish ver m me) ∈ o := by
  rw [List.mem_filterMap]
  constructor
  · rintro ⟨x, hx, h⟩
    cases x with
    | wrote c w =>
      cases w with
      | publish ver m me =>
        cases h
        exact ⟨ver, m, me, hx⟩
      | _ => cases h
    | _ => cases h
  · rintro ⟨ver, m, me, h⟩
    exact ⟨_, h, rfl⟩

/-! ### who receives, stated on the state before the publish -/

/-- two client objects that are not inline have different connection numbers -/
def ConnDistinct (s : Server) : Prop :=
  ∀ i j, i < s.objs.length → j < s.objs.length → (getObj s i).inline = false → (getObj s j).inline = false →
    (getObj s i).conn = (getObj s j).conn → i = j

/-- the client on connection `n` is entitled to the message `pk` through the entry `(cid, sub)` of the subscriber
    map `subs` (client id ↦ MERGED matching subscription): it is the connection of the client object registered
    under `cid`, which is open, not inline, whose peer is not gone; `cid` may read the topic; the No Local
    option of the merged subscription does not exclude the publisher -/
def EntitledVia (s : Server) (pk : Msg) (subs : List (Str × Sub)) (n : Nat) : Prop :=
  ∃ cid i sub, (cid, i) ∈ s.clients ∧ (getObj s i).conn = n ∧ (getObj s i).isOpen = true ∧
    (getObj s i).inline = false ∧ (getObj s i).peerGone = false ∧ (cid, sub) ∈ subs ∧
    aclOk s cid pk.topic false = true ∧ (sub.noLocal && pk.origin == cid) = false

theorem gate_true_iff (s : Server) (i : Nat) (sub : Sub) (pk : Msg) :
    gate s i sub pk = true ↔ (sub.noLocal && pk.origin == (getObj s i).id) = false ∧
      aclOk s (getObj s i).id pk.topic false = true ∧ (getObj s i).isOpen = true ∧ (getObj s i).inline = false ∧
      (getObj s i).peerGone = false := by
  simp only [gate, Bool.and_eq_true, Bool.not_eq_true', and_assoc]

theorem recipient_eq_some (s : Server) (pk : Msg) (cs : Str × Sub) (n : Nat) :
    recipient s pk cs = some n ↔ ∃ i, assocGet s.clients cs.1 = some i ∧ gate s i cs.2 pk = true ∧ (getObj s i).conn = n := by
  unfold recipient
  cases assocGet s.clients cs.1 with
  | none => simp
  | some i =>
    simp only [Option.some.injEq, exists_eq_left']
    split
    · rename_i hg
      simp [hg]
    · rename_i hg
      simp [hg]

theorem mem_recipients (s : Server) (hw : WF s) (pk : Msg) (subs : List (Str × Sub)) (n : Nat) :
    n ∈ subs.filterMap (recipient s pk) ↔ EntitledVia s pk subs n := by
  rw [List.mem_filterMap]
  constructor
  · rintro ⟨cs, hcs, h⟩
    obtain ⟨i, hi, hg, hn⟩ := (recipient_eq_some s pk cs n).mp h
    have hm := assocGet_mem _ _ _ hi
    have hid := (hw.clients_valid _ _ hm).2
    obtain ⟨g1, g2, g3, g4, g5⟩ := (gate_true_iff s i cs.2 pk).mp hg
    rw [hid] at g1 g2
    exact ⟨cs.1, i, cs.2, hm, hn, g3, g4, g5, hcs, g2, g1⟩
  · rintro ⟨cid, i, sub, hm, hn, g3, g4, g5, hcs, g2, g1⟩
    refine ⟨(cid, sub), hcs, (recipient_eq_some s pk _ n).mpr ⟨i, assocGet_of_mem _ _ _ hw.clients_nodup hm, ?_, hn⟩⟩
    have hid := (hw.clients_valid _ _ hm).2
    exact (gate_true_iff s i sub pk).mpr ⟨by rw [hid]; exact g1, by rw [hid]; exact g2, g3, g4, g5⟩

/-- with one entry per client id and one connection per client object, no connection is a recipient twice -/
theorem recipients_nodup (s : Server) (hw : WF s) (hcd : ConnDistinct s) (pk : Msg) (subs : List (Str × Sub))
    (hnd : (subs.map Prod.fst).Nodup) : (subs.filterMap (recipient s pk)).Nodup := by
  have hp : subs.Pairwise (fun a b => a.1 ≠ b.1) := List.pairwise_map.mp hnd
  refine List.Pairwise.filterMap (recipient s pk) ?_ hp
  intro a a' hne n hn n' hn' e
  subst e
  obtain ⟨i, hi, hg, hc⟩ := (recipient_eq_some s pk a n).mp hn
  obtain ⟨j, hj, hg', hc'⟩ := (recipient_eq_some s pk a' n).mp hn'
  have vi := hw.clients_valid _ _ (assocGet_mem _ _ _ hi)
  have vj := hw.clients_valid _ _ (assocGet_mem _ _ _ hj)
  have := hcd i j vi.1 vj.1 ((gate_true_iff s i a.2 pk).mp hg).2.2.2.1 ((gate_true_iff s j a'.2 pk).mp hg').2.2.2.1
    (hc.trans hc'.symm)
  subst this
  exact hne (vi.2.symm.trans vj.2)

end Mochi.Broker

/-! ## The subscriber map, declaratively: keys and merged No Local in terms of the matching index entries -/
namespace Mochi.Topics

/-! ### the `$` test of `gatherSubscriptions` and the `$` rule of the matcher -/

theorem splitLevels_cons_ne (c : Nat) (rest : Str) (hc : c ≠ slash) :
    ∃ l ls, splitLevels (c :: rest) = (c :: l) :: ls := by
  unfold splitLevels
  rw [if_neg hc]
  split
  · exact ⟨[], [], rfl⟩
  · rename_i l ls _
    exact ⟨l, ls, rfl⟩

theorem splitLevels_cons_slash (rest : Str) : splitLevels (slash :: rest) = [] :: splitLevels rest := by
  rw [splitLevels]
  simp

/-- the first level begins with the first byte, unless that byte is the separator -/
theorem splitLevels_head (f : Str) : ∃ a ls, splitLevels f = a :: ls ∧ (a ≠ [] → a.head? = f.head?) := by
  cases f with
  | nil => exact ⟨[], [], rfl, fun h => absurd rfl h⟩
  | cons c rest =>
    by_cases hc : c = slash
    · subst hc
      exact ⟨[], _, splitLevels_cons_slash rest, fun h => absurd rfl h⟩
    · obtain ⟨l, ls, h⟩ := splitLevels_cons_ne c rest hc
      exact ⟨c :: l, ls, h, fun _ => rfl⟩

/-- on a filter whose levels match the topic's, the byte test of `gatherSubscriptions` (`topic[0] == '$'` and
    `filter[0]` is `+` or `#`) is the `$` rule of the matcher (the first LEVEL of the filter is `+` or `#`) -/
theorem dollarExcluded_eq_dollarRule (f topic : Str) (hm : matchLv (splitLevels f) (splitLevels topic) = true) :
    dollarExcluded f topic = dollarRule (splitLevels f) topic := by
  have hd : dollarExcluded f topic =
      (topic.head? == some dollar && (f.head? == some plus || f.head? == some hash)) := by
    cases f with
    | nil => cases topic <;> simp [dollarExcluded]
    | cons f0 fr => cases topic <;> rfl
  rw [hd, dollarRule]
  cases topic with
  | nil => rfl
  | cons t0 tr =>
    by_cases ht : t0 = dollar
    · -- the first level of the topic begins with `$`: the filter's first level is `#`, `+` or begins with `$` too
      subst ht
      obtain ⟨a, ls, hf, hh⟩ := splitLevels_head f
      obtain ⟨l', ls', htp⟩ := splitLevels_cons_ne dollar tr (by decide)
      rw [hf, htp, matchLv_cons_cons] at hm
      have ha : a = [hash] ∨ a = [plus] ∨ a = dollar :: l' := by
        by_cases h : (a == [hash]) = true
        · exact Or.inl (eq_of_beq h)
        · rw [if_neg h] at hm
          simp only [Bool.and_eq_true, Bool.or_eq_true, beq_iff_eq] at hm
          exact Or.inr hm.1
      rw [hf]
      rcases ha with rfl | rfl | rfl <;> rw [← hh (List.cons_ne_nil _ _)] <;> rfl
    · have : (some t0 == some dollar) = false := by simpa using ht
      show (some t0 == some dollar && _) = (some t0 == some dollar && _)
      rw [this, Bool.false_and, Bool.false_and]

theorem specMatch_iff (f topic : Str) :
    specMatch (splitLevels f) topic = true ↔
      matchLv (splitLevels f) (splitLevels topic) = true ∧ dollarExcluded f topic = false := by
  unfold specMatch
  constructor
  · intro h
    have h1 : matchLv (splitLevels f) (splitLevels topic) = true := by
      cases hm : matchLv (splitLevels f) (splitLevels topic)
      · rw [hm] at h; cases h
      · rfl
    refine ⟨h1, ?_⟩
    rw [dollarExcluded_eq_dollarRule f topic h1]
    rw [h1] at h
    simpa using h
  · rintro ⟨h1, h2⟩
    rw [dollarExcluded_eq_dollarRule f topic h1] at h2
    rw [h1, h2]
    rfl

/-! ### in terms of the entries of the index -/

/-- the index holds for client `c` the plain subscription `sub` (at the address of its filter), and the filter of
    `sub` matches `topic` under the declarative matcher `specMatch` -/
def MatchingSub (x : Index) (topic c : Str) (sub : Sub) : Prop :=
  plainAt x (splitLevels sub.filter) c = some sub ∧ specMatch (splitLevels sub.filter) topic = true

/-- the subscriber map in terms of the index entries and the declarative matcher, for every
    structurally sound index (`IdxOK`: kept by every index operation, hence by every history) -/
theorem hasSub_subscribers_idx {P : Sub → Prop} (hP : MergeOr P) (x : Index) (hx : IdxOK x) (topic : Str)
    (hne : topic ≠ []) (hnh : ∀ t ∈ splitLevels topic, t ≠ [hash]) (c : Str) :
    HasSub P (subscribers x topic).subs c ↔ ∃ sub, MatchingSub x topic c sub ∧ P sub := by
  rw [subscribers_hasSub hP x hx.pc topic hne hnh]
  constructor
  · rintro ⟨q, n, s, hn, hs, hm, hd, hp⟩
    have hpl : plainAt x q c = some s := by
      unfold plainAt
      rw [hn]
      exact assocGet_of_mem _ _ _ (hx.keys n (getNode_mem hn)).subs hs
    have hq : splitLevels s.filter = q := by
      rw [← plainPath_eq]; exact (hx.pos.plain q c s hpl).2
    refine ⟨s, ⟨by rw [hq]; exact hpl, ?_⟩, hp⟩
    rw [specMatch_iff, hq]
    exact ⟨hm, hd⟩
  · rintro ⟨sub, ⟨hpl, hsm⟩, hp⟩
    obtain ⟨hm, hd⟩ := (specMatch_iff sub.filter topic).mp hsm
    unfold plainAt at hpl
    cases hg : getNode x.nodes (splitLevels sub.filter) with
    | none => rw [hg] at hpl; cases hpl
    | some n =>
      rw [hg] at hpl
      exact ⟨_, n, sub, hg, assocGet_mem _ _ _ hpl, hm, hd, hp⟩

theorem MatchingSub.entry {x : Index} {topic c : Str} {sub : Sub} (h : MatchingSub x topic c sub) :
    (c, sub.filter) ∈ indexEntries x :=
  Entry.mem (Or.inl ⟨_, sub, h.1, rfl⟩)

theorem matchingSub_of_entry {x : Index} (hx : IdxOK x) {topic c f : Str} (hm : (c, f) ∈ indexEntries x)
    (hs : shareKey f = false) (hsm : specMatch (splitLevels f) topic = true) :
    ∃ sub, MatchingSub x topic c sub ∧ sub.filter = f := by
  rcases Entry.of_mem hx hm with ⟨q, sub, hq, hf⟩ | ⟨q, g, sub, hq, hf⟩
  · have := (hx.pos.plain q c sub hq).2
    rw [plainPath_eq] at this
    exact ⟨sub, ⟨by rw [this]; exact hq, by rw [hf]; exact hsm⟩, hf⟩
  · have := (hx.pos.shared q g c sub hq).1
    rw [hf, hs] at this
    cases this

theorem idxOK_runOps (ops : List IOp) : IdxOK (runOps ops) := by
  refine List.foldlRecOn ops applyOp (motive := IdxOK) idxOK_empty fun x h op _ => ?_
  cases op with
  | subscribe c s => exact idxOK_subscribe x h c s
  | unsubscribe f c => exact idxOK_unsubscribe x h f c
  | inlineSubscribe id s => exact idxOK_inlineSubscribe x h id s
  | inlineUnsubscribe id f => exact idxOK_inlineUnsubscribe x h id f
  | retain t p fl => exact idxOK_retainMessage x h t p fl

theorem mergeOr_qosPos : MergeOr (fun sub => sub.qos > 0) := by
  intro a b
  show (if b.qos > a.qos then b.qos else a.qos) > 0 ↔ _
  split <;> omega

/-- every matching plain subscription of the index has QoS 0: so has every merged entry of the subscriber map -/
theorem merged_qos_zero (x : Index) (hx : IdxOK x) (topic : Str) (hne : topic ≠ [])
    (hnh : ∀ t ∈ splitLevels topic, t ≠ [hash]) (hnd : ((subscribers x topic).subs.map Prod.fst).Nodup)
    (h : ∀ c sub, MatchingSub x topic c sub → sub.qos = 0) :
    ∀ cs ∈ (subscribers x topic).subs, cs.2.qos = 0 := by
  intro cs hcs
  by_cases hz : cs.2.qos = 0
  · exact hz
  · have hp : HasSub (fun sub => sub.qos > 0) (subscribers x topic).subs cs.1 :=
      ⟨cs.2, assocGet_of_mem _ _ _ hnd hcs, Nat.pos_of_ne_zero hz⟩
    obtain ⟨sub, hm, hq⟩ := (hasSub_subscribers_idx mergeOr_qosPos x hx topic hne hnh cs.1).mp hp
    have := h _ _ hm
    omega

end Mochi.Topics

/-! ## Who is entitled, declaratively -/
namespace Mochi.Broker
open Mochi.Topics

/-- **entitlement as the model implements it** (finding F03 included): connection `n` belongs to a client object
    registered under its id `cid` that is open, not inline, whose peer is not gone; the index holds a plain
    subscription of `cid` whose filter matches the topic; `cid` may read the topic; and it is NOT the case that
    `cid` is the publisher and SOME matching subscription of `cid` has No Local set (the model merges the matching
    subscriptions of a client with OR on No Local) -/
def EntitledF03 (s : Server) (pk : Msg) (n : Nat) : Prop :=
  ∃ cid i, (cid, i) ∈ s.clients ∧ (getObj s i).conn = n ∧ (getObj s i).isOpen = true ∧
    (getObj s i).inline = false ∧ (getObj s i).peerGone = false ∧
    (∃ sub, MatchingSub s.topics pk.topic cid sub) ∧ aclOk s cid pk.topic false = true ∧
    ¬ (pk.origin = cid ∧ ∃ sub, MatchingSub s.topics pk.topic cid sub ∧ sub.noLocal = true)

/-- **entitlement as C03 states it**: … holds at least one matching subscription that it is authorised to read and
    whose No Local option does not exclude it -/
def EntitledSpec (s : Server) (pk : Msg) (n : Nat) : Prop :=
  ∃ cid i, (cid, i) ∈ s.clients ∧ (getObj s i).conn = n ∧ (getObj s i).isOpen = true ∧
    (getObj s i).inline = false ∧ (getObj s i).peerGone = false ∧ aclOk s cid pk.topic false = true ∧
    ∃ sub, MatchingSub s.topics pk.topic cid sub ∧ ¬ (sub.noLocal = true ∧ pk.origin = cid)

/-- whoever the model serves is entitled in the sense of C03 -/
theorem EntitledF03.spec {s : Server} {pk : Msg} {n : Nat} (h : EntitledF03 s pk n) : EntitledSpec s pk n := by
  obtain ⟨cid, i, h1, h2, h3, h4, h5, ⟨sub, hsub⟩, h7, h8⟩ := h
  exact ⟨cid, i, h1, h2, h3, h4, h5, h7, sub, hsub, fun ⟨a, b⟩ => h8 ⟨b, sub, hsub, a⟩⟩

/-- the F03 situation: the publisher holds a matching subscription with No Local and a matching one without -/
def MixedNoLocal (s : Server) (pk : Msg) : Prop :=
  ∃ sub sub', MatchingSub s.topics pk.topic pk.origin sub ∧ sub.noLocal = true ∧
    MatchingSub s.topics pk.topic pk.origin sub' ∧ sub'.noLocal = false

/-- outside the F03 situation the model's entitlement IS the entitlement of C03 -/
theorem entitledF03_iff_spec {s : Server} {pk : Msg} (hm : ¬ MixedNoLocal s pk) (n : Nat) :
    EntitledF03 s pk n ↔ EntitledSpec s pk n := by
  constructor
  · exact EntitledF03.spec
  · rintro ⟨cid, i, h1, h2, h3, h4, h5, h7, sub, hsub, hnl⟩
    refine ⟨cid, i, h1, h2, h3, h4, h5, ⟨sub, hsub⟩, h7, ?_⟩
    rintro ⟨ho, sub', hsub', hnl'⟩
    subst ho
    cases hs : sub.noLocal with
    | true => exact hnl ⟨hs, rfl⟩
    | false => exact hm ⟨sub', sub, hsub', hnl', hsub, hs⟩

/-- the entry of the subscriber map in terms of the index: `EntitledVia` over the gathered map is `EntitledF03` -/
theorem entitledVia_iff_F03 (s : Server) (hx : IdxOK s.topics) (pk : Msg) (hne : pk.topic ≠ [])
    (hnh : ∀ t ∈ splitLevels pk.topic, t ≠ [hash]) (hnd : ((subscribers s.topics pk.topic).subs.map Prod.fst).Nodup)
    (n : Nat) :
    EntitledVia s pk (subscribers s.topics pk.topic).subs n ↔ EntitledF03 s pk n := by
  have hkey := fun c => hasSub_subscribers_idx mergeOr_true s.topics hx pk.topic hne hnh c
  have hnl := fun c => hasSub_subscribers_idx mergeOr_noLocal s.topics hx pk.topic hne hnh c
  constructor
  · rintro ⟨cid, i, sub, h1, h2, h3, h4, h5, hs, h7, h8⟩
    have hg := assocGet_of_mem _ _ _ hnd hs
    refine ⟨cid, i, h1, h2, h3, h4, h5, ?_, h7, ?_⟩
    · obtain ⟨sub', hsub', _⟩ := (hkey cid).mp ⟨sub, hg, trivial⟩
      exact ⟨sub', hsub'⟩
    · rintro ⟨ho, hex⟩
      obtain ⟨sub', hg', hn'⟩ := (hnl cid).mpr hex
      rw [hg] at hg'
      cases hg'
      rw [hn', ho] at h8
      simp at h8
  · rintro ⟨cid, i, h1, h2, h3, h4, h5, ⟨sub0, hsub0⟩, h7, h8⟩
    obtain ⟨sub, hg, _⟩ := (hkey cid).mpr ⟨sub0, hsub0, trivial⟩
    refine ⟨cid, i, sub, h1, h2, h3, h4, h5, assocGet_mem _ _ _ hg, h7, ?_⟩
    cases hs : sub.noLocal with
    | false => rfl
    | true =>
      by_cases ho : pk.origin = cid
      · exact absurd ⟨ho, (hnl cid).mp ⟨sub, hg, hs⟩⟩ h8
      · simp [ho]

end Mochi.Broker

/-! ## One connection per client object, in every history without schedule ops -/
namespace Mochi.Broker
open Mochi.Topics

/-- every client object that is not inline is the object its connection number is mapped to -/
def ConnMap (s : Server) : Prop :=
  ∀ i, i < s.objs.length → (getObj s i).inline = false → assocGet s.connOf (getObj s i).conn = some i

theorem ConnMap.distinct {s : Server} (h : ConnMap s) : ConnDistinct s := by
  intro i j hi hj hii hij e
  have a := h i hi hii
  have b := h j hj hij
  rw [e, b] at a
  cases a
  rfl

/-- no object created or removed, the connection table, `conn` and `inline` of every object kept -/
structure CK (s s' : Server) : Prop where
  len : s'.objs.length = s.objs.length
  connOf : s'.connOf = s.connOf
  conn : ∀ k, (getObj s' k).conn = (getObj s k).conn
  inl : ∀ k, (getObj s' k).inline = (getObj s k).inline

theorem CK.refl (s : Server) : CK s s := ⟨rfl, rfl, fun _ => rfl, fun _ => rfl⟩
theorem CK.trans {s s1 s2 : Server} (h : CK s s1) (g : CK s1 s2) : CK s s2 :=
  ⟨g.len.trans h.len, g.connOf.trans h.connOf, fun k => (g.conn k).trans (h.conn k), fun k => (g.inl k).trans (h.inl k)⟩

theorem CK.of_frame {i : Nat} {s s' : Server} {o : List Out} (f : Frame i s s' o) : CK s s' := by
  refine ⟨f.len, f.connOf, fun k => ?_, fun k => ?_⟩
  · by_cases hk : k = i
    · subst hk; exact f.conn
    · exact (f.other k hk).conn.symm
  · by_cases hk : k = i
    · subst hk; exact f.inline
    · exact (f.other k hk).inline.symm

theorem CK.of_quietC {s s' : Server} (q : QuietC s s') : CK s s' :=
  ⟨q.len, q.connOf, fun k => (q.all k).conn.symm, fun k => (q.all k).inline.symm⟩

theorem CK.of_objs {s s' : Server} (ho : s'.objs = s.objs) (hn : s'.connOf = s.connOf) : CK s s' :=
  ⟨by rw [ho], hn, fun k => by rw [getObj_of_objs_eq ho k], fun k => by rw [getObj_of_objs_eq ho k]⟩

theorem CK.mod (s : Server) (i : Nat) (f : Client → Client) (hc : ∀ c, (f c).conn = c.conn)
    (hi : ∀ c, (f c).inline = c.inline) : CK s (modObj s i f) :=
  ⟨setObj_length s i _, rfl, fun k => getObj_modObj_proj (·.conn) s i f k hc,
   fun k => getObj_modObj_proj (·.inline) s i f k hi⟩

theorem ConnMap.of_ck {s s' : Server} (h : ConnMap s) (g : CK s s') : ConnMap s' := by
  intro i hi hin
  rw [g.len] at hi
  rw [g.inl] at hin
  rw [g.connOf, g.conn]
  exact h i hi hin

theorem recvOn_ck (s : Server) (c : Nat) (pk : InPk) (b : Bool) : CK s (recvOn s c pk b).1 :=
  recvOn_tr (.ofState CK.refl CK.trans) (fun h => h) (fun i s pk => CK.of_frame (receivePacket_frame s i pk))
    (fun i s b => CK.of_frame (detach_frame s i b)) s c pk b

theorem admitClient_ck (s : Server) (i conn : Nat) (k : Connect) : CK s (admitClient s i conn k).1 := by
  refine admitClient_tr (.ofState CK.refl CK.trans) i conn k s rfl rfl ?_ (CK.of_quietC (admitConnack_qc _ i conn _).q)
    (fun e _ => CK.of_frame (detach_frame _ e true)) (fun s' => CK.of_quietC (admitC_qc s' i k _).q)
  have inc : CK s (connCounted s) := CK.of_objs rfl rfl
  cases he : assocGet s.clients k.id with
  | some e => exact (inc.trans (CK.of_frame (stopClient_frame _ e))).trans (CK.of_quietC (admitA_qc_some s i k e he).q)
  | none => exact inc.trans (CK.of_quietC (admitA_qc_none s i k he).q)

theorem connMap_addObj {s : Server} (h : ConnMap s) (c : Client) (conn : Nat) (hcc : c.conn = conn)
    (hf : conn ∉ s.connOf.map (·.1)) :
    ConnMap { s with objs := s.objs ++ [c], connOf := s.connOf ++ [(conn, s.objs.length)] } := by
  intro j hj hin
  have ho : ({ s with objs := s.objs ++ [c], connOf := s.connOf ++ [(conn, s.objs.length)] } : Server).objs =
      s.objs ++ [c] := rfl
  have hj' : j < s.objs.length + 1 := by simpa using hj
  show assocGet (s.connOf ++ [(conn, s.objs.length)]) _ = some j
  by_cases hlt : j < s.objs.length
  · rw [getObj_append_lt ho j hlt] at hin ⊢
    rw [assocGet_append, h j hlt hin]
    rfl
  · have : j = s.objs.length := by omega
    subst this
    rw [getObj_append_eq ho, hcc]
    exact assocGet_append_fresh _ _ _ hf

/-- `ConnMap` is kept by every op that is not a schedule op: a CONNECT appends the new object together with its
    connection number, every other op works on the objects that exist (`CK`) -/
theorem ConnMap_step_seq (s : Server) (op : Op) (h : ConnMap s) (hseq : op.isSeq = true) (hfresh : OpFresh s op) :
    ConnMap (step s op).1 :=
  have ck : ∀ {a b : Server}, CK a b → ConnMap a → ConnMap b := fun g m => m.of_ck g
  step_seq_tr (W := fun a b _ => ConnMap a → ConnMap b) (.ofState (fun _ m => m) fun f g m => g (f m)) (fun _ m => m) s op hseq
    (conn := fun c k e m => by
      subst e
      have h1 : ConnMap (connState s c k) := connMap_addObj m _ c rfl hfresh
      exact connect_cases (Q := fun r => ConnMap r.1) s c k
        (fun s1 _ e _ => (e ▸ h1).of_ck (CK.of_frame (stopClient_frame s1 _)))
        (fun s1 e _ => (e ▸ h1).of_ck (admitClient_ck s1 _ c k)))
    (recv := fun c pk _ => ck (recvOn_ck s c pk true))
    (cut := fun c pk _ _ _ => ck (recvOn_ck _ c pk false))
    (ping := fun s' c => ck (recvOn_ck s' c _ _))
    (peer := fun s' i => ck (CK.mod s' i _ (fun _ => rfl) (fun _ => rfl)))
    (det := fun s' i b => ck (CK.of_frame (detach_frame s' i b)))
    (tick := fun kind t e => e ▸ ck (CK.of_quietC (tick_qc s kind t).q))
    (pub := fun _ _ _ _ _ => ck (CK.of_frame (receivePacket_frame s 0 _)))
    (isub := fun _ _ _ _ => ck (CK.of_objs rfl rfl))
    (iunsub := fun _ _ => ck (CK.of_objs rfl rfl)) h

theorem ConnMap_init (caps : Caps) : ConnMap (init caps) := by
  intro i hi hin
  have : i = 0 := by
    have : i < 1 := hi
    omega
  subst this
  cases hin

/-! ## In terms of the sessions: the registered session lists a matching plain filter -/

/-- for a registered client, "the index holds a matching plain subscription under its id" is "its session lists a
    plain filter that matches" — `SyncInv.own` (no orphan entries) and `SyncInv.ownB` (its converse for plain
    filters) -/
theorem matching_iff_session {s : Server} (h : SyncInv s) (hw : WF s) {cid : Str} {i : Nat}
    (hm : (cid, i) ∈ s.clients) (topic : Str) :
    (∃ sub, MatchingSub s.topics topic cid sub) ↔
      ∃ f ∈ subKeys (getObj s i), shareKey f = false ∧ specMatch (splitLevels f) topic = true := by
  have hg := assocGet_of_mem _ _ _ hw.clients_nodup hm
  constructor
  · rintro ⟨sub, hpl, hsm⟩
    obtain ⟨i', hi', hf⟩ := h.own cid sub.filter (Or.inl ⟨_, sub, hpl, rfl⟩)
    rw [hg] at hi'
    cases hi'
    exact ⟨sub.filter, hf, (h.idx.pos.plain _ cid sub hpl).1, hsm⟩
  · rintro ⟨f, hf, hs, hsm⟩
    have hp := h.ownB cid i hg f hf hs
    unfold HasPlain at hp
    cases hq : plainAt s.topics (plainPath f) cid with
    | none => rw [hq] at hp; cases hp
    | some sub =>
      have e : sub.filter = f := plainPath_inj (h.idx.pos.plain _ cid sub hq).2
      rw [plainPath_eq] at hq
      exact ⟨sub, by rw [e]; exact hq, by rw [e]; exact hsm⟩

/-- `EntitledF03` with "holds a matching index entry" read off the SESSION: the client object registered under the
    id lists a plain filter (first level not `$share`) that `specMatch`es the topic -/
def EntitledSession (s : Server) (pk : Msg) (n : Nat) : Prop :=
  ∃ cid i, (cid, i) ∈ s.clients ∧ (getObj s i).conn = n ∧ (getObj s i).isOpen = true ∧
    (getObj s i).inline = false ∧ (getObj s i).peerGone = false ∧
    (∃ f ∈ subKeys (getObj s i), shareKey f = false ∧ specMatch (splitLevels f) pk.topic = true) ∧
    aclOk s cid pk.topic false = true ∧
    ¬ (pk.origin = cid ∧ ∃ sub, MatchingSub s.topics pk.topic cid sub ∧ sub.noLocal = true)

theorem entitledF03_iff_session {s : Server} (h : SyncInv s) (hw : WF s) (pk : Msg) (n : Nat) :
    EntitledF03 s pk n ↔ EntitledSession s pk n := by
  constructor
  · rintro ⟨cid, i, h1, h2, h3, h4, h5, h6, h7, h8⟩
    exact ⟨cid, i, h1, h2, h3, h4, h5, (matching_iff_session h hw h1 pk.topic).mp h6, h7, h8⟩
  · rintro ⟨cid, i, h1, h2, h3, h4, h5, h6, h7, h8⟩
    exact ⟨cid, i, h1, h2, h3, h4, h5, (matching_iff_session h hw h1 pk.topic).mpr h6, h7, h8⟩

theorem subscribers_shared_nil (x : Index) (topic : Str) (h : ∀ n ∈ x.nodes, n.shared = []) :
    (subscribers x topic).shared = [] := by
  unfold subscribers
  split
  · rfl
  · refine foldl_inv (fun acc : Subscribers => acc.shared = []) _ _ _ rfl fun acc g ha => ?_
    -- only a `shared` visit writes the component: it folds over the particle's list of groups, which is empty
    cases g with
    | shared p =>
      simp only [gatherStep]
      cases hn : getNode x.nodes p with
      | none => exact ha
      | some n =>
        refine iteInduction (motive := fun r : Subscribers => r.shared = []) (fun _ => ha) fun _ => ?_
        show n.shared.foldl _ acc.shared = []
        rw [h n (getNode_mem hn)]
        exact ha
    | subs p =>
      simp only [gatherStep]
      cases getNode x.nodes p <;> exact ha
    | inline p =>
      simp only [gatherStep]
      cases getNode x.nodes p with
      | none => exact ha
      | some n => exact iteInduction (motive := fun r : Subscribers => r.shared = []) (fun _ => ha) fun _ => ha

/-! ## Reachable states: ops without schedule ops, interleaved with configuration changes

The harness configures the broker between ops (`bk.acl`: a read / write denial is added; `bk.pubhook`; the
authentication mode; the seeds that resolve Go's map order): none of these is an `Op`.  `ReachSeq caps s` covers
them: any change that leaves the tables (`objs`, `clients`, `connOf`, `topics`, the lists of parked handlers) and
`caps` alone. -/

/-- `s'` differs from `s` only in configuration and bookkeeping fields: `auth`, `aclDeny`, `pubHook`, the seeds,
    `info`, `rmsgs`, `willDelayed` -/
structure SameTables (s s' : Server) : Prop where
  objs : s'.objs = s.objs
  caps : s'.caps = s.caps
  connOf : s'.connOf = s.connOf
  clients : s'.clients = s.clients
  topics : s'.topics = s.topics
  pending : s'.pending = s.pending
  parked : s'.parked = s.parked
  parkedEarly : s'.parkedEarly = s.parkedEarly

inductive ReachSeq (caps : Caps) : Server → Prop
  | init : ReachSeq caps (init caps)
  | step {s : Server} (op : Op) : ReachSeq caps s → op.isSeq = true → OpFresh s op → ReachSeq caps (step s op).1
  | config {s s' : Server} : ReachSeq caps s → SameTables s s' → ReachSeq caps s'

/-- the invariants the delivery theorem needs hold in every reachable state -/
theorem ReachSeq.inv {caps : Caps} {s : Server} (h : ReachSeq caps s) :
    SyncInv s ∧ WF s ∧ ConnMap s ∧ NoSched s := by
  induction h with
  | init => exact ⟨SyncInv_init caps, WF_init caps, ConnMap_init caps, rfl, rfl, rfl⟩
  | step op _ hseq hfresh ih =>
    obtain ⟨⟨a, w, n⟩, _⟩ := seq_step _ op ⟨ih.1, ih.2.1, ih.2.2.2⟩ ⟨hseq, hfresh⟩
    exact ⟨a, w, ConnMap_step_seq _ op ih.2.2.1 hseq hfresh, n⟩
  | config _ t ih =>
    obtain ⟨a, w, c, n⟩ := ih
    refine ⟨a.of_quiet ((Quiet.refl _).upd8 t.objs t.caps t.connOf t.clients t.pending t.parked t.parkedEarly
        (by rw [t.topics])), w.upd t.objs t.clients t.connOf t.pending, c.of_ck (CK.of_objs t.objs t.connOf),
      t.parked.trans n.1, t.parkedEarly.trans n.2.1, t.pending.trans n.2.2⟩

theorem ReachSeq.run {caps : Caps} {s : Server} (h : ReachSeq caps s) (ops : List Op) (hseq : SeqOps ops)
    (hf : OpsFresh s ops) : ReachSeq caps (run s ops) :=
  run_inv (I := ReachSeq caps) (fun _ op r c => r.step op c.1 c.2) h ((OpsOK.forall.mpr hseq).and (OpsFresh_iff.mp hf))

/-- the disciplines of the schedule ops are ordered: what the index invariant asks of an op (`SchedOK`) is what the
    counters ask (`OpSched`, and so `OpSched1`), the client id apart -/
theorem SchedOK.sched {s : Server} {op : Op} (h : SchedOK s op) (hid : opIdOK op = true) : OpSched s op := by
  refine ⟨fun i hi => ?_, hid⟩
  have f : Free s i := by
    cases op <;> first | exact FreeConn.free h hi | cases hi
  exact ⟨f.2.2, f.2.1⟩

theorem ConnDistinct_run_seq (caps : Caps) (ops : List Op) (hseq : SeqOps ops) (hf : OpsFresh (init caps) ops) :
    ConnDistinct (run (init caps) ops) :=
  (ReachSeq.init.run ops hseq hf).inv.2.2.1.distinct

end Mochi.Broker
