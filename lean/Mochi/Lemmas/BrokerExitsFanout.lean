import Mochi.Lemmas.BrokerBasics
/-!
# The fan-out and the retained replay, with what they write

Companions of `BrokerExitsDelivery` and `BrokerExitsSession` for the two folds over `publishToClient`, for a relation to
which the OUTPUT matters or which depends on the message (`BrokerWalk` does the same for relations between states):
`publishToSubscribers_cases` and `publishRetainedToClient_cases` are induction rules.  The two gates of
`publishToClient` write nothing and change nothing, so an iteration is a call of `publishToClientCore` or is not seen
at all.  `stamped` is the message as the fan-out hands it on, with its expiry time.
-/
namespace Mochi.Broker
open Mochi.Topics

/-- the message as `publishToSubscribers` hands it to the deliveries: the expiry time stamped -/
def stamped (s : Server) (pk : Msg) : Msg :=
  if pk.expiry == 0 then
    let e := minimumNZ s.caps.maxMessageExpiry pk.msgExpiry
    if e > 0 then { pk with expiry := pk.created + e } else pk
  else pk

theorem stamped_fields (s : Server) (pk : Msg) :
    (stamped s pk).topic = pk.topic ∧ (stamped s pk).payload = pk.payload ∧ (stamped s pk).qos = pk.qos ∧
    (stamped s pk).type = pk.type ∧ (stamped s pk).origin = pk.origin := by
  unfold stamped
  split
  · extract_lets e
    split
    · exact ⟨rfl, rfl, rfl, rfl, rfl⟩
    · exact ⟨rfl, rfl, rfl, rfl, rfl⟩
  · exact ⟨rfl, rfl, rfl, rfl, rfl⟩

/-- one delivery appended to what a fold has produced so far; a gate of `publishToClient` that closes leaves it as it is -/
theorem publishToClient_appended {J : Server × List Out → Prop} (acc : Server × List Out) (i : Nat) (sub : Sub) (f : Bool)
    (pk : Msg) (h : J acc)
    (core : J ((publishToClientCore acc.1 i sub f pk).1, acc.2 ++ (publishToClientCore acc.1 i sub f pk).2)) :
    J ((publishToClient acc.1 i sub f pk).1, acc.2 ++ (publishToClient acc.1 i sub f pk).2) := by
  have gated : J (acc.1, acc.2 ++ []) := by rw [List.append_nil]; exact h
  unfold publishToClient
  exact iteInduction (motive := fun r : Server × List Out => J (r.1, acc.2 ++ r.2)) (fun _ => gated) fun _ =>
    iteInduction (motive := fun r : Server × List Out => J (r.1, acc.2 ++ r.2)) (fun _ => gated) fun _ => core

/-- the inline subscribers are handed the message first, then the message with its expiry stamped is delivered to
    one registered subscriber after the other -/
theorem publishToSubscribers_cases {J : Server × List Out → Prop} (s : Server) (pk : Msg)
    (start : ∀ o : List Out, (∀ x ∈ o, ∃ id, x = Out.inline id pk.topic pk.payload) → J (s, o))
    (deliver : ∀ (acc : Server × List Out) (cs : Str × Sub) (i : Nat), assocGet acc.1.clients cs.1 = some i → J acc →
      J ((publishToClientCore acc.1 i cs.2 false (stamped s pk)).1,
         acc.2 ++ (publishToClientCore acc.1 i cs.2 false (stamped s pk)).2)) :
    J (publishToSubscribers s pk) := by
  unfold publishToSubscribers
  refine iteInduction (motive := J) (fun _ => start [] fun _ h => nomatch h) fun _ => ?_
  have htop := (stamped_fields s pk).1
  have hpay := (stamped_fields s pk).2.1
  show J (List.foldl (fun (acc : Server × List Out) (cs : Str × Sub) =>
      match assocGet acc.1.clients cs.1 with
      | none => acc
      | some i => ((publishToClient acc.1 i cs.2 false (stamped s pk)).1,
                   acc.2 ++ (publishToClient acc.1 i cs.2 false (stamped s pk)).2))
    (s, (subscribers s.topics (stamped s pk).topic).inline.map fun x =>
      Out.inline x.1 (stamped s pk).topic (stamped s pk).payload) _)
  rw [htop, hpay]
  refine List.foldlRecOn _ _ (motive := J) (start _ fun x hx => ?_) fun acc h cs _ => ?_
  · obtain ⟨a, _, rfl⟩ := List.mem_map.mp hx
    exact ⟨a.1, rfl⟩
  · cases hc : assocGet acc.1.clients cs.1 with
    | none => exact h
    | some i => exact publishToClient_appended acc i cs.2 false _ h (deliver acc cs i hc h)

/-- the fold is over the retained messages the filter matches, each still in the store -/
theorem publishRetainedToClient_cases {J : Server × List Out → Prop} (s : Server) (i : Nat) (sub : Sub) (ex : Bool)
    (k : Nat) (start : J (s, []))
    (deliver : ∀ (acc : Server × List Out) (sub' : Sub) (t : Str) (m : Msg), assocGet acc.1.rmsgs t = some m → J acc →
      J ((publishToClientCore acc.1 i sub' true m).1, acc.2 ++ (publishToClientCore acc.1 i sub' true m).2)) :
    J (publishRetainedToClient s i sub ex k) := by
  unfold publishRetainedToClient
  refine iteInduction (motive := J) (fun _ => start) fun _ => iteInduction (motive := J) (fun _ => start) fun _ => ?_
  extract_lets sub'
  refine List.foldlRecOn _ _ (motive := J) start fun acc h r _ => ?_
  cases hm : assocGet acc.1.rmsgs r.topic with
  | none => exact h
  | some m => exact publishToClient_appended acc i sub' true m h (deliver acc sub' r.topic m hm h)

end Mochi.Broker
