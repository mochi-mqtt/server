import Mochi.Lemmas.BrokerPublishOp
/-!
# Share groups and inline subscriptions in the delivery theorem (C06, C40)

Index side (`Mochi.Topics`): the candidate map `(subscribers x topic).shared` and the map of matching inline subscriptions
are characterised by lookups in the index (`shared_candidates_iff`, `inline_keys_iff`): what the candidate map holds under
filter `f` for client `c` is the shared subscription of `c` in the index with that filter, if its topic part matches.

Broker side (`Mochi.Broker`): `SelectShared` is taken apart pick by pick.  `pickAt seed l k` is the member picked for the
`k`-th candidate entry of `l` (digit `k` of the seed), and the selection holds exactly the picked members, at most one per
entry (`selectShared_exact`).  With the subscriber map `subsMapOf` (BrokerDelivery) written in terms of the picks, who is
written a publication that is QoS 0 after shaping is `EntitledShared`: plain and shared subscriptions together, with the
No Local merge (F03) explicit (`publishToSubscribers_writes_exact_shaped`; `deliversExactly_inv` and
`retainedState_deliversExactly` are its reading when no shared subscription matches: off the index, the session, and for
the state an accepted publish is routed in).  Inline subscriptions: `inline_delivery_exact`.
-/
namespace Mochi.Topics

/-! ## The scan and the declarative matcher -/

/-- `mk` is the kind of visit (`Gather.subs`, `.shared`, `.inline`): the three gatherers apply the same `$` test -/
theorem visited_iff_specMatch (mk : Path → Gather) (hmk : ∀ p q, mk q ∈ gatherAll p ↔ q = p) {ns : List Node}
    (hpc : PrefixClosed ns) (topic : Str) (hnh : ∀ t ∈ splitLevels topic, t ≠ [hash]) {q : Path} {n : Node}
    (hn : getNode ns q = some n) :
    mk q ∈ scanVisits ns [] (splitLevels topic) ∧ (topicDollar topic && wildStart q) = false ↔
      specMatch q topic = true := by
  have hex : hasNode ns q = true := by rw [hasNode_eq_isSome, hn]; rfl
  rw [scan_exact mk hmk ns hpc topic hnh]
  show _ ↔ (matchLv q (splitLevels topic) && !(topicDollar topic && wildStart q)) = true
  rw [Bool.and_eq_true, Bool.not_eq_true', hex, and_iff_right rfl]

/-! ## The candidate map, declaratively: its members in terms of the shared entries of the index -/

/-- `subs.Shared[sub.Filter][client] = sub`, the inner map made on first use -/
theorem gatherSharedOne_eq (m : List (Str × List (Str × Sub))) (cs : Str × Sub) :
    gatherSharedOne m cs = assocSet m cs.2.filter (assocSet ((assocGet m cs.2.filter).getD []) cs.1 cs.2) := by
  unfold gatherSharedOne
  cases hg : assocGet m cs.2.filter with
  | none => exact (assocSet_of_none m _ _ hg).symm
  | some mm => rfl

theorem sharedGet_gatherSharedOne (m : List (Str × List (Str × Sub))) (cs : Str × Sub) (f c : Str) :
    sharedGet (gatherSharedOne m cs) f c =
      if f = cs.2.filter ∧ c = cs.1 then some cs.2 else sharedGet m f c :=
  sharedGet_sharedAdd m cs.2.filter cs.1 f c cs.2

theorem sharedGet_fold_sound (L : List (Str × Sub)) (f c : Str) (sub : Sub)
    (h : sharedGet (L.foldl gatherSharedOne []) f c = some sub) : (c, sub) ∈ L ∧ sub.filter = f := by
  revert h
  refine List.foldlRecOn L gatherSharedOne (motive := fun M => sharedGet M f c = some sub → _) (fun h => nomatch h) ?_
  intro M ih e he h
  rw [sharedGet_gatherSharedOne] at h
  by_cases hk : f = e.2.filter ∧ c = e.1
  · rw [if_pos hk] at h
    cases h
    exact ⟨by rw [hk.2]; exact he, hk.1.symm⟩
  · rw [if_neg hk] at h
    exact ih h

/-- every writer leaves an entry under its filter and client id (a later writer may overwrite it, none removes it) -/
theorem sharedGet_fold_complete (L : List (Str × Sub)) (c : Str) (sub : Sub) (h : (c, sub) ∈ L) :
    (sharedGet (L.foldl gatherSharedOne []) sub.filter c).isSome = true := by
  refine (foldl_iff_exists gatherSharedOne (fun M => (sharedGet M sub.filter c).isSome = true)
    (fun e => sub.filter = e.2.filter ∧ c = e.1) (fun M e => ?_) L []).mpr (Or.inr ⟨_, h, rfl, rfl⟩)
  rw [sharedGet_gatherSharedOne]
  by_cases hk : sub.filter = e.2.filter ∧ c = e.1 <;> simp [hk]

/-- the `(client, subscription)` pairs `gatherSharedSubscriptions` files at one visit, in order -/
def visitWriters (ns : List Node) (topic : Str) : Gather → List (Str × Sub)
  | .shared p =>
    match getNode ns p with
    | none => []
    | some n => if topicDollar topic && wildStart p then [] else n.shared.flatMap (·.2)
  | _ => []

theorem gatherStep_shared (ns : List Node) (topic : Str) (acc : Subscribers) (g : Gather) :
    (gatherStep ns topic acc g).shared = (visitWriters ns topic g).foldl gatherSharedOne acc.shared := by
  cases g with
  | subs p => simp only [gatherStep]; cases getNode ns p <;> rfl
  | inline p =>
    simp only [gatherStep]
    cases getNode ns p with
    | none => rfl
    | some n =>
      simp only
      split <;> rfl
  | shared p =>
    simp only [gatherStep, visitWriters]
    cases getNode ns p with
    | none => rfl
    | some n =>
      simp only
      by_cases hd : (topicDollar topic && wildStart p) = true
      · rw [if_pos hd, if_pos hd]; rfl
      · rw [if_neg hd, if_neg hd]; exact List.foldl_flatMap.symm

theorem shared_fold_eq_writers (ns : List Node) (topic : Str) (L : List Gather) (acc : Subscribers) :
    (L.foldl (gatherStep ns topic) acc).shared =
      (L.flatMap (visitWriters ns topic)).foldl gatherSharedOne acc.shared := by
  induction L generalizing acc with
  | nil => rfl
  | cons g rest ih => rw [List.foldl_cons, ih, gatherStep_shared, List.flatMap_cons, List.foldl_append]

theorem mem_visitWriters (ns : List Node) (topic : Str) (g : Gather) (c : Str) (sub : Sub) :
    (c, sub) ∈ visitWriters ns topic g ↔
      ∃ p n, g = .shared p ∧ getNode ns p = some n ∧ (topicDollar topic && wildStart p) = false ∧
        ∃ gm ∈ n.shared, (c, sub) ∈ gm.2 := by
  cases g with
  | shared p =>
    simp only [visitWriters, Gather.shared.injEq, exists_and_left, exists_eq_left']
    cases getNode ns p <;> cases (topicDollar topic && wildStart p) <;>
      simp only [List.mem_flatMap, List.not_mem_nil, reduceCtorEq, Option.some.injEq, exists_eq_left', false_and,
        exists_false, true_and, if_true, if_false]
  | _ => simp only [visitWriters, List.not_mem_nil, reduceCtorEq, false_and, exists_false]

/-- a shared subscription of the index whose topic part matches: `sub`, held for client `c`, is stored at the
    address and under the group its own filter determines (`$share/<group>/<topic filter>`), and the topic filter
    `specMatch`es the topic -/
def MatchingShared (x : Index) (topic c : Str) (sub : Sub) : Prop :=
  sharedAt x (sharePath sub.filter) (shareGroup sub.filter) c = some sub ∧
    specMatch (sharePath sub.filter) topic = true

/-- **the candidate map, declaratively** (C01's scan exactness for shared subscriptions, for every structurally sound
    index): the candidate entry keyed `f` holds `sub` for client `c` iff `sub` is a shared subscription of `c` in the
    index with filter `f` whose topic part `specMatch`es the topic -/
theorem shared_candidates_iff (x : Index) (hx : IdxOK x) (topic : Str) (hne : topic ≠ [])
    (hnh : ∀ t ∈ splitLevels topic, t ≠ [hash]) (f c : Str) (sub : Sub) :
    sharedGet (subscribers x topic).shared f c = some sub ↔ sub.filter = f ∧ MatchingShared x topic c sub := by
  -- a writer is a matching shared entry of the index
  have hwriter : ∀ c sub, (c, sub) ∈ (scanVisits x.nodes [] (splitLevels topic)).flatMap (visitWriters x.nodes topic) ↔
      MatchingShared x topic c sub := by
    intro c sub
    constructor
    · intro h
      obtain ⟨g, hg, hw⟩ := List.mem_flatMap.mp h
      obtain ⟨p, n, rfl, hn, hd, gm, hgm, hc⟩ := (mem_visitWriters _ _ _ _ _).mp hw
      have hok := hx.keys n (getNode_mem hn)
      have hat : sharedAt x p gm.1 c = some sub :=
        Option.bind_eq_some_iff.mpr ⟨n, hn, sharedGet_of_mem hok.shared hgm (hok.members gm hgm) hc⟩
      obtain ⟨_, h2, h3⟩ := hx.pos.shared p gm.1 c sub hat
      subst h2
      rw [← h3] at hat
      exact ⟨hat, (visited_iff_specMatch _ mem_gatherAll_shared hx.pc topic hnh hn).mp ⟨hg, hd⟩⟩
    · rintro ⟨hat, hsm⟩
      obtain ⟨n, hn, hat⟩ := Option.bind_eq_some_iff.mp hat
      obtain ⟨mm, hmm, hc⟩ := sharedGet_mem hat
      obtain ⟨hq, hd⟩ := (visited_iff_specMatch _ mem_gatherAll_shared hx.pc topic hnh hn).mpr hsm
      exact List.mem_flatMap.mpr ⟨_, hq, (mem_visitWriters _ _ _ _ _).mpr ⟨_, n, rfl, hn, hd, _, hmm, hc⟩⟩
  rw [subscribers_eq_fold x hne, shared_fold_eq_writers]
  constructor
  · intro h
    obtain ⟨h1, h2⟩ := sharedGet_fold_sound _ _ _ _ h
    exact ⟨h2, (hwriter c sub).mp h1⟩
  · rintro ⟨rfl, hms⟩
    obtain ⟨sub', hg⟩ := Option.isSome_iff_exists.mp (sharedGet_fold_complete _ c sub ((hwriter c sub).mpr hms))
    obtain ⟨h1, h2⟩ := sharedGet_fold_sound _ _ _ _ hg
    -- same filter: same address and group, hence the same entry
    have a := ((hwriter c sub').mp h1).1
    rw [h2, hms.1] at a
    rw [hg, a]

/-! ## Inline subscriptions in the index -/

/-- the inline subscription held for identifier `id` by the particle at address `q` (= the levels of the filter it
    was subscribed under) -/
def inlineAt (x : Index) (q : Path) (id : Nat) : Option Sub :=
  (getNode x.nodes q).bind (fun n => assocGet n.inline id)

/-- **the map of matching inline subscriptions of a prefix-closed index** (C01's `C01_inline_exact`, for every
    structurally sound index and with the declarative matcher): identifier `id` is selected for `topic` iff a
    particle whose address `specMatch`es the topic holds an inline subscription of `id` -/
theorem inline_keys_iff (x : Index) (hpc : PrefixClosed x.nodes) (topic : Str) (hne : topic ≠ [])
    (hnh : ∀ t ∈ splitLevels topic, t ≠ [hash]) (id : Nat) :
    id ∈ (subscribers x topic).inline.map Prod.fst ↔
      ∃ q sub, inlineAt x q id = some sub ∧ specMatch q topic = true := by
  rw [subscribers_eq_fold x hne, fold_inline_keys]
  constructor
  · rintro (h | ⟨q, hq, n, hn, hx, hi⟩)
    · cases h
    · obtain ⟨sub, hsub⟩ := Option.isSome_iff_exists.mp ((assocGet_isSome_iff_key _ _).mpr hi)
      exact ⟨q, sub, Option.bind_eq_some_iff.mpr ⟨n, hn, hsub⟩,
        (visited_iff_specMatch _ mem_gatherAll_inline hpc topic hnh hn).mp ⟨hq, hx⟩⟩
  · rintro ⟨q, sub, hat, hsm⟩
    obtain ⟨n, hn, hat⟩ := Option.bind_eq_some_iff.mp hat
    obtain ⟨hq, hx⟩ := (visited_iff_specMatch _ mem_gatherAll_inline hpc topic hnh hn).mpr hsm
    exact Or.inr ⟨q, hq, n, hn, hx, (assocGet_isSome_iff_key _ _).mp (Option.isSome_iff_exists.mpr ⟨sub, hat⟩)⟩

theorem subscribers_inline_nodup (x : Index) (topic : Str) : ((subscribers x topic).inline.map Prod.fst).Nodup := by
  unfold subscribers
  split
  · exact List.nodup_nil
  · refine Mochi.Broker.foldl_inv (fun acc : Subscribers => (acc.inline.map Prod.fst).Nodup) _ _ _ List.nodup_nil ?_
    intro acc g h
    cases g with
    | subs p => simp only [gatherStep]; split <;> exact h
    | shared p => simp only [gatherStep]; (repeat' split) <;> exact h
    | inline p =>
      simp only [gatherStep]
      split
      · exact h
      · split
        · exact h
        · exact Mochi.Broker.foldl_inv (fun m : List (Nat × Sub) => (m.map Prod.fst).Nodup) _ _ _ h
            (fun m e hm => assocSet_nodup_keys m e.1 e.2 hm)

/-- `InlineUnsubscribe(id, f)` removes the entry of `id` at the address of `f`, and nothing else -/
theorem inlineAt_inlineUnsubscribe (x : Index) (hpc : PrefixClosed x.nodes) (id : Nat) (f : Str) (q : Path) (id' : Nat) :
    inlineAt (inlineUnsubscribe x id f).1 q id' =
      if q = plainPath f ∧ id' = id then none else inlineAt x q id' := by
  unfold inlineAt
  rw [inlineUnsubscribe_eq]
  exact Edit.look_upd (inlUnsubEdit id f) _ (fun _ => hpc) _ (deadNone_inline id') (id' = id) none
    (.inl rfl) (fun n => assocGet_assocDel n.inline id id') q

theorem inlineAt_retainMessage (x : Index) (t p : Str) (fl : Bool) (q : Path) (id : Nat) :
    inlineAt (retainMessage x t p fl).1 q id = inlineAt x q id :=
  retainMessage_look x t p fl _ (deadNone_inline id) (fun _ _ => rfl) q

end Mochi.Topics

namespace Mochi.Broker
open Mochi.Topics

/-! ## `selectShared`, pick by pick -/

/-- the member `SelectShared` picks for the `k`-th candidate entry of `l` (in the order the entries are visited):
    the `k`-th base-3 digit of the seed, modulo the number of members -/
def pickAt : Nat → List (Str × List (Str × Sub)) → Nat → Option (Str × Sub)
  | _, [], _ => none
  | seed, g :: _, 0 => g.2[seed % 3 % g.2.length]?
  | seed, _ :: rest, k + 1 => pickAt (seed / 3) rest k

/-- all picks, in the order the entries are visited -/
def picks : Nat → List (Str × List (Str × Sub)) → List (Str × Sub)
  | _, [] => []
  | seed, g :: rest => (g.2[seed % 3 % g.2.length]?).toList ++ picks (seed / 3) rest

/-- one merge into a subscriber map (`Subscription.Merge` under the client id): the loop body of `SelectShared`
    and of `MergeSharedSelected` -/
def mergeOne (m : List (Str × Sub)) (cs : Str × Sub) : List (Str × Sub) :=
  match assocGet m cs.1 with
  | none => assocSet m cs.1 (cs.2.merge cs.2)
  | some cls => assocSet m cs.1 (cls.merge cs.2)

theorem pickAt_closed (seed : Nat) (l : List (Str × List (Str × Sub))) (k : Nat) :
    pickAt seed l k = (l[k]?).bind (fun g => g.2[seed / 3 ^ k % 3 % g.2.length]?) := by
  induction l generalizing seed k with
  | nil => rw [pickAt, List.getElem?_nil]; rfl
  | cons g rest ih =>
    cases k with
    | zero => rw [pickAt, Nat.pow_zero, Nat.div_one]; rfl
    | succ k => rw [pickAt, ih, List.getElem?_cons_succ, Nat.pow_succ, Nat.mul_comm, Nat.div_div_eq_div_mul]

theorem mem_picks (seed : Nat) (l : List (Str × List (Str × Sub))) (cs : Str × Sub) :
    cs ∈ picks seed l ↔ ∃ k, pickAt seed l k = some cs := by
  induction l generalizing seed with
  | nil => exact ⟨fun h => (by cases h), fun ⟨_, h⟩ => (by rw [pickAt] at h; cases h)⟩
  | cons g rest ih =>
    rw [picks, List.mem_append, ih, Option.mem_toList]
    constructor
    · rintro (h | ⟨k, hk⟩)
      · exact ⟨0, h⟩
      · exact ⟨k + 1, hk⟩
    · rintro ⟨k, hk⟩
      cases k with
      | zero => exact Or.inl hk
      | succ k => exact Or.inr ⟨k, hk⟩

theorem pickAt_mem (seed : Nat) (l : List (Str × List (Str × Sub))) (k : Nat) (cs : Str × Sub)
    (h : pickAt seed l k = some cs) : ∃ g, l[k]? = some g ∧ cs ∈ g.2 := by
  rw [pickAt_closed] at h
  obtain ⟨g, hg, h⟩ := Option.bind_eq_some_iff.mp h
  exact ⟨g, hg, List.mem_of_getElem? h⟩

theorem pickAt_some (seed : Nat) (l : List (Str × List (Str × Sub))) (k : Nat) (g : Str × List (Str × Sub))
    (hg : l[k]? = some g) (hne : g.2 ≠ []) : ∃ cs, pickAt seed l k = some cs ∧ cs ∈ g.2 := by
  have hlt : seed / 3 ^ k % 3 % g.2.length < g.2.length := Nat.mod_lt _ (List.length_pos_iff.mpr hne)
  rw [pickAt_closed, hg]
  exact ⟨_, List.getElem?_eq_getElem hlt, List.getElem_mem hlt⟩

theorem selectOne_eq (acc : List (Str × Sub) × Nat) (g : Str × List (Str × Sub)) :
    selectOne acc g =
      (((g.2[acc.2 % 3 % g.2.length]?).toList).foldl mergeOne acc.1, acc.2 / 3) := by
  unfold selectOne
  cases g.2[acc.2 % 3 % g.2.length]? with
  | none => rfl
  | some cs =>
    simp only [Option.toList, List.foldl_cons, List.foldl_nil, mergeOne]
    cases assocGet acc.1 cs.1 <;> rfl

theorem selectShared_eq_picks (seed : Nat) (r : Subscribers) :
    selectShared seed r = (picks seed r.shared).foldl mergeOne [] := by
  suffices h : ∀ l acc seed, (l.foldl selectOne (acc, seed)).1 = (picks seed l).foldl mergeOne acc from h _ _ _
  intro l
  induction l with
  | nil => intro _ _; rfl
  | cons g rest ih =>
    intro acc seed
    rw [List.foldl_cons, selectOne_eq, ih, picks, List.foldl_append]

theorem length_mergeFold (L m : List (Str × Sub)) : (L.foldl mergeOne m).length ≤ m.length + L.length := by
  induction L generalizing m with
  | nil => exact Nat.le_refl _
  | cons x xs ih =>
    have h1 : (mergeOne m x).length ≤ m.length + 1 := by
      unfold mergeOne
      split <;> (rw [length_assocSet]; split <;> omega)
    have := ih (mergeOne m x)
    rw [List.foldl_cons, List.length_cons]
    omega

theorem length_picks (seed : Nat) (l : List (Str × List (Str × Sub))) : (picks seed l).length ≤ l.length := by
  induction l generalizing seed with
  | nil => exact Nat.le_refl _
  | cons g rest ih =>
    have := ih (seed / 3)
    rw [picks, List.length_append, List.length_cons]
    cases g.2[seed % 3 % g.2.length]? <;> simp <;> omega

theorem dollarExcluded_nil_topic (f : Str) : dollarExcluded f [] = false := by
  cases f <;> rfl

theorem mergeOne_eq_gather : mergeOne = gatherSubOne [] := by
  funext m cs
  unfold gatherSubOne mergeOne
  rw [dollarExcluded_nil_topic]
  rfl

theorem hasSub_mergeFold {P : Sub → Prop} (hP : MergeOr P) (L m : List (Str × Sub)) (c : Str) :
    HasSub P (L.foldl mergeOne m) c ↔ HasSub P m c ∨ ∃ sub, (c, sub) ∈ L ∧ P sub := by
  simp only [mergeOne_eq_gather, hasSub_subs_fold hP, dollarExcluded_nil_topic, true_and]

theorem not_hasSub_nil (P : Sub → Prop) (c : Str) : ¬ HasSub P [] c := by
  rintro ⟨sub, h, _⟩
  cases h

theorem hasSub_iff_mem {P : Sub → Prop} (m : List (Str × Sub)) (hnd : (m.map Prod.fst).Nodup) (c : Str) :
    HasSub P m c ↔ ∃ sub, (c, sub) ∈ m ∧ P sub :=
  ⟨fun ⟨sub, h, hp⟩ => ⟨sub, assocGet_mem _ _ _ h, hp⟩,
   fun ⟨sub, h, hp⟩ => ⟨sub, assocGet_of_mem _ _ _ hnd h, hp⟩⟩

/-- exactly one `x` has `p` (core Lean has no `∃!`) -/
def ExactlyOne {α : Type} (p : α → Prop) : Prop := ∃ x, p x ∧ ∀ y, p y → y = x

/-- client `c` is the member picked for the `k`-th candidate entry -/
def ChosenAt (seed : Nat) (l : List (Str × List (Str × Sub))) (k : Nat) (c : Str) : Prop :=
  ∃ sub, pickAt seed l k = some (c, sub)

/-- **`selectShared_exact`.**  For every resolution `seed` of Go's map order and every candidate map
    `r.shared` (key: the full filter string `$share/<group>/<topic filter>`; value: client id ↦ subscription) whose
    entries each have at least one member:

    1. for each candidate entry (position `k`) exactly one client is picked, and it is one of ITS members;
    2. a client is in the selection iff it was picked for some entry;
    3. hence a member of an entry that was picked for no entry is absent from the selection;
    4. the selection has one entry per client (a client picked for several entries is merged). -/
theorem selectShared_exact (seed : Nat) (r : Subscribers) (hne : ∀ g ∈ r.shared, g.2 ≠ []) :
    (∀ k (hk : k < r.shared.length),
      ExactlyOne fun c => c ∈ (r.shared[k]).2.map Prod.fst ∧ ChosenAt seed r.shared k c) ∧
    (∀ c, c ∈ (selectShared seed r).map Prod.fst ↔ ∃ k, ChosenAt seed r.shared k c) ∧
    (∀ g ∈ r.shared, ∀ c ∈ g.2.map Prod.fst, (¬ ∃ k, ChosenAt seed r.shared k c) →
      c ∉ (selectShared seed r).map Prod.fst) ∧
    ((selectShared seed r).map Prod.fst).Nodup := by
  have h2 : ∀ c, c ∈ (selectShared seed r).map Prod.fst ↔ ∃ k, ChosenAt seed r.shared k c := by
    intro c
    rw [mem_keys_iff_hasSub, selectShared_eq_picks, hasSub_mergeFold mergeOr_true, or_iff_right (not_hasSub_nil _ c)]
    simp only [mem_picks, and_true]
    exact exists_comm
  refine ⟨?_, h2, fun g _ c _ hn hc => hn ((h2 c).mp hc), ?_⟩
  · intro k hk
    obtain ⟨cs, h1, h3⟩ := pickAt_some seed r.shared k _ (List.getElem?_eq_getElem hk) (hne _ (List.getElem_mem hk))
    refine ⟨cs.1, ⟨List.mem_map.mpr ⟨cs, h3, rfl⟩, cs.2, h1⟩, ?_⟩
    rintro c' ⟨_, sub', h'⟩
    rw [h1] at h'
    cases h'
    rfl
  · rw [selectShared_eq_picks]
    exact mergeSharedSelected_nodup [] _ List.nodup_nil

/-! ## The subscriber map with the selected shared members, in terms of the picks -/

/-- the candidate entries in the order they are visited (`orderSeed` resolves Go's map order) -/
def visitOrder (s : Server) (topic : Str) : List (Str × List (Str × Sub)) :=
  permuteBy s.orderSeed (subscribers s.topics topic).shared

/-- the members picked (`pickSeed`), one per candidate entry with members, in visiting order -/
def sharedPicks (s : Server) (topic : Str) : List (Str × Sub) := picks s.pickSeed (visitOrder s topic)

/-- client `cid` was picked, with subscription `sub`, for some candidate entry matching `topic` (picked by
    `s.pickSeed` among the members of the entry, the entries visited in the order `permuteBy s.orderSeed`) -/
def PickedWith (s : Server) (topic cid : Str) (sub : Sub) : Prop :=
  ∃ k, pickAt s.pickSeed (visitOrder s topic) k = some (cid, sub)

theorem mem_sharedPicks (s : Server) (topic cid : Str) (sub : Sub) :
    (cid, sub) ∈ sharedPicks s topic ↔ PickedWith s topic cid sub := mem_picks _ _ _

theorem subsMapOf_eq (s : Server) (topic : Str) :
    subsMapOf s topic =
      ((sharedPicks s topic).foldl mergeOne []).foldl mergeOne (subscribers s.topics topic).subs := by
  unfold subsMapOf sharedPicks visitOrder
  split
  · rw [selectShared_eq_picks]
    rfl
  · rename_i h
    have : (subscribers s.topics topic).shared = [] := List.eq_nil_of_length_eq_zero (by omega)
    rw [this]
    rfl

/-- the merged subscription of client `c` in the subscriber map has the disjunctive property `P` iff its plain
    entry has, or a subscription it was picked with has -/
theorem hasSub_subsMapOf {P : Sub → Prop} (hP : MergeOr P) (s : Server) (topic c : Str) :
    HasSub P (subsMapOf s topic) c ↔
      (∃ sub, (c, sub) ∈ (subscribers s.topics topic).subs ∧ P sub) ∨ ∃ sub, PickedWith s topic c sub ∧ P sub := by
  rw [subsMapOf_eq, hasSub_mergeFold hP, ← hasSub_iff_mem _ (show ((List.foldl mergeOne [] (sharedPicks s topic)).map Prod.fst).Nodup from
      mergeSharedSelected_nodup [] _ List.nodup_nil),
    hasSub_mergeFold hP, or_iff_right (not_hasSub_nil P c), hasSub_iff_mem _ (subscribers_subs_nodup s.topics topic)]
  simp only [mem_sharedPicks]

/-! ## Who is entitled, with shared subscriptions -/

/-- **entitlement with shared subscriptions, as the model implements it.**  Connection `n` belongs to a client
    object registered under its id `cid`, open, not inline, peer not gone, `cid` may read the topic, and

    * `cid` has an entry in the map of matching PLAIN subscriptions, **or** `cid` is the member picked for some
      matching candidate entry (F06: a candidate entry is one FILTER of one share name — a share name with two
      matching filters is two candidate entries, each with its own pick);
    * (F03) it is not the case that `cid` is the publisher and No Local is set on its merged plain entry OR on a
      subscription it was picked with: `Subscription.Merge` ORs No Local over everything merged under one id. -/
def EntitledShared (s : Server) (pk : Msg) (n : Nat) : Prop :=
  ∃ cid i, (cid, i) ∈ s.clients ∧ (getObj s i).conn = n ∧ (getObj s i).isOpen = true ∧
    (getObj s i).inline = false ∧ (getObj s i).peerGone = false ∧ aclOk s cid pk.topic false = true ∧
    ((∃ sub, (cid, sub) ∈ (subscribers s.topics pk.topic).subs) ∨ (∃ sub, PickedWith s pk.topic cid sub)) ∧
    ¬ (pk.origin = cid ∧
        ((∃ sub, (cid, sub) ∈ (subscribers s.topics pk.topic).subs ∧ sub.noLocal = true) ∨
         (∃ sub, PickedWith s pk.topic cid sub ∧ sub.noLocal = true)))

theorem noLocalGate_iff (sub : Sub) (origin cid : Str) :
    (sub.noLocal && origin == cid) = false ↔ ¬ (origin = cid ∧ sub.noLocal = true) := by
  cases sub.noLocal <;> simp

theorem entry_passes_iff (m : List (Str × Sub)) (hnd : (m.map Prod.fst).Nodup) (origin cid : Str) :
    (∃ sub, (cid, sub) ∈ m ∧ (sub.noLocal && origin == cid) = false) ↔
      HasSub (fun _ => True) m cid ∧ ¬ (origin = cid ∧ HasSub (fun sub => sub.noLocal = true) m cid) := by
  constructor
  · rintro ⟨sub, hs, h8⟩
    have hg := assocGet_of_mem _ _ _ hnd hs
    refine ⟨⟨sub, hg, trivial⟩, ?_⟩
    rintro ⟨ho, sub', hg', hn'⟩
    rw [hg] at hg'
    cases hg'
    exact (noLocalGate_iff _ _ _).mp h8 ⟨ho, hn'⟩
  · rintro ⟨⟨sub, hg, _⟩, h⟩
    exact ⟨sub, assocGet_mem _ _ _ hg, (noLocalGate_iff _ _ _).mpr fun ⟨ho, hn⟩ => h ⟨ho, sub, hg, hn⟩⟩

theorem entitledVia_subsMapOf_iff (s : Server) (pk : Msg) (n : Nat) :
    EntitledVia s pk (subsMapOf s pk.topic) n ↔ EntitledShared s pk n := by
  have hkey := fun c => hasSub_subsMapOf mergeOr_true s pk.topic c
  simp only [and_true] at hkey
  have hnl := fun c => hasSub_subsMapOf mergeOr_noLocal s pk.topic c
  constructor
  · rintro ⟨cid, i, sub, h1, h2, h3, h4, h5, hs, h7, h8⟩
    obtain ⟨hk, hn⟩ := (entry_passes_iff _ (subsMapOf_nodup s pk.topic) _ _).mp ⟨sub, hs, h8⟩
    exact ⟨cid, i, h1, h2, h3, h4, h5, h7, (hkey cid).mp hk, fun ⟨ho, hx⟩ => hn ⟨ho, (hnl cid).mpr hx⟩⟩
  · rintro ⟨cid, i, h1, h2, h3, h4, h5, h7, h6, h8⟩
    obtain ⟨sub, hs, hg⟩ := (entry_passes_iff _ (subsMapOf_nodup s pk.topic) pk.origin cid).mpr
      ⟨(hkey cid).mpr h6, fun ⟨ho, hx⟩ => h8 ⟨ho, (hnl cid).mp hx⟩⟩
    exact ⟨cid, i, sub, h1, h2, h3, h4, h5, hs, h7, hg⟩

/-- entitled through a subscription it was picked with: `EntitledVia` over the list of picks -/
abbrev EntitledPicked (s : Server) (pk : Msg) (n : Nat) : Prop := EntitledVia s pk (sharedPicks s pk.topic) n

/-- the publisher holds `sub` for this topic: as its merged plain entry, or as a subscription it was picked with -/
def HeldByPublisher (s : Server) (pk : Msg) (sub : Sub) : Prop :=
  (pk.origin, sub) ∈ (subscribers s.topics pk.topic).subs ∨ PickedWith s pk.topic pk.origin sub

/-- the F03 situation across plain and shared subscriptions: the publisher holds, for this topic, one subscription
    (merged plain entry or pick) with No Local and one without -/
def NoLocalMixedShared (s : Server) (pk : Msg) : Prop :=
  ∃ sub sub', HeldByPublisher s pk sub ∧ sub.noLocal = true ∧ HeldByPublisher s pk sub' ∧ sub'.noLocal = false

/-- whoever is entitled is entitled through the plain entry or through a pick … -/
theorem EntitledShared.or {s : Server} {pk : Msg} {n : Nat} (h : EntitledShared s pk n) :
    EntitledVia s pk (subscribers s.topics pk.topic).subs n ∨ EntitledPicked s pk n := by
  obtain ⟨cid, i, h1, h2, h3, h4, h5, h7, h6, h8⟩ := h
  rcases h6 with ⟨sub, hs⟩ | ⟨sub, hs⟩
  · exact Or.inl ⟨cid, i, sub, h1, h2, h3, h4, h5, hs, h7,
      (noLocalGate_iff _ _ _).mpr fun ⟨ho, hn⟩ => h8 ⟨ho, Or.inl ⟨sub, hs, hn⟩⟩⟩
  · exact Or.inr ⟨cid, i, sub, h1, h2, h3, h4, h5, (mem_sharedPicks _ _ _ _).mpr hs, h7,
      (noLocalGate_iff _ _ _).mpr fun ⟨ho, hn⟩ => h8 ⟨ho, Or.inr ⟨sub, hs, hn⟩⟩⟩

/-- … and outside the F03 situation the converse holds: "entitled through a plain subscription OR the picked member
    of a candidate entry" -/
theorem entitledShared_iff_or {s : Server} {pk : Msg} (hmix : ¬ NoLocalMixedShared s pk) (n : Nat) :
    EntitledShared s pk n ↔
      EntitledVia s pk (subscribers s.topics pk.topic).subs n ∨ EntitledPicked s pk n := by
  refine ⟨EntitledShared.or, ?_⟩
  -- a subscription the publisher holds and that passes the gate has no No Local: then none it holds has
  have key : ∀ sub sub', HeldByPublisher s pk sub → (sub.noLocal && pk.origin == pk.origin) = false →
      HeldByPublisher s pk sub' → sub'.noLocal ≠ true := fun sub sub' hh h8 hh' hn =>
    hmix ⟨sub', sub, hh', hn, hh, Bool.eq_false_iff.mpr fun hn => (noLocalGate_iff _ _ _).mp h8 ⟨rfl, hn⟩⟩
  rintro (⟨cid, i, sub, h1, h2, h3, h4, h5, hs, h7, h8⟩ | ⟨cid, i, sub, h1, h2, h3, h4, h5, hs, h7, h8⟩)
  · refine ⟨cid, i, h1, h2, h3, h4, h5, h7, Or.inl ⟨sub, hs⟩, ?_⟩
    rintro ⟨rfl, ⟨sub', h, hn⟩ | ⟨sub', h, hn⟩⟩
    · exact key sub sub' (Or.inl hs) h8 (Or.inl h) hn
    · exact key sub sub' (Or.inl hs) h8 (Or.inr h) hn
  · have hp := (mem_sharedPicks _ _ _ _).mp hs
    refine ⟨cid, i, h1, h2, h3, h4, h5, h7, Or.inr ⟨sub, hp⟩, ?_⟩
    rintro ⟨rfl, ⟨sub', h, hn⟩ | ⟨sub', h, hn⟩⟩
    · exact key sub sub' (Or.inr hp) h8 (Or.inl h) hn
    · exact key sub sub' (Or.inr hp) h8 (Or.inr h) hn

/-! ## The delivery theorem with shared subscriptions (state level) -/

/-- `publishToSubscribers_writes_exact_shared` (`Mochi/Props/C06.lean`) for a message that is QoS 0 AFTER SHAPING: its
    QoS is 0, or that of every entry of the subscriber map (plain entries and picked members merged) is -/
theorem publishToSubscribers_writes_exact_shaped (s : Server) (hw : WF s) (hcd : ConnDistinct s) (pk : Msg)
    (hig : pk.ignore = false) (ht : pk.type = 3) (hq : pk.qos = 0 ∨ ∀ cs ∈ subsMapOf s pk.topic, cs.2.qos = 0)
    (n : Nat) :
    ((∃ ver m me, Out.wrote n (.publish ver m me) ∈ (publishToSubscribers s pk).2) ↔ EntitledShared s pk n) ∧
    (EntitledShared s pk n → EntitledVia s pk (subscribers s.topics pk.topic).subs n ∨ EntitledPicked s pk n) ∧
    (¬ NoLocalMixedShared s pk →
      (EntitledShared s pk n ↔ EntitledVia s pk (subscribers s.topics pk.topic).subs n ∨ EntitledPicked s pk n)) ∧
    ((publishToSubscribers s pk).2.filterMap pubConn).count n ≤ 1 ∧
    ∀ x ∈ (publishToSubscribers s pk).2, (∃ id, x = Out.inline id pk.topic pk.payload) ∨ IsCopy pk x := by
  obtain ⟨h1, h2⟩ := publishToSubscribers_pubConns_shared s pk (fun id i h => (hw.clients_valid id i h).1) hig ht hq
  refine ⟨?_, EntitledShared.or, fun hmix => entitledShared_iff_or hmix n, ?_, h2⟩
  · rw [← mem_pubConns, h1, mem_recipients s hw pk _ n]
    exact entitledVia_subsMapOf_iff s pk n
  · rw [h1]
    exact List.nodup_iff_count.mp (recipients_nodup s hw hcd pk _ (subsMapOf_nodup s pk.topic)) n

/-- with no matching shared subscription the entitled are those of the plain subscriber map -/
theorem entitledShared_iff_via (s : Server) (pk : Msg) (hsh : (subscribers s.topics pk.topic).shared = [])
    (n : Nat) : EntitledShared s pk n ↔ EntitledVia s pk (subscribers s.topics pk.topic).subs n := by
  have hnp : ∀ cid sub, ¬ PickedWith s pk.topic cid sub := by
    rintro cid sub ⟨k, hk⟩
    unfold visitOrder at hk
    rw [hsh] at hk
    simp [permuteBy_nil, pickAt] at hk
  have hmix : ¬ NoLocalMixedShared s pk := by
    rintro ⟨sub, sub', h1, hn, h2, hn'⟩
    rcases h1 with h1 | h1
    · rcases h2 with h2 | h2
      · have hnd := subscribers_subs_nodup s.topics pk.topic
        have a := assocGet_of_mem _ _ _ hnd h1
        rw [assocGet_of_mem _ _ _ hnd h2] at a
        cases a
        rw [hn] at hn'
        cases hn'
      · exact hnp _ _ h2
    · exact hnp _ _ h1
  rw [entitledShared_iff_or hmix]
  constructor
  · rintro (h | ⟨cid, i, sub, _, _, _, _, _, hs, _⟩)
    · exact h
    · exact absurd ((mem_sharedPicks _ _ _ _).mp hs) (hnp _ _)
  · exact Or.inl

/-! ### … with no matching shared subscription, read off the index and the session -/

/-- what items 2/3 of `Mochi/Props/C03.lean` (`recv_publish_delivery_exact`, `inline_publish_delivery_exact`) conclude
    about the outputs `out` of one publish op routing the message `pk` in state `s`
    (entitlement read in the state BEFORE the op): a PUBLISH is written to connection `n` iff `n` is entitled; that is
    also readable off the session; at most one PUBLISH per connection; every output is an inline delivery or a copy of
    the message -/
def DeliversExactly (s : Server) (pk : Msg) (out : List Out) (n : Nat) : Prop :=
  ((∃ ver m mes, Out.wrote n (.publish ver m mes) ∈ out) ↔ EntitledF03 s pk n) ∧
  (EntitledF03 s pk n ↔ EntitledSession s pk n) ∧
  (out.filterMap pubConn).count n ≤ 1 ∧
  ∀ x ∈ out, (∃ id, x = Out.inline id pk.topic pk.payload) ∨ IsCopy pk x

/-- in a state that satisfies the all-history invariants, for a message that is QoS 0 after shaping on a topic no shared
    subscription matches: entitlement read off the index entries (`EntitledF03`) and off the session -/
theorem deliversExactly_inv (s : Server) (hs : SyncInv s) (hw : WF s) (hcm : ConnMap s)
    (pk : Msg) (hig : pk.ignore = false) (ht : pk.type = 3)
    (hq : pk.qos = 0 ∨ ∀ c sub, MatchingSub s.topics pk.topic c sub → sub.qos = 0)
    (hne : pk.topic ≠ []) (hnh : ∀ t ∈ splitLevels pk.topic, t ≠ [hash])
    (hsh : (subscribers s.topics pk.topic).shared = []) (n : Nat) :
    DeliversExactly s pk (publishToSubscribers s pk).2 n := by
  have hnd := subscribers_subs_nodup s.topics pk.topic
  have hq' := hq.imp id (merged_qos_zero s.topics hs.idx pk.topic hne hnh hnd)
  rw [← subsMapOf_of_shared_nil s _ hsh] at hq'
  obtain ⟨h1, _, _, h4, h5⟩ := publishToSubscribers_writes_exact_shaped s hw hcm.distinct pk hig ht hq' n
  exact ⟨(h1.trans (entitledShared_iff_via s pk hsh n)).trans (entitledVia_iff_F03 s hs.idx pk hne hnh hnd n),
    entitledF03_iff_session hs hw pk n, h4, h5⟩

/-- routing `pk` in the state with the retained store updated delivers exactly, entitlement read in `s`: retaining
    changes neither the invariants nor who is entitled -/
theorem retainedState_deliversExactly (s : Server) (hs : SyncInv s) (hw : WF s) (hcm : ConnMap s) (pk : Msg)
    (hig : pk.ignore = false) (ht : pk.type = 3)
    (hq : pk.qos = 0 ∨ ∀ c sub, MatchingSub (retainedState s pk).topics pk.topic c sub → sub.qos = 0)
    (hne : pk.topic ≠ []) (hnh : ∀ t ∈ splitLevels pk.topic, t ≠ [hash])
    (hsh : (subscribers (retainedState s pk).topics pk.topic).shared = []) (n : Nat) :
    DeliversExactly s pk (publishToSubscribers (retainedState s pk) pk).2 n := by
  obtain ⟨is, iw, ic⟩ := retainedState_inv pk hs hw hcm
  obtain ⟨h1, h2, h3, h4⟩ := deliversExactly_inv _ is iw ic pk hig ht hq hne hnh hsh n
  rw [entitledF03_retainedState] at h1 h2
  rw [entitledSession_retainedState] at h2
  exact ⟨h1, h2, h3, h4⟩

/-! ## The candidate map: distinct keys, no empty entry, every member filed under its own filter -/

structure SharedOK (m : List (Str × List (Str × Sub))) : Prop where
  keys : (m.map Prod.fst).Nodup
  ne : ∀ g ∈ m, g.2 ≠ []
  filed : ∀ g ∈ m, ∀ cs ∈ g.2, cs.2.filter = g.1
  members : ∀ g ∈ m, (g.2.map Prod.fst).Nodup

theorem forall_mem_assocSet {α β} [DecidableEq α] {P : α × β → Prop} (m : List (α × β)) (k : α) (v : β)
    (hm : ∀ e ∈ m, P e) (hv : P (k, v)) : ∀ e ∈ assocSet m k v, P e :=
  fun e he => (assocSet_mem_cases m k v e he).elim (hm e) (fun h => h ▸ hv)

theorem sharedOK_gatherSharedOne (m : List (Str × List (Str × Sub))) (cs : Str × Sub) (h : SharedOK m) :
    SharedOK (gatherSharedOne m cs) := by
  have h0 : (∀ e ∈ (assocGet m cs.2.filter).getD [], e.2.filter = cs.2.filter) ∧
      (((assocGet m cs.2.filter).getD []).map Prod.fst).Nodup := by
    cases hg : assocGet m cs.2.filter with
    | none => exact ⟨fun _ h => (by cases h), List.nodup_nil⟩
    | some mm => exact ⟨h.filed _ (assocGet_mem _ _ _ hg), h.members _ (assocGet_mem _ _ _ hg)⟩
  rw [gatherSharedOne_eq]
  exact ⟨nodup_assocSet _ _ _ h.keys,
    forall_mem_assocSet _ _ _ h.ne (assocSet_ne_nil _ _ _),
    forall_mem_assocSet _ _ _ h.filed (forall_mem_assocSet _ _ _ h0.1 rfl),
    forall_mem_assocSet _ _ _ h.members (assocSet_nodup_keys _ _ _ h0.2)⟩

theorem subscribers_sharedOK (x : Index) (topic : Str) : SharedOK (subscribers x topic).shared := by
  have h0 : SharedOK [] := ⟨List.nodup_nil, fun _ h => (by cases h), fun _ h => (by cases h), fun _ h => (by cases h)⟩
  unfold subscribers
  split
  · exact h0
  · rw [shared_fold_eq_writers]
    exact foldl_inv SharedOK _ _ _ h0 sharedOK_gatherSharedOne

/-! ## the order of the visit is a permutation of the share groups -/

theorem visitOrder_perm (s : Server) (topic : Str) :
    (visitOrder s topic).Perm (subscribers s.topics topic).shared := permuteBy_perm _ _

theorem visitOrder_nodup (s : Server) (topic : Str) : (visitOrder s topic).Nodup := by
  rw [(visitOrder_perm s topic).nodup_iff]
  have hp : (subscribers s.topics topic).shared.Pairwise (fun a b => a.1 ≠ b.1) :=
    List.pairwise_map.mp (subscribers_sharedOK s.topics topic).keys
  exact hp.imp (fun h e => h (congrArg Prod.fst e))

theorem pickedWith_member {s : Server} {topic cid : Str} {sub : Sub} (h : PickedWith s topic cid sub) :
    ∃ g ∈ (subscribers s.topics topic).shared, (cid, sub) ∈ g.2 := by
  obtain ⟨k, hk⟩ := h
  obtain ⟨g, hg, hm⟩ := pickAt_mem _ _ _ _ hk
  exact ⟨g, (visitOrder_perm s topic).mem_iff.mp (List.mem_of_getElem? hg), hm⟩

/-! ## Inline subscriptions: which `Out.inline` a publish produces -/

def isInlineOut : Out → Bool
  | .inline .. => true
  | _ => false

theorem writeMsg_noInline (s : Server) (i : Nat) (m : Msg) : (writeMsg s i m).filter isInlineOut = [] := by
  unfold writeMsg
  extract_lets c
  split
  · rfl
  · split <;> rfl

theorem publishToClientCore_noInline (s : Server) (i : Nat) (sub : Sub) (f : Bool) (pk : Msg) :
    (publishToClientCore s i sub f pk).2.filter isInlineOut = [] := by
  have hw : ∀ (b : Bool) t m, (if b then [] else writeMsg t i m).filter isInlineOut = [] := by
    intro b t m
    cases b
    · exact writeMsg_noInline t i m
    · rfl
  exact publishToClientCore_cases (Q := fun r => r.2.filter isInlineOut = []) s i sub f pk rfl rfl
    (fun _ => hw _ _ _) (fun _ _ => rfl) (fun _ _ _ => rfl) (fun _ _ _ _ _ _ _ => rfl)
    (fun _ _ _ _ _ _ _ => hw _ _ _)

theorem publishToClient_noInline (s : Server) (i : Nat) (sub : Sub) (f : Bool) (pk : Msg) :
    (publishToClient s i sub f pk).2.filter isInlineOut = [] := by
  rw [publishToClient_passes]
  split
  · exact publishToClientCore_noInline s i sub f pk
  · rfl

/-- the inline deliveries of a publish: one per entry of the map of matching inline subscriptions (the deliveries to
    clients append none) — for every message (any QoS) the publish hook does not mark "ignore" -/
theorem publishToSubscribers_inlineOuts (s : Server) (pk : Msg) (hig : pk.ignore = false) :
    (publishToSubscribers s pk).2.filter isInlineOut =
      (subscribers s.topics pk.topic).inline.map fun x => Out.inline x.1 pk.topic pk.payload := by
  rw [publishToSubscribers_eq_fold_shared s pk hig]
  refine foldl_inv (fun r : Server × List Out => r.2.filter isInlineOut = _) _ _ _ ?_ ?_
  · refine List.filter_eq_self.mpr fun a ha => ?_
    obtain ⟨x, _, rfl⟩ := List.mem_map.mp ha
    rfl
  · intro r cs h
    unfold deliverStep
    cases assocGet r.1.clients cs.1 with
    | none => exact h
    | some i =>
      show (r.2 ++ (publishToClient r.1 i cs.2 false _).2).filter isInlineOut = _
      rw [List.filter_append, publishToClient_noInline, List.append_nil, h]

theorem mem_inline_outs (m : List (Nat × Sub)) (topic payload : Str) (id : Nat) (t p : Str) :
    Out.inline id t p ∈ (m.map fun x => Out.inline x.1 topic payload) ↔
      t = topic ∧ p = payload ∧ id ∈ m.map Prod.fst := by
  simp only [List.mem_map, Out.inline.injEq]
  constructor
  · rintro ⟨a, ha, rfl, rfl, rfl⟩
    exact ⟨rfl, rfl, a, ha, rfl⟩
  · rintro ⟨rfl, rfl, a, ha, rfl⟩
    exact ⟨a, ha, rfl, rfl, rfl⟩

theorem count_inline_outs (m : List (Nat × Sub)) (hnd : (m.map Prod.fst).Nodup) (topic payload : Str) (o : Out) :
    (m.map fun x => Out.inline x.1 topic payload).count o ≤ 1 :=
  List.nodup_iff_count.mp
    (List.pairwise_map.mpr ((List.pairwise_map.mp hnd).imp fun h e => h (Out.inline.inj e).1)) o

/-- inline subscription `id` holds an index entry whose filter — the address `q` of the particle it is stored at is
    the list of levels of the filter it was subscribed under — `specMatch`es the topic -/
def InlineMatching (x : Index) (topic : Str) (id : Nat) : Prop :=
  ∃ q sub, inlineAt x q id = some sub ∧ specMatch q topic = true

/-- **`inline_delivery_exact`.**  For every structurally sound index (`IdxOK`: every reachable state), every
    message the publish hook does not mark "ignore" (ANY QoS, shared subscriptions or not) with a non-empty topic
    without a `#` level: `publishToSubscribers s pk` produces `Out.inline id t p` **iff** `t`, `p` are the topic and
    payload of the message and inline subscription `id` holds an index entry whose filter `specMatch`es the topic —
    and at most once per identifier. -/
theorem inline_delivery_exact (s : Server) (hx : IdxOK s.topics) (pk : Msg) (hig : pk.ignore = false)
    (hne : pk.topic ≠ []) (hnh : ∀ t ∈ splitLevels pk.topic, t ≠ [hash]) (id : Nat) :
    (∀ t p, Out.inline id t p ∈ (publishToSubscribers s pk).2 ↔
      t = pk.topic ∧ p = pk.payload ∧ InlineMatching s.topics pk.topic id) ∧
    (publishToSubscribers s pk).2.count (Out.inline id pk.topic pk.payload) ≤ 1 := by
  have ho := publishToSubscribers_inlineOuts s pk hig
  refine ⟨fun t p => ?_, ?_⟩
  · refine ((List.mem_filter (p := isInlineOut)).trans (and_iff_left rfl)).symm.trans ?_
    rw [ho, mem_inline_outs, inline_keys_iff s.topics hx.pc pk.topic hne hnh id]
    exact Iff.rfl
  · rw [← List.count_filter (p := isInlineOut) (l := (publishToSubscribers s pk).2) rfl, ho]
    exact count_inline_outs _ (subscribers_inline_nodup s.topics pk.topic) _ _ _

theorem inlineAt_retainedState (s : Server) (pk : Msg) (q : Path) (id : Nat) :
    inlineAt (retainedState s pk).topics q id = inlineAt s.topics q id := by
  unfold retainedState
  split
  · unfold retainMsg
    split
    · rfl
    · exact inlineAt_retainMessage _ _ _ _ _ _
  · rfl

theorem inlineMatching_retainedState (s : Server) (pk : Msg) (topic : Str) (id : Nat) :
    InlineMatching (retainedState s pk).topics topic id ↔ InlineMatching s.topics topic id := by
  unfold InlineMatching
  simp only [inlineAt_retainedState]

end Mochi.Broker

namespace Mochi.Topics

/-- membership form of `shared_candidates_iff`: `(c, sub)` is a member of the candidate entry `g` -/
theorem mem_candidate_iff (x : Index) (hx : IdxOK x) (topic : Str) (hne : topic ≠ [])
    (hnh : ∀ t ∈ splitLevels topic, t ≠ [hash]) (c : Str) (sub : Sub) :
    (∃ g ∈ (subscribers x topic).shared, (c, sub) ∈ g.2) ↔ MatchingShared x topic c sub := by
  have hok := Mochi.Broker.subscribers_sharedOK x topic
  constructor
  · rintro ⟨g, hg, hc⟩
    exact ((shared_candidates_iff x hx topic hne hnh g.1 c sub).mp
      (sharedGet_of_mem hok.keys hg (hok.members g hg) hc)).2
  · intro h
    obtain ⟨mm, hmm, hc⟩ := sharedGet_mem ((shared_candidates_iff x hx topic hne hnh sub.filter c sub).mpr ⟨rfl, h⟩)
    exact ⟨_, hmm, hc⟩

end Mochi.Topics
