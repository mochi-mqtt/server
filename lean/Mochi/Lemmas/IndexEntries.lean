import Mochi.Lemmas.Refine
/-!
# The subscription entries of the topic index, operation by operation

`plainAt x q c` / `sharedAt x q g c`: the subscription the particle at address `q` holds for client `c`
(in share group `g`) — the lookups `Subscribers` performs.  For each of the five mutating operations of
`Mochi/Model/Topics.lean` the lookups after the operation are characterised in terms of the lookups before
(no abstract model needed, unlike `Mochi/Lemmas/Refine.lean`), and the structural invariant `IdxOK`
(prefix-closed, every entry stored at the address its own filter determines) is shown to be kept.
-/
namespace Mochi.Topics

/-- the plain subscription held for client `c` by the particle at address `q` -/
def plainAt (x : Index) (q : Path) (c : Str) : Option Sub :=
  (getNode x.nodes q).bind (fun n => assocGet n.subs c)

/-- the shared subscription held for client `c` in group `g` by the particle at address `q` -/
def sharedAt (x : Index) (q : Path) (g c : Str) : Option Sub :=
  (getNode x.nodes q).bind (fun n => sharedGet n.shared g c)


/-! ### what each operation does to a lookup -/

theorem plainAt_subscribe (x : Index) (c : Str) (s : Sub) (q : Path) (c' : Str) :
    plainAt (subscribe x c s).1 q c' =
      if shareKey s.filter = false ∧ q = plainPath s.filter ∧ c' = c then some s else plainAt x q c' := by
  unfold plainAt
  rw [subscribe_eq, Edit.apply_nodes]
  by_cases hs : shareKey s.filter = true
  · rw [subEdit_share hs, if_neg (fun h => Bool.noConfusion (hs.symm.trans h.1))]
    exact (subShared c s).look_same _ _ (deadNone_subs c') (fun _ => rfl) q
  · rw [subEdit_plain hs]
    simp only [Bool.not_eq_true _ ▸ hs, true_and]
    exact (subPlain c s).look_upd _ (fun h => Bool.noConfusion h) _ (deadNone_subs c') (c' = c) (some s)
      (.inr ⟨rfl, pathFrom_ne_nil _ _⟩) (fun n => assocGet_assocSet n.subs c c' s) q

theorem sharedAt_subscribe (x : Index) (c : Str) (s : Sub) (q : Path) (g c' : Str) :
    sharedAt (subscribe x c s).1 q g c' =
      if shareKey s.filter = true ∧ q = sharePath s.filter ∧ g = shareGroup s.filter ∧ c' = c then some s
      else sharedAt x q g c' := by
  unfold sharedAt
  rw [subscribe_eq, Edit.apply_nodes]
  by_cases hs : shareKey s.filter = true
  · rw [subEdit_share hs]
    simp only [hs, true_and]
    exact (subShared c s).look_upd _ (fun h => Bool.noConfusion h) _ (deadNone_shared g c')
      (g = shareGroup s.filter ∧ c' = c) (some s) (.inr ⟨rfl, pathFrom_ne_nil _ _⟩)
      (fun n => sharedGet_sharedAdd n.shared _ c g c' s) q
  · rw [subEdit_plain hs, if_neg (fun h => hs h.1)]
    exact (subPlain c s).look_same _ _ (deadNone_shared g c') (fun _ => rfl) q

theorem unsubscribe_bare (x : Index) (f c : Str) (hb : shareBare f = true) : unsubscribe x f c = (x, false) := by
  rw [unsubscribe_eq, if_pos hb]

theorem plainAt_unsubscribe (x : Index) (hpc : PrefixClosed x.nodes) (f c : Str) (q : Path) (c' : Str) :
    plainAt (unsubscribe x f c).1 q c' =
      if shareKey f = false ∧ q = plainPath f ∧ c' = c then none else plainAt x q c' := by
  unfold plainAt
  rw [unsubscribe_eq]
  by_cases hb : shareBare f = true
  · rw [if_pos hb, if_neg (fun h => Bool.noConfusion ((shareBare_shareKey hb).symm.trans h.1))]
  · rw [if_neg hb, Edit.apply_nodes]
    by_cases hs : shareKey f = true
    · rw [unsubEdit_share hs, if_neg (fun h => Bool.noConfusion (hs.symm.trans h.1))]
      exact (unsubShared f c).look_same _ _ (deadNone_subs c') (fun _ => rfl) q
    · rw [unsubEdit_plain hs]
      simp only [Bool.not_eq_true _ ▸ hs, true_and]
      exact (unsubPlain f c).look_upd _ (fun _ => hpc) _ (deadNone_subs c') (c' = c) none (.inl rfl)
        (fun n => assocGet_assocDel n.subs c c') q

theorem sharedAt_unsubscribe (x : Index) (hpc : PrefixClosed x.nodes) (f c : Str) (q : Path) (g c' : Str) :
    sharedAt (unsubscribe x f c).1 q g c' =
      if (shareKey f = true ∧ shareBare f = false) ∧ q = sharePath f ∧ g = shareGroup f ∧ c' = c then none
      else sharedAt x q g c' := by
  unfold sharedAt
  rw [unsubscribe_eq]
  by_cases hb : shareBare f = true
  · rw [if_pos hb, if_neg (fun h => Bool.noConfusion (hb.symm.trans h.1.2))]
  · rw [if_neg hb, Edit.apply_nodes]
    by_cases hs : shareKey f = true
    · rw [unsubEdit_share hs]
      simp only [hs, Bool.not_eq_true _ ▸ hb, and_self, true_and]
      exact (unsubShared f c).look_upd _ (fun _ => hpc) _ (deadNone_shared g c') (g = shareGroup f ∧ c' = c) none
        (.inl rfl) (fun n => sharedGet_sharedDel n.shared _ c g c') q
    · rw [unsubEdit_plain hs, if_neg (fun h => hs h.1.1)]
      exact (unsubPlain f c).look_same _ _ (deadNone_shared g c') (fun _ => rfl) q

theorem inlineSubscribe_look (x : Index) (id : Nat) (s : Sub) {β : Type} (π : Node → Option β) (hπ : DeadNone π)
    (hsame : ∀ (n : Node) (v : List (Nat × Sub)), π { n with inline := v } = π n) (q : Path) :
    (getNode (inlineSubscribe x id s).1.nodes q).bind π = (getNode x.nodes q).bind π := by
  rw [inlineSubscribe_eq, Edit.apply_nodes]
  exact (inlSubEdit id s).look_same _ π hπ (fun n => hsame n _) q

theorem inlineUnsubscribe_look (x : Index) (id : Nat) (f : Str) {β : Type} (π : Node → Option β) (hπ : DeadNone π)
    (hsame : ∀ (n : Node) (v : List (Nat × Sub)), π { n with inline := v } = π n) (q : Path) :
    (getNode (inlineUnsubscribe x id f).1.nodes q).bind π = (getNode x.nodes q).bind π := by
  rw [inlineUnsubscribe_eq, Edit.apply_nodes]
  exact (inlUnsubEdit id f).look_same _ π hπ (fun n => hsame n _) q

theorem retainMessage_look (x : Index) (t p : Str) (fl : Bool) {β : Type} (π : Node → Option β) (hπ : DeadNone π)
    (hsame : ∀ (n : Node) (v : Str), π { n with retainPath := v } = π n) (q : Path) :
    (getNode (retainMessage x t p fl).1.nodes q).bind π = (getNode x.nodes q).bind π := by
  rw [retainMessage_nodes]
  exact (retEdit t p).look_same _ π hπ (fun n => hsame n _) q

theorem plainAt_inlineSubscribe (x : Index) (id : Nat) (s : Sub) (q : Path) (c : Str) :
    plainAt (inlineSubscribe x id s).1 q c = plainAt x q c :=
  inlineSubscribe_look x id s _ (deadNone_subs c) (fun _ _ => rfl) q
theorem sharedAt_inlineSubscribe (x : Index) (id : Nat) (s : Sub) (q : Path) (g c : Str) :
    sharedAt (inlineSubscribe x id s).1 q g c = sharedAt x q g c :=
  inlineSubscribe_look x id s _ (deadNone_shared g c) (fun _ _ => rfl) q
theorem plainAt_inlineUnsubscribe (x : Index) (id : Nat) (f : Str) (q : Path) (c : Str) :
    plainAt (inlineUnsubscribe x id f).1 q c = plainAt x q c :=
  inlineUnsubscribe_look x id f _ (deadNone_subs c) (fun _ _ => rfl) q
theorem sharedAt_inlineUnsubscribe (x : Index) (id : Nat) (f : Str) (q : Path) (g c : Str) :
    sharedAt (inlineUnsubscribe x id f).1 q g c = sharedAt x q g c :=
  inlineUnsubscribe_look x id f _ (deadNone_shared g c) (fun _ _ => rfl) q
theorem plainAt_retainMessage (x : Index) (t p : Str) (fl : Bool) (q : Path) (c : Str) :
    plainAt (retainMessage x t p fl).1 q c = plainAt x q c :=
  retainMessage_look x t p fl _ (deadNone_subs c) (fun _ _ => rfl) q
theorem sharedAt_retainMessage (x : Index) (t p : Str) (fl : Bool) (q : Path) (g c : Str) :
    sharedAt (retainMessage x t p fl).1 q g c = sharedAt x q g c :=
  retainMessage_look x t p fl _ (deadNone_shared g c) (fun _ _ => rfl) q

/-! ### the lists of the index are maps: distinct particle addresses, distinct keys -/

/-- the three association lists of a particle have distinct keys -/
structure NodeOK (n : Node) : Prop where
  subs : (n.subs.map (·.1)).Nodup
  shared : (n.shared.map (·.1)).Nodup
  members : ∀ gm ∈ n.shared, (gm.2.map (·.1)).Nodup

theorem nodeOK_fresh (q : Path) : NodeOK { path := q } :=
  ⟨List.nodup_nil, List.nodup_nil, fun _ h => by cases h⟩

theorem sharedAdd_ok (sh : List (Str × List (Str × Sub))) (g c : Str) (s : Sub)
    (h1 : (sh.map (·.1)).Nodup) (h2 : ∀ gm ∈ sh, (gm.2.map (·.1)).Nodup) :
    ((sharedAdd sh g c s).map (·.1)).Nodup ∧ ∀ gm ∈ sharedAdd sh g c s, (gm.2.map (·.1)).Nodup := by
  unfold sharedAdd
  cases hg : assocGet sh g with
  | none =>
    refine ⟨?_, ?_⟩
    · show ((sh ++ [(g, [(c, s)])]).map (·.1)).Nodup
      rw [List.map_append, List.nodup_append]
      refine ⟨h1, List.nodup_cons.mpr ⟨List.not_mem_nil, List.nodup_nil⟩, ?_⟩
      intro a ha b hb hab
      rw [List.map_cons, List.map_nil, List.mem_singleton] at hb
      subst hb; subst hab
      exact (assocGet_none_iff sh _).mp hg ha
    · intro gm hgm
      replace hgm : gm ∈ sh ++ [(g, [(c, s)])] := hgm
      rcases List.mem_append.mp hgm with hgm | hgm
      · exact h2 gm hgm
      · rw [List.mem_singleton.mp hgm]
        exact List.nodup_cons.mpr ⟨List.not_mem_nil, List.nodup_nil⟩
  | some m =>
    refine ⟨assocSet_nodup_keys _ _ _ h1, ?_⟩
    intro gm hgm
    replace hgm : gm ∈ assocSet sh g (assocSet m c s) := hgm
    rcases assocSet_mem_cases _ _ _ _ hgm with hgm | hgm
    · exact h2 gm hgm
    · rw [hgm]
      exact assocSet_nodup_keys _ _ _ (h2 (g, m) (assocGet_mem sh g m hg))

theorem sharedDel_ok (sh : List (Str × List (Str × Sub))) (g c : Str)
    (h1 : (sh.map (·.1)).Nodup) (h2 : ∀ gm ∈ sh, (gm.2.map (·.1)).Nodup) :
    ((sharedDel sh g c).map (·.1)).Nodup ∧ ∀ gm ∈ sharedDel sh g c, (gm.2.map (·.1)).Nodup := by
  unfold sharedDel
  cases hg : assocGet sh g with
  | none => exact ⟨h1, h2⟩
  | some m =>
    simp only
    split
    · exact ⟨assocDel_nodup_keys _ _ h1, fun gm hgm => h2 gm (List.mem_filter.mp hgm).1⟩
    · refine ⟨assocSet_nodup_keys _ _ _ h1, ?_⟩
      intro gm hgm
      rcases assocSet_mem_cases _ _ _ _ hgm with hgm | hgm
      · exact h2 gm hgm
      · rw [hgm]
        exact assocDel_nodup_keys _ _ (h2 (g, m) (assocGet_mem sh g m hg))

def AllNodeOK (ns : List Node) : Prop := ∀ n ∈ ns, NodeOK n

theorem editOf_nodeOK {op : IOp} {e : Edit} (he : editOf op = some e) (n : Node) (h : NodeOK n) : NodeOK (e.f n) := by
  cases op with
  | subscribe c s =>
    cases he
    unfold subEdit
    split
    · have := sharedAdd_ok n.shared (shareGroup s.filter) c s h.shared h.members
      exact ⟨h.subs, this.1, this.2⟩
    · exact ⟨assocSet_nodup_keys _ _ _ h.subs, h.shared, h.members⟩
  | unsubscribe f c =>
    simp only [editOf] at he
    split at he
    · cases he
    · cases he
      unfold unsubEdit
      split
      · have := sharedDel_ok n.shared (shareGroup f) c h.shared h.members
        exact ⟨h.subs, this.1, this.2⟩
      · exact ⟨assocDel_nodup_keys _ _ h.subs, h.shared, h.members⟩
  | inlineSubscribe id s => cases he; exact ⟨h.subs, h.shared, h.members⟩
  | inlineUnsubscribe id f => cases he; exact ⟨h.subs, h.shared, h.members⟩
  | retain t p fl => cases he; exact ⟨h.subs, h.shared, h.members⟩

theorem allNodeOK_applyOp (x : Index) (h : AllNodeOK x.nodes) (op : IOp) : AllNodeOK (applyOp x op).nodes := by
  rw [applyOp_eq]
  cases he : editOf op with
  | none => exact h
  | some e => exact e.forall_mem nodeOK_fresh (editOf_nodeOK he) _ h

/-! ### the structural invariant -/

/-- every entry is stored at the address (and under the group) its own filter determines -/
structure Pos (x : Index) : Prop where
  plain : ∀ q c sub, plainAt x q c = some sub → shareKey sub.filter = false ∧ plainPath sub.filter = q
  shared : ∀ q g c sub, sharedAt x q g c = some sub →
    shareKey sub.filter = true ∧ sharePath sub.filter = q ∧ shareGroup sub.filter = g

structure IdxOK (x : Index) : Prop where
  pc : PrefixClosed x.nodes
  pos : Pos x
  paths : PathsOK (x.nodes.map (·.path))
  keys : AllNodeOK x.nodes

theorem idxOK_empty : IdxOK {} :=
  ⟨by intro p hp; simp [hasNode] at hp, ⟨fun _ _ _ h => by simp [plainAt, getNode_nil] at h,
    fun _ _ _ _ h => by simp [sharedAt, getNode_nil] at h⟩,
   ⟨List.nodup_nil, fun _ h => by simp at h⟩, fun _ h => by cases h⟩

/-! The four parts of `IdxOK` are kept by `applyOp`; stating the goal about `applyOp` first keeps Lean from unfolding the
operation when it matches the lemmas about `applyOp` against it. -/

theorem idxOK_subscribe (x : Index) (h : IdxOK x) (c : Str) (s : Sub) : IdxOK (subscribe x c s).1 := by
  show IdxOK (applyOp x (.subscribe c s))
  refine ⟨prefixClosed_applyOp x h.pc _, ⟨fun q c' sub hq => ?_, fun q g c' sub hq => ?_⟩, pathsOK_applyOp x h.paths _,
    allNodeOK_applyOp x h.keys _⟩
  · replace hq : plainAt (subscribe x c s).1 q c' = some sub := hq
    rw [plainAt_subscribe] at hq
    split at hq
    · rename_i hc
      cases hq
      exact ⟨hc.1, hc.2.1.symm⟩
    · exact h.pos.plain q c' sub hq
  · replace hq : sharedAt (subscribe x c s).1 q g c' = some sub := hq
    rw [sharedAt_subscribe] at hq
    split at hq
    · rename_i hc
      cases hq
      exact ⟨hc.1, hc.2.1.symm, hc.2.2.1.symm⟩
    · exact h.pos.shared q g c' sub hq

theorem idxOK_unsubscribe (x : Index) (h : IdxOK x) (f c : Str) : IdxOK (unsubscribe x f c).1 := by
  show IdxOK (applyOp x (.unsubscribe f c))
  refine ⟨prefixClosed_applyOp x h.pc _, ⟨fun q c' sub hq => ?_, fun q g c' sub hq => ?_⟩, pathsOK_applyOp x h.paths _,
    allNodeOK_applyOp x h.keys _⟩
  · replace hq : plainAt (unsubscribe x f c).1 q c' = some sub := hq
    rw [plainAt_unsubscribe x h.pc] at hq
    split at hq
    · cases hq
    · exact h.pos.plain q c' sub hq
  · replace hq : sharedAt (unsubscribe x f c).1 q g c' = some sub := hq
    rw [sharedAt_unsubscribe x h.pc] at hq
    split at hq
    · cases hq
    · exact h.pos.shared q g c' sub hq

theorem idxOK_of_look (x : Index) (h : IdxOK x) (op : IOp) (hp : ∀ q c, plainAt (applyOp x op) q c = plainAt x q c)
    (hs : ∀ q g c, sharedAt (applyOp x op) q g c = sharedAt x q g c) : IdxOK (applyOp x op) :=
  ⟨prefixClosed_applyOp x h.pc _,
   ⟨fun q c sub hq => h.pos.plain q c sub (by rw [← hp]; exact hq),
    fun q g c sub hq => h.pos.shared q g c sub (by rw [← hs]; exact hq)⟩,
   pathsOK_applyOp x h.paths _, allNodeOK_applyOp x h.keys _⟩

theorem idxOK_inlineSubscribe (x : Index) (h : IdxOK x) (id : Nat) (s : Sub) : IdxOK (inlineSubscribe x id s).1 :=
  idxOK_of_look x h (.inlineSubscribe id s) (plainAt_inlineSubscribe x id s) (sharedAt_inlineSubscribe x id s)

theorem idxOK_inlineUnsubscribe (x : Index) (h : IdxOK x) (id : Nat) (f : Str) :
    IdxOK (inlineUnsubscribe x id f).1 :=
  idxOK_of_look x h (.inlineUnsubscribe id f) (plainAt_inlineUnsubscribe x id f) (sharedAt_inlineUnsubscribe x id f)

theorem idxOK_retainMessage (x : Index) (h : IdxOK x) (t p : Str) (fl : Bool) : IdxOK (retainMessage x t p fl).1 :=
  idxOK_of_look x h (.retain t p fl) (plainAt_retainMessage x t p fl) (sharedAt_retainMessage x t p fl)

/-! ### entries -/

/-- the index holds a (plain or shared) subscription of client `c` whose filter is `f` -/
def Entry (x : Index) (c f : Str) : Prop :=
  (∃ q sub, plainAt x q c = some sub ∧ sub.filter = f) ∨ (∃ q g sub, sharedAt x q g c = some sub ∧ sub.filter = f)

theorem Entry.congr {x y : Index} (hp : ∀ q c, plainAt y q c = plainAt x q c)
    (hs : ∀ q g c, sharedAt y q g c = sharedAt x q g c) (c f : Str) : Entry y c f ↔ Entry x c f := by
  unfold Entry
  simp only [hp, hs]

theorem Entry.of_subscribe {x : Index} {c : Str} {s : Sub} {c' f : Str} (h : Entry (subscribe x c s).1 c' f) :
    Entry x c' f ∨ (c' = c ∧ f = s.filter) := by
  rcases h with ⟨q, sub, h, e⟩ | ⟨q, g, sub, h, e⟩
  · rw [plainAt_subscribe] at h
    split at h
    · rename_i hc
      cases h
      exact Or.inr ⟨hc.2.2, e.symm⟩
    · exact Or.inl (Or.inl ⟨q, sub, h, e⟩)
  · rw [sharedAt_subscribe] at h
    split at h
    · rename_i hc
      cases h
      exact Or.inr ⟨hc.2.2.2, e.symm⟩
    · exact Or.inl (Or.inr ⟨q, g, sub, h, e⟩)

theorem Entry.subscribe_self (x : Index) (c : Str) (s : Sub) : Entry (subscribe x c s).1 c s.filter := by
  cases hs : shareKey s.filter with
  | false =>
    refine Or.inl ⟨plainPath s.filter, s, ?_, rfl⟩
    rw [plainAt_subscribe]; simp [hs]
  | true =>
    refine Or.inr ⟨sharePath s.filter, shareGroup s.filter, s, ?_, rfl⟩
    rw [sharedAt_subscribe]; simp [hs]

/-- an entry after `Unsubscribe f c` was there before, and is not client `c`'s entry for `f` -/
theorem Entry.of_unsubscribe {x : Index} (hx : IdxOK x) {f c c' f' : Str} (h : Entry (unsubscribe x f c).1 c' f') :
    Entry x c' f' ∧ ¬ (c' = c ∧ f' = f ∧ shareBare f = false) := by
  rcases h with ⟨q, sub, h, e⟩ | ⟨q, g, sub, h, e⟩
  · rw [plainAt_unsubscribe x hx.pc] at h
    split at h
    · cases h
    · rename_i hn
      refine ⟨Or.inl ⟨q, sub, h, e⟩, ?_⟩
      rintro ⟨rfl, rfl, _⟩
      obtain ⟨h1, h2⟩ := hx.pos.plain q c' sub h
      rw [e] at h1 h2
      exact hn ⟨h1, h2.symm, rfl⟩
  · rw [sharedAt_unsubscribe x hx.pc] at h
    split at h
    · cases h
    · rename_i hn
      refine ⟨Or.inr ⟨q, g, sub, h, e⟩, ?_⟩
      rintro ⟨rfl, rfl, hb⟩
      obtain ⟨h1, h2, h3⟩ := hx.pos.shared q g c' sub h
      rw [e] at h1 h2 h3
      exact hn ⟨⟨h1, hb⟩, h2.symm, h3.symm, rfl⟩

/-! ### the entries as a list -/

/-- the non-inline entries of the index, particle by particle: (client id, filter of the stored subscription),
    plain and shared -/
def indexEntries (x : Index) : List (Str × Str) :=
  x.nodes.flatMap fun n =>
    n.subs.map (fun cs => (cs.1, cs.2.filter)) ++
    n.shared.flatMap (fun gm => gm.2.map (fun cs => (cs.1, cs.2.filter)))

theorem mem_indexEntries {x : Index} {c f : Str} :
    (c, f) ∈ indexEntries x ↔ ∃ n ∈ x.nodes,
      (∃ sub, (c, sub) ∈ n.subs ∧ sub.filter = f) ∨ (∃ g m sub, (g, m) ∈ n.shared ∧ (c, sub) ∈ m ∧ sub.filter = f) := by
  unfold indexEntries
  simp only [List.mem_flatMap, List.mem_append, List.mem_map, Prod.mk.injEq, Prod.exists]
  constructor
  · rintro ⟨n, hn, h | h⟩
    · obtain ⟨a, b, hab, rfl, rfl⟩ := h
      exact ⟨n, hn, Or.inl ⟨b, hab, rfl⟩⟩
    · obtain ⟨g, m, hgm, a, b, hab, rfl, rfl⟩ := h
      exact ⟨n, hn, Or.inr ⟨g, m, b, hgm, hab, rfl⟩⟩
  · rintro ⟨n, hn, h | h⟩
    · obtain ⟨sub, hs, rfl⟩ := h
      exact ⟨n, hn, Or.inl ⟨c, sub, hs, rfl, rfl⟩⟩
    · obtain ⟨g, m, sub, hgm, hs, rfl⟩ := h
      exact ⟨n, hn, Or.inr ⟨g, m, hgm, c, sub, hs, rfl, rfl⟩⟩

/-- with distinct addresses and keys, the entries of the list are exactly what the lookups find -/
theorem Entry.of_mem {x : Index} (hx : IdxOK x) {c f : Str} (h : (c, f) ∈ indexEntries x) : Entry x c f := by
  obtain ⟨n, hn, h⟩ := mem_indexEntries.mp h
  have hg := getNode_of_mem x.nodes hx.paths.1 n hn
  have hno := hx.keys n hn
  rcases h with ⟨sub, hs, hf⟩ | ⟨g, m, sub, hgm, hs, hf⟩
  · refine Or.inl ⟨n.path, sub, ?_, hf⟩
    unfold plainAt
    rw [hg]
    exact assocGet_of_mem _ _ _ hno.subs hs
  · refine Or.inr ⟨n.path, g, sub, ?_, hf⟩
    unfold sharedAt
    rw [hg]
    exact sharedGet_of_mem hno.shared hgm (hno.members (g, m) hgm) hs

theorem Entry.mem {x : Index} {c f : Str} (h : Entry x c f) : (c, f) ∈ indexEntries x := by
  apply mem_indexEntries.mpr
  rcases h with ⟨q, sub, hq, hf⟩ | ⟨q, g, sub, hq, hf⟩
  · obtain ⟨n, hg, hq⟩ := Option.bind_eq_some_iff.mp hq
    exact ⟨n, getNode_mem hg, Or.inl ⟨sub, assocGet_mem _ _ _ hq, hf⟩⟩
  · obtain ⟨n, hg, hq⟩ := Option.bind_eq_some_iff.mp hq
    obtain ⟨m, hm, hs⟩ := sharedGet_mem hq
    exact ⟨n, getNode_mem hg, Or.inr ⟨g, m, sub, hm, hs, hf⟩⟩

/-! ### the converse direction, for plain filters: the entry of a plain filter is at the address of the filter -/

/-- the index holds a plain subscription of client `c` at the address of filter `f` -/
def HasPlain (x : Index) (c f : Str) : Prop := (plainAt x (plainPath f) c).isSome = true

theorem plainPath_eq (f : Str) : plainPath f = splitLevels f :=
  pathFrom_zero _ (splitLevels_ne_nil f)

theorem plainPath_inj {f f' : Str} (h : plainPath f = plainPath f') : f = f' := by
  rw [plainPath_eq, plainPath_eq] at h
  exact splitLevels_inj h

theorem HasPlain.congr {x y : Index} (hp : ∀ q c, plainAt y q c = plainAt x q c) {c f : Str} (h : HasPlain x c f) :
    HasPlain y c f := by
  unfold HasPlain; rw [hp]; exact h

theorem HasPlain.subscribe_keep {x : Index} {c' f : Str} (h : HasPlain x c' f) (c : Str) (s : Sub) :
    HasPlain (subscribe x c s).1 c' f := by
  unfold HasPlain at h ⊢
  rw [plainAt_subscribe]
  split
  · rfl
  · exact h

theorem HasPlain.subscribe_self (x : Index) (c : Str) (s : Sub) (hs : shareKey s.filter = false) :
    HasPlain (subscribe x c s).1 c s.filter := by
  unfold HasPlain
  rw [plainAt_subscribe]
  simp [hs]

theorem HasPlain.unsubscribe_keep {x : Index} (hpc : PrefixClosed x.nodes) {c' f : Str} (h : HasPlain x c' f)
    (f0 c : Str) (hne : c' ≠ c ∨ f ≠ f0) : HasPlain (unsubscribe x f0 c).1 c' f := by
  unfold HasPlain at h ⊢
  rw [plainAt_unsubscribe x hpc]
  split
  · rename_i hc
    rcases hne with hne | hne
    · exact absurd hc.2.2 hne
    · exact absurd (plainPath_inj hc.2.1) hne
  · exact h

/-- the entry found at the address of a plain filter carries that filter -/
theorem HasPlain.mem {x : Index} (hx : IdxOK x) {c f : Str} (h : HasPlain x c f) : (c, f) ∈ indexEntries x := by
  unfold HasPlain at h
  cases hq : plainAt x (plainPath f) c with
  | none => rw [hq] at h; cases h
  | some sub =>
    have := (hx.pos.plain _ c sub hq).2
    exact Entry.mem (Or.inl ⟨_, sub, hq, plainPath_inj this⟩)

end Mochi.Topics
