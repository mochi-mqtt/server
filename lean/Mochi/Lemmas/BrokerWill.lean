import Mochi.Lemmas.BrokerPublishOp
import Mochi.Lemmas.BrokerExitsFanout
/-!
# Will messages: what `sendLWT`, `detach`, `processDisconnect`, `tickWills` do, as equations (C16)

`sendLWT` as a function of the will (`sendLWT_spec`): what it writes is `willOutputs` — the fan-out of the will message,
then the harness event that marks the publication —, what it registers for a positive delay is `delayedWillMsg`.  From it
the ops that end a live network client's connection: `drop` and DISCONNECT 0x04 are `sendLWT` + `stopClient` + the
session clean-up; a DISCONNECT with another reason code (that does not try to raise a zero session expiry) clears the
will and publishes nothing; a handler that leaves its read loop with an error, row by row (`errExit_rows`).
`FanOut o`: every output of a fan-out is a PUBLISH, an inline delivery or a harness event — no connection is
closed, no other packet type written.  Then the wills tick, and that an admitted CONNECT of the same id removes the
registered will.
-/
namespace Mochi.Broker
open Mochi.Topics

/-- the message `sendLWT` registers in `willDelayed`: the will stamped with the time it becomes due -/
def delayedWillMsg (c : Client) : Msg := { willMsg c with expiry := NOW + c.will.delay }

/-- what a will publication writes: the fan-out of the will message (`publishToSubscribers`, in the state with the
    retained store updated if the will is retained), then the event that marks the publication -/
def willOutputs (s : Server) (c : Client) : List Out :=
  (publishToSubscribers (retainedState s (willMsg c)) (willMsg c)).2 ++ [willEvent c.id]

theorem sendLWT_noflag (s : Server) (i : Nat) (h : (getObj s i).will.flag = false) : sendLWT s i = (s, []) := by
  unfold sendLWT; simp [h]

theorem sendLWT_delayed (s : Server) (i : Nat) (hf : (getObj s i).will.flag = true) (hd : (getObj s i).will.delay > 0) :
    sendLWT s i =
      ({ s with willDelayed := assocSet s.willDelayed (getObj s i).id (delayedWillMsg (getObj s i)) }, []) := by
  unfold sendLWT
  simp only [hf, Bool.not_true, Bool.false_eq_true, if_false, hd, if_true]
  rfl

theorem sendLWT_now (s : Server) (i : Nat) (hf : (getObj s i).will.flag = true) (hd : (getObj s i).will.delay = 0) :
    sendLWT s i =
      (modObj (publishToSubscribers (retainedState s (willMsg (getObj s i))) (willMsg (getObj s i))).1 i
          (fun c => { c with will := { c.will with flag := false } }),
       (publishToSubscribers (retainedState s (willMsg (getObj s i))) (willMsg (getObj s i))).2 ++ [willEvent (getObj s i).id]) := by
  unfold sendLWT
  simp only [hf, Bool.not_true, Bool.false_eq_true, if_false, hd, Nat.lt_irrefl]
  rfl

/-! ### the outputs of a fan-out -/

def Out.isFan : Out → Bool
  | .wrote _ (.publish ..) => true
  | .inline .. => true
  | .event _ => true
  | _ => false

/-- every output is a PUBLISH, an inline delivery or an event -/
def FanOut (o : List Out) : Prop := ∀ x ∈ o, x.isFan = true

theorem FanOut.nil : FanOut [] := fun _ h => by cases h
theorem FanOut.append {a b : List Out} (ha : FanOut a) (hb : FanOut b) : FanOut (a ++ b) := by
  intro x hx
  rcases List.mem_append.mp hx with h | h
  · exact ha x h
  · exact hb x h

theorem writeMsg_fan (s : Server) (i : Nat) (m : Msg) (hm : m.type = 3) : FanOut (writeMsg s i m) := by
  unfold writeMsg
  simp only [hm]
  split
  · exact FanOut.nil
  · intro x hx
    simp at hx
    subst hx
    rfl

theorem publishToClientCore_fan (s : Server) (i : Nat) (sub : Sub) (f : Bool) (pk : Msg) (hm : pk.type = 3) :
    FanOut (publishToClientCore s i sub f pk).2 := by
  have hw : ∀ s' (m : Msg), m.type = 3 →
      FanOut (if !(coreClient (getObj s i) pk.topic).isOpen then [] else writeMsg s' i m) := fun s' m h =>
    iteInduction (motive := FanOut) (fun _ => FanOut.nil) (fun _ => writeMsg_fan s' i m h)
  have ht := (coreOut_type s.caps (getObj s i) sub f pk).trans hm
  exact publishToClientCore_cases (Q := fun r => FanOut r.2) s i sub f pk rfl rfl (fun _ => hw _ _ ht)
    (fun _ _ => FanOut.nil) (fun _ _ _ x hx => by cases List.mem_singleton.mp hx; rfl)
    (fun _ _ _ _ _ _ _ => FanOut.nil) (fun _ _ _ _ _ _ _ => hw _ _ ht)

theorem publishToSubscribers_fan (s : Server) (pk : Msg) (hm : pk.type = 3) : FanOut (publishToSubscribers s pk).2 :=
  publishToSubscribers_cases (J := fun r => FanOut r.2) s pk (fun o h x hx => by obtain ⟨id, rfl⟩ := h x hx; rfl)
    (fun acc cs i _ h => h.append (publishToClientCore_fan acc.1 i cs.2 false _ ((stamped_fields s pk).2.2.2.1.trans hm)))

theorem sendLWT_fan (s : Server) (i : Nat) : FanOut (sendLWT s i).2 :=
  sendLWT_cases (Q := fun r => FanOut r.2) s i (fun _ => FanOut.nil) (fun _ _ _ _ => FanOut.nil)
    (fun pk e _ _ => (publishToSubscribers_fan _ pk (by rw [e]; rfl)).append fun x hx => by
      cases List.mem_singleton.mp hx; rfl)

/-- the `drop` op's filter (the peer closed the connection itself) leaves a fan-out alone -/
theorem FanOut.filter_closed {o : List Out} (h : FanOut o) (conn : Nat) : noClosed conn o = o := by
  apply List.filter_eq_self.mpr
  intro x hx
  have := h x hx
  cases x <;> first | rfl | cases this

/-! ### `sendLWT` keeps the acting object's own fields; the `drop` op as an equation -/

theorem ownEq_modObj (s : Server) (i : Nat) (f : Client → Client) (hf : ∀ c, OwnEq c (f c)) :
    OwnEq (getObj s i) (getObj (modObj s i f) i) :=
  getObj_setObj_ind s i (f (getObj s i)) i (OwnEq.refl _) fun _ => hf _

theorem sendLWT_own (s : Server) (i : Nat) : OwnEq (getObj s i) (getObj (sendLWT s i).1 i) :=
  sendLWT_cases (Q := fun r => OwnEq (getObj s i) (getObj r.1 i)) s i (fun _ => OwnEq.refl _)
    (fun _ _ _ _ => OwnEq.refl _) fun pk _ _ _ => by
      have d := (publishToSubscribers_deliv (retainedState s pk) pk).all i
      rw [getObj_retainedState] at d
      exact d.own.trans (ownEq_modObj _ i _ (fun c => by own_rfl))

theorem stopClient_live (s : Server) (i : Nat) (hst : (getObj s i).stopped = false) (hin : (getObj s i).inline = false) :
    stopClient s i = (setObj s i { getObj s i with isOpen := false, stopped := true }, [.closed (getObj s i).conn]) := by
  unfold stopClient
  simp only [hst, hin, Bool.false_eq_true, if_false]

/-- the state in which the handler of object `i` learns that its peer is gone -/
def peerLost (s : Server) (i : Nat) : Server := modObj s i (fun c => { c with peerGone := true })

theorem getObj_peerLost_self (s : Server) (i : Nat) (hi : i < s.objs.length) :
    getObj (peerLost s i) i = { getObj s i with peerGone := true } := getObj_modObj_lt s i _ hi

theorem willMsg_peerLost (s : Server) (i : Nat) (hi : i < s.objs.length) :
    willMsg (getObj (peerLost s i) i) = willMsg (getObj s i) := by rw [getObj_peerLost_self s i hi]; rfl

theorem peerLost_willDelayed (s : Server) (i : Nat) : (peerLost s i).willDelayed = s.willDelayed := rfl

theorem peerLost_length (s : Server) (i : Nat) : (peerLost s i).objs.length = s.objs.length := setObj_length s i _

/-! ### what leaves the table of delayed wills alone -/

/-- `willDelayed` is kept by whatever only rewrites an object or the quiet fields -/
theorem wdWalk (i : Nat) : ObjWalk i (fun _ _ => True) (fun s s' => s'.willDelayed = s.willDelayed) :=
  ObjWalk.proj Server.willDelayed i (fun _ _ => rfl) (fun _ _ => rfl) (fun _ _ => rfl)

theorem detachB_willDelayed (s : Server) (i : Nat) : (detachB s i).willDelayed = s.willDelayed :=
  detachB_cases (Q := fun x => x.willDelayed = s.willDelayed) s i (fun _ => rfl)
    (fun _ => unsubscribeClient_walk (wdWalk i) (fun _ _ => trivial) (fun _ _ _ => rfl) (clearInflights s i))

theorem nextImmediate_willDelayed (s : Server) (i : Nat) : (nextImmediate s i).1.willDelayed = s.willDelayed :=
  nextImmediate_walk SessOps.top (wdWalk i) s

theorem publishToSubscribers_willDelayed (s : Server) (pk : Msg) :
    (publishToSubscribers s pk).1.willDelayed = s.willDelayed :=
  publishToSubscribers_state (R := fun s s' => s'.willDelayed = s.willDelayed) (fun _ => rfl) (fun h g => g.trans h)
    (fun s i sub f pk => publishToClientCore_walk SessOps.top (wdWalk i) s sub f pk) s pk

theorem retainedState_willDelayed (s : Server) (pk : Msg) : (retainedState s pk).willDelayed = s.willDelayed :=
  iteInduction (motive := fun x : Server => x.willDelayed = s.willDelayed)
    (fun _ => iteInduction (motive := fun x : Server => x.willDelayed = s.willDelayed) (fun _ => rfl) (fun _ => rfl))
    (fun _ => rfl)

/-- (about a variable state: against a fan-out's result the unifier compares `willCleared A i` with `A` first, and
    that fails only once the fan-out is unfolded) -/
theorem willCleared_willDelayed (s : Server) (i : Nat) : (willCleared s i).willDelayed = s.willDelayed := rfl

/-! ### `sendLWT` as a function of the will

The will and the id are read off a client `c` that the acting object agrees with, so that the state `X` in which the
handler runs (`peerLost s i`, `discState s i sei`) need not be the state whose object the caller speaks of. -/

theorem willOutputs_congr (s : Server) {a c : Client} (hw : a.will = c.will) (hid : a.id = c.id) :
    willOutputs s a = willOutputs s c := by
  unfold willOutputs willMsg; rw [hw, hid]

theorem delayedWillMsg_congr {a c : Client} (hw : a.will = c.will) (hid : a.id = c.id) :
    delayedWillMsg a = delayedWillMsg c := by
  unfold delayedWillMsg willMsg; rw [hw, hid]

theorem willEvent_mem_willOutputs (s : Server) (c : Client) : willEvent c.id ∈ willOutputs s c :=
  List.mem_append_right _ List.mem_cons_self

/-- the outputs are the will's iff flag ∧ no delay; the table of delayed wills gains the stamped will iff flag ∧ delay -/
theorem sendLWT_spec (X : Server) (i : Nat) (c : Client) (hw : (getObj X i).will = c.will) (hid : (getObj X i).id = c.id) :
    (sendLWT X i).2 = (if c.will.flag = true ∧ c.will.delay = 0 then willOutputs X c else []) ∧
    (sendLWT X i).1.willDelayed =
      (if c.will.flag = true ∧ c.will.delay > 0 then assocSet X.willDelayed c.id (delayedWillMsg c) else X.willDelayed) := by
  rw [← hw, ← hid, ← willOutputs_congr X hw hid, ← delayedWillMsg_congr hw hid]
  refine sendLWT_cases (Q := fun r => r.2 = _ ∧ r.1.willDelayed = _) X i (fun h => ?_) (fun pk e h hd => ?_)
    (fun pk e h hd => ?_)
  · have hf : ¬ (getObj X i).will.flag = true := by simpa using h
    exact ⟨(if_neg fun a => hf a.1).symm, (if_neg fun a => hf a.1).symm⟩
  · have hf : (getObj X i).will.flag = true := by simpa using h
    exact ⟨(if_neg fun a => Nat.ne_of_gt hd a.2).symm, by rw [if_pos ⟨hf, hd⟩, e]; rfl⟩
  · have hf : (getObj X i).will.flag = true := by simpa using h
    subst e
    refine ⟨(if_pos ⟨hf, Nat.eq_zero_of_not_pos hd⟩).symm, ?_⟩
    rw [if_neg fun a => hd a.2]
    dsimp only
    rw [willCleared_willDelayed, publishToSubscribers_willDelayed, retainedState_willDelayed]

/-- **a handler leaves its read loop with an error**: `r` is the result of an op in state `s` whose handler for object
    `i` did so in state `X` (`s` with the peer marked gone, or with the DISCONNECT's session expiry entered); what the op
    writes is what `sendLWT` writes, then `tl` (nothing for a `drop`, whose close is the peer's; the close for a
    DISCONNECT 0x04).  Row by row: the will is published at once, registered for later, or there is none; and anything
    outside `tl` is written only in the first case. -/
theorem errExit_rows {s X : Server} {i : Nat} {c : Client} (hw : (getObj X i).will = c.will)
    (hid : (getObj X i).id = c.id) (hwd : X.willDelayed = s.willDelayed) {r : Server × List Out} {tl : List Out}
    (ho : r.2 = (sendLWT X i).2 ++ tl) (hd : r.1.willDelayed = (sendLWT X i).1.willDelayed) :
    (c.will.flag = true ∧ c.will.delay = 0 → r.2 = willOutputs X c ++ tl) ∧
    (c.will.flag = true ∧ c.will.delay > 0 →
      r.2 = tl ∧ r.1.willDelayed = assocSet s.willDelayed c.id (delayedWillMsg c)) ∧
    (c.will.flag = false → r.2 = tl ∧ r.1.willDelayed = s.willDelayed) ∧
    (∀ x ∈ r.2, x ∉ tl → c.will.flag = true ∧ c.will.delay = 0) := by
  obtain ⟨e1, e2⟩ := sendLWT_spec X i c hw hid
  rw [e1] at ho
  rw [e2, hwd] at hd
  refine ⟨fun h => by rw [ho, if_pos h], fun h => ?_, fun h => ?_, fun x hx hn => ?_⟩
  · rw [ho, hd, if_neg fun a => Nat.ne_of_gt h.2 a.2, if_pos h]; exact ⟨rfl, rfl⟩
  · have hf : ¬ c.will.flag = true := by rw [h]; exact Bool.false_ne_true
    rw [ho, hd, if_neg fun a => hf a.1, if_neg fun a => hf a.1]; exact ⟨rfl, rfl⟩
  · refine Decidable.by_contra fun hnow => ?_
    rw [ho, if_neg hnow] at hx
    exact hn hx

/-! ### fields of every object that the session clean-up and a release leave alone -/

/-- every object keeps `id`, `conn`, `inline`, `isOpen`, `stopped` and its will -/
def KeepAll (s s' : Server) : Prop := ∀ k, OwnEq (getObj s k) (getObj s' k) ∧ (getObj s' k).will = (getObj s k).will

theorem KeepAll.walk (i : Nat) : ObjWalk i (fun a b => OwnEq a b ∧ b.will = a.will) KeepAll :=
  ObjWalk.pointwise (OwnEq.ops.and willKept) i

theorem detachB_keep (s : Server) (i : Nat) : KeepAll s (detachB s i) :=
  detachB_cases (Q := KeepAll s) s i (fun _ => (KeepAll.walk i).refl s) (fun _ => (KeepAll.walk i).trans
    (clearInflights_walk (OwnEq.ops.and willKept) (KeepAll.walk i) s)
    (unsubscribeClient_walk (KeepAll.walk i) (fun c _ => ⟨OwnEq.subs' c _, rfl⟩) (fun _ _ _ _ => ⟨OwnEq.refl _, rfl⟩) _))

theorem nextImmediate_keep (s : Server) (i : Nat) : KeepAll s (nextImmediate s i).1 :=
  nextImmediate_walk (OwnEq.ops.and willKept) (KeepAll.walk i) s

theorem sendLWT_now_flag (s : Server) (i : Nat) (hi : i < s.objs.length) (hf : (getObj s i).will.flag = true)
    (hd : (getObj s i).will.delay = 0) : (getObj (sendLWT s i).1 i).will.flag = false := by
  have hl : i < (publishToSubscribers (retainedState s (willMsg (getObj s i))) (willMsg (getObj s i))).1.objs.length := by
    rw [(publishToSubscribers_deliv _ _).len, retainedState_objs]; exact hi
  rw [sendLWT_now s i hf hd]
  dsimp only
  rw [getObj_modObj_lt _ i _ hl]

theorem sendLWT_len (s : Server) (i : Nat) : (sendLWT s i).1.objs.length = s.objs.length := (sendLWT_good s i).len

/-- the error exit of a live network client's handler: will, then `Client.Stop`, then the session clean-up, which leaves
    the object stopped and with the will `sendLWT` left -/
theorem detach_true_live (s : Server) (i : Nat) (hi : i < s.objs.length) (hst : (getObj s i).stopped = false)
    (hin : (getObj s i).inline = false) :
    (detach s i true).2 = (sendLWT s i).2 ++ [.closed (getObj s i).conn] ∧
    (detach s i true).1.willDelayed = (sendLWT s i).1.willDelayed ∧
    (getObj (detach s i true).1 i).stopped = true ∧
    (getObj (detach s i true).1 i).will = (getObj (sendLWT s i).1 i).will := by
  have o := sendLWT_own s i
  have e := stopClient_live (sendLWT s i).1 i (o.stopped.symm.trans hst) (o.inline.symm.trans hin)
  have d : detach s i true = (detachB (stopClient (sendLWT s i).1 i).1 i,
      (sendLWT s i).2 ++ (stopClient (sendLWT s i).1 i).2) := rfl
  rw [d, e]
  have k := detachB_keep (setObj (sendLWT s i).1 i { getObj (sendLWT s i).1 i with isOpen := false, stopped := true }) i i
  rw [getObj_setObj_eq _ i _ (by rw [sendLWT_len]; exact hi)] at k
  dsimp only
  exact ⟨by rw [o.conn], detachB_willDelayed _ i, k.1.stopped.symm, k.2⟩

/-! ### the `drop` op of a live network client -/

/-- the handler's error exit in the state `peerLost`; the close, which is the peer's own, is cut out of the trace -/
theorem step_drop_live_eq (s : Server) (i : Nat) (hst : (getObj s i).stopped = false)
    (hc : assocGet s.connOf (getObj s i).conn = some i) :
    step s (.drop (getObj s i).conn) =
      ((detach (peerLost s i) i true).1, noClosed (getObj s i).conn (detach (peerLost s i) i true).2) :=
  step_drop_cases (Q := fun r => r = _) s _ (fun h => nomatch h.symm.trans hc)
    (fun j hj hs => by cases hc.symm.trans hj; rw [hst] at hs; cases hs)
    (fun j hj _ => by cases hc.symm.trans hj; rfl)

/-- what the op writes is what `sendLWT` writes (a fan-out: the filter has nothing else to remove); the object is left
    stopped, with the will `sendLWT` left -/
theorem step_drop_live (s : Server) (i : Nat) (hi : i < s.objs.length) (hst : (getObj s i).stopped = false)
    (hin : (getObj s i).inline = false) (hc : assocGet s.connOf (getObj s i).conn = some i) :
    (step s (.drop (getObj s i).conn)).2 = (sendLWT (peerLost s i) i).2 ∧
    (step s (.drop (getObj s i).conn)).1.willDelayed = (sendLWT (peerLost s i) i).1.willDelayed ∧
    (getObj (step s (.drop (getObj s i).conn)).1 i).stopped = true ∧
    (getObj (step s (.drop (getObj s i).conn)).1 i).will = (getObj (sendLWT (peerLost s i) i).1 i).will := by
  have e := getObj_peerLost_self s i hi
  obtain ⟨d1, d⟩ := detach_true_live (peerLost s i) i ((peerLost_length s i).symm ▸ hi) (by rw [e]; exact hst)
    (by rw [e]; exact hin)
  rw [step_drop_live_eq s i hst hc]
  refine ⟨?_, d⟩
  dsimp only
  rw [d1, e]
  -- the filter takes the close and nothing of the fan-out
  exact (List.filter_append ..).trans ((congrArg (· ++ _) ((sendLWT_fan _ i).filter_closed _)).trans (by simp))

theorem nextImmediate_closed (s : Server) (i : Nat) (h : (getObj s i).isOpen = false) : (nextImmediate s i).2 = [] := by
  rcases nextImmediate_out s i with e | ⟨_, m, _, _, e⟩
  · exact e
  · rw [e]; unfold writeMsg; simp [h]

/-! ### DISCONNECT -/

/-- what a DISCONNECT leaves of the client object: all but the session expiry interval -/
structure KeepW (a b : Client) : Prop where
  will : b.will = a.will
  id : b.id = a.id
  conn : b.conn = a.conn
  inline : b.inline = a.inline
  isOpen : b.isOpen = a.isOpen
  stopped : b.stopped = a.stopped

theorem discObj_keep (c : Client) (sei : Option Nat) : KeepW c (discObj c sei) := by
  cases sei <;> exact ⟨rfl, rfl, rfl, rfl, rfl, rfl⟩

theorem discObj_peerGone (c : Client) (sei : Option Nat) : (discObj c sei).peerGone = c.peerGone := by
  cases sei <;> rfl

theorem discObj_ver (c : Client) (sei : Option Nat) : (discObj c sei).ver = c.ver := by
  cases sei <;> rfl

theorem getObj_discState (s : Server) (i : Nat) (sei : Option Nat) (hi : i < s.objs.length) :
    getObj (discState s i sei) i = discObj (getObj s i) sei := getObj_setObj_eq s i _ hi

/-- the state after a normal DISCONNECT was processed: the delayed will of the id removed, the client stopped -/
def discStopped (s : Server) (i : Nat) (sei : Option Nat) : Server :=
  setObj { discState s i sei with willDelayed := assocDel s.willDelayed (getObj s i).id } i
    { discObj (getObj s i) sei with isOpen := false, stopped := true }

theorem getObj_discStopped (s : Server) (i : Nat) (sei : Option Nat) (hi : i < s.objs.length) :
    getObj (discStopped s i sei) i = { discObj (getObj s i) sei with isOpen := false, stopped := true } :=
  getObj_setObj_eq _ i _ (by show i < (discState s i sei).objs.length; rw [discState, setObj_length]; exact hi)

/-- a normal DISCONNECT (any reason code but 0x04, no protocol error) of a live network client: `processPacket` -/
theorem receivePacket_disconnect_normal (s : Server) (i rc : Nat) (sei : Option Nat) (hi : i < s.objs.length)
    (hrc : rc ≠ 0x04) (h : seiViolation (getObj s i) sei = false)
    (hst : (getObj s i).stopped = false) (hin : (getObj s i).inline = false) :
    receivePacket s i (.disconnect rc sei) =
      ((nextImmediate (discStopped s i sei) i).1, [.closed (getObj s i).conn], none) := by
  have g : getObj { discState s i sei with willDelayed := assocDel s.willDelayed (getObj s i).id } i =
      discObj (getObj s i) sei := getObj_discState s i sei hi
  have k := discObj_keep (getObj s i) sei
  have e := stopClient_live { discState s i sei with willDelayed := assocDel s.willDelayed (getObj s i).id } i
    (by rw [g, k.stopped]; exact hst) (by rw [g, k.inline]; exact hin)
  rw [g, k.conn] at e
  have hcl : (getObj (discStopped s i sei) i).isOpen = false := by rw [getObj_discStopped s i sei hi]
  unfold receivePacket
  simp only [processDisconnect_normal s i rc sei hrc h, e]
  show ((nextImmediate (discStopped s i sei) i).1, [Out.closed (getObj s i).conn] ++ (nextImmediate (discStopped s i sei) i).2, none) = _
  rw [nextImmediate_closed _ i hcl]
  rfl

/-- DISCONNECT with reason 0x04 (no protocol error): the read loop ends with that error, nothing is written yet -/
theorem receivePacket_disconnect_with_will (s : Server) (i : Nat) (sei : Option Nat)
    (h : seiViolation (getObj s i) sei = false) :
    receivePacket s i (.disconnect 0x04 sei) = (discState s i sei, [], some 0x04) := by
  unfold receivePacket
  simp only [processDisconnect_with_will s i sei h]
  simp

theorem detach_false_eq (s : Server) (i : Nat) :
    detach s i false = (detachB (modObj s i (fun c => { c with will := {} })) i, []) := rfl

/-- **the op**: a normal DISCONNECT of a live network client closes the connection, writes nothing else, removes the
    delayed will registered under the id, clears the will of the object and stops it -/
theorem step_disconnect_normal (s : Server) (i rc : Nat) (sei : Option Nat) (hi : i < s.objs.length)
    (hrc : rc ≠ 0x04) (h : seiViolation (getObj s i) sei = false) (hopen : (getObj s i).isOpen = true)
    (hst : (getObj s i).stopped = false) (hin : (getObj s i).inline = false)
    (hc : assocGet s.connOf (getObj s i).conn = some i) :
    (step s (.recv (getObj s i).conn (.disconnect rc sei))).2 = [.closed (getObj s i).conn] ∧
    (step s (.recv (getObj s i).conn (.disconnect rc sei))).1.willDelayed = assocDel s.willDelayed (getObj s i).id ∧
    (getObj (step s (.recv (getObj s i).conn (.disconnect rc sei))).1 i).will.flag = false ∧
    (getObj (step s (.recv (getObj s i).conn (.disconnect rc sei))).1 i).stopped = true := by
  have g := getObj_discStopped s i sei hi
  have k4 := nextImmediate_keep (discStopped s i sei) i i
  have hcl4 : (getObj (nextImmediate (discStopped s i sei) i).1 i).isOpen = false := by rw [← k4.1.isOpen, g]
  have hlen4 : i < (nextImmediate (discStopped s i sei) i).1.objs.length := by
    rw [(nextImmediate_good (discStopped s i sei) i).len]
    show i < (setObj (setObj s i _) i _).objs.length
    rw [setObj_length, setObj_length]; exact hi
  have er := receivePacket_disconnect_normal s i rc sei hi hrc h hst hin
  rw [step_recv, recvOn_ended s _ i _ true hc hopen (fun _ => by rw [er]; exact hcl4), er, Option.isSome_none,
    detach_false_eq]
  dsimp only
  have kB := detachB_keep (modObj (nextImmediate (discStopped s i sei) i).1 i (fun c => { c with will := {} })) i i
  have gm := getObj_modObj_lt (nextImmediate (discStopped s i sei) i).1 i (fun c => { c with will := {} }) hlen4
  exact ⟨rfl, (detachB_willDelayed _ i).trans (nextImmediate_willDelayed _ i), by rw [kB.2, gm],
    by rw [← kB.1.stopped, gm, ← k4.1.stopped, g]⟩

/-- **the op**: DISCONNECT with reason 0x04: the handler leaves its read loop with an error, as if the connection had
    been lost (`sendLWT`, then the connection is closed) -/
theorem step_disconnect_with_will (s : Server) (i : Nat) (sei : Option Nat) (hi : i < s.objs.length)
    (h : seiViolation (getObj s i) sei = false) (hopen : (getObj s i).isOpen = true)
    (hst : (getObj s i).stopped = false) (hin : (getObj s i).inline = false)
    (hc : assocGet s.connOf (getObj s i).conn = some i) :
    (step s (.recv (getObj s i).conn (.disconnect 0x04 sei))).2 =
      (sendLWT (discState s i sei) i).2 ++ [.closed (getObj s i).conn] ∧
    (step s (.recv (getObj s i).conn (.disconnect 0x04 sei))).1.willDelayed =
      (sendLWT (discState s i sei) i).1.willDelayed := by
  have g := getObj_discState s i sei hi
  have k := discObj_keep (getObj s i) sei
  obtain ⟨d1, d2, _⟩ := detach_true_live (discState s i sei) i (by rw [discState, setObj_length]; exact hi)
    (by rw [g, k.stopped]; exact hst) (by rw [g, k.inline]; exact hin)
  rw [g, k.conn] at d1
  have er := receivePacket_disconnect_with_will s i sei h
  rw [step_recv, recvOn_ended s _ i _ true hc hopen (fun x => by rw [er] at x; cases x), er, Option.isSome_some]
  dsimp only
  rw [List.nil_append]
  exact ⟨d1, d2⟩

/-! ### the housekeeping tick for delayed wills -/

theorem tickWills_nothing_due (s : Server) (t : Int) (h : ∀ e ∈ s.willDelayed, ¬ t > e.2.expiry) :
    tickWills s t = (s, []) := by
  rw [tickWills_eq]
  have : dueWills s t = [] := by
    unfold dueWills
    apply List.filter_eq_nil_iff.mpr
    intro e he
    simpa using h e he
  rw [this]; rfl

/-- the outputs of one due entry: the fan-out of its message, then the will event iff the id is registered; the
    Clients map is not changed -/
theorem publishDue_out (acc : Server × List Out) (e : Str × Msg) :
    (publishDue acc e).2 = acc.2 ++ (publishToSubscribers acc.1 e.2).2 ++
      (if (assocGet acc.1.clients e.1).isSome then [willEvent e.1] else []) ∧
    (publishDue acc e).1.clients = acc.1.clients ∧
    (publishDue acc e).1.willDelayed = assocDel acc.1.willDelayed e.1 := by
  have hc := (publishToSubscribers_deliv acc.1 e.2).clients
  have hwd := publishToSubscribers_willDelayed acc.1 e.2
  have hr : (retainedState (publishToSubscribers acc.1 e.2).1 e.2).clients = acc.1.clients ∧
      (retainedState (publishToSubscribers acc.1 e.2).1 e.2).willDelayed = acc.1.willDelayed :=
    ⟨(retainedState_deliv _ _).clients.trans hc, (retainedState_willDelayed _ _).trans hwd⟩
  refine publishDue_cases (Q := fun r => r.2 = _ ∧ r.1.clients = _ ∧ r.1.willDelayed = _) acc e rfl
    (fun h => ?_) (fun j h => ?_)
  · rw [hc] at h
    rw [h]
    exact ⟨rfl, hc, by rw [hwd]⟩
  · rw [hc] at h
    rw [h]
    exact ⟨rfl, hr.1, by rw [hr.2]⟩

theorem fold_publishDue (L : List (Str × Msg)) (acc : Server × List Out) :
    (L.foldl publishDue acc).1.clients = acc.1.clients ∧
    ∀ e, e ∈ (L.foldl publishDue acc).1.willDelayed ↔ e ∈ acc.1.willDelayed ∧ ∀ d ∈ L, d.1 ≠ e.1 := by
  induction L generalizing acc with
  | nil => exact ⟨rfl, fun e => by simp⟩
  | cons x xs ih =>
    obtain ⟨_, h2, h3⟩ := publishDue_out acc x
    obtain ⟨i1, i2⟩ := ih (publishDue acc x)
    rw [List.foldl_cons]
    refine ⟨i1.trans h2, fun e => ?_⟩
    rw [i2 e, h3, mem_assocDel_iff]
    constructor
    · rintro ⟨⟨a, b⟩, c⟩
      refine ⟨a, fun d hd => ?_⟩
      rcases List.mem_cons.mp hd with rfl | hd
      · exact fun h => b h.symm
      · exact c d hd
    · rintro ⟨a, b⟩
      exact ⟨⟨a, fun h => b x List.mem_cons_self h.symm⟩, fun d hd => b d (List.mem_cons_of_mem _ hd)⟩

/-- what is left in `willDelayed` after the tick: the entries whose client id is not the id of a due entry; the
    Clients map is untouched -/
theorem tickWills_willDelayed (s : Server) (t : Int) :
    (tickWills s t).1.clients = s.clients ∧
    ∀ e, e ∈ (tickWills s t).1.willDelayed ↔ e ∈ s.willDelayed ∧ ∀ d ∈ dueWills s t, d.1 ≠ e.1 := by
  rw [tickWills_eq]
  exact fold_publishDue (dueWills s t) (s, [])

/-- … when `willDelayed` is a map (one entry per client id): exactly the entries that are not yet due are left -/
theorem tickWills_willDelayed_nodup (s : Server) (t : Int) (hnd : (s.willDelayed.map (·.1)).Nodup) (e : Str × Msg) :
    e ∈ (tickWills s t).1.willDelayed ↔ e ∈ s.willDelayed ∧ ¬ t > e.2.expiry := by
  rw [(tickWills_willDelayed s t).2 e]
  constructor
  · rintro ⟨a, b⟩
    refine ⟨a, fun hdue => ?_⟩
    exact b e (by unfold dueWills; exact List.mem_filter.mpr ⟨a, by simpa using hdue⟩) rfl
  · rintro ⟨a, b⟩
    refine ⟨a, fun d hd hk => b ?_⟩
    unfold dueWills at hd
    obtain ⟨hd1, hd2⟩ := List.mem_filter.mp hd
    have := eq_of_nodup_map (·.1) _ hnd d e hd1 a hk
    subst this
    simpa using hd2

theorem step_tick_wills (s : Server) (t : Int) : step s (.tick "wills" t) = tickWills s t := by
  rw [step]
  have h1 : ("wills" == "clients") = false := by decide
  have h2 : ("wills" == "retained") = false := by decide
  have h3 : ("wills" == "inflight") = false := by decide
  have h4 : ("wills" == "wills") = true := by decide
  simp only [h1, h2, h3, h4, Bool.false_eq_true, if_false, if_true]

/-! ### a connection of the same client id removes the registered delayed will -/

theorem admitC_willDelayed (s : Server) (i : Nat) (k : Connect) (present : Bool) :
    (admitC s i k present).1.willDelayed = assocDel s.willDelayed k.id :=
  admitC_cases (J := fun r => r.1.willDelayed = assocDel s.willDelayed k.id) s i k present rfl (fun _ _ h =>
    iteInduction (motive := fun x : Server => x.willDelayed = _) (fun _ => h) (fun _ => h))

/-- after an admitted CONNECT (the part of `attachClient` up to the read loop) no delayed will is registered under
    the client id: whatever was registered is removed (`willDelayed.Delete`), without having been published -/
theorem connect_admitted_willDelayed (s : Server) (conn : Nat) (k : Connect)
    (h : refuseCode { s with objs := s.objs ++ [parseConnect s conn k], connOf := s.connOf ++ [(conn, s.objs.length)] } k
      (parseConnect s conn k) = none) :
    ∀ e ∈ (connect s conn k).1.willDelayed, e.1 ≠ k.id := by
  intro e he
  unfold connect at he
  simp only [h] at he
  rw [admitClient_fst, admitC_willDelayed] at he
  exact ((mem_assocDel_iff _ _ _).mp he).2

/-! ### after the will was handled: the object is stopped, its will flag cleared; a stopped object's handler is gone -/

/-- after the loss of its connection a live network client's object is stopped, and its will flag is cleared if the
    will was published at once -/
theorem step_drop_live_obj (s : Server) (i : Nat) (hi : i < s.objs.length) (hst : (getObj s i).stopped = false)
    (hin : (getObj s i).inline = false) (hc : assocGet s.connOf (getObj s i).conn = some i) :
    (getObj (step s (.drop (getObj s i).conn)).1 i).stopped = true ∧
    ((getObj s i).will.flag = true → (getObj s i).will.delay = 0 →
      (getObj (step s (.drop (getObj s i).conn)).1 i).will.flag = false) := by
  obtain ⟨_, _, d1, d2⟩ := step_drop_live s i hi hst hin hc
  have e := getObj_peerLost_self s i hi
  exact ⟨d1, fun hf hd => by
    rw [d2]
    exact sendLWT_now_flag _ i ((peerLost_length s i).symm ▸ hi) (by rw [e]; exact hf) (by rw [e]; exact hd)⟩

/-- the handler of a stopped object has left its read loop: a lost connection, an inbound packet, a cut connection
    do nothing -/
theorem step_stopped_noop (s : Server) (conn i : Nat) (hc : assocGet s.connOf conn = some i)
    (hst : (getObj s i).stopped = true) (hop : (getObj s i).isOpen = false) :
    step s (.drop conn) = (s, []) ∧ (∀ pk, step s (.recv conn pk) = (s, [])) ∧
    (∀ pk, step s (.recvCut conn pk) = (s, [])) := by
  refine ⟨?_, fun pk => ?_, fun pk => ?_⟩
  · rw [step]; simp only [hc, hst, if_true]
  · rw [step]; unfold recvOn; simp only [hc, hop, Bool.not_false, if_true]
  · rw [step]; simp only [hc, hst, Bool.true_or, if_true]

/-- … and a CONNECT of the same client id does not run its teardown (there is no live handler to take over) -/
theorem admitA_stopped_no_takeover (s : Server) (i : Nat) (k : Connect) (e : Nat)
    (he : assocGet s.clients k.id = some e) (hst : (getObj s e).stopped = true) : (admitA s i k).2.2.2 = none := by
  rw [admitA_exLive_eq]
  simp only [he, hst, Bool.true_or, if_true]

end Mochi.Broker
