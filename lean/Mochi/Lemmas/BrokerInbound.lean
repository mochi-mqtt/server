import Mochi.Lemmas.BrokerInboundWalk
/-!
# C08 — an inbound QoS 2 exchange: open, what may end it, the accepted PUBLISH, the retransmission

The inbound exchange `k` of client `cid` is open (`InOpen`, decidable) while the object registered under `cid` holds, under
packet identifier `k`, an in-flight record of type 5 (PUBREC) that is not deferred (`0 ≤ expiry`).  Every op (all 12
kinds) that `InEnds` (`Q08.Ends`, `Mochi/Lemmas/BrokerInboundWalk.lean`) does not list keeps the very same record: an
instance of the survival walk.  An accepted QoS 2 PUBLISH (`AcceptedQ2`) files the record, writes the PUBREC and routes the
message once (`Routed`); a PUBLISH under the identifier of an open exchange is answered PUBREC 0x91 and not routed; the
PUBREL removes the record.
-/
namespace Mochi.Broker
open Mochi.Topics

/-! ### the open exchange -/

/-- **the inbound QoS 2 exchange `k` of client `cid` is open**: the object registered under `cid` holds a PUBREC record
    (type 5, not deferred) under packet identifier `k` -/
def InOpen (s : Server) (cid : Str) (k : Nat) : Prop :=
  match assocGet s.clients cid with
  | some i =>
    (match flGet (getObj s i) k with
     | some m => m.type = 5 ∧ 0 ≤ m.expiry
     | none => False)
  | none => False

instance (s : Server) (cid : Str) (k : Nat) : Decidable (InOpen s cid k) := by
  unfold InOpen; split
  · split <;> infer_instance
  · infer_instance

/-- … and `m` is that record -/
def InOpenRec (s : Server) (cid : Str) (k : Nat) (m : Msg) : Prop := Q08.Holds s cid k m

instance (s : Server) (cid : Str) (k : Nat) (m : Msg) : Decidable (InOpenRec s cid k m) :=
  inferInstanceAs (Decidable (Q08.Holds s cid k m))

/-- **the ops that may end the inbound exchange `k` of client `cid` in state `s`** -/
def InEnds (s : Server) (cid : Str) (k : Nat) (op : Op) : Prop := Q08.Ends s cid k op

instance (s : Server) (cid : Str) (k : Nat) (op : Op) : Decidable (InEnds s cid k op) :=
  inferInstanceAs (Decidable (Q08.Ends s cid k op))

theorem q08_recOk_self (m : Msg) (ht : m.type = 5) (he : 0 ≤ m.expiry) : Q08.recOk m m = true := by
  simp [Q08.recOk, ht, he]

theorem InOpenRec.spec {s : Server} {cid : Str} {k : Nat} {m : Msg} (h : InOpenRec s cid k m) :
    ∃ i, assocGet s.clients cid = some i ∧ flGet (getObj s i) k = some m ∧ m.type = 5 ∧ 0 ≤ m.expiry := by
  obtain ⟨i, hi, m', hm', hok⟩ := h
  obtain ⟨e, h1, h2⟩ : m' = m ∧ 0 ≤ m'.expiry ∧ m'.type = 5 := by simpa [Q08.recOk, and_assoc] using hok
  subst e
  exact ⟨i, hi, hm', h2, h1⟩

theorem InOpenRec.of_spec {s : Server} {cid : Str} {k : Nat} {m : Msg} {i : Nat} (hi : assocGet s.clients cid = some i)
    (hm : flGet (getObj s i) k = some m) (ht : m.type = 5) (he : 0 ≤ m.expiry) : InOpenRec s cid k m :=
  ⟨i, hi, m, hm, q08_recOk_self m ht he⟩

theorem InOpen.rec_at {s : Server} {cid : Str} {k i : Nat} (h : InOpen s cid k) (hreg : assocGet s.clients cid = some i) :
    ∃ m, flGet (getObj s i) k = some m ∧ m.type = 5 ∧ 0 ≤ m.expiry := by
  unfold InOpen at h
  rw [hreg] at h
  cases hm : flGet (getObj s i) k with
  | none => simp only [hm] at h
  | some m =>
    simp only [hm] at h
    exact ⟨m, rfl, h.1, h.2⟩

theorem InOpen_iff (s : Server) (cid : Str) (k : Nat) : InOpen s cid k ↔ ∃ m, InOpenRec s cid k m := by
  constructor
  · intro h
    cases hi : assocGet s.clients cid with
    | none => unfold InOpen at h; rw [hi] at h; exact h.elim
    | some i =>
      obtain ⟨m, hm, ht, he⟩ := h.rec_at hi
      exact ⟨m, InOpenRec.of_spec hi hm ht he⟩
  · rintro ⟨m, h⟩
    obtain ⟨i, hi, hm, ht, he⟩ := h.spec
    unfold InOpen
    rw [hi]
    simp only [hm]
    exact ⟨ht, he⟩

/-! ### survival -/

/-- one op, the record itself: in a well-formed state, the session registered under `cid` holds the SAME PUBREC record
    under `k` after every op — of any of the 12 kinds — that `InEnds` does not list -/
theorem inbound_record_survives_step (s : Server) (op : Op) (cid : Str) (k : Nat) (m : Msg) (hw : WF s)
    (hsync : SyncInv s) (hf : OpFresh s op) (h : InOpenRec s cid k m) (hne : ¬ InEnds s cid k op) :
    InOpenRec (step s op).1 cid k m :=
  RecWalk.step_holds Q08.recOk k (Q08.inboundKind k) m cid s op hw hsync hf h (fun e => hne (Q08.Ends.of_walk e))

/-- no op of the history ends the inbound exchange `k` of `cid` in the state it is applied to -/
def InNoEnds (s : Server) (cid : Str) (k : Nat) : List Op → Prop
  | [] => True
  | op :: ops => ¬ InEnds s cid k op ∧ InNoEnds (step s op).1 cid k ops

theorem InNoEnds_iff {s : Server} {cid : Str} {k : Nat} {ops : List Op} :
    InNoEnds s cid k ops ↔ OpsOK (fun s op => ¬ InEnds s cid k op) s ops :=
  OpsOK.of_rec (P := fun s ops => InNoEnds s cid k ops) (fun _ => trivial) (fun _ _ _ => Iff.rfl) s ops

instance instDecidableInNoEnds (s : Server) (cid : Str) (k : Nat) (ops : List Op) : Decidable (InNoEnds s cid k ops) :=
  decidable_of_iff _ InNoEnds_iff.symm

theorem inbound_record_survives_run (s : Server) (ops : List Op) (cid : Str) (k : Nat) (m : Msg) (hw : WF s)
    (hsync : SyncInv s) (hf : OpsFresh s ops) (hok : OpsSchedOK s ops) (h : InOpenRec s cid k m)
    (hne : InNoEnds s cid k ops) : InOpenRec (run s ops) cid k m :=
  run_kept (fun s op => inbound_record_survives_step s op cid k m) hw hsync hf hok h (InNoEnds_iff.mp hne)

/-! ### the accepted QoS 2 PUBLISH -/

/-- the PUBREC record `processPublish` files for an accepted inbound QoS 2 publish -/
def pubrecMsg (s : Server) (id : Nat) : Msg :=
  { type := 5, id := id, reasonCode := 0, created := NOW, expiry := NOW + s.caps.maxMessageExpiry }

/-- the state in which the PUBREC of an accepted QoS 2 publish is written and the message routed: receive quota taken,
    the PUBREC filed as an in-flight record of the publisher (`s0`: the state with the retained store updated) -/
def pubrecFiled (s0 : Server) (i id : Nat) : Server :=
  let s2 := modObj s0 i decRecv
  let r := flSet (getObj s2 i) (pubrecMsg s2 id)
  let s3 := setObj s2 i r.1
  if r.2 then { s3 with info := { s3.info with inflight := s3.info.inflight + 1 } } else s3

theorem pubrecFiled_eq (s0 : Server) (i id : Nat) : pubrecFiled s0 i id = pubAcked s0 i (pubrecMsg s0 id) :=
  pubAcked_eq s0 i (pubrecMsg s0 id) rfl rfl

/-- no `OnPublish` hook on the topic, QoS 2 (granted) from a network client that is still alive once the PUBREC is
    filed: the PUBREC is written, then the message is routed in the state with the record -/
theorem pubGo_qos2 (s : Server) (i id : Nat) (pk : Msg) (hq : pk.qos = 2) (hmq : 2 ≤ s.caps.maximumQos)
    (hin : (getObj s i).inline = false) (hne : pk.topic ≠ []) (hhook : assocGet s.pubHook pk.topic = none)
    (hlive : dead (getObj (pubAcked (retainedState s pk) i (pubAck s 2 id)) i) = false) :
    pubGo s i id pk = fanRes (pubAcked (retainedState s pk) i (pubAck s 2 id)) pk
      (writeMsg (pubAcked (retainedState s pk) i (pubAck s 2 id)) i (pubAck s 2 id)) := by
  rw [pubGo_acked s i id pk (by omega) (hq ▸ hmq) hin hne hhook (hq ▸ hlive), hq]
  rfl

theorem pubrecFiled_good (s0 : Server) (i id : Nat) : Good s0 (pubrecFiled s0 i id) := by
  rw [pubrecFiled_eq]
  exact pubAcked_walk CW.ops (Good.walk i) s0 _

theorem pubrecFiled_clients (s0 : Server) (i id : Nat) : (pubrecFiled s0 i id).clients = s0.clients := by
  rw [pubrecFiled_eq]
  rfl

theorem pubrecFiled_live (s0 : Server) (i id : Nat) : LiveEq (getObj s0 i) (getObj (pubrecFiled s0 i id) i) := by
  rw [pubrecFiled_eq]
  exact LiveEq.get_set rfl ((LiveEq.decRecv' _).trans (SessEq.flSet _ _).live)

theorem pubrecFiled_obj (s0 : Server) (i id : Nat) :
    (getObj (pubrecFiled s0 i id) i).isOpen = (getObj s0 i).isOpen ∧
    (getObj (pubrecFiled s0 i id) i).peerGone = (getObj s0 i).peerGone ∧
    (getObj (pubrecFiled s0 i id) i).inline = (getObj s0 i).inline ∧
    (getObj (pubrecFiled s0 i id) i).conn = (getObj s0 i).conn ∧
    (getObj (pubrecFiled s0 i id) i).ver = (getObj s0 i).ver :=
  have L := pubrecFiled_live s0 i id
  ⟨L.isOpen, L.peerGone, L.inline, L.conn, L.ver⟩

theorem pubrecFiled_rec (s0 : Server) (i id : Nat) (hi : i < s0.objs.length) :
    flGet (getObj (pubrecFiled s0 i id) i) id = some (pubrecMsg s0 id) := by
  rw [pubrecFiled_eq]
  show flGet (getObj (setObj s0 i _) i) id = _
  rw [getObj_setObj_eq s0 i _ hi]
  exact flGet_flSet_self_sv _ (pubrecMsg s0 id)

/-- the gates an inbound QoS 2 PUBLISH with packet identifier `id` of client object `i` has to pass to be accepted: all
    decidable, all on the state before the op (`PublishGates` for an arbitrary identifier, and the broker grants QoS 2) -/
structure AcceptedQ2 (s : Server) (i id : Nat) (topic : Str) : Prop where
  /-- the client is a network client whose connection is alive -/
  isOpen : (getObj s i).isOpen = true
  peer : (getObj s i).peerGone = false
  notInline : (getObj s i).inline = false
  /-- `IsValidFilter(topic, true)`: no wildcard, not `$SYS/…`; the topic is not empty (no alias) -/
  valid : isValidFilter topic true = true
  nonempty : topic ≠ []
  /-- a QoS 2 PUBLISH carries a packet identifier (else: protocol error 0x82) -/
  idpos : id ≠ 0
  /-- receive quota left (else: DISCONNECT 0x93) -/
  quota : (getObj s i).recvQuota ≠ 0
  /-- write permission on the topic (else: PUBREC 0x87 / DISCONNECT) -/
  acl : aclOk s (getObj s i).id topic true = true
  /-- no in-flight record under the packet identifier -/
  noRecord : flGet (getObj s i) id = none
  /-- `OnPublish` hook mode of the topic: none -/
  hook : assocGet s.pubHook topic = none
  /-- the broker grants QoS 2 (else the message is downgraded and acknowledged accordingly) -/
  maxQos : 2 ≤ s.caps.maximumQos

instance (s : Server) (i id : Nat) (topic : Str) : Decidable (AcceptedQ2 s i id topic) :=
  decidable_of_iff ((getObj s i).isOpen = true ∧ (getObj s i).peerGone = false ∧ (getObj s i).inline = false ∧
      isValidFilter topic true = true ∧ topic ≠ [] ∧ id ≠ 0 ∧ (getObj s i).recvQuota ≠ 0 ∧
      aclOk s (getObj s i).id topic true = true ∧ flGet (getObj s i) id = none ∧ assocGet s.pubHook topic = none ∧
      2 ≤ s.caps.maximumQos)
    ⟨fun ⟨a, b, c, d, e, f, g, h, i, j, k⟩ => ⟨a, b, c, d, e, f, g, h, i, j, k⟩,
     fun ⟨a, b, c, d, e, f, g, h, i, j, k⟩ => ⟨a, b, c, d, e, f, g, h, i, j, k⟩⟩

/-- **an accepted QoS 2 publish, in plain terms**: the PUBREC record is filed (`pubrecFiled`), PUBREC with reason 0x00 is
    written to the publisher FIRST, then the message is routed ONCE by `publishToSubscribers` -/
theorem processPublish_accepted_qos2 (s : Server) (i : Nat) (dup retain : Bool) (id : Nat) (topic payload : Str)
    (me : Nat) (h : AcceptedQ2 s i id topic) :
    processPublish s i 2 dup retain id topic payload me none =
      ((publishToSubscribers (pubrecFiled (retainedState s (inboundMsg s i 2 dup retain id topic payload me)) i id)
          (inboundMsg s i 2 dup retain id topic payload me)).1,
       [Out.wrote (getObj s i).conn (.ack (getObj s i).ver 5 id 0)] ++
       (publishToSubscribers (pubrecFiled (retainedState s (inboundMsg s i 2 dup retain id topic payload me)) i id)
          (inboundMsg s i 2 dup retain id topic payload me)).2, none) := by
  have L := pubrecFiled_live (retainedState s (inboundMsg s i 2 dup retain id topic payload me)) i id
  rw [getObj_retainedState] at L
  have hlive := dead_of_live (L.isOpen.trans h.isOpen) (L.peerGone.trans h.peer)
  have hack : pubrecMsg (retainedState s (inboundMsg s i 2 dup retain id topic payload me)) id = pubAck s 2 id := by
    unfold pubrecMsg pubAck retainedState
    split
    · rw [retainMsg_caps]; rfl
    · rfl
  rw [pubrecFiled_eq, hack] at L hlive ⊢
  rw [processPublish_plain _ _ _ _ _ _ _ _ _ (.of_gates h.valid h.quota h.acl (fun m g => by rw [h.noRecord] at g; cases g))
    (by rw [h.noRecord]; exact Bool.and_false _), pubGo_qos2 s i id _ rfl h.maxQos h.notInline h.nonempty h.hook hlive,
    writeMsg_live L, writeMsg_eq, h.isOpen, h.notInline, h.peer]
  rfl

theorem publishValidate_q2 (s : Server) (id : Nat) (topic : Str) (hid : id ≠ 0) (hv : isValidFilter topic true = true)
    (hne : topic ≠ []) : publishValidate s 2 id topic none = none :=
  publishValidate_none s 2 id topic ⟨fun h => absurd h (by decide), fun h => absurd h hid⟩
    (isValidFilter_pub_no_wild topic hv) hne

/-- the routing call of an accepted QoS 2 publish of client object `i` -/
def q2Routed (s : Server) (i : Nat) (dup retain : Bool) (id : Nat) (topic payload : Str) (me : Nat) : Server × List Out :=
  publishToSubscribers (pubrecFiled (retainedState s (inboundMsg s i 2 dup retain id topic payload me)) i id)
    (inboundMsg s i 2 dup retain id topic payload me)

theorem AcceptedQ2.routed {s : Server} {i id : Nat} {topic : Str} (h : AcceptedQ2 s i id topic) (d r : Bool)
    (payload : Str) (me : Nat) :
    Routed s i 2 d r id topic payload me (pubrecFiled (retainedState s (inboundMsg s i 2 d r id topic payload me)) i id)
      (inboundMsg s i 2 d r id topic payload me) [Out.wrote (getObj s i).conn (.ack (getObj s i).ver 5 id 0)] where
  valid := publishValidate_q2 s id topic h.idpos h.valid h.nonempty
  handler := processPublish_accepted_qos2 s i d r id topic payload me h
  live := by
    have L := pubrecFiled_live (retainedState s (inboundMsg s i 2 d r id topic payload me)) i id
    rwa [getObj_retainedState] at L
  ackOnly := fun _ hx => ⟨_, _, _, _, List.mem_singleton.mp hx⟩

/-- a packet served without error on a live connection that stays live: the op is `receivePacket`, then the harness's
    barrier PINGREQ, which writes nothing but releases once more -/
theorem step_recv_served (s : Server) (conn i : Nat) (pk : InPk) (s1 : Server) (o : List Out)
    (hc : assocGet s.connOf conn = some i) (ho : (getObj s i).isOpen = true)
    (hr : receivePacket s i pk = ((nextImmediate s1 i).1, o ++ (nextImmediate s1 i).2, none))
    (ho1 : (getObj s1 i).isOpen = true) (hp1 : (getObj s1 i).peerGone = false) :
    step s (.recv conn pk) = ((nextImmediate (nextImmediate s1 i).1 i).1,
      o ++ (nextImmediate s1 i).2 ++ (nextImmediate (nextImmediate s1 i).1 i).2) := by
  have ha := nextImmediate_after s1 i
  exact step_recv_ok s conn i pk _ _ hc ho hr (ha.isOpen.trans ho1) (ha.peerGone.trans hp1)

/-- **the op.**  `step s (.recv conn (PUBLISH QoS 2 id …))` for an accepted publish on the connection of client object
    `i`: the PUBREC (reason 0x00) to the publisher FIRST, then what the ONE call of `publishToSubscribers` writes, then
    what two releases for the publisher write (`nextImmediate` after the PUBLISH and after the harness's barrier
    PINGREQ: deferred messages of the publisher itself, see `step_recv_publish_releases`) -/
theorem step_recv_publish_q2 (s : Server) (conn i : Nat) (dup retain : Bool) (id : Nat) (topic payload : Str) (me : Nat)
    (hc : assocGet s.connOf conn = some i) (h : AcceptedQ2 s i id topic) :
    step s (.recv conn (.publish 2 dup retain id topic payload me none)) =
      ((nextImmediate (nextImmediate (q2Routed s i dup retain id topic payload me).1 i).1 i).1,
       [Out.wrote (getObj s i).conn (.ack (getObj s i).ver 5 id 0)] ++ (q2Routed s i dup retain id topic payload me).2 ++
       (nextImmediate (q2Routed s i dup retain id topic payload me).1 i).2 ++
       (nextImmediate (nextImmediate (q2Routed s i dup retain id topic payload me).1 i).1 i).2) :=
  (h.routed dup retain payload me).step conn hc h.isOpen h.peer

theorem pubrecFiled_holdsAt (s : Server) (i id : Nat) (cid : Str) (pk : Msg) (hi : i < s.objs.length)
    (hreg : assocGet s.clients cid = some i) :
    RecWalk.HoldsAt Q08.recOk (pubrecFiled (retainedState s pk) i id) cid id (pubrecMsg s id) i := by
  have hq := retainedState_quiet s pk
  have h1 : assocGet (pubrecFiled (retainedState s pk) i id).clients cid = some i := by
    rw [pubrecFiled_clients, hq.clients]; exact hreg
  have h2 : flGet (getObj (pubrecFiled (retainedState s pk) i id) i) id = some (pubrecMsg s id) := by
    rw [pubrecFiled_rec (retainedState s pk) i id (by rw [hq.len]; exact hi)]
    unfold pubrecMsg
    rw [hq.caps]
  have h3 : (0 : Int) ≤ (pubrecMsg s id).expiry := by
    show (0 : Int) ≤ NOW + (s.caps.maxMessageExpiry : Int)
    unfold NOW; omega
  exact ⟨h1, pubrecMsg s id, h2, q08_recOk_self _ rfl h3⟩

/-- … and the exchange is open afterwards: the session registered under `cid` (object `i`) holds the PUBREC record
    `pubrecMsg s id` under the publish's packet identifier -/
theorem step_recv_publish_q2_open (s : Server) (conn i : Nat) (dup retain : Bool) (id : Nat) (topic payload : Str)
    (me : Nat) (cid : Str) (hw : WF s) (hc : assocGet s.connOf conn = some i) (h : AcceptedQ2 s i id topic)
    (hreg : assocGet s.clients cid = some i) :
    InOpenRec (step s (.recv conn (.publish 2 dup retain id topic payload me none))).1 cid id (pubrecMsg s id) := by
  have hi : i < s.objs.length := lt_of_recvQuota_ne_zero s i h.quota
  have hF := pubrecFiled_holdsAt s i id cid (inboundMsg s i 2 dup retain id topic payload me) hi hreg
  have wF : WF (pubrecFiled (retainedState s (inboundMsg s i 2 dup retain id topic payload me)) i id) :=
    (retainedState_wf s _ hw).of_good (pubrecFiled_good _ i id)
  have hP : RecWalk.HoldsAt Q08.recOk (q2Routed s i dup retain id topic payload me).1 cid id (pubrecMsg s id) i :=
    hF.of_surv (RecWalk.publishToSubscribers_surv _ id _ _) (publishToSubscribers_quiet _ _).clients
  have wP : WF (q2Routed s i dup retain id topic payload me).1 := publishToSubscribers_wf _ _ wF
  -- a release for the publisher keeps the record: it is not a deferred one
  have rel : ∀ t, WF t → RecWalk.HoldsAt Q08.recOk t cid id (pubrecMsg s id) i →
      RecWalk.HoldsAt Q08.recOk (nextImmediate t i).1 cid id (pubrecMsg s id) i := fun t w g =>
    g.of_surv ((RecWalk.nextImmediate_sv _ (Q08.inboundKind id).deferred id t i).own (w.allWF i)) (nextImmediate_quiet t i).clients
  have e : (step s (.recv conn (.publish 2 dup retain id topic payload me none))).1 =
      (nextImmediate (nextImmediate (q2Routed s i dup retain id topic payload me).1 i).1 i).1 := by
    rw [step_recv_publish_q2 s conn i dup retain id topic payload me hc h]
  have h3 := (rel _ (nextImmediate_wf _ i wP) (rel _ wP hP)).holds
  rw [← e] at h3
  exact h3

/-! ### the retransmission while the exchange is open -/

/-- the gates a PUBLISH of client object `i` under the identifier `id` of an open exchange passes to reach the duplicate
    test of `processPublish`: the gates of the original publish, with the receive quota as it is NOW (the open exchange
    holds one unit: with Receive Maximum 1 the retransmission is answered DISCONNECT 0x93 — the quota test comes first,
    server.go:890-892) -/
structure RetransmitGates (s : Server) (i id : Nat) (topic : Str) : Prop where
  isOpen : (getObj s i).isOpen = true
  peer : (getObj s i).peerGone = false
  notInline : (getObj s i).inline = false
  valid : isValidFilter topic true = true
  nonempty : topic ≠ []
  idpos : id ≠ 0
  quota : (getObj s i).recvQuota ≠ 0
  acl : aclOk s (getObj s i).id topic true = true

instance (s : Server) (i id : Nat) (topic : Str) : Decidable (RetransmitGates s i id topic) :=
  decidable_of_iff ((getObj s i).isOpen = true ∧ (getObj s i).peerGone = false ∧ (getObj s i).inline = false ∧
      isValidFilter topic true = true ∧ topic ≠ [] ∧ id ≠ 0 ∧ (getObj s i).recvQuota ≠ 0 ∧
      aclOk s (getObj s i).id topic true = true)
    ⟨fun ⟨a, b, c, d, e, f, g, h⟩ => ⟨a, b, c, d, e, f, g, h⟩, fun ⟨a, b, c, d, e, f, g, h⟩ => ⟨a, b, c, d, e, f, g, h⟩⟩

/-- a PUBLISH whose identifier has a PUBREC record is answered PUBREC 0x91, whatever the state of the connection: the
    handler's result is that of `return cl.WritePacket(PUBREC 0x91)` -/
theorem processPublish_retransmit (s : Server) (i q id : Nat) (d r : Bool) (topic payload : Str) (me : Nat)
    (al : Option Nat) (pki : Msg) (hin : (getObj s i).inline = false) (hvalid : isValidFilter topic true = true)
    (hq : (getObj s i).recvQuota ≠ 0) (hacl : aclOk s (getObj s i).id topic true = true)
    (hrec : flGet (getObj s i) id = some pki) (ht : pki.type = 5) :
    processPublish s i q d r id topic payload me al = ackRes s i 5 id 0x91 := by
  unfold processPublish
  have hq' : ((getObj s i).recvQuota == 0) = false := by simpa using hq
  simp [hin, hvalid, hq', hacl, hrec, ht]

theorem receivePacket_publish_dup (s : Server) (i : Nat) (dup retain : Bool) (id : Nat) (topic payload : Str) (me : Nat)
    (pki : Msg) (h : RetransmitGates s i id topic) (hrec : flGet (getObj s i) id = some pki) (ht : pki.type = 5) :
    receivePacket s i (.publish 2 dup retain id topic payload me none) =
      ((nextImmediate s i).1,
       [Out.wrote (getObj s i).conn (.ack (getObj s i).ver 5 id 0x91)] ++ (nextImmediate s i).2, none) := by
  have h1 := processPublish_retransmit s i 2 id dup retain topic payload me none pki h.notInline h.valid h.quota h.acl hrec ht
  have h2 : writeAck s i 5 id 0x91 = [Out.wrote (getObj s i).conn (.ack (getObj s i).ver 5 id 0x91)] := by
    unfold writeAck writeMsg
    simp only [h.isOpen, h.peer, h.notInline]
    rfl
  have hp : processPublish s i 2 dup retain id topic payload me none =
      (s, [Out.wrote (getObj s i).conn (.ack (getObj s i).ver 5 id 0x91)], none) := by
    rw [h1, ackRes_live s i 5 id 0x91 (dead_of_live h.isOpen h.peer), h2]
  exact receivePacket_publish_ok (publishValidate_q2 s id topic h.idpos h.valid h.nonempty) hp

/-- **the retransmission, the op.**  While the PUBREC record is there, `step s (.recv conn (PUBLISH QoS 2 id …))` on the
    connection of the record's object writes PUBREC with reason 0x91 (F08; rendered with reason 0 to an MQTT 3 client)
    to that connection, then what two releases for the publisher write (see `step_recv_publish_q2`); the state is the one
    before but for those releases — `publishToSubscribers` and `retainMsg` are not called. -/
theorem step_recv_publish_dup (s : Server) (conn i : Nat) (dup retain : Bool) (id : Nat) (topic payload : Str) (me : Nat)
    (pki : Msg) (hc : assocGet s.connOf conn = some i) (h : RetransmitGates s i id topic)
    (hrec : flGet (getObj s i) id = some pki) (ht : pki.type = 5) :
    step s (.recv conn (.publish 2 dup retain id topic payload me none)) =
      ((nextImmediate (nextImmediate s i).1 i).1,
       [Out.wrote (getObj s i).conn (.ack (getObj s i).ver 5 id 0x91)] ++ (nextImmediate s i).2 ++
       (nextImmediate (nextImmediate s i).1 i).2) :=
  step_recv_served s conn i _ s _ hc h.isOpen (receivePacket_publish_dup s i dup retain id topic payload me pki h hrec ht)
    h.isOpen h.peer

theorem step_recv_publish_dup_quiet (s : Server) (conn i : Nat) (dup retain : Bool) (id : Nat) (topic payload : Str)
    (me : Nat) (pki : Msg) (hc : assocGet s.connOf conn = some i) (h : RetransmitGates s i id topic)
    (hrec : flGet (getObj s i) id = some pki) (ht : pki.type = 5)
    (hd : ∀ m ∈ (getObj s i).inflight, 0 ≤ m.expiry) :
    step s (.recv conn (.publish 2 dup retain id topic payload me none)) =
      (s, [Out.wrote (getObj s i).conn (.ack (getObj s i).ver 5 id 0x91)]) := by
  rw [step_recv_publish_dup s conn i dup retain id topic payload me pki hc h hrec ht, nextImmediate_none s i hd]
  simp only [nextImmediate_none s i hd, List.append_nil]

theorem nextImmediate_store (s : Server) (i : Nat) :
    (nextImmediate s i).1.rmsgs = s.rmsgs ∧ (nextImmediate s i).1.topics = s.topics ∧
    ∀ x, x ≠ i → getObj (nextImmediate s i).1 x = getObj s x :=
  nextImmediate_cases (Q := fun r => r.1.rmsgs = s.rmsgs ∧ r.1.topics = s.topics ∧ ∀ x, x ≠ i → getObj r.1 x = getObj s x)
    s i ⟨rfl, rfl, fun _ _ => rfl⟩ fun _ _ _ => ⟨rfl, rfl, fun x hx => getObj_setObj_ne _ i x _ hx⟩

theorem nextImmediate_out_conn (s : Server) (i : Nat) : ∀ x ∈ (nextImmediate s i).2,
    ∃ pk, x = Out.wrote (getObj s i).conn pk := by
  intro x hx
  rcases nextImmediate_out s i with h | ⟨_, m, _, _, h⟩
  · rw [h] at hx; cases hx
  · exact writeMsg_conn s i m x (h ▸ hx)

theorem q2Routed_conn (s : Server) (i : Nat) (dup retain : Bool) (id : Nat) (topic payload : Str) (me : Nat) :
    (getObj (q2Routed s i dup retain id topic payload me).1 i).conn = (getObj s i).conn := by
  have L := pubrecFiled_live (retainedState s (inboundMsg s i 2 dup retain id topic payload me)) i id
  rw [getObj_retainedState] at L
  exact (L.trans ((publishToSubscribers_deliv _ _).all i).live).conn

theorem nextImmediate_twice_out (t : Server) (i : Nat) :
    ((nextImmediate t i).2 ++ (nextImmediate (nextImmediate t i).1 i).2).length ≤ 2 ∧
    ∀ x ∈ (nextImmediate t i).2 ++ (nextImmediate (nextImmediate t i).1 i).2, ∃ pk, x = Out.wrote (getObj t i).conn pk := by
  have l1 : ∀ u : Server, (nextImmediate u i).2.length ≤ 1 := by
    intro u
    rcases nextImmediate_out u i with e | ⟨_, m, _, _, e⟩ <;> rw [e]
    · exact Nat.zero_le _
    · exact writeMsg_length_le_one u i m
  refine ⟨?_, fun x hx => ?_⟩
  · rw [List.length_append]
    have := l1 t
    have := l1 (nextImmediate t i).1
    omega
  · rcases List.mem_append.mp hx with hx | hx
    · exact nextImmediate_out_conn t i x hx
    · have := nextImmediate_out_conn (nextImmediate t i).1 i x hx
      rw [(nextImmediate_after t i).conn] at this
      exact this

/-- what a retransmission writes besides the PUBREC: releases of the PUBLISHER's own deferred messages -/
theorem nextImmediate_twice_deferred (s : Server) (i : Nat) :
    ∀ x ∈ (nextImmediate s i).2 ++ (nextImmediate (nextImmediate s i).1 i).2,
      ∃ m ∈ (getObj s i).inflight, m.expiry < 0 ∧ x ∈ writeMsg s i m := by
  have ha := nextImmediate_after s i
  intro x hx
  rcases List.mem_append.mp hx with hx | hx
  · rcases nextImmediate_out s i with e | ⟨_, m, hm, he, e⟩
    · rw [e] at hx; cases hx
    · rw [e] at hx
      exact ⟨m, hm, he, hx⟩
  · rcases nextImmediate_out (nextImmediate s i).1 i with e | ⟨_, m, hm, he, e⟩
    · rw [e] at hx; cases hx
    · rw [e] at hx
      rw [writeMsg_congr m ha.isOpen ha.peerGone ha.inline ha.conn ha.ver] at hx
      exact ⟨m, ha.infl m hm, he, hx⟩

/-! ### PUBREL for an open exchange -/

/-- the state after `processPubrel` for a stored exchange: the record under `k` replaced by the PUBCOMP and removed,
    both quotas returned -/
def pubrelDone (s : Server) (i k : Nat) : Server := relDone s i (flSet (getObj s i) (pubcompAck s k)).1 k

theorem lt_of_flGet_some (s : Server) (i k : Nat) (m : Msg) (h : flGet (getObj s i) k = some m) : i < s.objs.length :=
  Decidable.byContradiction fun hn => by rw [getObj_default hn] at h; cases h

theorem processPubrel_open_shape (s : Server) (i k : Nat) (pki : Msg) (ho : (getObj s i).isOpen = true)
    (hp : (getObj s i).peerGone = false) (hin : (getObj s i).inline = false)
    (hrec : flGet (getObj s i) k = some pki) :
    processPubrel s i k 0 =
      (pubrelDone s i k, [Out.wrote (getObj s i).conn (.ack (getObj s i).ver 7 k 0)], none) := by
  have hn : ¬ (flGet (getObj s i) k).isNone = true := by rw [hrec]; exact Bool.false_ne_true
  refine processPubrel_cases (Q := fun r => r = _) s i k 0 rfl (fun h => absurd h hn) (fun _ h => nomatch h)
    (fun _ _ hd => nomatch (dead_of_live ho hp).symm.trans hd) fun _ _ _ => ?_
  rw [writeMsg_live (LiveEq.get_set rfl (SessEq.flSet _ _).live)]
  unfold writeMsg
  simp only [ho, hp, hin]
  rfl

theorem getObj_relDone (s : Server) (i k : Nat) (c : Client) (hi : i < s.objs.length) :
    getObj (relDone s i c k) i = (flDelete (incSend (incRecv c)) k).1 :=
  getObj_setObj_eq s i (flDelete (incSend (incRecv c)) k).1 hi

theorem getObj_relDone_ne (s : Server) (i k : Nat) (c : Client) (x : Nat) (hx : x ≠ i) :
    getObj (relDone s i c k) x = getObj s x :=
  getObj_setObj_ne s i x (flDelete (incSend (incRecv c)) k).1 hx

theorem pubrelDone_spec (s : Server) (i k : Nat) (hi : i < s.objs.length) :
    (pubrelDone s i k).rmsgs = s.rmsgs ∧ (pubrelDone s i k).topics = s.topics ∧
    (pubrelDone s i k).clients = s.clients ∧ (∀ x, x ≠ i → getObj (pubrelDone s i k) x = getObj s x) ∧
    LiveEq (getObj s i) (getObj (pubrelDone s i k) i) ∧ flGet (getObj (pubrelDone s i k) i) k = none := by
  unfold pubrelDone
  refine ⟨rfl, rfl, rfl, getObj_relDone_ne s i k _, ?_, ?_⟩
  · rw [getObj_relDone s i k _ hi]
    exact (((SessEq.flSet _ _).live.trans (LiveEq.incRecv' _)).trans (LiveEq.incSend' _)).trans (LiveEq.flDelete' _ k)
  · rw [getObj_relDone s i k _ hi]
    exact flGet_flDelete_self _ k

theorem nextImmediate_flGet_none (s : Server) (i k : Nat) (h : flGet (getObj s i) k = none) :
    flGet (getObj (nextImmediate s i).1 i) k = none := by
  have ha := nextImmediate_after s i
  unfold flGet at h ⊢
  rw [List.find?_eq_none] at h ⊢
  intro m hm
  exact h m (ha.infl m hm)

theorem receivePacket_pubrel_open (s : Server) (i k : Nat) (pki : Msg) (ho : (getObj s i).isOpen = true)
    (hp : (getObj s i).peerGone = false) (hin : (getObj s i).inline = false)
    (hrec : flGet (getObj s i) k = some pki) :
    receivePacket s i (.pubrel k 0) =
      ((nextImmediate (pubrelDone s i k) i).1,
       [Out.wrote (getObj s i).conn (.ack (getObj s i).ver 7 k 0)] ++ (nextImmediate (pubrelDone s i k) i).2, none) := by
  unfold receivePacket
  simp only [processPubrel_open_shape s i k pki ho hp hin hrec]

/-- **PUBREL for an open exchange, the op**: PUBCOMP to the publisher, then the release tail; the state is `pubrelDone`
    (the record removed) but for those releases -/
theorem step_recv_pubrel_open (s : Server) (conn i k : Nat) (pki : Msg) (hc : assocGet s.connOf conn = some i)
    (ho : (getObj s i).isOpen = true) (hp : (getObj s i).peerGone = false) (hin : (getObj s i).inline = false)
    (hrec : flGet (getObj s i) k = some pki) :
    step s (.recv conn (.pubrel k 0)) =
      ((nextImmediate (nextImmediate (pubrelDone s i k) i).1 i).1,
       [Out.wrote (getObj s i).conn (.ack (getObj s i).ver 7 k 0)] ++ (nextImmediate (pubrelDone s i k) i).2 ++
       (nextImmediate (nextImmediate (pubrelDone s i k) i).1 i).2) := by
  have L := (pubrelDone_spec s i k (lt_of_flGet_some s i k pki hrec)).2.2.2.2.1
  exact step_recv_served s conn i _ _ _ hc ho (receivePacket_pubrel_open s i k pki ho hp hin hrec) (L.isOpen.trans ho)
    (L.peerGone.trans hp)

/-- … after which the exchange is closed, nothing was routed or retained, and every output went to the publisher -/
theorem step_recv_pubrel_closes (s : Server) (conn i k : Nat) (cid : Str) (hc : assocGet s.connOf conn = some i)
    (hreg : assocGet s.clients cid = some i) (hopen : InOpen s cid k)
    (ho : (getObj s i).isOpen = true) (hp : (getObj s i).peerGone = false) (hin : (getObj s i).inline = false) :
    ¬ InOpen (step s (.recv conn (.pubrel k 0))).1 cid k ∧
    (step s (.recv conn (.pubrel k 0))).1.rmsgs = s.rmsgs ∧
    (step s (.recv conn (.pubrel k 0))).1.topics = s.topics ∧
    (∀ x, x ≠ i → getObj (step s (.recv conn (.pubrel k 0))).1 x = getObj s x) ∧
    (∀ x ∈ (step s (.recv conn (.pubrel k 0))).2, ∃ pk, x = Out.wrote (getObj s i).conn pk) := by
  obtain ⟨pki, hrec, _, _⟩ := hopen.rec_at hreg
  have hi := lt_of_flGet_some s i k pki hrec
  have e := step_recv_pubrel_open s conn i k pki hc ho hp hin hrec
  obtain ⟨d_rm, d_tp, d_cl, d_ot, L, d_none⟩ := pubrelDone_spec s i k hi
  obtain ⟨a1, a2, a3⟩ := nextImmediate_store (pubrelDone s i k) i
  obtain ⟨b1, b2, b3⟩ := nextImmediate_store (nextImmediate (pubrelDone s i k) i).1 i
  have hcl : (nextImmediate (nextImmediate (pubrelDone s i k) i).1 i).1.clients = s.clients :=
    ((nextImmediate_quiet _ i).clients.trans (nextImmediate_quiet _ i).clients).trans d_cl
  have hn := nextImmediate_flGet_none _ i k (nextImmediate_flGet_none _ i k d_none)
  -- the op's result as a variable, its components read off before anything is compared with them
  generalize step s (.recv conn (.pubrel k 0)) = r at e ⊢
  subst e
  dsimp only
  refine ⟨fun hO => ?_, (b1.trans a1).trans d_rm, (b2.trans a2).trans d_tp,
    fun x hx => ((b3 x hx).trans (a3 x hx)).trans (d_ot x hx), fun x hx => ?_⟩
  · obtain ⟨m, hm, _⟩ := hO.rec_at (hcl.symm ▸ hreg : assocGet _ cid = some i)
    rw [hn] at hm; cases hm
  · rw [List.append_assoc] at hx
    rcases List.mem_append.mp hx with hx | hx
    · rw [List.mem_singleton] at hx; exact ⟨_, hx⟩
    · have := (nextImmediate_twice_out (pubrelDone s i k) i).2 x hx
      rw [L.conn] at this
      exact this

theorem InNoEnds_app {s : Server} {cid : Str} {k : Nat} {a b : List Op} (h : InNoEnds s cid k (a ++ b)) :
    InNoEnds s cid k a ∧ InNoEnds (run s a) cid k b := by
  simpa only [InNoEnds_iff, OpsOK.append] using h

end Mochi.Broker
