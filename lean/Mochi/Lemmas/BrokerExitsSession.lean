import Mochi.Lemmas.BrokerExitsDelivery
import Mochi.Lemmas.BrokerExitsConnect
import Mochi.Lemmas.BrokerExitsStep
/-!
# The exits of the small handlers, of the ticks, and of the dispatch of an inbound packet

What `BrokerExitsPublish` and `BrokerExitsDelivery` do for the long functions, done for the handlers that work on one
session object (the client's acknowledgements, UNSUBSCRIBE, DISCONNECT, the release of a deferred message, the stages
of an admission and of a teardown), for the four housekeeping ticks (`retDue`: the one test by which two of them drop a
stored message) and for the dispatch of an inbound packet (`R07.handler`, `receivePacket`, `recvOn`) and of a CONNECT
(`connect`, `connectRelease`).  Almost all they do to the state is `recordGone` (a record leaves the in-flight map:
`processPuback`, `processPubcomp`, `nextImmediate`, the resending of `admitC`, `tickInflight`) and `sessionEnded` (the
clean-up `detachB` and `tickClients` share).

`X_cases` is an exit principle (`Q` holds of the result if it holds of every exit, each with the tests that lead to
it), or, for a handler that folds over a list, an induction rule with the loop body as a closed term.
-/
namespace Mochi.Broker
open Mochi.Topics

/-- the handler `receivePacket` dispatches to -/
def R07.handler (s : Server) (i : Nat) (pk : InPk) : HRes :=
  match pk with
  | .publish q d r id t p me al =>
    match publishValidate s q id t al with
    | some code => (s, [], some code)
    | none => processPublish s i q d r id t p me al
  | .subscribe id si fs => if fs.isEmpty then (s, [], some 0x82) else processSubscribe s i id si fs
  | .unsubscribe id fs => if fs.isEmpty then (s, [], some 0x82) else processUnsubscribe s i id fs
  | .puback id _ => processPuback s i id
  | .pubrec id rc => processPubrec s i id rc
  | .pubrel id rc => processPubrel s i id rc
  | .pubcomp id _ => processPubcomp s i id
  | .pingreq => if !dead (getObj s i) then (s, [.wrote (getObj s i).conn .pingresp], none) else (s, [], some 0)
  | .disconnect rc sei => processDisconnect s i rc sei

theorem flDelete_incSend (c : Client) (id : Nat) : flDelete (incSend c) id = (incSend (flDelete c id).1, (flDelete c id).2) := by
  unfold incSend
  by_cases h : c.sendQuota < c.maxSend
  · rw [if_pos h]; exact (if_pos (c := (flDelete c id).1.sendQuota < (flDelete c id).1.maxSend) h).symm ▸ rfl
  · rw [if_neg h]; exact (if_neg (c := (flDelete c id).1.sendQuota < (flDelete c id).1.maxSend) h).symm ▸ rfl

theorem flDelete_incRecv (c : Client) (id : Nat) : flDelete (incRecv c) id = (incRecv (flDelete c id).1, (flDelete c id).2) := by
  unfold incRecv
  by_cases h : c.recvQuota < c.maxRecv
  · rw [if_pos h]; exact (if_pos (c := (flDelete c id).1.recvQuota < (flDelete c id).1.maxRecv) h).symm ▸ rfl
  · rw [if_neg h]; exact (if_neg (c := (flDelete c id).1.recvQuota < (flDelete c id).1.maxRecv) h).symm ▸ rfl

/-! ### the client's acknowledgements -/

theorem processPuback_cases {Q : HRes → Prop} (s : Server) (i id : Nat)
    (absent : (flGet (getObj s i) id).isNone = true → Q (s, [], none))
    (released : (flGet (getObj s i) id).isSome = true → Q (recordGone s i id incSend, [], none)) :
    Q (processPuback s i id) := by
  unfold processPuback
  refine iteInduction (motive := Q) absent (fun h => ?_)
  have hs : (flGet (getObj s i) id).isSome = true := by
    cases hg : flGet (getObj s i) id with
    | none => rw [hg] at h; exact absurd rfl h
    | some m => rfl
  have e := released hs
  rw [recordGone_of_some s i id incSend hs] at e
  exact e

theorem processPubcomp_eq (s : Server) (i id : Nat) :
    processPubcomp s i id = (recordGone s i id (fun c => incSend (incRecv c)), [], none) := by
  unfold processPubcomp
  dsimp only
  rw [flDelete_incSend, flDelete_incRecv]
  dsimp only
  rw [recordGone_eq s i id (fun c => incSend (incRecv c)) rfl]

/-! ### UNSUBSCRIBE, DISCONNECT -/

/-- one filter dropped: taken out of the topic index and out of the client's own list -/
def unsubDropped (s : Server) (i : Nat) (cid : Str) (f : Str) : Server :=
  modObj { s with topics := (unsubscribe s.topics f cid).1,
                  info := if (unsubscribe s.topics f cid).2 then { s.info with subs := s.info.subs - 1 } else s.info }
    i (fun c => { c with subs := assocDel c.subs f })

/-- `I` is an invariant of the per-filter fold (state and reason codes so far): a
    filter is refused because the packet identifier is in use, or dropped; the UNSUBACK is then lost on a dead client or
    written. -/
theorem processUnsubscribe_cases {I : Server → List Nat → Prop} {Q : HRes → Prop} (s : Server) (i id : Nat)
    (filters : List Str) (start : I s [])
    (inUse : ∀ s' rcs, (flGet (getObj s i) id).isSome = true → I s' rcs → I s' (rcs ++ [0x91]))
    (dropped : ∀ s' rcs f, (flGet (getObj s i) id).isSome = false → I s' rcs →
      I (unsubDropped s' i (getObj s i).id f) (rcs ++ [if (unsubscribe s'.topics f (getObj s i).id).2 then 0x00 else 0x11]))
    (lost : ∀ s' rcs, I s' rcs → dead (getObj s' i) = true → Q (s', [], some 0))
    (answered : ∀ s' rcs, I s' rcs → dead (getObj s' i) = false →
      Q (s', [.wrote (getObj s' i).conn (.unsuback (getObj s' i).ver id rcs)], none)) :
    Q (processUnsubscribe s i id filters) := by
  unfold processUnsubscribe
  extract_lets c inUse' r
  have hr : I r.1 r.2 := by
    refine foldl_inv (fun (acc : Server × List Nat) => I acc.1 acc.2) _ _ _ start (fun acc f h => ?_)
    obtain ⟨s', rcs⟩ := acc
    exact iteInduction (motive := fun (x : Server × List Nat) => I x.1 x.2) (fun hu => inUse s' rcs hu h)
      (fun hu => dropped s' rcs f (Bool.eq_false_iff.mpr hu) h)
  generalize r = r' at hr
  obtain ⟨s', rcs⟩ := r'
  exact iteInduction (motive := Q) (fun hd => lost s' rcs hr hd) (fun hd => answered s' rcs hr (Bool.eq_false_iff.mpr hd))

/-- `processDisconnect`'s protocol error: the session expiry interval is raised from zero -/
def seiViolation (c : Client) (sei : Option Nat) : Bool :=
  match sei with
  | some v => decide (v > 0) && c.sei == 0
  | none => false

/-- the client object after a DISCONNECT that carries a session expiry interval -/
def discObj (c : Client) (sei : Option Nat) : Client :=
  match sei with
  | some v => { c with sei := v, fsei := true }
  | none => c

/-- the state after `processDisconnect` updated the session expiry interval -/
def discState (s : Server) (i : Nat) (sei : Option Nat) : Server := setObj s i (discObj (getObj s i) sei)

theorem processDisconnect_violation (s : Server) (i rc : Nat) (sei : Option Nat)
    (h : seiViolation (getObj s i) sei = true) : processDisconnect s i rc sei = (s, [], some 0x82) := by
  unfold processDisconnect
  cases sei with
  | none => cases h
  | some v =>
    have h' : (decide (v > 0) && (getObj s i).sei == 0) = true := h
    simp only [h', if_true]

theorem processDisconnect_with_will (s : Server) (i : Nat) (sei : Option Nat)
    (h : seiViolation (getObj s i) sei = false) :
    processDisconnect s i 0x04 sei = (discState s i sei, [], some 0x04) := by
  unfold processDisconnect
  cases sei with
  | none => rfl
  | some v =>
    have h' : (decide (v > 0) && (getObj s i).sei == 0) = false := h
    simp only [h', Bool.false_eq_true, if_false]
    rfl

theorem processDisconnect_normal (s : Server) (i rc : Nat) (sei : Option Nat) (hrc : rc ≠ 0x04)
    (h : seiViolation (getObj s i) sei = false) :
    processDisconnect s i rc sei =
      ((stopClient { discState s i sei with willDelayed := assocDel s.willDelayed (getObj s i).id } i).1,
       (stopClient { discState s i sei with willDelayed := assocDel s.willDelayed (getObj s i).id } i).2, none) := by
  have hrc' : (rc == 4) = false := by simpa using hrc
  unfold processDisconnect
  cases sei with
  | none => simp only [hrc', Bool.false_eq_true, if_false]; rfl
  | some v =>
    have h' : (decide (v > 0) && (getObj s i).sei == 0) = false := h
    simp only [h', hrc', Bool.false_eq_true, if_false]
    rfl

/-- a protocol error; reason 0x04 (the read loop ends with that error and the will is
    published); any other reason (the delayed will registered under the id goes, then `Client.Stop`) -/
theorem processDisconnect_cases {Q : HRes → Prop} (s : Server) (i rc : Nat) (sei : Option Nat)
    (violation : seiViolation (getObj s i) sei = true → Q (s, [], some 0x82))
    (withWill : seiViolation (getObj s i) sei = false → rc = 0x04 → Q (discState s i sei, [], some 0x04))
    (normal : seiViolation (getObj s i) sei = false → rc ≠ 0x04 →
      Q ((stopClient { discState s i sei with willDelayed := assocDel s.willDelayed (getObj s i).id } i).1,
         (stopClient { discState s i sei with willDelayed := assocDel s.willDelayed (getObj s i).id } i).2, none)) :
    Q (processDisconnect s i rc sei) := by
  cases hv : seiViolation (getObj s i) sei
  · by_cases hrc : rc = 0x04
    · rw [hrc, processDisconnect_with_will s i sei hv]; exact withWill hv hrc
    · rw [processDisconnect_normal s i rc sei hrc hv]; exact normal hv hrc
  · rw [processDisconnect_violation s i rc sei hv]; exact violation hv

/-! ### a deferred message is released -/

/-- nothing to release, or the deferred message `m` is written and its record dropped
    (one base-64 digit of `nextSeed` is used up) -/
theorem nextImmediate_cases {Q : Server × List Out → Prop} (s : Server) (i : Nat) (idle : Q (s, []))
    (release : ∀ m, (getObj s i).sendQuota > 0 →
      (permuteBy (s.nextSeed % 64) ((getObj s i).inflight.filter (fun m => m.expiry < 0))).head? = some m →
      Q (recordGone { s with nextSeed := s.nextSeed / 64 } i m.id decSend, writeMsg s i m)) :
    Q (nextImmediate s i) := by
  unfold nextImmediate
  refine iteInduction (motive := Q) (fun h => ?_) (fun _ => idle)
  have hq : (getObj s i).sendQuota > 0 := by
    have := (Bool.and_eq_true _ _).mp h
    exact of_decide_eq_true this.2
  dsimp only
  cases hm : (permuteBy (s.nextSeed % 64) ((getObj s i).inflight.filter (fun m => decide (m.expiry < 0)))).head? with
  | none => exact idle
  | some m =>
    have e := release m hq hm
    rw [← recordGone_eq { s with nextSeed := s.nextSeed / 64 } i m.id decSend rfl] at e
    exact e

/-! ### a session is resumed or expires -/

/-- `admitC`: the delayed will registered under the client id goes; if a session is resumed, its records are resent one
    by one — a PUBLISH with the DUP flag, an acknowledgement of the broker's own (PUBACK, PUBCOMP) once more, its record
    then dropped -/
theorem admitC_cases_mem {J : Server × List Out → Prop} (s : Server) (i : Nat) (k : Connect) (present : Bool)
    (start : J ({ s with willDelayed := assocDel s.willDelayed k.id }, []))
    (resend : ∀ (acc : Server × List Out) (m : Msg), m ∈ permuteBy s.resendSeed (getObj s i).inflight → J acc →
      J (if m.type == 4 || m.type == 7 then recordGone acc.1 i m.id (fun c => c) else acc.1,
         acc.2 ++ writeMsg acc.1 i (if m.type == 3 then { m with dup := true } else m))) :
    J (admitC s i k present) := by
  unfold admitC
  refine iteInduction (motive := J) (fun _ => ?_) (fun _ => start)
  refine List.foldlRecOn _ _ (motive := J) start (fun acc h m hm => ?_)
  have e := resend acc m hm h
  rw [← recordGone_eq acc.1 i m.id (fun c => c) rfl] at e
  exact e

theorem admitC_cases {J : Server × List Out → Prop} (s : Server) (i : Nat) (k : Connect) (present : Bool)
    (start : J ({ s with willDelayed := assocDel s.willDelayed k.id }, []))
    (resend : ∀ (acc : Server × List Out) (m : Msg), J acc →
      J (if m.type == 4 || m.type == 7 then recordGone acc.1 i m.id (fun c => c) else acc.1,
         acc.2 ++ writeMsg acc.1 i (if m.type == 3 then { m with dup := true } else m))) :
    J (admitC s i k present) :=
  admitC_cases_mem s i k present start (fun acc m _ h => resend acc m h)

/-- `SendConnack`: a session expiry interval above the server's maximum is cut down to it and reported back -/
theorem admitConnack_cases {Q : Server × List Out → Prop} (s : Server) (i conn : Nat) (present : Bool)
    (capped : (getObj s i).sei > s.caps.maxSessionExpiry →
      Q (modObj s i (fun x => { x with sei := s.caps.maxSessionExpiry, fsei := true }),
         [.wrote conn (mkConnack s (getObj s i) present 0 (some s.caps.maxSessionExpiry))]))
    (plain : ¬ (getObj s i).sei > s.caps.maxSessionExpiry →
      Q (s, [.wrote conn (mkConnack s (getObj s i) present 0 none)])) :
    Q (admitConnack s i conn present) := by
  unfold admitConnack
  by_cases h : (getObj s i).sei > s.caps.maxSessionExpiry
  · dsimp only
    rw [if_pos h]
    exact capped h
  · dsimp only
    rw [if_neg h]
    exact plain h

/-- `attachClient` from the admission to the read loop, stage by stage: `admitA`, the CONNACK, the teardown of the handler
    whose session was taken over, `admitC` -/
theorem admitClient_eq (s : Server) (i conn : Nat) (k : Connect) {a : Server × List Out × Bool × Option Nat}
    {c d : Server × List Out} (ha : a = admitA s i k) (hc : c = admitConnack a.1 i conn a.2.2.1)
    (hd : d = tookOverDown c.1 a.2.2.2) :
    admitClient s i conn k = ((admitC d.1 i k a.2.2.1).1, a.2.1 ++ c.2 ++ d.2 ++ (admitC d.1 i k a.2.2.1).2) := by
  subst ha hc hd
  unfold admitClient tookOverDown
  rfl

theorem admitClient_fst (s : Server) (i conn : Nat) (k : Connect) :
    (admitClient s i conn k).1 = (admitC (tookOverDown (admitConnack (admitA s i k).1 i conn (admitA s i k).2.2.1).1
      (admitA s i k).2.2.2).1 i k (admitA s i k).2.2.1).1 := by
  rw [admitClient_eq s i conn k rfl rfl rfl]

/-- the CONNECT is refused (failure CONNACK, `Client.Stop`) or the client is admitted; `s1` has
    the new object and its connection -/
theorem connect_cases {Q : Server × List Out → Prop} (s : Server) (conn : Nat) (k : Connect)
    (refused : ∀ s1 code, s1 = connState s conn k → refuseCode s1 k (parseConnect s conn k) = some code →
      Q ((stopClient s1 s.objs.length).1,
         [Out.wrote conn (mkConnack s1 (parseConnect s conn k) false code none)] ++ (stopClient s1 s.objs.length).2))
    (admitted : ∀ s1, s1 = connState s conn k → refuseCode s1 k (parseConnect s conn k) = none →
      Q (admitClient s1 s.objs.length conn k)) : Q (connect s conn k) := by
  unfold connect
  dsimp only
  generalize hd : refuseCode _ k _ = d
  cases d with
  | some code => exact refused _ code rfl hd
  | none => exact admitted _ rfl hd

/-- a handler parked in the authentication hook is refused or admitted; one parked after
    `Clients.Add` finds its connection taken over meanwhile, or goes on with the CONNACK and `admitC` -/
theorem connectRelease_cases {Q : Server × List Out → Prop} (s : Server) (p : Pending)
    (refused : ∀ code, (p.stage == 1) = true → p.refuse = some code →
      Q ((stopClient s p.obj).1,
         [Out.wrote p.conn (mkConnack s (getObj s p.obj) false code none)] ++ (stopClient s p.obj).2))
    (admitted : (p.stage == 1) = true → p.refuse = none → Q (admitClient s p.obj p.conn p.k))
    (gone : ¬ (p.stage == 1) = true → (getObj s p.obj).stopped = true →
      Q ({ s with info := { s.info with connected := s.info.connected - 1 } }, []))
    (resumed : ¬ (p.stage == 1) = true → ¬ (getObj s p.obj).stopped = true →
      Q ((admitC (admitConnack s p.obj p.conn p.present).1 p.obj p.k p.present).1,
         (admitConnack s p.obj p.conn p.present).2 ++
           (admitC (admitConnack s p.obj p.conn p.present).1 p.obj p.k p.present).2)) :
    Q (connectRelease s p) := by
  unfold connectRelease
  refine iteInduction (motive := Q) (fun h1 => ?_) (fun h1 => iteInduction (motive := Q) (gone h1) (resumed h1))
  cases h : p.refuse with
  | some code => exact refused code h1 h
  | none => exact admitted h1 h

/-- the session of object `i` ends: its in-flight records, its subscriptions and the registration under `cid` go -/
def sessionEnded (s : Server) (i : Nat) (cid : Str) : Server :=
  { unsubscribeClient (clearInflights s i) i with
    clients := assocDel (unsubscribeClient (clearInflights s i) i).clients cid }

theorem sessionEnded_getObj (s : Server) (i : Nat) (cid : Str) (k : Nat) :
    getObj (sessionEnded s i cid) k = getObj (unsubscribeClient (clearInflights s i) i) k :=
  getObj_of_objs_eq (s' := sessionEnded s i cid) (s := unsubscribeClient (clearInflights s i) i) rfl k

theorem detach_fst (s : Server) (i : Nat) (b : Bool) : (detach s i b).1 = detachB (detachA s i b).1 i := by
  unfold detach
  generalize detachA s i b = d
  rfl

/-- the read loop ended with an error (will, then `Client.Stop`) or normally (the will is
    discarded) -/
theorem detachA_cases {Q : Server × List Out → Prop} (s : Server) (i : Nat) (withErr : Bool)
    (err : withErr = true →
      Q ((stopClient (sendLWT s i).1 i).1, (sendLWT s i).2 ++ (stopClient (sendLWT s i).1 i).2))
    (normal : withErr = false → Q (modObj s i (fun c => { c with will := {} }), [])) : Q (detachA s i withErr) := by
  cases withErr
  · exact normal rfl
  · exact err rfl

/-- the session goes with the connection unless it is to be kept (a session expiry interval,
    an MQTT 3 session without Clean Session) or was taken over; `ClientsConnected` is decremented either way -/
theorem detachB_cases {Q : Server → Prop} (s : Server) (i : Nat)
    (kept : ¬ ((((getObj s i).ver == 5 && (getObj s i).sei == 0) ||
        (decide ((getObj s i).ver < 5) && (getObj s i).clean)) && !(getObj s i).takenOver) = true →
      Q { s with info := { s.info with connected := s.info.connected - 1 } })
    (ended : ((((getObj s i).ver == 5 && (getObj s i).sei == 0) ||
        (decide ((getObj s i).ver < 5) && (getObj s i).clean)) && !(getObj s i).takenOver) = true →
      Q { sessionEnded s i (getObj s i).id with
          info := { (sessionEnded s i (getObj s i).id).info with
            connected := (sessionEnded s i (getObj s i).id).info.connected - 1 } }) : Q (detachB s i) := by
  unfold detachB
  dsimp only
  exact iteInduction
    (motive := fun x : Server => Q { x with info := { x.info with connected := x.info.connected - 1 } }) ended kept

/-- `detachB` for a predicate that does not look at the test: the session is kept or ended, then the counter moves -/
theorem detachB_stages {Q : Server → Prop} (s : Server) (i : Nat)
    (h : ∀ s', s' = s ∨ s' = sessionEnded s i (getObj s i).id →
      Q { s' with info := { s'.info with connected := s'.info.connected - 1 } }) : Q (detachB s i) :=
  detachB_cases s i (fun _ => h s (Or.inl rfl)) (fun _ => h _ (Or.inr rfl))

/-- `tickClients`: session after session that is due ends -/
theorem tickClients_cases {J : Server × List Out → Prop} (s : Server) (dt : Int) (start : J (s, []))
    (expired : ∀ (acc : Server × List Out) (e : Str × Nat), e ∈ s.clients →
      sessionDue acc.1.caps (getObj acc.1 e.2) dt = true → J acc →
      J (sessionEnded acc.1 e.2 e.1, acc.2 ++ [.event s!"expired({hexStr (getObj acc.1 e.2).id})"])) :
    J (tickClients s dt) := by
  unfold tickClients
  refine List.foldlRecOn s.clients _ (motive := J) start (fun acc h e he => ?_)
  exact iteInduction (motive := J) (fun hd => expired acc e he hd h) (fun _ => h)

/-- the same loop for a predicate that also sees the entries NOT YET VISITED (a session ends in a state in which the
    later entries are still what they were) -/
theorem tickClients_rest {J : List (Str × Nat) → Server × List Out → Prop} (s : Server) (dt : Int)
    (start : J s.clients (s, []))
    (expired : ∀ (acc : Server × List Out) (e : Str × Nat) rest, J (e :: rest) acc →
      sessionDue acc.1.caps (getObj acc.1 e.2) dt = true →
      J rest (sessionEnded acc.1 e.2 e.1, acc.2 ++ [.event s!"expired({hexStr (getObj acc.1 e.2).id})"]))
    (kept : ∀ (acc : Server × List Out) (e : Str × Nat) rest, J (e :: rest) acc →
      ¬ sessionDue acc.1.caps (getObj acc.1 e.2) dt = true → J rest acc) :
    J [] (tickClients s dt) := by
  unfold tickClients
  generalize s.clients = l, (s, ([] : List Out)) = acc at start
  induction l generalizing acc with
  | nil => exact start
  | cons e rest ih =>
    rw [List.foldl_cons]
    exact ih _ (iteInduction (motive := J rest) (expired acc e rest start) (kept acc e rest start))

/-- a stored message is due for removal by the housekeeping at time `now`: the one test of `tickRetained` and
    `tickInflight` -/
def retDue (caps : Caps) (now : Int) (m : Msg) : Bool :=
  (m.ver == 5 && m.expiry > 0 && m.expiry < now) || (caps.maxMessageExpiry > 0 && now - m.created > caps.maxMessageExpiry)

/-- `tickInflight`: record after record of the registered sessions is dropped; `b0` is the state in which the
    records of the session were listed, `b` the one the loop has reached -/
theorem tickInflight_cases_mem {J : Server → Prop} (s : Server) (now : Int) (start : J s)
    (expired : ∀ b0 b (e : Str × Nat) (m : Msg), e ∈ s.clients → J b0 → m ∈ (getObj b0 e.2).inflight →
      retDue b.caps now m = true → J b → J (recordGone b e.2 m.id (fun c => c))) :
    J (tickInflight s now) := by
  unfold tickInflight
  refine List.foldlRecOn s.clients _ (motive := J) start (fun b0 h e he => ?_)
  refine List.foldlRecOn _ _ (motive := J) h (fun b2 h2 m hm => ?_)
  dsimp only
  refine iteInduction (motive := J) (fun ht => ?_) (fun _ => h2)
  have e' := expired b0 b2 e m he h hm ht h2
  rw [← recordGone_eq b2 e.2 m.id (fun c => c) rfl] at e'
  exact e'

theorem tickInflight_cases {J : Server → Prop} (s : Server) (now : Int) (start : J s)
    (expired : ∀ b (e : Str × Nat) (m : Msg), e ∈ s.clients → J b → J (recordGone b e.2 m.id (fun c => c))) :
    J (tickInflight s now) :=
  tickInflight_cases_mem s now start (fun _ b e m he _ _ _ h => expired b e m he h)

/-- `tickRetained`: message after message that is due leaves the retained list and the index, then the gauge is set -/
theorem tickRetained_cases {J : Server → Prop} (s : Server) (now : Int) (start : J s)
    (expired : ∀ b (e : Str × Msg), e ∈ s.rmsgs → retDue b.caps now e.2 = true →
      J b → J { b with rmsgs := assocDel b.rmsgs e.1,
                       topics := { b.topics with retained := assocDel b.topics.retained e.1 } })
    (done : ∀ b, J b → J { b with info := { b.info with retained := b.rmsgs.length } }) :
    J (tickRetained s now) := by
  unfold tickRetained
  refine done _ ?_
  unfold tickRetained.tickRetainedLoop
  refine List.foldlRecOn s.rmsgs _ (motive := J) start (fun b h e he => ?_)
  exact iteInduction (motive := J) (fun hd => expired b e he hd h) (fun _ => h)

/-! ### one inbound packet, with what it writes -/

theorem handler_cases {Q : HRes → Prop} (s : Server) (i : Nat) (pk : InPk)
    (invalid : ∀ q d r id t p me al code, pk = .publish q d r id t p me al → publishValidate s q id t al = some code →
      Q (s, [], some code))
    (pub : ∀ q d r id t p me al, pk = .publish q d r id t p me al → publishValidate s q id t al = none →
      Q (processPublish s i q d r id t p me al))
    (empty : (∃ id si, pk = .subscribe id si []) ∨ (∃ id, pk = .unsubscribe id []) → Q (s, [], some 0x82))
    (sub : ∀ id si fs, pk = .subscribe id si fs → Q (processSubscribe s i id si fs))
    (unsub : ∀ id fs, pk = .unsubscribe id fs → Q (processUnsubscribe s i id fs))
    (puback : ∀ id rc, pk = .puback id rc → Q (processPuback s i id))
    (pubrec : ∀ id rc, pk = .pubrec id rc → Q (processPubrec s i id rc))
    (pubrel : ∀ id rc, pk = .pubrel id rc → Q (processPubrel s i id rc))
    (pubcomp : ∀ id rc, pk = .pubcomp id rc → Q (processPubcomp s i id))
    (ping : pk = .pingreq → dead (getObj s i) = false → Q (s, [.wrote (getObj s i).conn .pingresp], none))
    (pingLost : pk = .pingreq → dead (getObj s i) = true → Q (s, [], some 0))
    (disc : ∀ rc sei, pk = .disconnect rc sei → Q (processDisconnect s i rc sei)) : Q (R07.handler s i pk) := by
  unfold R07.handler
  cases pk with
  | publish q d r id t p me al =>
    dsimp only
    cases h : publishValidate s q id t al with
    | some code => exact invalid _ _ _ _ _ _ _ _ code rfl h
    | none => exact pub _ _ _ _ _ _ _ _ rfl h
  | subscribe id si fs =>
    refine iteInduction (motive := Q) (fun h => empty (Or.inl ⟨id, si, ?_⟩)) (fun _ => sub _ _ _ rfl)
    rw [List.isEmpty_iff.mp h]
  | unsubscribe id fs =>
    refine iteInduction (motive := Q) (fun h => empty (Or.inr ⟨id, ?_⟩)) (fun _ => unsub _ _ rfl)
    rw [List.isEmpty_iff.mp h]
  | puback id rc => exact puback id rc rfl
  | pubrec id rc => exact pubrec id rc rfl
  | pubrel id rc => exact pubrel id rc rfl
  | pubcomp id rc => exact pubcomp id rc rfl
  | pingreq =>
    exact iteInduction (motive := Q) (fun h => ping rfl (by simpa using h)) (fun h => pingLost rfl (by simpa using h))
  | disconnect rc sei => exact disc rc sei rfl

/-- `r` is what the handler returned.  An error code closes the client only for MQTT 5
    and a code from `0x80` up -/
theorem receivePacket_cases_code {Q : HRes → Prop} (s : Server) (i : Nat) (pk : InPk) {r : HRes}
    (hr : r = R07.handler s i pk)
    (ok : r.2.2 = none → Q ((nextImmediate r.1 i).1, r.2.1 ++ (nextImmediate r.1 i).2, none))
    (closed : ∀ code, r.2.2 = some code → ((getObj s i).ver == 5 && decide (code ≥ 0x80)) = true →
      Q ((disconnectClient r.1 i code).1, r.2.1 ++ (disconnectClient r.1 i code).2, some code))
    (err : ∀ code, r.2.2 = some code → ¬ ((getObj s i).ver == 5 && decide (code ≥ 0x80)) = true →
      Q (r.1, r.2.1, some code)) : Q (receivePacket s i pk) := by
  have e : receivePacket s i pk =
      match R07.handler s i pk with
      | (s1, o, none) => ((nextImmediate s1 i).1, o ++ (nextImmediate s1 i).2, none)
      | (s1, o, some code) =>
        if (getObj s i).ver == 5 && code ≥ 0x80 then
          ((disconnectClient s1 i code).1, o ++ (disconnectClient s1 i code).2, some code)
        else (s1, o, some code) := by
    unfold receivePacket R07.handler
    rfl
  rw [e, ← hr]
  obtain ⟨s1, o, _ | code⟩ := r
  · exact ok rfl
  · exact iteInduction (motive := Q) (closed code rfl) (err code rfl)

/-- … for a proof that does not look at the test on the code -/
theorem receivePacket_cases {Q : HRes → Prop} (s : Server) (i : Nat) (pk : InPk) {r : HRes}
    (hr : r = R07.handler s i pk)
    (ok : r.2.2 = none → Q ((nextImmediate r.1 i).1, r.2.1 ++ (nextImmediate r.1 i).2, none))
    (closed : ∀ code, r.2.2 = some code →
      Q ((disconnectClient r.1 i code).1, r.2.1 ++ (disconnectClient r.1 i code).2, some code))
    (err : ∀ code, r.2.2 = some code → Q (r.1, r.2.1, some code)) : Q (receivePacket s i pk) :=
  receivePacket_cases_code s i pk hr ok (fun code h _ => closed code h) fun code h _ => err code h

/-- `r` is what `receivePacket` returned for the packet, `r2` for the barrier PINGREQ -/
theorem recvOn_cases {Q : Server × List Out → Prop} (s : Server) (conn : Nat) (pk : InPk) (b : Bool)
    (unknown : assocGet s.connOf conn = none → Q (s, []))
    (closed : ∀ i, assocGet s.connOf conn = some i → (getObj s i).isOpen = false → Q (s, []))
    (err : ∀ i r, assocGet s.connOf conn = some i → (getObj s i).isOpen = true → r = receivePacket s i pk →
      r.2.2 ≠ none → Q ((detach r.1 i true).1, r.2.1 ++ (detach r.1 i true).2))
    (left : ∀ i r, assocGet s.connOf conn = some i → (getObj s i).isOpen = true → r = receivePacket s i pk →
      r.2.2 = none → (getObj r.1 i).isOpen = false → Q ((detach r.1 i false).1, r.2.1 ++ (detach r.1 i false).2))
    (served : ∀ i r, assocGet s.connOf conn = some i → (getObj s i).isOpen = true → r = receivePacket s i pk →
      r.2.2 = none → (getObj r.1 i).isOpen = true → b = false → Q (r.1, r.2.1))
    (barrierErr : ∀ i r r2, assocGet s.connOf conn = some i → (getObj s i).isOpen = true →
      r = receivePacket s i pk → r.2.2 = none → (getObj r.1 i).isOpen = true → b = true →
      r2 = receivePacket r.1 i .pingreq → r2.2.2 ≠ none →
      Q ((detach r2.1 i true).1, r.2.1 ++ noPingresp r2.2.1 ++ (detach r2.1 i true).2))
    (barrierOk : ∀ i r r2, assocGet s.connOf conn = some i → (getObj s i).isOpen = true →
      r = receivePacket s i pk → r.2.2 = none → (getObj r.1 i).isOpen = true → b = true →
      r2 = receivePacket r.1 i .pingreq → r2.2.2 = none → Q (r2.1, r.2.1 ++ noPingresp r2.2.1)) :
    Q (recvOn s conn pk b) := by
  unfold recvOn
  cases hc : assocGet s.connOf conn with
  | none => exact unknown hc
  | some i =>
    dsimp only
    refine iteInduction (motive := Q) (fun h => closed i hc (by simpa using h)) (fun ho => ?_)
    have ho : (getObj s i).isOpen = true := by simpa using ho
    have h1 := err i _ hc ho rfl
    have h2 := left i _ hc ho rfl
    have h3 := served i _ hc ho rfl
    have h4 := fun r2 => barrierErr i _ r2 hc ho rfl
    have h5 := fun r2 => barrierOk i _ r2 hc ho rfl
    generalize receivePacket s i pk = r at h1 h2 h3 h4 h5
    obtain ⟨s1, o, e⟩ := r
    cases e with
    | some code => exact h1 (fun h => by cases h)
    | none =>
      dsimp only at h2 h3 h4 h5 ⊢
      refine iteInduction (motive := Q) (fun h => h2 rfl (by simpa using h)) (fun h => ?_)
      have ho1 : (getObj s1 i).isOpen = true := by simpa using h
      refine iteInduction (motive := Q) (fun hb => ?_) (fun hb => h3 rfl ho1 (by simpa using hb))
      have h4' := h4 _ rfl ho1 hb rfl
      have h5' := h5 _ rfl ho1 hb rfl
      generalize receivePacket s1 i .pingreq = r2 at h4' h5'
      obtain ⟨s2, o2, e2⟩ := r2
      cases e2 with
      | some code => exact h4' (fun h => by cases h)
      | none => exact h5' rfl

theorem recvOn_prefix (s : Server) (conn : Nat) (pk : InPk) (b : Bool) (i : Nat)
    (hc : assocGet s.connOf conn = some i) (hopen : (getObj s i).isOpen = true) :
    ∃ rest, (recvOn s conn pk b).2 = (receivePacket s i pk).2.1 ++ rest := by
  refine recvOn_cases (Q := fun x => ∃ rest, x.2 = (receivePacket s i pk).2.1 ++ rest) s conn pk b
    (fun h => nomatch h.symm.trans hc) (fun j hj h => by cases hc.symm.trans hj; rw [hopen] at h; cases h)
    (fun j r hj _ hr _ => ?_) (fun j r hj _ hr _ _ => ?_) (fun j r hj _ hr _ _ _ => ?_)
    (fun j r r2 hj _ hr _ _ _ _ _ => ?_) (fun j r r2 hj _ hr _ _ _ _ _ => ?_)
  all_goals cases hc.symm.trans hj; subst hr
  · exact ⟨_, rfl⟩
  · exact ⟨_, rfl⟩
  · exact ⟨[], (List.append_nil _).symm⟩
  · exact ⟨_, List.append_assoc _ _ _⟩
  · exact ⟨_, rfl⟩

/-- an inbound packet that ends the connection — its handler returns an error, or has closed the connection itself —:
    the op is the handler, then the tail of `attachClient` -/
theorem recvOn_ended (s : Server) (conn i : Nat) (pk : InPk) (b : Bool) (hc : assocGet s.connOf conn = some i)
    (ho : (getObj s i).isOpen = true)
    (h : (receivePacket s i pk).2.2 = none → (getObj (receivePacket s i pk).1 i).isOpen = false) :
    recvOn s conn pk b = ((detach (receivePacket s i pk).1 i (receivePacket s i pk).2.2.isSome).1,
      (receivePacket s i pk).2.1 ++ (detach (receivePacket s i pk).1 i (receivePacket s i pk).2.2.isSome).2) := by
  refine recvOn_cases (Q := fun r => r = _) s conn pk b (fun hn => nomatch hn.symm.trans hc)
    (fun j hj hcl => by cases hc.symm.trans hj; rw [ho] at hcl; cases hcl)
    (fun j r hj _ hr hn => ?_) (fun j r hj _ hr hn _ => ?_) (fun j r hj _ hr hn hop _ => ?_)
    (fun j r _ hj _ hr hn hop _ _ _ => ?_) (fun j r _ hj _ hr hn hop _ _ _ => ?_)
  all_goals cases hc.symm.trans hj; subst hr
  · rw [Option.isSome_iff_ne_none.mpr hn]
  · rw [hn]; rfl
  -- the connection stays open: excluded
  all_goals rw [h hn] at hop; cases hop

/-! ### the housekeeping tick for delayed wills -/

/-- the registered delayed wills that are due at virtual time `t` -/
def dueWills (s : Server) (t : Int) : List (Str × Msg) := s.willDelayed.filter (fun e => decide (t > e.2.expiry))

/-- what `tickWills` does for ONE due entry: fan the message out; if the client id is still registered, retain the
    message (if it is to be retained), clear the will of the session and emit the will event; remove the entry -/
def publishDue (acc : Server × List Out) (e : Str × Msg) : Server × List Out :=
  let r := publishToSubscribers acc.1 e.2
  let r2 : Server × List Out := match assocGet r.1.clients e.1 with
    | some i => (modObj (if e.2.retain then retainMsg r.1 e.2 else r.1) i (fun c => { c with will := {} }), [willEvent e.1])
    | none => (r.1, [])
  ({ r2.1 with willDelayed := assocDel r2.1.willDelayed e.1 }, acc.2 ++ r.2 ++ r2.2)

theorem publishDue_cases {Q : Server × List Out → Prop} (acc : Server × List Out) (e : Str × Msg)
    {r : Server × List Out} (hr : r = publishToSubscribers acc.1 e.2)
    (gone : assocGet r.1.clients e.1 = none →
      Q ({ r.1 with willDelayed := assocDel r.1.willDelayed e.1 }, acc.2 ++ r.2 ++ []))
    (cleared : ∀ j, assocGet r.1.clients e.1 = some j →
      Q ({ modObj (retainedState r.1 e.2) j (fun c => { c with will := {} }) with
            willDelayed := assocDel (retainedState r.1 e.2).willDelayed e.1 },
         acc.2 ++ r.2 ++ [willEvent e.1])) :
    Q (publishDue acc e) := by
  subst hr
  unfold publishDue
  dsimp only
  cases h : assocGet (publishToSubscribers acc.1 e.2).1.clients e.1 with
  | none => exact gone h
  | some j => exact cleared j h

theorem foldl_filter_eq {α β} (p : α → Bool) (f g : β → α → β) (l : List α) (b : β)
    (h : ∀ b a, f b a = if p a then g b a else b) : l.foldl f b = (l.filter p).foldl g b := by
  induction l generalizing b with
  | nil => rfl
  | cons x xs ih =>
    rw [List.foldl_cons, h, List.filter_cons]
    cases hp : p x
    · simp only [Bool.false_eq_true, if_false]; exact ih b
    · simp only [if_true, List.foldl_cons]; exact ih _

/-- **`tickWills` publishes exactly the due entries, each once, in the order of the list** -/
theorem tickWills_eq (s : Server) (t : Int) : tickWills s t = (dueWills s t).foldl publishDue (s, []) := by
  unfold tickWills dueWills
  refine foldl_filter_eq _ _ _ _ _ ?_
  intro b a
  by_cases h : t > a.2.expiry
  · simp only [h, if_true, decide_true]
    unfold publishDue
    generalize publishToSubscribers b.1 a.2 = p
    obtain ⟨ps, po⟩ := p
    simp only []
    cases hg : assocGet ps.clients a.1 <;> rfl
  · simp only [h, if_false, decide_false, Bool.false_eq_true]

theorem tickWills_cases {J : Server × List Out → Prop} (s : Server) (t : Int) (start : J (s, []))
    (due : ∀ acc e, e ∈ s.willDelayed → t > e.2.expiry → J acc → J (publishDue acc e)) : J (tickWills s t) := by
  rw [tickWills_eq]
  refine List.foldlRecOn _ _ (motive := J) start (fun acc h e he => ?_)
  have := List.mem_filter.mp he
  exact due acc e this.1 (of_decide_eq_true this.2) h

end Mochi.Broker
