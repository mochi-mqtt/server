import Mochi.Lemmas.PacketRoundtrip
/-!
Round trip of whole packets (on `PacketRoundtrip`): the two packet types with a filter loop, UNSUBSCRIBE and SUBSCRIBE
(including the MQTT 5 subscription-options byte).
-/
namespace Mochi.Codec
open Mochi.Varint

def unsubWire (fs : List Subscription) : Str := fs.flatMap fun s => encodeBytes s.filter

/-- the filter loop of `UnsubscribeDecode`, positioned at the encoded filters that end the buffer -/
theorem unsubscribeFilters_At (buf : Str) (fs : List Subscription) (hfs : ∀ s ∈ fs, wfStr s.filter) :
    ∀ (fuel off : Nat) (acc : List Subscription), fs.length ≤ fuel → At buf off (unsubWire fs) →
      unsubscribeFilters buf fuel off acc = .ok (acc.reverse ++ fs.map fun s => { filter := s.filter }) := by
  induction fs with
  | nil =>
    intro fuel off acc _ h
    have hl := h.length
    simp only [unsubWire, List.flatMap_nil, List.length_nil, Nat.add_zero] at hl
    cases fuel <;> simp [unsubscribeFilters, hl]
  | cons s fs ih =>
    intro fuel off acc hf h
    cases fuel with
    | zero => simp at hf
    | succ fuel =>
      have h0 : At buf off (encodeBytes s.filter ++ unsubWire fs) := by simpa [unsubWire] using h
      have hlt : off < buf.length := Nat.lt_of_not_ge (h0.not_ge (by rw [encodeBytes_length]; omega))
      obtain ⟨o1, e1, h1⟩ := (string_reads h0 (hfs s (by simp))).run
      rw [unsubscribeFilters]
      simp only [hlt, if_true, e1, wrapErr]
      rw [ih (fun x hx => hfs x (by simp [hx])) fuel _ _ (by simpa using hf) h1]
      simp

def unsubscribeBody (pk : Packet) : Str :=
  encodeUint16 pk.packetID ++
    ((if pk.protocolVersion == 5 then propsEncode 10 pk.mods (2 + (unsubWire pk.filters).length) pk.properties else []) ++
     unsubWire pk.filters)

def WFUnsubscribe (pk : Packet) : Prop :=
  WFHeader pk.fixedHeader ∧ pk.packetID ≠ 0 ∧ pk.packetID < 65536 ∧ (∀ s ∈ pk.filters, wfStr s.filter) ∧
  (pk.protocolVersion = 5 →
    WFProps pk.properties ∧ propsBodyLenC 10 pk.mods (2 + (unsubWire pk.filters).length) pk.properties ≤ maxVBI)

/-- an UNSUBSCRIBE transmits topic filters only: every other field of a filter entry is dropped -/
def unsubscribeNorm (pk : Packet) : Packet :=
  { basePacket pk (unsubscribeBody pk) with
    packetID := pk.packetID,
    filters := pk.filters.map fun s => { filter := s.filter },
    properties := if pk.protocolVersion == 5 then
      normProps 10 pk.mods (2 + (unsubWire pk.filters).length) pk.properties else {} }

theorem unsubWire_length_ge (fs : List Subscription) : fs.length ≤ (unsubWire fs).length := by
  induction fs with
  | nil => simp [unsubWire]
  | cons s fs ih => simp [unsubWire, encodeBytes_length] at ih ⊢; omega

theorem C26_unsubscribe_roundtrip (pk : Packet) (ht : pk.fixedHeader.type = 10) (h : WFUnsubscribe pk) :
    RoundTrips pk (unsubscribeBody pk) (unsubscribeNorm pk) := by
  obtain ⟨hh, hid0, hid, hfs, hp⟩ := h
  refine ⟨?_, header_roundtrip _ hh, (decodeBody_unsubscribe pk _ ht).trans ?_⟩
  · rw [encodePacket_unsubscribe pk ht]
    have : (pk.packetID == 0) = false := by simpa using hid0
    simp [unsubscribeEncode, this, withHeader_eq, unsubscribeBody, unsubWire, ht, encodeUint16]
  · unfold unsubscribeDecode
    have h0 : At (unsubscribeBody pk) 0 (encodeUint16 pk.packetID ++ _) := At.zero _
    refine ((u16_reads h0 hid).wrap _).bind fun o1 h1 => ?_
    refine (pkProps_reads _ rfl ht h1 hp).bind fun o2 h2 => ?_
    have hfuel : pk.filters.length ≤ (unsubscribeBody pk).length + 1 := by
      have := unsubWire_length_ge pk.filters
      simp only [unsubscribeBody, List.length_append]; omega
    refine (congrArg (· >>= _) (unsubscribeFilters_At _ pk.filters hfs _ _ [] hfuel h2)).trans (congrArg Except.ok ?_)
    simp [unsubscribeNorm, basePacket]

/-- the subscription-options byte: QoS (0–3 on the wire), No Local, Retain As Published, Retain Handling;
    a table of 64 rows -/
theorem subOpts_roundtrip : ∀ (q rh : Fin 4) (nl rap : Bool),
    let b := q.val % 256 ||| (if nl then 4 else 0) ||| (if rap then 8 else 0) ||| (rh.val * 16) % 256
    b % 4 = q.val ∧ decide (bit b 2 > 0) = nl ∧ decide (bit b 3 > 0) = rap ∧ (b / 16) % 4 = rh.val := by
  decide +kernel

def WFSub (s : Subscription) : Prop := wfStr s.filter ∧ s.qos ≤ 2 ∧ s.rh < 4

instance (s : Subscription) : Decidable (WFSub s) := by unfold WFSub; infer_instance

def subWire1 (ver : Nat) (s : Subscription) : Str :=
  encodeBytes s.filter ++ [if ver == 5 then subEncodeOpts s else s.qos % 256]

def subWire (ver : Nat) (fs : List Subscription) : Str := fs.flatMap (subWire1 ver)

/-- a filter entry as the decoder rebuilds it: below MQTT 5 only filter and QoS are transmitted; the
    `identifier` is the first subscription identifier of the packet's property block (0 if none) -/
def subNorm (ver ident : Nat) (s : Subscription) : Subscription :=
  if ver == 5 then { filter := s.filter, qos := s.qos, noLocal := s.noLocal, rap := s.rap, rh := s.rh, identifier := ident }
  else { filter := s.filter, qos := s.qos, identifier := ident }

theorem subNorm_qos (ver ident : Nat) (s : Subscription) : (subNorm ver ident s).qos = s.qos := by
  unfold subNorm; split <;> rfl

/-- one entry: what the decoder builds from the options byte the encoder wrote -/
theorem subBuilt (ver ident : Nat) (s : Subscription) (hq : s.qos ≤ 2) (hrh : s.rh < 4) :
    { (if ver == 5 then subDecodeOpts { filter := s.filter } (if ver == 5 then subEncodeOpts s else s.qos % 256)
        else { filter := s.filter, qos := if ver == 5 then subEncodeOpts s else s.qos % 256 }) with
      identifier := ident } = subNorm ver ident s := by
  by_cases hv : ver = 5
  · have hv' : (ver == 5) = true := by simpa using hv
    have o := subOpts_roundtrip ⟨s.qos, by omega⟩ ⟨s.rh, hrh⟩ s.noLocal s.rap
    dsimp only at o
    obtain ⟨o1, o2, o3, o4⟩ := o
    simp only [subNorm, hv', if_true, subDecodeOpts, subEncodeOpts, o1, o2, o3, o4]
  · have hv' : (ver == 5) = false := by simpa using hv
    simp [subNorm, hv', show s.qos % 256 = s.qos by omega]

theorem subscribeFilters_At (ver ident : Nat) (buf : Str) (fs : List Subscription) (hfs : ∀ s ∈ fs, WFSub s) :
    ∀ (fuel off : Nat) (acc : List Subscription), fs.length ≤ fuel → At buf off (subWire ver fs) →
      subscribeFilters ver ident buf fuel off acc = .ok (acc.reverse ++ fs.map (subNorm ver ident)) := by
  induction fs with
  | nil =>
    intro fuel off acc _ h
    have hl := h.length
    simp only [subWire, List.flatMap_nil, List.length_nil, Nat.add_zero] at hl
    cases fuel <;> simp [subscribeFilters, hl]
  | cons s fs ih =>
    intro fuel off acc hf h
    cases fuel with
    | zero => simp at hf
    | succ fuel =>
      obtain ⟨hstr, hq, hrh⟩ := hfs s (by simp)
      have h0 : At buf off (encodeBytes s.filter ++ ((if ver == 5 then subEncodeOpts s else s.qos % 256) :: subWire ver fs)) := by
        simpa [subWire, subWire1, List.append_assoc] using h
      have hlt : off < buf.length := Nat.lt_of_not_ge (h0.not_ge (by rw [encodeBytes_length]; omega))
      obtain ⟨o1, e1, h1⟩ := (string_reads h0 hstr).run
      obtain ⟨o2, e2, h2⟩ := (byte_reads h1).run
      have hb := subBuilt ver ident s hq hrh
      rw [subscribeFilters]
      simp only [hlt, if_true, e1, e2, wrapErr, hb]
      -- the test is on the entry's QoS, which `identifier := ident` does not touch
      rw [if_neg (by rw [show _ = s.qos from (congrArg Subscription.qos hb).trans (subNorm_qos ..)]; omega),
        ih (fun x hx => hfs x (by simp [hx])) fuel _ (subNorm ver ident s :: acc) (by simpa using hf) h2]
      simp

def subscribeBody (pk : Packet) : Str :=
  encodeUint16 pk.packetID ++
    ((if pk.protocolVersion == 5 then
        propsEncode 8 pk.mods (2 + (subWire pk.protocolVersion pk.filters).length) pk.properties else []) ++
     subWire pk.protocolVersion pk.filters)

def WFSubscribe (pk : Packet) : Prop :=
  WFHeader pk.fixedHeader ∧ pk.packetID ≠ 0 ∧ pk.packetID < 65536 ∧ (∀ s ∈ pk.filters, WFSub s) ∧
  (pk.protocolVersion = 5 →
    WFProps pk.properties ∧
    propsBodyLenC 8 pk.mods (2 + (subWire pk.protocolVersion pk.filters).length) pk.properties ≤ maxVBI)

def subscribeProps (pk : Packet) : Props :=
  if pk.protocolVersion == 5 then
    normProps 8 pk.mods (2 + (subWire pk.protocolVersion pk.filters).length) pk.properties else {}

def subscribeNorm (pk : Packet) : Packet :=
  { basePacket pk (subscribeBody pk) with
    packetID := pk.packetID,
    properties := subscribeProps pk,
    filters := pk.filters.map (subNorm pk.protocolVersion ((subscribeProps pk).subscriptionIdentifier.headD 0)) }

theorem subWire_length_ge (ver : Nat) (fs : List Subscription) : fs.length ≤ (subWire ver fs).length := by
  induction fs with
  | nil => simp [subWire]
  | cons s fs ih => simp [subWire, subWire1, encodeBytes_length] at ih ⊢; omega

theorem C26_subscribe_roundtrip (pk : Packet) (ht : pk.fixedHeader.type = 8) (h : WFSubscribe pk) :
    RoundTrips pk (subscribeBody pk) (subscribeNorm pk) := by
  obtain ⟨hh, hid0, hid, hfs, hp⟩ := h
  refine ⟨?_, header_roundtrip _ hh, (decodeBody_subscribe pk _ ht).trans ?_⟩
  · rw [encodePacket_subscribe pk ht]
    have : (pk.packetID == 0) = false := by simpa using hid0
    have hw : subWire pk.protocolVersion pk.filters = pk.filters.flatMap (fun s =>
        encodeBytes s.filter ++ [if pk.protocolVersion == 5 then subEncodeOpts s else s.qos % 256]) := rfl
    simp [subscribeEncode, this, withHeader_eq, subscribeBody, hw, ht, encodeUint16]
  · unfold subscribeDecode
    have h0 : At (subscribeBody pk) 0 (encodeUint16 pk.packetID ++ _) := At.zero _
    refine ((u16_reads h0 hid).wrap _).bind fun o1 h1 => ?_
    refine (pkProps_reads _ rfl ht h1 hp).bind fun o2 h2 => ?_
    have hfuel : pk.filters.length ≤ (subscribeBody pk).length + 1 := by
      have := subWire_length_ge pk.protocolVersion pk.filters
      simp only [subscribeBody, List.length_append]; omega
    refine (congrArg (· >>= _) (subscribeFilters_At _ _ _ pk.filters hfs _ _ [] hfuel h2)).trans (congrArg Except.ok ?_)
    simp [subscribeNorm, subscribeProps, basePacket]

end Mochi.Codec
