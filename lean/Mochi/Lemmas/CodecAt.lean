import Mochi.Model.CodecEnc
import Mochi.Lemmas.CodecBounds
import Mochi.Lemmas.Varint
/-!
Cursor view of the decoder helpers: `At buf off tail` says that the bytes of `buf` from offset `off`
on are exactly `tail`.  Every helper, run at such a cursor on what the matching encoder wrote, returns
the value and moves the cursor behind the encoding: `Reads buf t v x` ("`x` returns `v` and a cursor before
`t`"), whose rule of sequence `Reads.bind` walks a decoder's `do` block step by step without offset arithmetic
(`Reads.run` gives the equation where a decoder is written with `match`).  Also: `decodeLength` on an encoded
length, whatever follows.
-/
namespace Mochi.Codec
open Mochi.Varint

/-- well-formedness of a string field -/
def wfStr (s : Str) : Prop := s.length < 65536 ∧ validUTF8 s = true
def wfBin (s : Str) : Prop := s.length < 65536

instance (s : Str) : Decidable (wfStr s) := by unfold wfStr; infer_instance
instance (s : Str) : Decidable (wfBin s) := by unfold wfBin; infer_instance

theorem wfStr_nil : wfStr [] := by decide

/-- the bytes of `buf` from `off` on are `tail` -/
def At (buf : Str) (off : Nat) (tail : Str) : Prop := ∃ pre, buf = pre ++ tail ∧ pre.length = off

theorem At.zero (buf : Str) : At buf 0 buf := ⟨[], by simp, rfl⟩

theorem At.start {buf t : Str} (e : buf = t) : At buf 0 t := e ▸ At.zero buf

theorem At.step {buf : Str} {off : Nat} {a t : Str} (h : At buf off (a ++ t)) : At buf (off + a.length) t := by
  obtain ⟨pre, rfl, rfl⟩ := h
  exact ⟨pre ++ a, by simp, by simp⟩

theorem At.cons {buf : Str} {off : Nat} {x : Nat} {t : Str} (h : At buf off (x :: t)) : At buf (off + 1) t := by
  have : At buf off ([x] ++ t) := by simpa using h
  exact this.step

theorem At.app_nil {buf : Str} {off : Nat} {t : Str} (h : At buf off t) : At buf off (t ++ []) := by
  rwa [List.append_nil]

theorem At.le {buf : Str} {off : Nat} {t : Str} (h : At buf off t) : off ≤ buf.length := by
  obtain ⟨pre, rfl, rfl⟩ := h; simp

theorem At.length {buf : Str} {off : Nat} {t : Str} (h : At buf off t) : buf.length = off + t.length := by
  obtain ⟨pre, rfl, rfl⟩ := h; simp

theorem At.drop {buf : Str} {off : Nat} {t : Str} (h : At buf off t) : buf.drop off = t := by
  obtain ⟨pre, rfl, rfl⟩ := h; simp

theorem At.of_drop {buf : Str} {off : Nat} (h : off ≤ buf.length) : At buf off (buf.drop off) :=
  ⟨buf.take off, by simp, by simp [h]⟩

theorem At.congr {buf : Str} {off : Nat} {t t' : Str} (h : At buf off t) (e : t = t') : At buf off t' := e ▸ h

theorem sliceFrom_At {buf : Str} {off : Nat} {t : Str} (h : At buf off t) : sliceFrom buf off = .ok t := by
  unfold sliceFrom
  simp [h.le, h.drop]

/-! ### reading at a cursor -/

/-- `x` returns `v` and a cursor of `buf` behind which `t` remains: the instance of `Post` (Lemmas/CodecBounds.lean) for
    what an encoder wrote — no error at all -/
def Reads {α} (buf t : Str) (v : α) (x : Dec (α × Nat)) : Prop :=
  Post (fun _ => False) (fun r => r.1 = v ∧ At buf r.2 t) x

theorem Reads.of_eq {α} {buf t : Str} {v : α} {o : Nat} {x : Dec (α × Nat)} (e : x = .ok (v, o)) (h : At buf o t) :
    Reads buf t v x := e ▸ ⟨rfl, h⟩

theorem Reads.run {α} {buf t : Str} {v : α} {x : Dec (α × Nat)} (h : Reads buf t v x) : ∃ o, x = .ok (v, o) ∧ At buf o t := by
  cases x with
  | error e => exact h.elim
  | ok a => obtain ⟨a, o⟩ := a; obtain ⟨e, h⟩ := h; cases e; exact ⟨o, rfl, h⟩

theorem Reads.ret {α} {buf t : Str} {o : Nat} (v : α) (h : At buf o t) : Reads buf t v (pure (v, o)) := ⟨rfl, h⟩

theorem Reads.wrap {α} {buf t : Str} {v : α} {x : Dec (α × Nat)} (n : String) (h : Reads buf t v x) :
    Reads buf t v (wrapErr n x) := Post.wrap n (fun _ h => h) h

/-- the rule of sequence inside a block that itself returns a cursor: what follows a successful read runs on its value,
    at a cursor before `t` -/
theorem Reads.seq {α β} {buf t t' : Str} {v : α} {w : β} {x : Dec (α × Nat)} {f : α × Nat → Dec (β × Nat)}
    (hx : Reads buf t v x) (hf : ∀ o, At buf o t → Reads buf t' w (f (v, o))) : Reads buf t' w (x >>= f) :=
  Post.bind hx fun r hr => by
    obtain ⟨a, o⟩ := r
    obtain ⟨rfl, h⟩ : a = v ∧ _ := hr
    exact hf o h

/-- the rule of sequence for what ends the decoder: the run is the rest of the run -/
theorem Reads.bind {α β} {buf t : Str} {v : α} {x : Dec (α × Nat)} {f : α × Nat → Dec β} {r : Dec β}
    (hx : Reads buf t v x) (hf : ∀ o, At buf o t → f (v, o) = r) : x >>= f = r := by
  obtain ⟨o, rfl, h⟩ := hx.run; exact hf o h

theorem Reads.map {α β} {buf t : Str} {v : α} {w : β} {x : Dec (α × Nat)} {f : α × Nat → β × Nat}
    (h : Reads buf t v x) (hf : ∀ o, f (v, o) = (w, o)) : Reads buf t w (x.map f) := by
  obtain ⟨o, rfl, h'⟩ := h.run; exact .of_eq (congrArg Except.ok (hf o)) h'

/-- the rule of option: a part that encoder and decoder include under the same condition.  `g` says what reading it
    does to the value carried along, with the condition INSIDE the fields it sets: a record-level `if` would block the
    projections that later steps of the decoder test -/
theorem Reads.opt {α} {c : Prop} [Decidable c] {buf a t : Str} {off : Nat} {v0 : α} {x : Dec (α × Nat)} (g : α → α)
    (h : At buf off ((if c then a else []) ++ t)) (hx : c → At buf off (a ++ t) → Reads buf t (g v0) x)
    (h0 : ¬c → g v0 = v0) : Reads buf t (g v0) (if c then x else pure (v0, off)) := by
  by_cases hc : c
  · simp only [if_pos hc] at h ⊢; exact hx hc h
  · simp only [if_neg hc, List.nil_append] at h ⊢; rw [h0 hc]; exact .ret v0 h

theorem getElem?_at (pre l : Str) (i : Nat) : (pre ++ l)[pre.length + i]? = l[i]? := by
  rw [List.getElem?_append_right (Nat.le_add_right _ _), Nat.add_sub_cancel_left]

theorem getElem?_at0 (pre l : Str) : (pre ++ l)[pre.length]? = l[0]? := getElem?_at pre l 0

theorem byte_reads {buf t : Str} {off x : Nat} (h : At buf off (x :: t)) : Reads buf t x (decodeByte buf off) := by
  refine .of_eq ?_ h.cons
  obtain ⟨pre, rfl, rfl⟩ := h
  unfold decodeByte; rw [getElem?_at0]; rfl

theorem byteBool_reads {buf t : Str} {off x : Nat} (h : At buf off (x :: t)) :
    Reads buf t (x % 2 == 1) (decodeByteBool buf off) := by
  refine .of_eq ?_ h.cons
  obtain ⟨pre, rfl, rfl⟩ := h
  unfold decodeByteBool; rw [getElem?_at0]; rfl

theorem u16_reads {buf t : Str} {off v : Nat} (h : At buf off (encodeUint16 v ++ t)) (hv : v < 65536) :
    Reads buf t v (decodeUint16 buf off) := by
  refine .of_eq ?_ (h.step : At buf (off + 2) t)
  have e : v / 256 % 256 * 256 + v % 256 = v := by omega
  have hl := h.length
  obtain ⟨pre, rfl, rfl⟩ := h
  unfold decodeUint16
  rw [if_neg (by rw [hl, List.length_append]; exact Nat.not_lt.mpr (Nat.add_le_add_left (Nat.le_add_right 2 _) _)),
    getElem?_at0, getElem?_at pre _ 1]
  exact congrArg (fun n => Except.ok (n, pre.length + 2)) e

theorem At.step_u32 {buf : Str} {off v : Nat} {t : Str} (h : At buf off (encodeUint32 v ++ t)) : At buf (off + 4) t :=
  h.step

theorem u32_reads {buf t : Str} {off v : Nat} (h : At buf off (encodeUint32 v ++ t)) (hv : v < 4294967296) :
    Reads buf t v (decodeUint32 buf off) := by
  refine .of_eq ?_ h.step_u32
  have e : ((v / 16777216 % 256 * 256 + v / 65536 % 256) * 256 + v / 256 % 256) * 256 + v % 256 = v := by omega
  have hl := h.length
  obtain ⟨pre, rfl, rfl⟩ := h
  unfold decodeUint32
  rw [if_neg (by rw [hl, List.length_append]; exact Nat.not_lt.mpr (Nat.add_le_add_left (Nat.le_add_right 4 _) _)),
    getElem?_at0, getElem?_at pre _ 1, getElem?_at pre _ 2, getElem?_at pre _ 3]
  exact congrArg (fun n => Except.ok (n, pre.length + 4)) e

theorem encodeBytes_length (s : Str) : (encodeBytes s).length = 2 + s.length := by
  simp [encodeBytes, encodeUint16]; omega

theorem bytes_reads {buf s t : Str} {off : Nat} (h : At buf off (encodeBytes s ++ t)) (hs : wfBin s) :
    Reads buf t s (decodeBytes buf off) := by
  have h' : At buf off (encodeUint16 (s.length % 65536) ++ (s ++ t)) := List.append_assoc .. ▸ h
  obtain ⟨o, e, h1⟩ := (u16_reads h' (Nat.mod_lt _ (by decide))).run
  refine .of_eq ?_ h1.step
  unfold decodeBytes
  rw [e, Nat.mod_eq_of_lt hs]
  dsimp only
  rw [if_neg (by rw [h1.length, List.length_append]; omega), h1.drop, List.take_left']
  rfl

theorem string_reads {buf s t : Str} {off : Nat} (h : At buf off (encodeBytes s ++ t)) (hs : wfStr s) :
    Reads buf t s (decodeString buf off) := by
  obtain ⟨o, e, h1⟩ := (bytes_reads h hs.1).run
  refine .of_eq ?_ h1
  unfold decodeString
  rw [e]
  dsimp only
  rw [if_pos hs.2]

/-- the rest of the buffer (payload, reason codes), read by `buf[off:]` -/
theorem slice_bind {β} {buf t : Str} {o : Nat} (h : At buf o t) (f : Str → Dec β) : sliceFrom buf o >>= f = f t := by
  rw [sliceFrom_At h]; rfl

theorem At.not_ge {buf a t : Str} {off : Nat} (h : At buf off (a ++ t)) (ha : 0 < a.length) : ¬ off ≥ buf.length := by
  have := h.length; rw [List.length_append] at this; omega

/-- `DecodeLength` on what `encodeLength` wrote, whatever follows -/
theorem decodeLength_encode_append (n : Nat) (rest : Str) (h : n ≤ maxVBI) :
    decodeLength (encodeLength n ++ rest) = .ok (n, (encodeLength n).length) := by
  have := decodeLoop_encode n 0 0 rest (by omega) (by unfold maxVBI at h; omega) (by omega)
  simpa [decodeLength] using this

theorem encodeLength_length_pos (n : Nat) : 0 < (encodeLength n).length := by
  unfold encodeLength; split <;> simp

end Mochi.Codec
