import Mochi.Model.Codec
/-!
Decoder runs, asserted.  `Post E Q x` says that `x` ends in an error that satisfies `E` or in a value that
satisfies `Q`; its rules are those of the `Dec` monad (`bind`, `wrapErr`, `if`, `map`).  Two instances speak of
EVERY input: `NoPanic` (the error is not a Go panic) and `Within lo hi` (moreover a returned cursor lies between
`lo` and `hi`: no overread); a third, `Reads` (Lemmas/CodecAt.lean), of what an encoder wrote.  The offsets
returned by the decode helpers stay inside the buffer, and none of them panics.
-/
namespace Mochi.Codec
open Mochi.Varint

def Post {α} (E : DErr → Prop) (Q : α → Prop) : Dec α → Prop
  | .ok a => Q a
  | .error e => E e

namespace Post
variable {α β : Type} {E : DErr → Prop} {Q : α → Prop} {R : β → Prop}

theorem ok {a : α} (h : Q a) : Post E Q (.ok a) := h
theorem ret {a : α} (h : Q a) : Post E Q (pure a) := h
theorem error {e : DErr} (h : E e) : Post E Q (.error e) := h

theorem of_ok {x : Dec α} {a : α} (h : Post E Q x) (e : x = .ok a) : Q a := by subst e; exact h
theorem of_error {x : Dec α} {e : DErr} (h : Post E Q x) (he : x = .error e) : E e := by subst he; exact h

theorem bind {x : Dec α} {f : α → Dec β} (hx : Post E Q x) (hf : ∀ a, Q a → Post E R (f a)) : Post E R (x >>= f) := by
  cases x with
  | error e => exact hx
  | ok a => exact hf a hx

theorem mono {Q' : α → Prop} {x : Dec α} (h : Post E Q x) (hq : ∀ a, Q a → Q' a) : Post E Q' x := by
  cases x with
  | error e => exact h
  | ok a => exact hq a h

theorem map {x : Dec α} (g : α → β) (h : Post E (fun a => R (g a)) x) : Post E R (x.map g) := by
  cases x with
  | error e => exact h
  | ok a => exact h

/-- both branches; where a branch needs the test, core's `iteInduction` is the rule -/
theorem ite {c : Prop} [Decidable c] {x y : Dec α} (hx : Post E Q x) (hy : Post E Q y) : Post E Q (if c then x else y) :=
  iteInduction (fun _ => hx) fun _ => hy

/-- `wrapErr` renames a code and keeps a panic: an `E` that does not look at the name of a code passes through -/
theorem wrap {x : Dec α} (n : String) (hE : ∀ c, E (.code c) → E (.code n)) (h : Post E Q x) : Post E Q (wrapErr n x) := by
  cases x with
  | ok a => exact h
  | error e =>
    cases e with
    | panic => exact h
    | code c => exact hE c h

end Post

/-- safety: whatever the input, the error is not a Go panic, and a value satisfies `Q` -/
abbrev Safe {α} (Q : α → Prop) (x : Dec α) : Prop := Post (· ≠ .panic) Q x

abbrev NoPanic {α} (x : Dec α) : Prop := Safe (fun _ => True) x

/-- `x` does not panic, and a cursor it returns lies between `lo` and `hi` -/
abbrev Within {α} (lo hi : Nat) (x : Dec (α × Nat)) : Prop := Safe (fun r => lo ≤ r.2 ∧ r.2 ≤ hi) x

theorem Safe.wrap {α} {Q : α → Prop} {x : Dec α} (n : String) (h : Safe Q x) : Safe Q (wrapErr n x) :=
  Post.wrap n (fun _ _ h => nomatch h) h

theorem Safe.err {α} {Q : α → Prop} (n : String) : Safe Q (err n) := fun h => nomatch h

theorem Safe.ne_panic {α} {Q : α → Prop} {x : Dec α} (h : Safe Q x) : x ≠ .error .panic := fun e => h.of_error e rfl

theorem noPanic_pure {α} (a : α) : NoPanic (pure a : Dec α) := .ret trivial

theorem wrap_ok {α} (n : String) (x : Dec α) (a : α) (h : wrapErr n x = .ok a) : x = .ok a := by
  cases x with
  | ok b => simpa [wrapErr] using h
  | error e => cases e <;> simp [wrapErr, err] at h

theorem decodeByte_within (buf : Str) (off : Nat) : Within (off + 1) buf.length (decodeByte buf off) := by
  unfold decodeByte
  split
  · next b hb => exact .ok ⟨Nat.le_refl _, (List.getElem?_eq_some_iff.mp hb).1⟩
  · exact Safe.err _

theorem decodeByteBool_within (buf : Str) (off : Nat) : Within (off + 1) buf.length (decodeByteBool buf off) := by
  unfold decodeByteBool
  split
  · next b hb => exact .ok ⟨Nat.le_refl _, (List.getElem?_eq_some_iff.mp hb).1⟩
  · exact Safe.err _

theorem decodeUint16_within (buf : Str) (off : Nat) : Within (off + 2) buf.length (decodeUint16 buf off) :=
  iteInduction (fun _ => Safe.err _) fun h => .ok ⟨Nat.le_refl _, Nat.le_of_not_lt h⟩

theorem decodeUint32_within (buf : Str) (off : Nat) : Within (off + 4) buf.length (decodeUint32 buf off) :=
  iteInduction (fun _ => Safe.err _) fun h => .ok ⟨Nat.le_refl _, Nat.le_of_not_lt h⟩

theorem decodeBytes_within (buf : Str) (off : Nat) : Within (off + 2) buf.length (decodeBytes buf off) := by
  unfold decodeBytes
  have hu := decodeUint16_within buf off
  split
  · next e he => exact .error (hu.of_error he)
  · next len next he =>
    have := hu.of_ok he
    exact iteInduction (fun _ => Safe.err _) fun h => .ok ⟨by omega, by omega⟩

theorem decodeString_within (buf : Str) (off : Nat) : Within (off + 2) buf.length (decodeString buf off) := by
  unfold decodeString
  have hb := decodeBytes_within buf off
  split
  · next e he => exact .error (hb.of_error he)
  · next b n he => exact .ite (.ok (hb.of_ok he)) (Safe.err _)

theorem sliceFrom_np (buf : Str) (off : Nat) (h : off ≤ buf.length) : NoPanic (sliceFrom buf off) := by
  unfold sliceFrom; rw [if_pos h]; exact .ok trivial

theorem sliceFrom_ok (buf : Str) (off : Nat) (r : Str) (h : sliceFrom buf off = .ok r) :
    r = buf.drop off ∧ off ≤ buf.length := by
  unfold sliceFrom at h
  split at h
  · injection h with h; exact ⟨h.symm, by assumption⟩
  · simp at h

end Mochi.Codec
