import Mochi.Model.Shutdown
/-! The invariant of the shutdown model (M4b), preserved by every step of every schedule.

`Inv` has three parts, each with its own frame: the wait-group counter against the handlers that are
between `Add` and `Done`; an assertion on the closer's own variables for each of its program points
(`CAt`), which no handler step touches; and for every handler a record `HInv` of what is known of it
relative to the closer's progress.  The steps of a handler and of the closer are built from a few
updates of one handler (`HInv.setPc`, `HInv.stop`, `HInv.say`, …); each of those lemmas names the
conjuncts the update touches and carries the others over. -/
namespace Mochi.Shutdown

/-- an MQTT 5 connection was written DISCONNECT 0x8B, unless its peer had closed it before the broker did -/
def good (h : H) : Prop := h.ver ≥ 5 → Out.disconnect 0x8B ∈ h.out ∨ h.peerClosed = true

theorem good_mono (h h' : H) (hv : h'.ver = h.ver) (ho : ∀ o ∈ h.out, o ∈ h'.out)
    (hp : h.peerClosed = true → h'.peerClosed = true) (hg : good h) : good h' := by
  intro hv5
  rw [hv] at hv5
  rcases hg hv5 with h1 | h1
  · exact Or.inl (ho _ h1)
  · exact Or.inr (hp h1)

theorem closed_of_not_isOpen {h : H} (hop : ¬ h.isOpen = true) : h.stopped = true ∨ h.peerClosed = true := by
  unfold H.isOpen at hop
  cases hs : h.stopped
  · cases hp : h.peerClosed
    · rw [hs, hp] at hop; exact absurd rfl hop
    · exact Or.inr rfl
  · exact Or.inl rfl

theorem good_say (o : Out) {h : H} (hg : good h) : good { h with out := h.out ++ [o] } :=
  good_mono h _ rfl (fun _ ho => List.mem_append_left _ ho) id hg

/-- the closer's program points behind `ClientsWg.Wait()`: those at which the ghost `waitPassed` is set (`Inv.waitLate`);
    at `panicked` the `Wait` has not returned -/
def afterWait : CPc → Bool
  | .hooksStop | .returned => true
  | _ => false

/-- `ClientsWg.Add(1)` has been executed -/
def afterAdd (pc : HPc) : Bool := pc.counted || pc == .finished

/-- what is known of one handler, relative to the closer's progress (`wp` = Wait has returned) -/
structure HInv (order : List Nat) (wp : Bool) (h : H) : Prop where
  /-- `Add` set the ghost to "`Wait` has not returned": past `Add` with the ghost false, `Wait` had returned then -/
  addA : afterAdd h.pc = true → h.addBeforeWait = false → wp = true
  /-- only `Add` sets the ghost -/
  addB : h.addBeforeWait = true → afterAdd h.pc = true
  /-- whoever ran `cl.Stop` (the closer after its DISCONNECT, the handler's own teardown) left the connection `good` -/
  goodS : h.stopped = true → good h
  /-- the read loop returns only on a closed connection -/
  tear : h.pc = .teardown → h.stopped = true ∨ h.peerClosed = true
  /-- the teardown ends with `cl.Stop` -/
  fin : (h.pc = .wgDone ∨ h.pc = .finished) → h.stopped = true
  /-- what the return of `Wait` gives: a handler counted before it has called `Done` -/
  waitF : wp = true → h.addBeforeWait = true → h.pc = .finished
  /-- the key step of C36: registered before the snapshot of a listener that `CloseAll` visits ⇒ counted before `Wait`
      returned.  In the handler `Add` precedes `Clients.Add`; in the closer every snapshot precedes `Wait`. -/
  regAdd : h.regBeforeSnap = true → h.lis ∈ order → h.addBeforeWait = true

namespace HInv
variable {order : List Nat} {wp : Bool} {h : H}

/-- the handler moves from `pc` to `pc'`, on the same side of `Add`, and touches nothing else -/
theorem setPc (hh : HInv order wp h) {pc : HPc} (hpc : h.pc = pc) (pc' : HPc) (hne : pc ≠ .finished)
    (hadd : afterAdd pc' = afterAdd pc)
    (htear : pc' = .teardown → h.stopped = true ∨ h.peerClosed = true)
    (hfin : pc' = .wgDone ∨ pc' = .finished → h.stopped = true) :
    HInv order wp { h with pc := pc' } :=
  { hh with
    addA := fun ha => hh.addA (by rw [hpc, ← hadd]; exact ha)
    addB := fun hb => by rw [hadd, ← hpc]; exact hh.addB hb
    tear := htear
    fin := hfin
    waitF := fun hw hb => absurd (hpc.symm.trans (hh.waitF hw hb)) hne }

/-- `ClientsWg.Add(1)`: the ghost records whether `Wait` had returned -/
theorem wgAdd (hh : HInv order wp h) (hpc : h.pc = .wgAdd) :
    HInv order wp { h with pc := .readConnect, addBeforeWait := !wp } :=
  { hh with
    addA := fun _ hb => by cases wp; exact nomatch hb; rfl
    addB := fun _ => rfl
    tear := nofun
    fin := nofun
    waitF := fun hw hb => by rw [hw] at hb; exact nomatch hb
    -- before `Add` the old ghost is false, so the handler cannot have registered on a listener of `order`
    regAdd := fun hr hl => by have := hh.addB (hh.regAdd hr hl); rw [hpc] at this; exact nomatch this }

/-- `Clients.Add`: the ghost records whether the listener had been enumerated.  A handler that is past
    `Add` with `Wait` not returned at its `Add` is either counted before `Wait` or `Wait` has returned; in
    the second case every listener of `order` has been enumerated (`hall`). -/
theorem clientsAdd (hh : HInv order wp h) (hpc : h.pc = .clientsAdd) (snap : List Nat)
    (hall : wp = true → ∀ l ∈ order, l ∈ snap) :
    HInv order wp
      { h with pc := .connack, registered := true, regBeforeSnap := !snap.contains h.lis } :=
  have hns : (!snap.contains h.lis) = true → h.lis ∉ snap := fun hr hl => by
    rw [List.contains_iff_mem.2 hl] at hr; exact nomatch hr
  { hh.setPc hpc .connack nofun rfl nofun nofun with
    regAdd := fun hr hl => by
      cases hb : h.addBeforeWait
      · exact absurd (hall (hh.addA (by rw [hpc]; rfl) hb) _ hl) (hns hr)
      · rfl }

theorem say (hh : HInv order wp h) (o : Out) : HInv order wp { h with out := h.out ++ [o] } :=
  { hh with goodS := fun hs => good_say o (hh.goodS hs) }

theorem stop (hh : HInv order wp h) (hg : good h) : HInv order wp { h with stopped := true } :=
  { hh with
    goodS := fun _ => hg
    tear := fun _ => Or.inl rfl
    fin := fun _ => rfl }

theorem peerClose (hh : HInv order wp h) : HInv order wp { h with peerClosed := true } :=
  { hh with
    goodS := fun _ _ => Or.inr rfl
    tear := fun _ => Or.inr rfl }

theorem good_of_closed (hh : HInv order wp h) (hc : h.stopped = true ∨ h.peerClosed = true) : good h :=
  hc.elim hh.goodS fun hp _ => Or.inr hp

end HInv

/-- listener `l` is done with: its clients enumerated, `end` set, the net listener closed -/
def closed (s : Sys) (l : Nat) : Prop := l ∈ s.snapshotted ∧ l ∈ s.ended ∧ l ∈ s.netClosed

/-- the assertion on the closer's own variables at each of its program points: every listener of `order`
    is still to do, or the one at hand, or closed -/
def CAt (order : List Nat) (s : Sys) : CPc → Prop
  | .closeDone | .loop => ∀ l ∈ order, l ∈ s.todoL ∨ closed s l
  | .snapshot l => l ∈ s.ended ∧ ∀ l' ∈ order, l' ∈ s.todoL ∨ l' = l ∨ closed s l'
  | .disc l _ | .discStop l _ _ | .closeNet l =>
    (l ∈ s.snapshotted ∧ l ∈ s.ended) ∧ ∀ l' ∈ order, l' ∈ s.todoL ∨ l' = l ∨ closed s l'
  | .wgWait | .wgBlocked | .hooksStop | .returned | .panicked => ∀ l ∈ order, closed s l

structure Inv (order : List Nat) (s : Sys) : Prop where
  count : s.wg = s.hs.countP (fun h => h.pc.counted)
  waitLate : s.waitPassed = afterWait s.cpc
  lists : CAt order s s.cpc
  hinv : ∀ (i : Nat) (h : H), s.hs[i]? = some h → HInv order s.waitPassed h
  /-- the client the closer is about to stop is `good` already -/
  stopG : ∀ (l c : Nat) (todo : List Nat), s.cpc = .discStop l c todo → ∀ h : H, s.hs[c]? = some h → good h

theorem Inv.allClosed {order : List Nat} {s : Sys} (hI : Inv order s) (hw : s.waitPassed = true) :
    ∀ l ∈ order, closed s l := by
  have h1 := hI.waitLate
  have h2 := hI.lists
  rw [hw] at h1
  revert h1 h2
  cases s.cpc <;> first | exact fun _ h => h | exact nofun

theorem inv_start (order : List Nat) (hs : List H)
    (hfresh : ∀ h ∈ hs, h.pc = .endTest ∧ h.registered = false ∧ h.stopped = false ∧ h.regBeforeSnap = false ∧
      h.addBeforeWait = false) : Inv order (start order hs) := by
  refine ⟨?_, rfl, fun l hl => Or.inl hl, ?_, nofun⟩
  · symm
    rw [start, List.countP_eq_zero]
    intro h hh
    rw [(hfresh h hh).1]
    exact nofun
  · intro i h hi
    obtain ⟨h1, h2, h3, h4, h5⟩ := hfresh h (List.mem_iff_getElem?.2 ⟨i, hi⟩)
    have nreg : h.regBeforeSnap ≠ true := by rw [h4]; exact nofun
    have nadd : h.addBeforeWait ≠ true := by rw [h5]; exact nofun
    have nstop : h.stopped ≠ true := by rw [h3]; exact nofun
    exact
      { addA := fun ha => by rw [h1] at ha; exact nomatch ha
        addB := fun hb => absurd hb nadd
        goodS := fun hs => absurd hs nstop
        tear := fun hp => by rw [h1] at hp; exact nomatch hp
        fin := fun hp => by rw [h1] at hp; exact nomatch hp
        waitF := fun _ hb => absurd hb nadd
        regAdd := fun hr => absurd hr nreg }

theorem lt_of_getElem? {α} {l : List α} {i : Nat} {a : α} (h : l[i]? = some a) : i < l.length :=
  (List.getElem?_eq_some_iff.1 h).1

theorem getElem?_set_cases {hs : List H} {i j : Nat} {h' u : H} (hu : (hs.set i h')[j]? = some u) :
    (j = i ∧ u = h') ∨ (j ≠ i ∧ hs[j]? = some u) := by
  rw [List.getElem?_set] at hu
  split at hu
  · rename_i hij
    split at hu
    · exact Or.inl ⟨hij.symm, (Option.some.inj hu).symm⟩
    · exact nomatch hu
  · rename_i hij
    exact Or.inr ⟨fun e => hij e.symm, hu⟩

/-- replacing handler `i` changes the number of counted handlers by the two handlers' own contributions -/
theorem count_set {hs : List H} {i : Nat} {h : H} (hi : hs[i]? = some h) (h' : H) (n : Nat)
    (hc : n + (if h.pc.counted then 1 else 0) = hs.countP (fun h => h.pc.counted) + (if h'.pc.counted then 1 else 0)) :
    n = (hs.set i h').countP (fun h => h.pc.counted) := by
  obtain ⟨hlt, hget⟩ := List.getElem?_eq_some_iff.1 hi
  rw [List.countP_set hlt, hget]
  have : (if h.pc.counted = true then 1 else 0) ≤ hs.countP (fun h => h.pc.counted) := by
    split
    · rename_i hcd
      exact List.countP_pos_iff.2 ⟨h, List.mem_iff_getElem?.2 ⟨i, hi⟩, hcd⟩
    · exact Nat.zero_le _
  omega

/-- a step that rewrites handler `i` and the wait group; nothing of the closer changes.  `waiting` and `released` may
    become anything: `Inv` does not speak of them (they only decide whether a woken `Wait` returns or panics) -/
theorem Inv.setH {order : List Nat} {s : Sys} {i : Nat} {h : H} (hI : Inv order s) (hi : s.hs[i]? = some h)
    (h' : H) (wg' : Nat) (w r : Bool)
    (hc : wg' + (if h.pc.counted then 1 else 0) = s.wg + (if h'.pc.counted then 1 else 0))
    (hg : good h → good h') (hh : HInv order s.waitPassed h') :
    Inv order { s with wg := wg', waiting := w, released := r, hs := s.hs.set i h' } := by
  refine ⟨count_set hi h' wg' (hI.count ▸ hc), hI.waitLate, hI.lists, fun j u hu => ?_, fun l c todo e u hu => ?_⟩
  · rcases getElem?_set_cases hu with ⟨rfl, rfl⟩ | ⟨_, hu⟩
    · exact hh
    · exact hI.hinv j u hu
  · rcases getElem?_set_cases hu with ⟨rfl, rfl⟩ | ⟨_, hu⟩
    · exact hg (hI.stopG l _ todo e h hi)
    · exact hI.stopG l c todo e u hu

theorem inv_stepHandler (order : List Nat) (s : Sys) (i : Nat) (hI : Inv order s) :
    Inv order (stepHandler s i) := by
  unfold stepHandler
  cases hi : s.hs[i]? with
  | none => exact hI
  | some h =>
    dsimp only
    have hh := hI.hinv i h hi
    -- a move from `pc` to `pc'` between `Add` and `Done`, or before `Add`
    have move : ∀ {pc pc' : HPc} (h' : H), h.pc = pc → h'.pc = pc' → pc'.counted = pc.counted → (good h → good h') →
        HInv order s.waitPassed h' → Inv order { s with hs := s.hs.set i h' } :=
      fun h' hpc hpc' hcd hg hh' => hI.setH hi h' s.wg s.waiting s.released (by rw [hpc, hpc', hcd]) hg hh'
    -- `setPc` is told: `pc` is not `finished`; `pc'` is on the same side of `Add`; what is owed when `pc'` is
    -- `teardown`; what is owed when it is `wgDone` or `finished`
    cases hpc : h.pc with
    | endTest => dsimp only; split <;> exact move _ hpc rfl rfl id (hh.setPc hpc _ nofun rfl nofun nofun)
    | dropped => exact hI
    | wgAdd => exact hI.setH hi _ _ _ _ (by rw [hpc]; rfl) id (hh.wgAdd hpc)
    | readConnect =>
      dsimp only
      split
      · rename_i hp
        exact move _ hpc rfl rfl id (hh.setPc hpc _ nofun rfl (fun _ => Or.inr hp) nofun)
      · exact move _ hpc rfl rfl id (hh.setPc hpc _ nofun rfl nofun nofun)
    | auth => exact move _ hpc rfl rfl id (hh.setPc hpc _ nofun rfl nofun nofun)
    | countIncr => exact move _ hpc rfl rfl id (hh.setPc hpc _ nofun rfl nofun nofun)
    | inherit => exact move _ hpc rfl rfl id (hh.setPc hpc _ nofun rfl nofun nofun)
    | clientsAdd =>
      exact move _ hpc rfl rfl id (hh.clientsAdd hpc _ fun hw l hl => (hI.allClosed hw l hl).1)
    | connack =>
      dsimp only
      split
      · exact move _ hpc rfl rfl (good_say _) ((hh.setPc hpc .readLoop nofun rfl nofun nofun).say .connack)
      · rename_i hop
        exact move _ hpc rfl rfl id (hh.setPc hpc _ nofun rfl (fun _ => closed_of_not_isOpen hop) nofun)
    | readLoop =>
      dsimp only
      split
      · exact hI
      · rename_i hop
        exact move _ hpc rfl rfl id (hh.setPc hpc _ nofun rfl (fun _ => closed_of_not_isOpen hop) nofun)
    | teardown =>
      -- `cl.Stop`: what closed the connection before the teardown makes it `good`
      exact move _ hpc rfl rfl id
        ((hh.stop (hh.good_of_closed (hh.tear hpc))).setPc hpc _ nofun rfl nofun fun _ => rfl)
    | wgDone =>
      have hpos : 0 < s.wg := by
        rw [hI.count]
        exact List.countP_pos_iff.2 ⟨h, List.mem_iff_getElem?.2 ⟨i, hi⟩, by rw [hpc]; rfl⟩
      refine hI.setH hi _ _ _ _ ?_ id (hh.setPc hpc _ nofun rfl nofun fun _ => hh.fin (Or.inl hpc))
      rw [hpc]
      exact Nat.sub_add_cancel hpos
    | finished => exact hI

theorem inv_peerClose (order : List Nat) (s : Sys) (i : Nat) (hI : Inv order s) :
    Inv order (peerClose s i) := by
  unfold peerClose
  cases hi : s.hs[i]? with
  | none => exact hI
  | some h =>
    dsimp only
    split
    · exact hI
    · exact hI.setH hi _ s.wg s.waiting s.released rfl (fun _ _ => Or.inr rfl) (hI.hinv i h hi).peerClose

/-- a closer step that rewrites handler `c`, its `pc` unchanged; if it ends about to stop a client, that client is `c` -/
theorem Inv.setC {order : List Nat} {s s' : Sys} {c : Nat} {h : H} (hI : Inv order s) (hi : s.hs[c]? = some h)
    {h' : H} (hhs : s'.hs = s.hs.set c h') (hpc : h'.pc = h.pc) (hwg : s'.wg = s.wg)
    (hwp : s'.waitPassed = s.waitPassed) (hw : s'.waitPassed = afterWait s'.cpc) (hl : CAt order s' s'.cpc)
    (hc : HInv order s.waitPassed h') (hs : ∀ l c' todo, s'.cpc = .discStop l c' todo → c' = c ∧ good h') :
    Inv order s' := by
  refine ⟨?_, hw, hl, fun j u hu => ?_, fun l c' todo e u hu => ?_⟩
  · rw [hwg, hhs]
    exact count_set hi h' s.wg (by rw [hpc, hI.count])
  · rw [hhs] at hu
    rw [hwp]
    rcases getElem?_set_cases hu with ⟨rfl, rfl⟩ | ⟨_, hu⟩
    · exact hc
    · exact hI.hinv j u hu
  · obtain ⟨rfl, hg⟩ := hs l c' todo e
    rw [hhs] at hu
    rcases getElem?_set_cases hu with ⟨_, rfl⟩ | ⟨hne, _⟩
    · exact hg
    · exact absurd rfl hne

theorem Inv.not_counted {order : List Nat} {s : Sys} (hI : Inv order s) (hz : s.wg = 0) {i : Nat} {h : H}
    (hi : s.hs[i]? = some h) : h.pc.counted = false := by
  have := List.countP_eq_zero.1 (hz ▸ hI.count).symm h (List.mem_iff_getElem?.2 ⟨i, hi⟩)
  simpa using this

/-- `Wait` returns: a handler that is past `Add` and not counted has finished -/
theorem HInv.waited {order : List Nat} {wp : Bool} {h : H}
    (hh : HInv order wp h) (hnc : h.pc.counted = false) : HInv order true h :=
  { hh with
    addA := fun _ _ => rfl
    waitF := fun _ hb => by
      have := hh.addB hb
      rw [afterAdd, hnc] at this
      exact eq_of_beq this }

theorem inv_stepCloser (order : List Nat) (s : Sys) (hI : Inv order s) : Inv order (stepCloser s) := by
  have hw := hI.waitLate
  have hL := hI.lists
  have hS := hI.stopG
  unfold stepCloser
  generalize s.cpc = cpc at hw hL hS ⊢
  cases cpc with
  | closeDone => exact ⟨hI.count, hw, hL, hI.hinv, nofun⟩
  | loop =>
    dsimp only
    cases ht : s.todoL with
    | nil =>
      refine ⟨hI.count, hw, fun l hl => (hL l hl).resolve_left ?_, hI.hinv, nofun⟩
      rw [ht]
      exact List.not_mem_nil
    | cons l rest =>
      refine ⟨hI.count, hw, ⟨List.mem_cons_self, fun l' hl' => ?_⟩, hI.hinv, nofun⟩
      rcases hL l' hl' with h | h
      · rw [ht] at h
        exact (List.mem_cons.1 h).elim (fun e => Or.inr (Or.inl e)) Or.inl
      · exact Or.inr (Or.inr ⟨h.1, List.mem_cons_of_mem _ h.2.1, h.2.2⟩)
  | snapshot l =>
    refine ⟨hI.count, hw, ⟨⟨List.mem_cons_self, hL.1⟩, fun l' hl' => ?_⟩, hI.hinv, nofun⟩
    exact (hL.2 l' hl').imp_right (Or.imp_right fun h => ⟨List.mem_cons_of_mem _ h.1, h.2⟩)
  | disc l todo =>
    cases todo with
    | nil => exact ⟨hI.count, hw, hL, hI.hinv, nofun⟩
    | cons c todo =>
      dsimp only
      cases hi : s.hs[c]? with
      | none =>
        refine ⟨hI.count, hw, hL, hI.hinv, fun _ c' _ e u hu => ?_⟩
        obtain ⟨-, rfl, -⟩ := CPc.discStop.inj e
        exact nomatch hi ▸ hu
      | some h =>
        dsimp only
        have hh := hI.hinv c h hi
        split
        · -- the DISCONNECT is written: its code is 0x8B for MQTT 5
          refine hI.setC hi rfl rfl rfl rfl hw hL (hh.say _)
            fun _ _ _ e => ⟨(CPc.discStop.inj e).2.1.symm, fun hv => Or.inl ?_⟩
          have : discCode h.ver = 0x8B := if_pos hv
          rw [this]
          exact List.mem_append_right _ (List.mem_singleton.2 rfl)
        · rename_i hop
          exact hI.setC hi rfl rfl rfl rfl hw hL hh
            fun _ _ _ e => ⟨(CPc.discStop.inj e).2.1.symm, hh.good_of_closed (closed_of_not_isOpen hop)⟩
  | discStop l c todo =>
    dsimp only
    cases hi : s.hs[c]? with
    | none => exact ⟨hI.count, hw, hL, hI.hinv, nofun⟩
    | some h => exact hI.setC hi rfl rfl rfl rfl hw hL ((hI.hinv c h hi).stop (hS l c todo rfl h hi)) nofun
  | closeNet l =>
    refine ⟨hI.count, hw, fun l' hl' => ?_, hI.hinv, nofun⟩
    rcases hL.2 l' hl' with h | h | h
    · exact Or.inl h
    · subst h
      exact Or.inr ⟨hL.1.1, hL.1.2, List.mem_cons_self⟩
    · exact Or.inr ⟨h.1, h.2.1, List.mem_cons_of_mem _ h.2.2⟩
  | wgWait =>
    dsimp only
    split
    · rename_i hz
      exact ⟨hI.count, rfl, hL, fun i h hi => (hI.hinv i h hi).waited (hI.not_counted (eq_of_beq hz) hi), nofun⟩
    · exact ⟨hI.count, hw, hL, hI.hinv, nofun⟩
  | wgBlocked =>
    dsimp only
    split
    · split
      · rename_i hz
        exact ⟨hI.count, rfl, hL, fun i h hi => (hI.hinv i h hi).waited (hI.not_counted (eq_of_beq hz) hi), nofun⟩
      · exact ⟨hI.count, hw, hL, hI.hinv, nofun⟩
    · exact hI
  | hooksStop => exact ⟨hI.count, hw, hL, hI.hinv, nofun⟩
  | returned => exact hI
  | panicked => exact hI

/-- the schedule picks which enumerated client is next: only the closer's list is permuted -/
theorem inv_closerNext (order : List Nat) (s : Sys) (c : Nat) (hI : Inv order s) : Inv order (closerNext s c) := by
  have hw := hI.waitLate
  have hL := hI.lists
  unfold closerNext
  generalize s.cpc = cpc at hw hL ⊢
  cases cpc with
  | disc l todo =>
    dsimp only
    split
    · exact ⟨hI.count, hw, hL, hI.hinv, nofun⟩
    · exact hI
  | _ => exact hI

theorem inv_step (order : List Nat) (s : Sys) (e : Ev) (hI : Inv order s) : Inv order (step s e) := by
  cases e with
  | closerNext c => exact inv_closerNext order s c hI
  | closer => exact inv_stepCloser order s hI
  | handler i => exact inv_stepHandler order s i hI
  | peerClose i => exact inv_peerClose order s i hI

theorem inv_run (order : List Nat) (sched : List Ev) (s : Sys) (hI : Inv order s) : Inv order (run s sched) :=
  sched.foldlRecOn step hI fun s hI e _ => inv_step order s e hI

end Mochi.Shutdown
