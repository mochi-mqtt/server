import Mochi.Lemmas.RecordWalkDefs
import Mochi.Lemmas.BrokerSyncInv
/-!
# The admission of a CONNECT, object by object

What `attachClient` from the admission to the read loop (`admitA`, the CONNACK, the teardown of the handler whose session
was taken over, `admitC`) does to the objects, said once for the properties that follow a session through it (C09: the
record of an exchange and what is resent; C14: the session a CONNECT finds).

`admitA` meets three kinds of object.  The connecting one: `admitA_session` says exactly what becomes of it — session
present is `sp14_present`, the Clients map gets it under the id, and it is untouched unless a session is resumed: then
it has the old object's in-flight records (if there are any) and its subscriptions entered again.  The one the id was
registered for is marked as taken over; every other is what it was (`admitA` delivers nothing).  The later stages keep
what `writeMsg` reads of every object (`LiveEq`), and of the tables and the connecting object what `NewKept` lists
(`admitClient_new`, `Mochi/Lemmas/BrokerSession.lean`).
-/
namespace Mochi.Broker
open Mochi.Topics

/-- what `inheritClientSession` answers: a session is registered under the id, it is not an MQTT 3 clean session,
    and the CONNECT does not ask for Clean Start -/
def sp14_present (s : Server) (k : Connect) : Bool :=
  match assocGet s.clients k.id with
  | some e => !(k.clean || ((getObj s e).clean && decide ((getObj s e).ver < 5)))
  | none => false

theorem sp14_present_eq (s : Server) (k : Connect) : sp14_present s k = (sessionExisted s k.id && !k.clean) := by
  unfold sp14_present sessionExisted
  cases assocGet s.clients k.id with
  | none => rfl
  | some e =>
    show (!(k.clean || ((getObj s e).clean && decide ((getObj s e).ver < 5)))) =
      (!((getObj s e).clean && decide ((getObj s e).ver < 5)) && !k.clean)
    cases k.clean <;> cases ((getObj s e).clean && decide ((getObj s e).ver < 5)) <;> rfl

/-- the subscriptions a resumed session re-creates on the new object: `Subscribe` for every entry of the old
    object's map, in order -/
def sp14_inheritSubs (old : List (Str × Sub)) (init : List (Str × Sub)) : List (Str × Sub) :=
  old.foldl (fun m (fs : Str × Sub) => assocSet m fs.2.filter fs.2) init

/-- object `x`, the Clients map and the capabilities are as they were -/
def OtherKept (x : Nat) (s s' : Server) : Prop :=
  s'.clients = s.clients ∧ s'.caps = s.caps ∧ s'.objs.length = s.objs.length ∧ getObj s' x = getObj s x

theorem OtherKept.walk {x e : Nat} (h : x ≠ e) : ObjWalk e (fun _ _ => True) (OtherKept x) :=
  ⟨fun _ => ⟨rfl, rfl, rfl, rfl⟩,
   fun h g => ⟨g.1.trans h.1, g.2.1.trans h.2.1, g.2.2.1.trans h.2.2.1, g.2.2.2.trans h.2.2.2⟩,
   fun s c _ => ⟨rfl, rfl, setObj_length s e c, getObj_setObj_ne s e x c h⟩, fun _ _ => ⟨rfl, rfl, rfl, rfl⟩,
   fun _ _ => ⟨rfl, rfl, rfl, rfl⟩, fun _ _ => ⟨rfl, rfl, rfl, rfl⟩⟩

/-- `inheritClientSession` re-subscribing the new object `i`: nothing else of it changes -/
theorem subsInherited_obj (i : Nat) (cid : Str) (subs : List (Str × Sub)) : ∀ (s : Server), i < s.objs.length →
    (subsInherited s i cid subs).clients = s.clients ∧ (subsInherited s i cid subs).caps = s.caps ∧
    LiveEq (getObj s i) (getObj (subsInherited s i cid subs) i) ∧
    (getObj (subsInherited s i cid subs) i).inflight = (getObj s i).inflight ∧
    (getObj (subsInherited s i cid subs) i).subs = sp14_inheritSubs subs (getObj s i).subs := by
  induction subs with
  | nil => exact fun s _ => ⟨rfl, rfl, LiveEq.refl _, rfl, rfl⟩
  | cons fs rest ih =>
    intro s hi
    have gi : getObj (subAccepted s i cid fs.2) i = { getObj s i with subs := assocSet (getObj s i).subs fs.2.filter fs.2 } :=
      getObj_setObj_eq _ i _ hi
    obtain ⟨r1, r2, r3, r4, r5⟩ := ih (subAccepted s i cid fs.2) ((setObj_length _ i _).symm ▸ hi)
    rw [gi] at r3 r4 r5
    exact ⟨r1, r2, ⟨r3.isOpen, r3.peerGone, r3.inline, r3.conn, r3.ver⟩, r4, r5⟩

/-- `_x`: of every object `x`, the one stopped or another -/
theorem stopClient_inflight_x (s : Server) (e x : Nat) :
    (getObj (stopClient s e).1 x).inflight = (getObj s x).inflight := by
  unfold stopClient
  exact iteInduction (motive := fun r : Server × List Out => (getObj r.1 x).inflight = (getObj s x).inflight)
    (fun _ => rfl)
    fun _ => getObj_modObj_proj (·.inflight) s e (fun c => { c with isOpen := false, stopped := true }) x fun _ => rfl

/-- the object taken over, disconnected and marked, still holds its records and subscriptions -/
theorem takenOver_keeps (t : Server) (e : Nat) :
    (getObj (takenOver (stopClient t e).1 e) e).inflight = (getObj t e).inflight ∧
    (getObj (takenOver (stopClient t e).1 e) e).subs = (getObj t e).subs := by
  have h1 := stopClient_inflight_x t e e
  have h2 := ((stopClient_quiet t e).obj e).subs
  exact getObj_setObj_ind (P := fun z => z.inflight = (getObj t e).inflight ∧ z.subs = (getObj t e).subs) (stopClient t e).1 e
    { getObj (stopClient t e).1 e with takenOver := true } e ⟨h1, h2⟩ fun _ => ⟨h1, h2⟩

/-- `inheritClientSession` handing the old object's records to the new object `i`: nothing else of it changes -/
theorem inflInherited_obj (s : Server) (i e : Nat) (hi : i < s.objs.length) :
    (inflInherited s i e).clients = s.clients ∧ (inflInherited s i e).caps = s.caps ∧
    i < (inflInherited s i e).objs.length ∧ LiveEq (getObj s i) (getObj (inflInherited s i e) i) ∧
    (getObj (inflInherited s i e) i).inflight =
      (if (getObj s e).inflight.length > 0 then (getObj s e).inflight else (getObj s i).inflight) ∧
    (getObj (inflInherited s i e) i).subs = (getObj s i).subs := by
  unfold inflInherited
  by_cases hpos : (getObj s e).inflight.length > 0
  · rw [if_pos hpos, if_pos hpos]
    refine ⟨rfl, rfl, (setObj_length s i _).symm ▸ hi, ?_⟩
    have g : ∀ f inf, getObj { modObj s i f with info := inf } i = f (getObj s i) := fun f _ => getObj_setObj_eq s i _ hi
    rw [g]
    exact ⟨⟨rfl, rfl, rfl, rfl, rfl⟩, rfl, rfl⟩
  · rw [if_neg hpos, if_neg hpos]
    exact ⟨rfl, rfl, hi, LiveEq.refl _, rfl, rfl⟩

/-- what `admitA t i k`, returning `r`, makes of the session and of the connecting object `i` -/
structure AdmittedSession (t : Server) (i : Nat) (k : Connect) (r : Server × List Out × Bool × Option Nat) : Prop where
  present : r.2.2.1 = sp14_present t k
  clients : r.1.clients = assocSet t.clients k.id i
  caps : r.1.caps = t.caps
  live : LiveEq (getObj t i) (getObj r.1 i)
  /-- no session is resumed: the object is untouched -/
  discarded : sp14_present t k = false → getObj r.1 i = getObj t i
  /-- the session of object `e` is resumed: its in-flight records (if there are any), its subscriptions entered again -/
  resumed : ∀ e, assocGet t.clients k.id = some e → sp14_present t k = true →
    (getObj r.1 i).inflight =
      (if (getObj t e).inflight.length > 0 then (getObj t e).inflight else (getObj t i).inflight) ∧
    (getObj r.1 i).subs = sp14_inheritSubs (getObj t e).subs (getObj t i).subs

theorem admitA_session (t : Server) (i : Nat) (k : Connect) (hi : i < t.objs.length)
    (hne : ∀ e, assocGet t.clients k.id = some e → i ≠ e) : AdmittedSession t i k (admitA t i k) := by
  -- the old object `e` is disconnected, marked, unsubscribed, cleared: object `i` is not looked at
  have old : ∀ e, i ≠ e → ∀ s, OtherKept i s (clearInflights (unsubscribeClient s e) e) := fun e h s =>
    have W := OtherKept.walk h
    W.trans (unsubscribeClient_walk W (fun _ _ => trivial) (fun _ _ _ => ⟨rfl, rfl, rfl, rfl⟩) _)
      (clearInflights_walk SessOps.top W _)
  have s1 : ∀ e, i ≠ e → OtherKept i t (disconnectClient (connCounted t) e 0x8E).1 := fun e h =>
    stopClient_walk (OtherKept.walk h) (fun _ => trivial) (connCounted t)
  refine admitA_cases (Q := AdmittedSession t i k) t i k rfl (fun he => ?_) (fun e _ he e1 hc => ?_)
    (fun e s2 he e2 hc => ?_)
  · have hp : sp14_present t k = false := by unfold sp14_present; rw [he]
    exact ⟨hp.symm, rfl, rfl, LiveEq.refl _, fun _ => rfl, fun e he' => by rw [he] at he'; cases he'⟩
  · subst e1
    have W := OtherKept.walk (hne e he)
    have hp : sp14_present t k = false := by
      unfold sp14_present; rw [he]; exact congrArg (!·) (hc : (_ || (getObj t e).clean && _) = true)
    have g1 := s1 e (hne e he)
    generalize (disconnectClient (connCounted t) e 0x8E).1 = u at g1 ⊢
    have g : OtherKept i t (takenOver (clearInflights (unsubscribeClient u e) e) e) :=
      W.trans (W.trans g1 (old e (hne e he) u)) (W.set _ _ trivial)
    have g4 : getObj (registered (takenOver (clearInflights (unsubscribeClient u e) e) e) k.id i) i = getObj t i :=
      g.2.2.2
    exact ⟨hp.symm, by show assocSet _ _ _ = _; rw [g.1], g.2.1, by rw [g4]; exact LiveEq.refl _, fun _ => g4,
      fun _ _ hp' => by rw [hp] at hp'; cases hp'⟩
  · subst e2
    have W := OtherKept.walk (hne e he)
    have hp : sp14_present t k = true := by
      unfold sp14_present; rw [he]
      exact congrArg (!·) (Bool.eq_false_iff.mpr hc : (_ || (getObj t e).clean && _) = false)
    have g1 := s1 e (hne e he)
    have ex : (getObj (takenOver (disconnectClient (connCounted t) e 0x8E).1 e) e).inflight = (getObj t e).inflight ∧
        (getObj (takenOver (disconnectClient (connCounted t) e 0x8E).1 e) e).subs = (getObj t e).subs :=
      takenOver_keeps (connCounted t) e
    generalize (disconnectClient (connCounted t) e 0x8E).1 = u at g1 ex ⊢
    have g2 : OtherKept i t (takenOver u e) := W.trans g1 (W.set _ _ trivial)
    generalize takenOver u e = s2 at g2 ex ⊢
    obtain ⟨p1, p2, p3, p4, p5, p6⟩ := inflInherited_obj s2 i e (g2.2.2.1 ▸ hi)
    obtain ⟨q1, q2, q3, q4, q5⟩ := subsInherited_obj i k.id (getObj s2 e).subs (inflInherited s2 i e) p3
    have g6 := old e (hne e he) (subsInherited (inflInherited s2 i e) i k.id (getObj s2 e).subs)
    refine ⟨hp.symm, ?_, ((g6.2.1.trans q2).trans p2).trans g2.2.1, ?_, ?_, ?_⟩
    · show assocSet _ _ _ = _
      rw [g6.1, q1, p1, g2.1]
    · show LiveEq _ (getObj (clearInflights _ e) i)
      rw [g6.2.2.2, ← g2.2.2.2]; exact p4.trans q3
    · intro hp'
      rw [hp] at hp'; cases hp'
    · intro e' he' _
      cases he.symm.trans he'
      show (getObj (clearInflights _ e) i).inflight = _ ∧ (getObj (clearInflights _ e) i).subs = _
      rw [g6.2.2.2, q4, q5, p5, p6, ex.1, ex.2, g2.2.2.2]
      exact ⟨rfl, rfl⟩

/-- the two inheritance stages write the connecting object `n` only -/
theorem inflInherited_other {x n : Nat} (h : x ≠ n) (t : Server) (e : Nat) : OtherKept x t (inflInherited t n e) :=
  iteInduction (motive := OtherKept x t) (fun _ => (OtherKept.walk h).setInfl t _ _ trivial)
    fun _ => (OtherKept.walk h).refl t

theorem subsInherited_other {x n : Nat} (h : x ≠ n) (t : Server) (cid : Str) (l : List (Str × Sub)) :
    OtherKept x t (subsInherited t n cid l) :=
  have W := OtherKept.walk h
  List.foldlRecOn l _ (motive := OtherKept x t) (W.refl t) fun b hb _ _ =>
    W.trans hb (W.subsWritten (fun _ _ => trivial) (fun _ _ _ => ⟨rfl, rfl, rfl, rfl⟩) b _ _ _)

/-- an object that is neither the connecting one nor the one registered under the client id is what it was -/
theorem admitA_other (s : Server) (n : Nat) (k : Connect) (x : Nat) (hxn : x ≠ n)
    (hxe : assocGet s.clients k.id ≠ some x) : getObj (admitA s n k).1 x = getObj s x := by
  have W := fun e (he : assocGet s.clients k.id = some e) => OtherKept.walk (x := x) (e := e) fun h => hxe (h ▸ he)
  have Wn := OtherKept.walk hxn
  obtain ⟨b, hb, e⟩ := admitA_tr (.ofState Wn.refl fun h g => Wn.trans h g) s n k ⟨rfl, rfl, rfl, rfl⟩
    (fun t e he => stopClient_walk (W e he) (fun _ => trivial) t)
    (fun t e he => unsubscribeClient_walk (W e he) (fun _ _ => trivial) (fun _ _ _ => ⟨rfl, rfl, rfl, rfl⟩) t)
    (fun t e he => clearInflights_walk SessOps.top (W e he) t) (fun t e he => (W e he).set t _ trivial)
    (fun t e _ => inflInherited_other hxn t e) (fun t l => subsInherited_other hxn t k.id l)
  rw [e]
  exact hb.2.2.2

theorem unsubscribeClient_clients_sv (s : Server) (i : Nat) : (unsubscribeClient s i).clients = s.clients := by
  unfold unsubscribeClient
  extract_lets +onlyGivenNames c s1
  split
  · rfl
  · refine foldl_inv (fun (x : Server) => x.clients = s.clients) _ _ _ rfl ?_
    intro b a h
    exact h

/-- `Clients.Add`: nothing before it touches the session map -/
theorem admitA_clients (s : Server) (n : Nat) (k : Connect) : (admitA s n k).1.clients = assocSet s.clients k.id n := by
  obtain ⟨b, hb, e⟩ := admitA_tr (.ofState (R := fun a b : Server => b.clients = a.clients) (fun _ => rfl)
    fun h g => g.trans h) s n k rfl
    (fun t e _ => (disconnectClient_quiet t e 0x8E).clients) (fun t e _ => unsubscribeClient_clients_sv t e)
    (fun _ _ _ => rfl) (fun _ _ _ => rfl)
    (fun t e _ => iteInduction (motive := fun z : Server => z.clients = t.clients) (fun _ => rfl) fun _ => rfl)
    (fun t l => List.foldlRecOn l _ (motive := fun z : Server => z.clients = t.clients) rfl fun _ hb _ _ => hb)
  rw [e]
  exact congrArg (assocSet · k.id n) hb

/-- the object the client id was registered for is marked as taken over -/
theorem admitA_marked (s : Server) (n : Nat) (k : Connect) (e : Nat) (he : assocGet s.clients k.id = some e)
    (hne : n ≠ e) (hel : e < s.objs.length) : (getObj (admitA s n k).1 e).takenOver = true := by
  have flag : ∀ t : Server, t.objs.length = s.objs.length → (getObj (takenOver t e) e).takenOver = true := fun t h =>
    congrArg Client.takenOver (getObj_setObj_eq t e { getObj t e with takenOver := true } (h ▸ hel))
  -- the clean-up of the old object keeps the mark; the inheritance writes the new object only
  have hc : ∀ t, (getObj (clearInflights t e) e).takenOver = (getObj t e).takenOver := fun t =>
    ((clearInflights_quiet t e).obj e).takenOver
  have hu : ∀ t, (getObj (unsubscribeClient t e) e).takenOver = (getObj t e).takenOver := fun t => by
    rw [getObj_of_objs_eq (unsubscribeClient_objs t e)]
    exact getObj_setObj_proj (·.takenOver) t e _ rfl
  have hi : ∀ t l, getObj (subsInherited (inflInherited t n e) n k.id l) e = getObj t e := fun t l =>
    ((OtherKept.walk (Ne.symm hne)).trans (inflInherited_other (Ne.symm hne) t e)
      (subsInherited_other (Ne.symm hne) _ k.id l)).2.2.2
  have l1 := (disconnectClient_frame (connCounted s) e 0x8E).len
  refine admitA_cases (Q := fun r => (getObj r.1 e).takenOver = true) s n k rfl (fun h => nomatch he.symm.trans h)
    (fun e' t he' h1 _ => ?_) (fun e' t he' h2 _ => ?_)
  all_goals cases Option.some.inj (he.symm.trans he')
  · exact flag _ (((clearInflights_frame _ e).len.trans (unsubscribeClient_frame _ e).len).trans (h1 ▸ l1))
  · exact ((hc _).trans ((hu _).trans (congrArg Client.takenOver (hi t _)))).trans (h2 ▸ flag _ l1)

/-! ### the rest of `attachClient`, for the connecting object -/

theorem admitConnack_exact (s : Server) (n conn : Nat) (present : Bool) (x : Nat) :
    LiveEq (getObj s x) (getObj (admitConnack s n conn present).1 x) ∧
    (getObj (admitConnack s n conn present).1 x).inflight = (getObj s x).inflight :=
  admitConnack_cases (Q := fun r => LiveEq (getObj s x) (getObj r.1 x) ∧ (getObj r.1 x).inflight = (getObj s x).inflight)
    s n conn present
    (fun _ => ⟨⟨getObj_modObj_proj (·.isOpen) s n _ x fun _ => rfl, getObj_modObj_proj (·.peerGone) s n _ x fun _ => rfl,
      getObj_modObj_proj (·.inline) s n _ x fun _ => rfl, getObj_modObj_proj (·.conn) s n _ x fun _ => rfl,
      getObj_modObj_proj (·.ver) s n _ x fun _ => rfl⟩, getObj_modObj_proj (·.inflight) s n _ x fun _ => rfl⟩)
    fun _ => ⟨LiveEq.refl _, rfl⟩

theorem admitC_live (s : Server) (i : Nat) (k : Connect) (present : Bool) (x : Nat) :
    LiveEq (getObj s x) (getObj (admitC s i k present).1 x) := by
  -- a record dropped from object `i` leaves what `writeMsg` reads of every object
  have gone : ∀ (u : Server) id, LiveEq (getObj u x) (getObj (recordGone u i id (fun c => c)) x) := fun u id => by
    show LiveEq _ (getObj (setObj u i _) x)
    exact getObj_setObj_ind u i _ x (LiveEq.refl _) fun e => e ▸ ⟨rfl, rfl, rfl, rfl, rfl⟩
  exact admitC_cases (J := fun r => LiveEq (getObj s x) (getObj r.1 x)) s i k present (LiveEq.refl _) (fun acc m h =>
    iteInduction (motive := fun z : Server => LiveEq (getObj s x) (getObj z x)) (fun _ => h.trans (gone acc.1 m.id))
      (fun _ => h))

/-- what the stages after `Clients.Add` keep of the tables and of the connecting object `i` -/
structure NewKept (i : Nat) (s s' : Server) : Prop where
  clients : s'.clients = s.clients
  caps : s'.caps = s.caps
  connOf : s'.connOf = s.connOf
  live : LiveEq (getObj s i) (getObj s' i)
  subs : (getObj s' i).subs = (getObj s i).subs

theorem NewKept.refl (i : Nat) (s : Server) : NewKept i s s := ⟨rfl, rfl, rfl, LiveEq.refl _, rfl⟩
theorem NewKept.trans {i : Nat} {s s1 s2 : Server} (h : NewKept i s s1) (g : NewKept i s1 s2) : NewKept i s s2 :=
  ⟨g.clients.trans h.clients, g.caps.trans h.caps, g.connOf.trans h.connOf, h.live.trans g.live, g.subs.trans h.subs⟩

end Mochi.Broker
