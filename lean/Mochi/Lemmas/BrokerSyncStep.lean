import Mochi.Lemmas.BrokerSyncInv
/-!
# The invariant `SyncInv` through connecting, ticks and the schedule ops

A CONNECT creates its object before the session is registered: from `connState` to `registered` the invariant holds with
the new object exempted (`SyncInvX (· = new)`, `connState_facts`), and `connect_inv` / `admitClient_inv` close the
exemption.  The schedule ops only move handlers between the two lists of parked handlers: `SyncInv.relist` is the one
rule for who may enter them.  The loop of `clearExpiredClients` is carried with the entries not yet visited in view
(`tickClients_rest`): a session that ends must still be registered, its object untouched.
-/
namespace Mochi.Broker
open Mochi.Topics

/-! ### connecting -/

/-- the handler of the live session `admitA` reports as taken over is torn down, in a state `c` that answering the
    CONNECT has led to -/
theorem tookOverDown_inv {s c : Server} {i : Nat} {k : Connect} (h : SyncInvX (· = i) s) (hw : WF s)
    (a1 : SyncInv (admitA s i k).1) (l1 : Lst s (admitA s i k).1)
    (t1 : ∀ e, assocGet s.clients k.id = some e → (getObj (admitA s i k).1 e).takenOver = true)
    (q : Quiet (admitA s i k).1 c) (w : WF c) :
    SyncInv (tookOverDown c (admitA s i k).2.2.2).1 ∧ Lst c (tookOverDown c (admitA s i k).2.2.2).1 := by
  cases hx : (admitA s i k).2.2.2 with
  | none => exact ⟨a1.of_quiet q, Lst.refl _⟩
  | some e =>
    obtain ⟨e1, e2, e3, _⟩ := admitA_exLive s i k e hx
    refine ⟨detach_inv (a1.of_quiet q) w e ?_ true (fun x => by cases x) ?_ ?_
      (Or.inl (by rw [(q.obj e).takenOver]; exact t1 e e1)), detach_lst c e true⟩
    · rw [q.len, (admitA_keep s i k).len]; exact (hw.clients_valid k.id e (assocGet_mem _ _ _ e1)).1
    · rw [q.parked, l1.parked]; exact fun hm => by rw [h.parkedStopped e hm] at e2; cases e2
    · rw [q.parkedEarly, l1.parkedEarly]; exact e3

theorem admitClient_inv {s : Server} {i conn : Nat} {k : Connect} (h : SyncInvX (· = i) s) (hw : WF s)
    (hi : i < s.objs.length) (hid : (getObj s i).id = k.id) (hunreg : ∀ c, assocGet s.clients c ≠ some i)
    (hpi : ∀ p ∈ s.pending, p.obj ≠ i) (hto : (getObj s i).takenOver = false)
    (hsubs : (getObj s i).subs = []) :
    SyncInv (admitClient s i conn k).1 ∧ Lst s (admitClient s i conn k).1 ∧
      (k.clean = true → (getObj (admitClient s i conn k).1 i).subs = (getObj s i).subs) := by
  obtain ⟨a1, l1, t1, c1⟩ := admitA_inv (k := k) h hw hi hid hunreg hpi hto hsubs
  have q2 := admitConnack_quiet (admitA s i k).1 i conn (admitA s i k).2.2.1
  have w2 := admitConnack_wf _ i conn (admitA s i k).2.2.1 (admitA_wf s i k hw hi hid)
  rw [admitClient_eq s i conn k rfl rfl rfl]
  generalize admitConnack (admitA s i k).1 i conn (admitA s i k).2.2.1 = c at q2 w2 ⊢
  obtain ⟨a3, l3⟩ := tookOverDown_inv h hw a1 l1 t1 q2 w2
  have s3 : (getObj (tookOverDown c.1 (admitA s i k).2.2.2).1 i).subs = (getObj c.1 i).subs := by
    cases hx : (admitA s i k).2.2.2 with
    | none => rfl
    | some e =>
      exact (detach_isolation c.1 e i true fun x => hunreg k.id (x ▸ (admitA_exLive s i k e hx).1)).subs.symm
  have q4 := admitC_quiet (tookOverDown c.1 (admitA s i k).2.2.2).1 i k (admitA s i k).2.2.1
  refine ⟨a3.of_quiet q4, ((l1.trans q2.lst).trans l3).trans q4.lst, fun hcl => ?_⟩
  rw [(q4.obj i).subs, s3, (q2.obj i).subs]
  exact c1 hcl

/-- a new client object and its connection-table entry -/
theorem SyncInv.addObj {s : Server} (h : SyncInv s) (hw : WF s) (c : Client) (conn : Nat)
    (hsubs : c.subs = []) (hto : c.takenOver = false) (hop : c.isOpen = true) (hst : c.stopped = false) :
    SyncInvX (· = s.objs.length)
      { s with objs := s.objs ++ [c], connOf := s.connOf ++ [(conn, s.objs.length)] } := by
  have hlt : ∀ k, k < s.objs.length →
      getObj { s with objs := s.objs ++ [c], connOf := s.connOf ++ [(conn, s.objs.length)] } k = getObj s k :=
    fun k hk => getObj_append_lt (s := s) rfl k hk
  have heq : getObj { s with objs := s.objs ++ [c], connOf := s.connOf ++ [(conn, s.objs.length)] } s.objs.length = c :=
    getObj_append_eq (s := s) rfl
  have hgt : ∀ k, s.objs.length < k →
      getObj { s with objs := s.objs ++ [c], connOf := s.connOf ++ [(conn, s.objs.length)] } k = getObj s k := by
    intro k hk
    simp only [getObj, List.getD_eq_getElem?_getD]
    rw [List.getElem?_eq_none (by simp; omega), List.getElem?_eq_none (by omega)]
  have hcases : ∀ k, k = s.objs.length ∨
      getObj { s with objs := s.objs ++ [c], connOf := s.connOf ++ [(conn, s.objs.length)] } k = getObj s k := by
    intro k
    rcases Nat.lt_trichotomy k s.objs.length with hk | hk | hk
    · exact Or.inr (hlt k hk)
    · exact Or.inl hk
    · exact Or.inr (hgt k hk)
  have hlen : (s.objs ++ [c]).length = s.objs.length + 1 := by simp
  have hreglt : ∀ cid j, assocGet s.clients cid = some j → j < s.objs.length :=
    fun cid j hj => (hw.clients_valid cid j (assocGet_mem _ _ _ hj)).1
  refine ⟨h.idx, ?_, ?_, ?_, ?_, ?_, ?_, ?_, ?_, h.disj, ?_, h.pendFree, ?_, h.pendNodup, ?_⟩
  · intro cid f hcf
    obtain ⟨j, hj, hf⟩ := h.own cid f hcf
    exact ⟨j, hj, by rw [hlt j (hreglt cid j hj)]; exact hf⟩
  · intro cid j hj f hf hs
    rw [hlt j (hreglt cid j hj)] at hf
    exact h.ownB cid j hj f hf hs
  · intro k
    rcases hcases k with rfl | e
    · rw [heq]; intro fs hfs; rw [hsubs] at hfs; cases hfs
    · rw [e]; exact h.key k
  · intro k
    rcases hcases k with rfl | e
    · rw [heq, hop, hst]; rfl
    · rw [e]; exact h.os k
  · intro k hk
    rcases hcases k with rfl | e
    · rw [heq, hto] at hk; cases hk
    · rw [e] at hk ⊢; exact h.ts k hk
  · intro k hk ha ht hx hs1
    have hk' : k < s.objs.length := by
      rw [hlen] at hk
      have : k ≠ s.objs.length := hx
      omega
    rw [hlt k hk'] at ht ⊢
    refine h.reg k hk' ?_ ht (fun x => x) hs1
    rcases ha with ha | ha | ha
    · rw [hlt k hk'] at ha; exact Or.inl ha
    · exact Or.inr (Or.inl ha)
    · exact Or.inr (Or.inr ha)
  · intro cid j hj
    rw [hlt j (hreglt cid j hj)]; exact h.regTO cid j hj
  · intro k hk
    have := h.parkedLt k hk
    rw [hlen]; omega
  · intro k hk
    rw [hlt k (h.parkedLt k (Or.inl hk))]; exact h.parkedStopped k hk
  · intro p hp h1
    refine ⟨(h.st1 p hp h1).1, ?_⟩
    rw [hlt p.obj (hw.pending_valid p hp).1]; exact (h.st1 p hp h1).2
  · intro p hp
    rw [assocGet_append, h.pendConn p hp]; rfl

/-- a handler refused before `Clients.Add` stops its object: the exemption is no longer needed -/
theorem SyncInvX.refused {s : Server} {i : Nat} (h : SyncInvX (· = i) s) (hi : i < s.objs.length)
    (hnpk : i ∉ s.parked) (hnpe : i ∉ s.parkedEarly) : SyncInv (stopClient s i).1 := by
  have q := stopClient_quiet s i
  refine (h.of_quiet q).weaken fun k' _ hx _ ha _ _ => ?_
  cases (hx : k' = i)
  rcases ha with ha | ha | ha
  · rw [stopClient_stopped s _ hi] at ha; cases ha
  · exact absurd (q.parked ▸ ha) hnpk
  · exact absurd (q.parkedEarly ▸ ha) hnpe

/-- the state in which the new client object is entered (`connState`), `s.objs.length` the new object: what `connect`
    and `connectHold` start from -/
structure ConnStateFacts (s : Server) (conn : Nat) (k : Connect) : Prop where
  wf : WF (connState s conn k)
  inv : SyncInvX (· = s.objs.length) (connState s conn k)
  lt : s.objs.length < (connState s conn k).objs.length
  new : getObj (connState s conn k) s.objs.length = parseConnect s conn k
  notParked : s.objs.length ∉ s.parked
  notEarly : s.objs.length ∉ s.parkedEarly
  unreg : ∀ cid, assocGet s.clients cid ≠ some s.objs.length
  notPending : ∀ p ∈ s.pending, p.obj ≠ s.objs.length

theorem connState_facts {s : Server} (h : SyncInv s) (hw : WF s) (conn : Nat) (k : Connect)
    (hf : conn ∉ s.connOf.map (·.1)) : ConnStateFacts s conn k :=
  ⟨hw.addObj _ conn (parseConnect_wf s conn k) hf, h.addObj hw _ conn rfl rfl rfl rfl,
    connState_lt s conn k, getObj_connState_new s conn k,
    fun hm => Nat.lt_irrefl _ (h.parkedLt _ (Or.inl hm)), fun hm => Nat.lt_irrefl _ (h.parkedLt _ (Or.inr hm)),
    fun cid hc => Nat.lt_irrefl _ (hw.clients_valid cid _ (assocGet_mem _ _ _ hc)).1,
    fun p hp e => Nat.lt_irrefl _ (e ▸ (hw.pending_valid p hp).1)⟩

/-- what `connect s conn k`, returning `r`, keeps: the invariant, the lists of parked handlers and of pending
    handlers; the new connection is entered; a Clean Start leaves the new object without subscriptions (C14) -/
structure ConnectKept (s : Server) (conn : Nat) (k : Connect) (r : Server × List Out) : Prop where
  inv : SyncInv r.1
  lst : Lst s r.1
  pending : r.1.pending = s.pending
  connOf : r.1.connOf = s.connOf ++ [(conn, s.objs.length)]
  cleanSubs : k.clean = true → (getObj r.1 s.objs.length).subs = []

theorem connect_inv {s : Server} (h : SyncInv s) (hw : WF s) (conn : Nat) (k : Connect)
    (hf : conn ∉ s.connOf.map (·.1)) : ConnectKept s conn k (connect s conn k) := by
  have F := connState_facts h hw conn k hf
  refine connect_cases (Q := ConnectKept s conn k) s conn k (fun _ _ e _ => ?_) (fun _ e _ => ?_)
  · subst e
    have q2 := stopClient_quiet (connState s conn k) s.objs.length
    exact ⟨F.inv.refused F.lt F.notParked F.notEarly, ⟨q2.parked, q2.parkedEarly⟩, q2.pending, q2.connOf,
      fun _ => (q2.obj _).subs.trans (by rw [F.new]; rfl)⟩
  · subst e
    obtain ⟨a, l, cs⟩ := admitClient_inv (conn := conn) (k := k) F.inv F.wf F.lt (by rw [F.new]; rfl) F.unreg
      F.notPending (by rw [F.new]; rfl) (by rw [F.new]; rfl)
    have kp := (admitClient_wf (connState s conn k) s.objs.length conn k F.wf F.lt (by rw [F.new]; rfl)).2
    exact ⟨a, ⟨l.parked, l.parkedEarly⟩, kp.pending, kp.connOf, fun hcl => (cs hcl).trans (by rw [F.new]; rfl)⟩

/-! ### `clearExpiredClients` -/

theorem unsubscribeClient_caps (s : Server) (i : Nat) : (unsubscribeClient s i).caps = s.caps :=
  unsubscribeClient_walk (ObjWalk.proj Server.caps i (fun _ _ => rfl) (fun _ _ => rfl) (fun _ _ => rfl))
    (fun _ _ => trivial) (fun _ _ _ => rfl) s

theorem cleanup_getObj_ne (s : Server) (i k : Nat) (h : k ≠ i) :
    getObj (unsubscribeClient (clearInflights s i) i) k = getObj s k := by
  rw [getObj_of_objs_eq (unsubscribeClient_objs (clearInflights s i) i) k,
    getObj_setObj_ne (clearInflights s i) i k _ h]
  unfold clearInflights
  exact getObj_setObj_ne s i k _ h

theorem tickClients_inv {s : Server} (h : SyncInv s) (hw : WF s) (dt : Int)
    (hR : ∀ e ∈ s.clients, sessionDue s.caps (getObj s e.2) dt = true → e.2 ∉ s.parked ∧ e.2 ∉ s.parkedEarly) :
    SyncInv (tickClients s dt).1 := by
  -- carried along: an entry `l` has not reached is still registered, its object what it was in `s`
  let J : List (Str × Nat) → Server × List Out → Prop := fun l acc =>
    SyncInv acc.1 ∧ WF acc.1 ∧ Lst s acc.1 ∧ acc.1.caps = s.caps ∧
    (∀ e ∈ l, e ∈ s.clients ∧ e ∈ acc.1.clients ∧ getObj acc.1 e.2 = getObj s e.2) ∧ (l.map (·.1)).Nodup
  refine (tickClients_rest (J := J) s dt ⟨h, hw, Lst.refl s, rfl, fun e he => ⟨he, he, rfl⟩, hw.clients_nodup⟩
    (fun acc e0 rest ⟨ha, hwa, hl, hcaps, hsub, hnd⟩ hdue => ?_)
    (fun acc e0 rest ⟨ha, hwa, hl, hcaps, hsub, hnd⟩ _ =>
      ⟨ha, hwa, hl, hcaps, fun e he => hsub e (List.mem_cons_of_mem _ he), (List.nodup_cons.mp hnd).2⟩)).1
  rw [List.map_cons, List.nodup_cons] at hnd
  obtain ⟨h0s, h0a, h0o⟩ := hsub e0 List.mem_cons_self
  obtain ⟨hi, hid⟩ := hwa.clients_valid e0.1 e0.2 h0a
  have hreg0 : assocGet acc.1.clients e0.1 = some e0.2 := assocGet_of_mem _ _ _ hwa.clients_nodup h0a
  have hreg : assocGet acc.1.clients (getObj acc.1 e0.2).id = some e0.2 := by rw [hid]; exact hreg0
  have hdue' : sessionDue s.caps (getObj s e0.2) dt = true := by rw [← hcaps, ← h0o]; exact hdue
  obtain ⟨hnp, hne⟩ := hR e0 h0s hdue'
  have q3 := clearInflights_quiet acc.1 e0.2
  have l4 := unsubscribeClient_lst (clearInflights acc.1 e0.2) e0.2
  have hto : (getObj (clearInflights acc.1 e0.2) e0.2).takenOver = false := by
    rw [(q3.obj e0.2).takenOver]; exact ha.regTO e0.1 e0.2 hreg0
  have hcl : (unsubscribeClient (clearInflights acc.1 e0.2) e0.2).clients = acc.1.clients :=
    (unsubscribeClient_own _ e0.2 hto).clients.trans q3.clients
  refine ⟨?_, ?_, ?_, ?_, fun e he => ?_, hnd.2⟩
  · have := ha.cleanup hwa e0.2 hi ((Bool.and_eq_true _ _).mp hdue).1 (by rw [hl.parked]; exact hnp)
      (by rw [hl.parkedEarly]; exact hne) hreg
    rw [hid] at this
    exact this
  · exact (((hwa.of_good (clearInflights_good acc.1 e0.2)).of_good (unsubscribeClient_good _ e0.2)).of_good
      ((Good.refl _).delClient _))
  · exact ⟨(l4.parked.trans q3.parked).trans hl.parked, (l4.parkedEarly.trans q3.parkedEarly).trans hl.parkedEarly⟩
  · exact (unsubscribeClient_caps _ _).trans (q3.caps.trans hcaps)
  · obtain ⟨hes, hea, heo⟩ := hsub e (List.mem_cons_of_mem _ he)
    have hk : e.1 ≠ e0.1 := fun x => hnd.1 (x ▸ List.mem_map.mpr ⟨e, he, rfl⟩)
    have hobj : e.2 ≠ e0.2 := fun x =>
      hk (((x ▸ (hwa.clients_valid e.1 e.2 hea).2 : (getObj acc.1 e0.2).id = e.1)).symm.trans hid)
    refine ⟨hes, ?_, (cleanup_getObj_ne acc.1 e0.2 e.2 hobj).trans heo⟩
    show e ∈ assocDel (unsubscribeClient (clearInflights acc.1 e0.2) e0.2).clients e0.1
    rw [hcl]
    exact List.mem_filter.mpr ⟨hea, by simpa using hk⟩

/-! ### the schedule ops: parking and releasing handlers -/

/-- `dropHold`, `dropHoldEarly`, `release` of a parked handler: the two lists of parked handlers are replaced.  Every
    member was there before, or is — `parked` — the stopped object of a handler no schedule op holds, still the
    registered one unless taken over, or — `parkedEarly` — a live object of such a handler. -/
theorem SyncInv.relist {s : Server} (h : SyncInv s) (P E : List Nat)
    (hP : ∀ k ∈ P, k ∈ s.parked ∨ (k < s.objs.length ∧ (getObj s k).stopped = true ∧ Free s k ∧
      ((getObj s k).takenOver = true ∨ assocGet s.clients (getObj s k).id = some k)))
    (hE : ∀ k ∈ E, k ∈ s.parkedEarly ∨ (k < s.objs.length ∧ (getObj s k).stopped = false ∧ Free s k)) :
    SyncInv { s with parked := P, parkedEarly := E } := by
  refine ⟨h.idx, h.own, h.ownB, h.key, h.os, h.ts, ?_, h.regTO, ?_, ?_, ?_, ?_, h.st1, h.pendNodup, h.pendConn⟩
  · intro k hk ha ht hx hs1
    replace ht : (getObj s k).takenOver = false := ht
    rcases ha with ha | ha | ha
    · exact h.reg k hk (Or.inl ha) ht hx hs1
    · rcases hP k ha with x | ⟨_, _, _, x | x⟩
      · exact h.reg k hk (Or.inr (Or.inl x)) ht hx hs1
      · rw [x] at ht; cases ht
      · exact x
    · rcases hE k ha with x | ⟨_, x, _⟩
      · exact h.reg k hk (Or.inr (Or.inr x)) ht hx hs1
      · exact h.reg k hk (Or.inl x) ht hx hs1
  · rintro k (hk | hk)
    · exact (hP k hk).elim (fun x => h.parkedLt k (Or.inl x)) (·.1)
    · exact (hE k hk).elim (fun x => h.parkedLt k (Or.inr x)) (·.1)
  · -- a new member of one list is not in the other: it was `Free`, and stopped for one list, live for the other
    intro k hk hm
    rcases hP k hk with x | ⟨_, x, fx, _⟩ <;> rcases hE k hm with y | ⟨_, y, fy⟩
    · exact h.disj k x y
    · exact fy.1 x
    · exact fx.2.1 y
    · rw [x] at y; cases y
  · exact fun k hk => (hP k hk).elim (h.parkedStopped k) (·.2.1)
  · intro p hp
    exact ⟨fun hm => (hP _ hm).elim (h.pendFree p hp).1 fun x => x.2.2.1.2.2 p hp rfl,
      fun hm => (hE _ hm).elim (h.pendFree p hp).2 fun x => x.2.2.2.2 p hp rfl⟩

/-- a handler is parked inside `attachClient` -/
theorem SyncInvX.addPending {X : Nat → Prop} {s : Server} (h : SyncInvX X s) (p : Pending)
    (hX : ∀ k, X k → p.stage = 1 ∧ p.obj = k)
    (hnew : p.obj ∉ s.pending.map (·.obj)) (hnp : p.obj ∉ s.parked) (hne : p.obj ∉ s.parkedEarly)
    (hconn : assocGet s.connOf p.conn = some p.obj)
    (h1 : p.stage = 1 → (∀ c, assocGet s.clients c ≠ some p.obj) ∧ (getObj s p.obj).takenOver = false ∧
      (getObj s p.obj).subs = []) :
    SyncInv { s with pending := s.pending ++ [p] } := by
  refine ⟨h.idx, h.own, h.ownB, h.key, h.os, h.ts, ?_, h.regTO, h.parkedLt, h.disj, h.parkedStopped, ?_, ?_, ?_, ?_⟩
  · intro k hk ha ht _ hs1
    refine h.reg k hk ha ht ?_ ?_
    · intro hx
      obtain ⟨a, b⟩ := hX k hx
      exact hs1 ⟨p, List.mem_append_right _ (List.mem_singleton.mpr rfl), a, b⟩
    · rintro ⟨q, hq, a, b⟩
      exact hs1 ⟨q, List.mem_append_left _ hq, a, b⟩
  · exact List.forall_mem_append.mpr ⟨h.pendFree, List.forall_mem_singleton.mpr ⟨hnp, hne⟩⟩
  · exact List.forall_mem_append.mpr ⟨h.st1, List.forall_mem_singleton.mpr h1⟩
  · show ((s.pending ++ [p]).map (·.obj)).Nodup
    rw [List.map_append, List.nodup_append]
    refine ⟨h.pendNodup, List.nodup_cons.mpr ⟨List.not_mem_nil, List.nodup_nil⟩, ?_⟩
    intro a ha b hb hab
    rw [List.map_cons, List.map_nil, List.mem_singleton] at hb
    subst hb; subst hab
    exact hnew ha
  · exact List.forall_mem_append.mpr ⟨h.pendConn, List.forall_mem_singleton.mpr hconn⟩

/-- the handlers parked on connection `conn` are released -/
theorem SyncInv.filterPending {s : Server} (h : SyncInv s) (p : Pending) (hp : p ∈ s.pending) (conn : Nat)
    (hpc : p.conn = conn) :
    SyncInvX (· = p.obj) { s with pending := s.pending.filter (·.conn != conn) } := by
  have m : ∀ q, q ∈ s.pending.filter (·.conn != conn) → q ∈ s.pending := fun q hq => (List.mem_filter.mp hq).1
  refine ⟨h.idx, h.own, h.ownB, h.key, h.os, h.ts, ?_, h.regTO, h.parkedLt, h.disj, h.parkedStopped,
    fun q hq => h.pendFree q (m q hq), fun q hq => h.st1 q (m q hq),
    (List.filter_sublist.map _).nodup h.pendNodup, fun q hq => h.pendConn q (m q hq)⟩
  intro k hk ha ht hx hs1
  refine h.reg k hk ha ht (fun x => x) ?_
  rintro ⟨q, hq, a, b⟩
  by_cases hqc : q.conn = conn
  · -- `q` is released too: it is parked on the same connection, hence belongs to the same object
    apply hx
    have e1 := h.pendConn q hq
    have e2 := h.pendConn p hp
    rw [hqc] at e1
    rw [hpc] at e2
    rw [e1] at e2
    have e3 : q.obj = p.obj := Option.some.inj e2
    rw [← b]; exact e3
  · exact hs1 ⟨q, List.mem_filter.mpr ⟨hq, by simpa using hqc⟩, a, b⟩

/-! ### `connectHold`, `connectRelease` -/

theorem connectHold_inv {s : Server} (h : SyncInv s) (hw : WF s) (conn : Nat) (k : Connect) (stage : Nat)
    (hf : conn ∉ s.connOf.map (·.1)) : SyncInv (connectHold s conn k stage).1 := by
  have F := connState_facts h hw conn k hf
  have hnew : s.objs.length ∉ s.pending.map (·.obj) := fun hm => by
    obtain ⟨p, hp, e⟩ := List.mem_map.mp hm
    exact F.notPending p hp e
  have hconn : assocGet (s.connOf ++ [(conn, s.objs.length)]) conn = some s.objs.length :=
    assocGet_append_fresh _ _ _ hf
  -- parking in the authentication hook
  have park1 : ∀ p : Pending, p.stage = 1 → p.obj = s.objs.length → p.conn = conn →
      SyncInv { connState s conn k with pending := s.pending ++ [p] } := fun p hp1 hpo hpc =>
    F.inv.addPending p (fun k' hk' => ⟨hp1, hpo.trans (hk' : k' = _).symm⟩) (hpo ▸ hnew) (hpo ▸ F.notParked)
      (hpo ▸ F.notEarly) (by rw [hpo, hpc]; exact hconn)
      fun _ => by rw [hpo]; exact ⟨F.unreg, by rw [F.new]; rfl, by rw [F.new]; rfl⟩
  refine connectHold_cases (Q := fun r => SyncInv r.1) s conn k stage (fun _ _ e _ _ => e ▸ park1 _ rfl rfl rfl)
    (fun _ _ e _ _ => e ▸ F.inv.refused F.lt F.notParked F.notEarly) (fun _ e _ _ => e ▸ park1 _ rfl rfl rfl)
    (fun _ a sD oD e _ _ ha hD => ?_)
  subst e ha
  obtain ⟨a2, l2, t2, _⟩ := admitA_inv (k := k) F.inv F.wf F.lt (by rw [F.new]; rfl) F.unreg F.notPending
    (by rw [F.new]; rfl) (by rw [F.new]; rfl)
  have k2 := admitA_keep (connState s conn k) s.objs.length k
  obtain ⟨a3, l3⟩ := tookOverDown_inv F.inv F.wf a2 l2 t2 (Quiet.refl _)
    (admitA_wf (connState s conn k) s.objs.length k F.wf F.lt (by rw [F.new]; rfl))
  have g3 := tookOverDown_good (admitA (connState s conn k) s.objs.length k).1
    (admitA (connState s conn k) s.objs.length k).2.2.2
  rw [← hD] at a3 l3 g3
  exact SyncInvX.addPending a3 _ (fun _ x => absurd x (fun y => y)) (by rw [g3.pending, k2.pending]; exact hnew)
    (by rw [l3.parked, l2.parked]; exact F.notParked) (by rw [l3.parkedEarly, l2.parkedEarly]; exact F.notEarly)
    (by rw [g3.connOf, k2.connOf]; exact hconn) (fun x => by cases x)

theorem connectRelease_inv {s : Server} (p : Pending) (h : SyncInvX (· = p.obj) s) (hw : WF s)
    (hi : p.obj < s.objs.length) (hid : (getObj s p.obj).id = p.k.id)
    (hnpk : p.obj ∉ s.parked) (hnpe : p.obj ∉ s.parkedEarly)
    (hpi : ∀ q ∈ s.pending, q.obj ≠ p.obj)
    (h1 : p.stage = 1 → (∀ c, assocGet s.clients c ≠ some p.obj) ∧ (getObj s p.obj).takenOver = false ∧
      (getObj s p.obj).subs = [])
    (h2 : p.stage ≠ 1 → SyncInv s) :
    SyncInv (connectRelease s p).1 ∧ Lst s (connectRelease s p).1 := by
  have adm : (p.stage == 1) = true → SyncInv (admitClient s p.obj p.conn p.k).1 ∧ Lst s (admitClient s p.obj p.conn p.k).1 :=
    fun hs1 => by
      obtain ⟨hunreg, hto, hsb⟩ := h1 (by simpa using hs1)
      have := admitClient_inv (conn := p.conn) h hw hi hid hunreg hpi hto hsb
      exact ⟨this.1, this.2.1⟩
  have quiet : ∀ {s'}, ¬ (p.stage == 1) = true → Quiet s s' → SyncInv s' ∧ Lst s s' := fun hs1 q =>
    ⟨(h2 (by simpa using hs1)).of_quiet q, q.lst⟩
  exact connectRelease_cases (Q := fun r => SyncInv r.1 ∧ Lst s r.1) s p
    (fun _ _ _ => ⟨h.refused hi hnpk hnpe, (stopClient_quiet s p.obj).lst⟩) (fun hs1 _ => adm hs1)
    (fun hs1 _ => quiet hs1 ((Quiet.refl s).info _))
    (fun hs1 _ => quiet hs1 ((admitConnack_quiet s p.obj p.conn p.present).trans (admitC_quiet _ p.obj p.k p.present)))

end Mochi.Broker
