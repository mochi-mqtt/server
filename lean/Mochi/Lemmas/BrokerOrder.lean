import Mochi.Lemmas.BrokerShared
import Mochi.Lemmas.BrokerQosDelivery
/-!
# C12, history level: first transmissions follow publish order (everything outside F12)

`trace s ops` is the history's output, op by op; `flat s ops` its concatenation (what the connections see, in
order).  Two facts make the positive half of C12:

* **structure** (`flat_split`, any state, any ops — schedule ops included): the outputs of op `i` precede the
  outputs of op `j` whenever `i < j`;
* **the first transmission is written in the publishing step** (`publish_q0_stream`, reachable states): an accepted
  publish writes connection `c` exactly one PUBLISH — the copy of the message — when `c` is served
  (`Q1.ServedVia`: entitled, and the copy is QoS 0 or the delivery is in case (d) "sent": not dropped, not
  DEFERRED), and none otherwise.

Deferred deliveries (released later by `nextImmediate`) and resends after resumption are NOT covered: they are the
recorded finding F12 (`C12_deferred_release_counterexample`, `C12_resend_counterexample`).
All declarations live in `Mochi.Broker.O12`.
-/
namespace Mochi.Broker.O12
open Mochi.Topics Mochi.Broker

/-! ### the trace of a history -/

/-- the outputs of a history, op by op -/
def trace (s : Server) : List Op → List (List Out)
  | [] => []
  | op :: ops => (step s op).2 :: trace (step s op).1 ops

/-- everything the history writes, in order -/
def flat (s : Server) (ops : List Op) : List Out := (trace s ops).flatten

theorem trace_length (s : Server) (ops : List Op) : (trace s ops).length = ops.length := by
  induction ops generalizing s with
  | nil => rfl
  | cons op ops ih => simp [trace, ih]

theorem trace_append (s : Server) (a b : List Op) : trace s (a ++ b) = trace s a ++ trace (run s a) b := by
  induction a generalizing s with
  | nil => rfl
  | cons op a ih =>
    show (step s op).2 :: trace (step s op).1 (a ++ b) = _
    rw [ih]; rfl

theorem flat_append (s : Server) (a b : List Op) : flat s (a ++ b) = flat s a ++ flat (run s a) b := by
  unfold flat; rw [trace_append, List.flatten_append]

theorem flat_cons (s : Server) (op : Op) (ops : List Op) : flat s (op :: ops) = (step s op).2 ++ flat (step s op).1 ops := by
  unfold flat; rfl

theorem trace_getElem? (s : Server) (ops : List Op) (i : Nat) :
    (trace s ops)[i]? = ops[i]?.map (fun op => (step (run s (ops.take i)) op).2) := by
  induction ops generalizing s i with
  | nil => simp [trace]
  | cons op ops ih =>
    cases i with
    | zero => simp [trace, run]
    | succ i => simp only [trace, List.getElem?_cons_succ, List.take_succ_cons, run_cons_rk]; exact ih _ i

theorem flat_at (s : Server) (ops : List Op) (i : Nat) (op : Op) (h : ops[i]? = some op) :
    flat s ops = flat s (ops.take i) ++ (step (run s (ops.take i)) op).2 ++
      flat (step (run s (ops.take i)) op).1 (ops.drop (i + 1)) := by
  obtain ⟨hi, hx⟩ := List.getElem?_eq_some_iff.mp h
  conv => lhs; rw [← List.take_append_drop i ops, List.drop_eq_getElem_cons hi, hx, flat_append, flat_cons]
  rw [List.append_assoc]

/-- **structure.**  If `op₁` is the `i`-th and `op₂` the `j`-th op of the history, `i < j`, then the history's output
    is `A ++ out₁ ++ B ++ out₂ ++ C` with `outₖ` the output of `opₖ` in the state the earlier ops lead to: whatever
    op `i` writes precedes whatever op `j` writes.  No hypothesis on the state or the ops. -/
theorem flat_split (s : Server) (ops : List Op) (i j : Nat) (op₁ op₂ : Op)
    (hi : ops[i]? = some op₁) (hj : ops[j]? = some op₂) (hij : i < j) :
    ∃ A B C, flat s ops =
      A ++ (step (run s (ops.take i)) op₁).2 ++ B ++ (step (run s (ops.take j)) op₂).2 ++ C := by
  have e := flat_at s (ops.take j) i op₁ (by rw [List.getElem?_take_of_lt hij]; exact hi)
  rw [List.take_take, Nat.min_eq_left (Nat.le_of_lt hij)] at e
  exact ⟨_, _, _, by rw [flat_at s ops j op₂ hj, e]⟩


/-! ### the stream of one connection -/

/-- the PUBLISH packets written to connection `c`, in order -/
def pubsTo (c : Nat) (outs : List Out) : List Msg :=
  outs.filterMap fun o => match o with
    | .wrote n (.publish _ m _) => if n = c then some m else none
    | _ => none

theorem pubsTo_append (c : Nat) (a b : List Out) : pubsTo c (a ++ b) = pubsTo c a ++ pubsTo c b := by
  unfold pubsTo; rw [List.filterMap_append]

theorem mem_pubsTo (c : Nat) (l : List Out) (m : Msg) :
    m ∈ pubsTo c l ↔ ∃ ver me, Out.wrote c (.publish ver m me) ∈ l := by
  unfold pubsTo
  rw [List.mem_filterMap]
  constructor
  · rintro ⟨o, ho, h⟩
    cases o with
    | wrote n pk =>
      cases pk with
      | publish ver m' me =>
        simp only at h
        split at h
        · rename_i hn; cases h; subst hn; exact ⟨ver, me, ho⟩
        · cases h
      | _ => cases h
    | _ => cases h
  · rintro ⟨ver, me, h⟩
    exact ⟨_, h, by simp⟩

theorem pubsTo_length (c : Nat) (l : List Out) : (pubsTo c l).length = (l.filterMap pubConn).count c := by
  induction l with
  | nil => rfl
  | cons o l ih =>
    unfold pubsTo at ih ⊢
    rw [List.filterMap_cons, List.filterMap_cons]
    cases o with
    | wrote n pk =>
      cases pk with
      | publish ver m me =>
        simp only [pubConn, List.count_cons, beq_iff_eq]
        by_cases hn : n = c
        · rw [if_pos hn, if_pos hn]; exact congrArg (· + 1) ih
        · rw [if_neg hn, if_neg hn]; exact ih
      | _ => exact ih
    | _ => exact ih

theorem eq_singleton_of_mem {α} (l : List α) (x : α) (hl : l.length ≤ 1) (hx : x ∈ l) : l = [x] := by
  match l, hl, hx with
  | [y], _, hx => rw [List.mem_singleton.mp hx]
  | _ :: _ :: _, hl, _ => simp at hl

theorem pubsTo_singleton (c : Nat) (l : List Out) (h1 : (l.filterMap pubConn).count c ≤ 1) (ver : Nat) (m : Msg)
    (me : Bool) (hx : Out.wrote c (.publish ver m me) ∈ l) : pubsTo c l = [m] :=
  eq_singleton_of_mem _ m (by rw [pubsTo_length]; exact h1) ((mem_pubsTo c l m).mpr ⟨ver, me, hx⟩)

theorem pubsTo_nil (c : Nat) (l : List Out) (h : ¬ ∃ ver m me, Out.wrote c (.publish ver m me) ∈ l) :
    pubsTo c l = [] := by
  apply List.eq_nil_iff_forall_not_mem.mpr
  intro m hm
  obtain ⟨ver, me, hx⟩ := (mem_pubsTo c l m).mp hm
  exact h ⟨ver, m, me, hx⟩

theorem pubsTo_nil_of_other (c n : Nat) (l : List Out) (hn : n ≠ c) (h : ∀ x ∈ l, ∃ pk, x = Out.wrote n pk) :
    pubsTo c l = [] := by
  refine pubsTo_nil c l fun ⟨_, _, _, hx⟩ => ?_
  obtain ⟨pk, e⟩ := h _ hx
  cases e
  exact hn rfl


/-! ### the publishing step writes the first transmission: inbound PUBLISH of QoS 0 -/

/-- what the theorems ask of the op `recv p (PUBLISH QoS 0, topic t, no alias)` in state `s` (all on the state BEFORE
    the op), for the receiving connection `c`: `p` is the connection of client object `i`; the publish passes the
    gates (`PublishGates`: live network client, valid non-empty topic, receive quota, write permission, no record
    under id 0, no hook mode); no shared subscription matches the topic; and the op's release tail (`nextImmediate`
    for the PUBLISHER) cannot write to `c`: the publisher holds no deferred message, or its connection is not `c`. -/
structure PubQ0 (s : Server) (p i c : Nat) (t : Str) : Prop where
  reg : assocGet s.connOf p = some i
  gates : PublishGates s i t
  noShared : (subscribers s.topics t).shared = []
  own : (∀ m ∈ (getObj s i).inflight, 0 ≤ m.expiry) ∨ (getObj s i).conn ≠ c

/-- a written copy of the message with payload `payload` published by client `origin`, as a QoS 0 first transmission -/
def CopyQ0 (m : Msg) (payload origin : Str) : Prop :=
  m.type = 3 ∧ m.payload = payload ∧ m.origin = origin ∧ m.qos = 0 ∧ m.dup = false ∧ m.id = 0

/-- **the op, seen from connection `c`.**  An accepted QoS 0 PUBLISH op writes connection `c` EXACTLY ONE PUBLISH —
    the copy of the message (QoS 0, dup 0) — if `c` is entitled in the state before the op (`EntitledF03`), and NO
    PUBLISH if it is not.  (A copy of QoS 0 is never deferred: there is no other case.) -/
theorem publish_q0_stream (s : Server) (hs : SyncInv s) (hw : WF s) (hcm : ConnMap s)
    (p i c : Nat) (t : Str) (h : PubQ0 s p i c t) (dup retain : Bool) (payload : Str) (me : Nat) :
    (EntitledF03 s (inboundMsg s i 0 dup retain 0 t payload me) c →
      ∃ m, pubsTo c (step s (.recv p (.publish 0 dup retain 0 t payload me none))).2 = [m] ∧
        CopyQ0 m payload (getObj s i).id) ∧
    (¬ EntitledF03 s (inboundMsg s i 0 dup retain 0 t payload me) c →
      pubsTo c (step s (.recv p (.publish 0 dup retain 0 t payload me none))).2 = []) := by
  have hnh := no_hash_level t h.gates.valid
  obtain ⟨r, e, _, hrel⟩ := step_recv_publish_releases s p i dup retain t payload me h.reg h.gates
  have hd := retainedState_deliversExactly s hs hw hcm (inboundMsg s i 0 dup retain 0 t payload me) rfl rfl (Or.inl rfl)
    h.gates.nonempty hnh ((retainedState_shared s _ hs.idx t).mpr h.noShared) c
  have hr : pubsTo c r = [] := by
    refine pubsTo_nil c r fun ⟨_, _, _, hx⟩ => ?_
    obtain ⟨_, m', hm', hneg, hxw⟩ := hrel _ hx
    rcases h.own with hq | hn
    · have := hq m' hm'
      omega
    · obtain ⟨pk, e⟩ := writeMsg_conn s i m' _ hxw
      cases e
      exact hn rfl
  rw [e, pubsTo_append, hr, List.append_nil]
  obtain ⟨d1, _, d3, d4⟩ := hd
  refine ⟨fun he => ?_, fun hne => pubsTo_nil c _ fun hx => hne (d1.mp hx)⟩
  obtain ⟨ver, m, mes, hx⟩ := d1.mpr he
  refine ⟨m, pubsTo_singleton c _ d3 ver m mes hx, ?_⟩
  rcases d4 _ hx with ⟨id, hid⟩ | ⟨n, ver', m', me', heq, c1, c2, c3, c4, c5, c6⟩
  · cases hid
  · cases heq
    exact ⟨c1, c2, c4, c3, c5, c6⟩

/-! ### histories -/

theorem reach_take {caps : Caps} {s : Server} (hr : ReachSeq caps s) (ops : List Op) (hseq : SeqOps ops)
    (hf : OpsFresh s ops) (n : Nat) : ReachSeq caps (run s (ops.take n)) :=
  hr.run _ (fun o ho => hseq o (List.mem_of_mem_take ho)) (hf.take n)

/-- **order, generic.**  Any state, any history (schedule ops included), any two ops `i < j` of it: if op `i` writes
    connection `c` exactly the PUBLISH `m₁` and op `j` exactly `m₂` (each in the state the earlier ops lead to), then
    the stream of PUBLISH packets on `c` is `A ++ m₁ :: B ++ m₂ :: C`: `m₁` is transmitted before `m₂`. -/
theorem order_of_first_tx (s : Server) (ops : List Op) (i j : Nat) (op₁ op₂ : Op) (c : Nat) (m₁ m₂ : Msg)
    (hi : ops[i]? = some op₁) (hj : ops[j]? = some op₂) (hij : i < j)
    (h₁ : pubsTo c (step (run s (ops.take i)) op₁).2 = [m₁])
    (h₂ : pubsTo c (step (run s (ops.take j)) op₂).2 = [m₂]) :
    ∃ A B C, pubsTo c (flat s ops) = A ++ m₁ :: B ++ m₂ :: C := by
  obtain ⟨A, B, C, e⟩ := flat_split s ops i j op₁ op₂ hi hj hij
  refine ⟨pubsTo c A, pubsTo c B, pubsTo c C, ?_⟩
  rw [e]
  simp only [pubsTo_append, h₁, h₂, List.append_assoc, List.cons_append, List.nil_append]

/-- **order on histories from a reachable state**: the states in which the two ops act are reachable; if op `i`
    there writes `c` exactly one PUBLISH, one with `P₁`, and op `j` exactly one with `P₂`, the first precedes the second
    on `c`'s stream. -/
theorem history_order (caps : Caps) (s : Server) (hr : ReachSeq caps s) (ops : List Op) (hseq : SeqOps ops)
    (hf : OpsFresh s ops) (i j : Nat) (op₁ op₂ : Op) (c : Nat) {P₁ P₂ : Msg → Prop}
    (hi : ops[i]? = some op₁) (hj : ops[j]? = some op₂) (hij : i < j)
    (h₁ : ReachSeq caps (run s (ops.take i)) → ∃ m, pubsTo c (step (run s (ops.take i)) op₁).2 = [m] ∧ P₁ m)
    (h₂ : ReachSeq caps (run s (ops.take j)) → ∃ m, pubsTo c (step (run s (ops.take j)) op₂).2 = [m] ∧ P₂ m) :
    ∃ m₁ m₂ A B C, pubsTo c (step (run s (ops.take i)) op₁).2 = [m₁] ∧
      pubsTo c (step (run s (ops.take j)) op₂).2 = [m₂] ∧ P₁ m₁ ∧ P₂ m₂ ∧
      pubsTo c (flat s ops) = A ++ m₁ :: B ++ m₂ :: C := by
  obtain ⟨m₁, x1, y1⟩ := h₁ (reach_take hr ops hseq hf i)
  obtain ⟨m₂, x2, y2⟩ := h₂ (reach_take hr ops hseq hf j)
  obtain ⟨A, B, C, e⟩ := order_of_first_tx s ops i j op₁ op₂ c m₁ m₂ hi hj hij x1 x2
  exact ⟨m₁, m₂, A, B, C, x1, x2, y1, y2, e⟩

/-! ### the whole stream of QoS 0 flows -/

/-- a labelling of a history for the receiving connection `c`: `some (origin, payload)` marks an accepted QoS 0
    PUBLISH (`PubQ0`, on any connection `p`, any topic `t`) of the client with id `origin`, to which `c` is entitled in
    the state before the op; `none` marks an op that writes `c` no PUBLISH at all (`pubsTo c … = []`: pings,
    acknowledgements, publishes `c` is not entitled to — `publish_q0_stream`, second half —, connects and subscribes
    of others, …).  Ops that write `c` a PUBLISH in any other way (QoS > 0 copies, retained messages on its own
    SUBSCRIBE, resends on resumption, releases of deferred messages) have no label: such histories are not covered. -/
inductive Labelled (c : Nat) : Server → List Op → List (Option (Str × Str)) → Prop
  | nil (s : Server) : Labelled c s [] []
  | pub (s : Server) (p i : Nat) (t : Str) (dup retain : Bool) (payload : Str) (me : Nat) (ops : List Op)
      (ls : List (Option (Str × Str))) :
      PubQ0 s p i c t → EntitledF03 s (inboundMsg s i 0 dup retain 0 t payload me) c →
      Labelled c (step s (.recv p (.publish 0 dup retain 0 t payload me none))).1 ops ls →
      Labelled c s (.recv p (.publish 0 dup retain 0 t payload me none) :: ops) (some ((getObj s i).id, payload) :: ls)
  | other (s : Server) (op : Op) (ops : List Op) (ls : List (Option (Str × Str))) :
      pubsTo c (step s op).2 = [] → Labelled c (step s op).1 ops ls → Labelled c s (op :: ops) (none :: ls)

/-- **the stream.**  For a labelled history from a reachable state, the (origin, payload) pairs of the PUBLISH packets
    written to `c`, in order, are EXACTLY those of the labelled publishes, in publish order; every one of them is a
    first transmission of QoS 0 (dup 0). -/
theorem qos0_stream (caps : Caps) (c : Nat) (s : Server) (ops : List Op) (ls : List (Option (Str × Str)))
    (h : Labelled c s ops ls) (hr : ReachSeq caps s) (hseq : SeqOps ops) (hf : OpsFresh s ops) :
    (pubsTo c (flat s ops)).map (fun m => (m.origin, m.payload)) = ls.filterMap id ∧
    ∀ m ∈ pubsTo c (flat s ops), m.qos = 0 ∧ m.dup = false := by
  induction h with
  | nil s => exact ⟨rfl, fun m hm => by cases hm⟩
  | pub s p i t dup retain payload me ops ls g e _ ih =>
    obtain ⟨a1, a2, a3, _⟩ := hr.inv
    obtain ⟨m, hm, hc⟩ := (publish_q0_stream s a1 a2 a3 p i c t g dup retain payload me).1 e
    obtain ⟨q1, q2⟩ := ih (hr.step _ (hseq _ List.mem_cons_self) hf.1)
      (fun o ho => hseq o (List.mem_cons_of_mem _ ho)) hf.2
    rw [flat_cons, pubsTo_append, hm]
    refine ⟨?_, ?_⟩
    · simp only [List.singleton_append, List.map_cons, List.filterMap_cons, id, q1, hc.2.1, hc.2.2.1]
    · intro m' hm'
      rcases List.mem_append.mp hm' with h1 | h1
      · rw [List.mem_singleton.mp h1]; exact ⟨hc.2.2.2.1, hc.2.2.2.2.1⟩
      · exact q2 m' h1
  | other s op ops ls g _ ih =>
    obtain ⟨q1, q2⟩ := ih (hr.step _ (hseq _ List.mem_cons_self) hf.1)
      (fun o ho => hseq o (List.mem_cons_of_mem _ ho)) hf.2
    rw [flat_cons, pubsTo_append, g, List.nil_append]
    exact ⟨by rw [q1]; rfl, q2⟩

/-- … and per publisher: the payloads `c` is written from the client with id `o`, in order, are exactly the payloads
    of `o`'s labelled publishes, in publish order -/
theorem qos0_stream_of (caps : Caps) (c : Nat) (s : Server) (ops : List Op) (ls : List (Option (Str × Str)))
    (h : Labelled c s ops ls) (hr : ReachSeq caps s) (hseq : SeqOps ops) (hf : OpsFresh s ops) (o : Str) :
    ((pubsTo c (flat s ops)).filter (fun m => m.origin == o)).map (·.payload) =
      ((ls.filterMap id).filter (fun x => x.1 == o)).map (·.2) := by
  rw [← (qos0_stream caps c s ops ls h hr hseq hf).1, List.filter_map, List.map_map]
  rfl

/-! ### any QoS: the routing call writes the first transmission of every delivery that is not dropped or deferred -/

theorem verdictOut_msg (s : Server) (i : Nat) (sub : Sub) (pk : Msg) (v : Q1.Verdict) (n ver : Nat) (m : Msg) (me : Bool)
    (h : Out.wrote n (.publish ver m me) ∈ Q1.verdictOut s i sub pk v) :
    m.payload = pk.payload ∧ m.topic = pk.topic ∧ m.origin = pk.origin ∧ m.dup = false ∧
    m.qos = shapeQos s.caps sub pk.qos := by
  cases v with
  | sent pid =>
    cases List.mem_singleton.mp h
    exact ⟨rfl, rfl, rfl, rfl, rfl⟩
  | exhausted => cases List.mem_singleton.mp h
  | limit => cases h
  | deferred pid => cases h

theorem entryOut_msg (s : Server) (i : Nat) (sub : Sub) (pk : Msg) (n ver : Nat) (m : Msg) (me : Bool)
    (h : Out.wrote n (.publish ver m me) ∈ Q1.entryOut s i sub pk) :
    m.payload = pk.payload ∧ m.topic = pk.topic ∧ m.origin = pk.origin ∧ m.dup = false ∧
    m.qos = shapeQos s.caps sub pk.qos := by
  unfold Q1.entryOut at h
  rw [List.mem_ite_nil_right] at h
  by_cases hq : shapeQos s.caps sub pk.qos > 0
  · rw [if_pos hq] at h
    by_cases hl : Q1.liveB s i = true
    · rw [if_pos hl] at h; exact verdictOut_msg s i sub pk _ n ver m me h.2
    · rw [if_neg hl] at h; exact verdictOut_msg s i sub pk _ n ver m me (List.mem_filter.mp h.2).1
  · rw [if_neg hq, List.mem_ite_nil_right] at h
    cases List.mem_singleton.mp h.2.2
    exact ⟨rfl, rfl, rfl, rfl, rfl⟩

theorem entryOut_conn (s : Server) (i : Nat) (sub : Sub) (pk : Msg) (n ver : Nat) (m : Msg) (me : Bool)
    (h : Out.wrote n (.publish ver m me) ∈ Q1.entryOut s i sub pk) :
    (getObj s i).conn = n ∧ (getObj s i).inline = false := by
  have hm : n ∈ (Q1.entryOut s i sub pk).filterMap pubConn := List.mem_filterMap.mpr ⟨_, h, rfl⟩
  rw [Q1.entryOut_pubConns, List.mem_ite_nil_right] at hm
  exact ⟨(List.mem_singleton.mp hm.2).symm,
    ((gate_true_iff s i sub pk).mp ((Q1.served_true_iff s i sub pk).mp hm.1).1).2.2.2.1⟩

/-- a PUBLISH the routing call writes to `c` is a copy of the message, of the QoS that the subscriber-map entry of the
    network client on `c` yields (state level: `WF`, one connection per object, no outbound aliases, no
    matching shared subscription) -/
theorem routing_copy (s : Server) (hw : WF s) (hcd : ConnDistinct s) (hna : Q1.NoAliases s)
    (pk : Msg) (hig : pk.ignore = false) (ht : pk.type = 3)
    (hsh : (subscribers s.topics pk.topic).shared = []) (c ver : Nat) (m : Msg) (me : Bool)
    (hx : Out.wrote c (.publish ver m me) ∈ (publishToSubscribers s pk).2) :
    m.payload = pk.payload ∧ m.topic = pk.topic ∧ m.origin = pk.origin ∧ m.dup = false ∧
    ∀ cid k sub, (cid, k) ∈ s.clients → (getObj s k).conn = c → (getObj s k).inline = false →
      (cid, sub) ∈ (subscribers s.topics pk.topic).subs → m.qos = shapeQos s.caps sub pk.qos := by
  have hall := (Q1.writes_exact_shared s hw hcd hna pk hig ht c).2.2.2.2
  rw [subsMapOf_of_shared_nil s _ hsh] at hall
  rcases hall _ hx with
    ⟨id, hid⟩ | ⟨cid', i', sub', hm', hs', hxe⟩
  · cases hid
  · obtain ⟨e1, e2, e3, e4, e5⟩ := entryOut_msg s i' sub' (stamped s pk) c ver m me hxe
    obtain ⟨f1, f2, f3, _, f5⟩ := stamped_fields s pk
    obtain ⟨hc', hi'⟩ := entryOut_conn s i' sub' (stamped s pk) c ver m me hxe
    refine ⟨e1.trans f2, e2.trans f1, e3.trans f5, e4, fun cid k sub hm hc hi hs => ?_⟩
    have v' := hw.clients_valid _ _ hm'
    have v := hw.clients_valid _ _ hm
    obtain rfl : i' = k := hcd i' k v'.1 v.1 hi' hi (hc'.trans hc.symm)
    obtain rfl : cid' = cid := v'.2.symm.trans v.2
    have hnd := subscribers_subs_nodup s.topics pk.topic
    have hg := assocGet_of_mem _ _ _ hnd hs'
    rw [assocGet_of_mem _ _ _ hnd hs] at hg
    cases hg
    rw [e5, f3]

/-- **one routing call, any QoS, seen from connection `c`** (state level: `WF`, one connection per object, no
    outbound aliases, no matching shared subscription).  If `c` is SERVED (`Q1.ServedVia`: entitled, and the copy is
    QoS 0 or the delivery is in case (d) — in-flight limit not reached, a packet identifier available, NOT deferred:
    `sent_of_notDeferred`), `publishToSubscribers` writes `c` exactly one PUBLISH, the copy of the message (payload,
    topic, origin, dup 0); otherwise none: a dropped or DEFERRED delivery is not transmitted by this call. -/
theorem routing_first_tx (s : Server) (hw : WF s) (hcd : ConnDistinct s) (hna : Q1.NoAliases s)
    (pk : Msg) (hig : pk.ignore = false) (ht : pk.type = 3)
    (hsh : (subscribers s.topics pk.topic).shared = []) (c : Nat) :
    (Q1.ServedVia s pk (subscribers s.topics pk.topic).subs c →
      ∃ m, pubsTo c (publishToSubscribers s pk).2 = [m] ∧ m.payload = pk.payload ∧ m.topic = pk.topic ∧
        m.origin = pk.origin ∧ m.dup = false) ∧
    (¬ Q1.ServedVia s pk (subscribers s.topics pk.topic).subs c → pubsTo c (publishToSubscribers s pk).2 = []) := by
  obtain ⟨d1, d2, _⟩ := Q1.writes_exact_shared s hw hcd hna pk hig ht c
  rw [subsMapOf_of_shared_nil s _ hsh] at d1
  refine ⟨fun he => ?_, fun hne => pubsTo_nil c _ fun hx => hne (d1.mp hx)⟩
  obtain ⟨ver, m, mes, hx⟩ := d1.mpr he
  obtain ⟨e1, e2, e3, e4, _⟩ := routing_copy s hw hcd hna pk hig ht hsh c ver m mes hx
  exact ⟨m, pubsTo_singleton c _ d2 ver m mes hx, e1, e2, e3, e4⟩

/-- the delivery is in case (d) "sent" when the in-flight limit is not reached, a packet identifier is available and
    the client is not subject to deferral (no Receive Maximum, or send quota left) -/
theorem sent_of_notDeferred (s : Server) (k pid : Nat)
    (hl : (getObj s k).inflight.length < s.caps.maximumInflight)
    (hp : nextPacketID (getObj s k) s.caps.maximumPacketID = some pid)
    (hn : (getObj s k).maxSend = 0 ∨ (getObj s k).sendQuota > 0) : Q1.verdict s k = .sent pid :=
  Q1.verdict_sent s k pid (by omega) hp (by omega)

end Mochi.Broker.O12
