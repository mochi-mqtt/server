import Mochi.Model.Broker
import Mochi.Lemmas.BrokerBasics
import Mochi.Lemmas.BrokerFrame
import Mochi.Lemmas.BrokerInv
import Mochi.Lemmas.BrokerDelivery
import Mochi.Lemmas.BrokerAnswers
import Mochi.Lemmas.BrokerExitsDelivery
import Mochi.Lemmas.BrokerWalk
import Mochi.Lemmas.BrokerExitsConnect
import Mochi.Lemmas.BrokerExitsFanout
import Mochi.Lemmas.BrokerExitsStep
/-!
# C23 at broker level: what `step` writes, to whom, and for which protocol version

One walk over every function of the sequential broker model that writes (`Mochi/Model/Broker.lean`), carrying the
relation `VOK s s' o` ("`s'` results from `s`, having emitted `o`"):

* `KV s s'` — no object is created or removed; `conn`, `ver`, `inline` of EVERY object are kept; a closed object
  stays closed; every Clients-map entry still points at an existing object;
* every `wrote conn pk` of `o` is addressed to an existing, non-inline object `j` of `s` with `conn = (getObj s j).conn`
  that is OPEN, the packet is encoded for `(getObj s j).ver` (`verOf`), and has an MQTT 3 shape (`Shape`: the CONNACK
  and SUBACK code tables);
* `Disc`: after a `wrote conn (.disconnect ..)` every object on `conn` is closed and nothing more is written to `conn`.

The relation is transitive (`VOK.trans`), so each handler is one lemma.
-/
namespace Mochi.Broker.W23
open Mochi.Topics

/-! ### what a written packet is encoded for, and its MQTT 3 shape -/

/-- the protocol version a written packet is ENCODED for (PINGRESP has no version-dependent part) -/
def verOf : WPk → Option Nat
  | .connack v _ _ _ _ _ => some v
  | .publish v _ _ => some v
  | .ack v _ _ _ => some v
  | .suback v _ _ => some v
  | .unsuback v _ _ => some v
  | .disconnect v _ => some v
  | .pingresp => none

/-- the SUBACK return codes MQTT 3.1.1 defines -/
def V3SubCode (c : Nat) : Prop := c = 0 ∨ c = 1 ∨ c = 2 ∨ c = 0x80

instance (c : Nat) : Decidable (V3SubCode c) := by unfold V3SubCode; infer_instance

/-- the CONNACK reason codes the model writes to an MQTT 3 client (as MQTT 5 codes; `WPk.render` maps them through
    `v3code`): success, the three that `V5CodesToV3` converts (0x84 → 1, 0x86 → 5, 0x88 → 3) and the three of finding
    F23a, sent raw (0x80, 0x9A, 0x9B) -/
def V3ConnackCode (code : Nat) : Prop :=
  code = 0 ∨ code = 0x84 ∨ code = 0x86 ∨ code = 0x88 ∨ code = 0x80 ∨ code = 0x9A ∨ code = 0x9B

instance (c : Nat) : Decidable (V3ConnackCode c) := by unfold V3ConnackCode; infer_instance

/-- the version-3 tables: a CONNACK encoded for MQTT 3 carries one of `V3ConnackCode`; a SUBACK encoded for MQTT 3
    carries MQTT 3 return codes only (also when the packet identifier was in use: since fix e36320d the 0x91 of that
    refusal passes through the MQTT 3 downgrade like every other failure code) -/
def Shape : WPk → Prop
  | .connack v _ code _ _ _ => v < 5 → V3ConnackCode code
  | .suback v _ rcs => v < 5 → ∀ c ∈ rcs, V3SubCode c
  | _ => True

/-- `x`, if it is a write, goes to the connection of an existing, open, non-inline object of `s` and is encoded for
    that object's protocol version -/
def OutOK (s : Server) : Out → Prop
  | .wrote conn pk => Shape pk ∧ ∃ j, j < s.objs.length ∧ (getObj s j).inline = false ∧ (getObj s j).conn = conn ∧
      (∀ v, verOf pk = some v → v = (getObj s j).ver) ∧ (getObj s j).isOpen = true
  | _ => True

def IsDisc : Out → Prop
  | .wrote _ (.disconnect _ _) => True
  | _ => False

/-- no DISCONNECT packet in `o` -/
def NoDisc (o : List Out) : Prop := ∀ x ∈ o, ¬ IsDisc x

/-- every object of `s` on connection `conn` is closed -/
def ClosedOn (s : Server) (conn : Nat) : Prop :=
  ∀ j, j < s.objs.length → (getObj s j).inline = false → (getObj s j).conn = conn → (getObj s j).isOpen = false

/-- after a DISCONNECT written to `conn`: every object on `conn` is closed (in `s'`, the state at the end) and nothing
    more is written to `conn` -/
def Disc (s' : Server) (o : List Out) : Prop :=
  ∀ o1 conn v code o2, o = o1 ++ Out.wrote conn (.disconnect v code) :: o2 →
    ClosedOn s' conn ∧ ∀ pk, Out.wrote conn pk ∉ o2

/-- every Clients-map entry points at an existing object -/
def CV (s : Server) : Prop := ∀ cid j, (cid, j) ∈ s.clients → j < s.objs.length

/-- what the walk assumes of a state: `CV` and one connection per (non-inline) object.  Not `WF`: this much is kept by
    `KV` itself (`KV.pre`), so every piece of the walk hands it on without a second invariant beside the relation -/
structure Pre (s : Server) : Prop where
  cv : CV s
  cd : ConnDistinct s
  /-- a stopped object is closed (`Client.Stop` closes the connection) -/
  so : ∀ k, (getObj s k).stopped = true → (getObj s k).isOpen = false

/-! ### `KV`: what every function keeps -/

structure Fix (a b : Client) : Prop where
  conn : b.conn = a.conn
  ver : b.ver = a.ver
  inline : b.inline = a.inline
  shut : a.isOpen = false → b.isOpen = false
  so : (a.stopped = true → a.isOpen = false) → (b.stopped = true → b.isOpen = false)

theorem Fix.refl (a : Client) : Fix a a := ⟨rfl, rfl, rfl, fun h => h, fun h => h⟩
theorem Fix.trans {a b c : Client} (h : Fix a b) (g : Fix b c) : Fix a c :=
  ⟨g.conn.trans h.conn, g.ver.trans h.ver, g.inline.trans h.inline, fun x => g.shut (h.shut x),
   fun x => g.so (h.so x)⟩

macro "fix_rfl" : tactic => `(tactic| exact ⟨rfl, rfl, rfl, fun h => h, fun h => h⟩)

theorem Fix.flSet (c : Client) (m : Msg) : Fix c (flSet c m).1 := by
  unfold Mochi.Broker.flSet; split <;> fix_rfl
theorem Fix.flDelete (c : Client) (id : Nat) : Fix c (flDelete c id).1 := by
  unfold Mochi.Broker.flDelete; fix_rfl
theorem Fix.decSend (c : Client) : Fix c (decSend c) := by
  unfold Mochi.Broker.decSend; split <;> fix_rfl
theorem Fix.incSend (c : Client) : Fix c (incSend c) := by
  unfold Mochi.Broker.incSend; split <;> fix_rfl
theorem Fix.decRecv (c : Client) : Fix c (decRecv c) := by
  unfold Mochi.Broker.decRecv; split <;> fix_rfl
theorem Fix.incRecv (c : Client) : Fix c (incRecv c) := by
  unfold Mochi.Broker.incRecv; split <;> fix_rfl
theorem Fix.aliasOutSet (c : Client) (t : Str) : Fix c (aliasOutSet c t).1 := by
  unfold Mochi.Broker.aliasOutSet
  split
  · fix_rfl
  · split
    · fix_rfl
    · split <;> fix_rfl

theorem Fix.ops : SessOps Fix :=
  ⟨Fix.refl, Fix.trans, Fix.flSet, Fix.flDelete, Fix.decSend, Fix.incSend, Fix.decRecv, Fix.incRecv, Fix.aliasOutSet,
   fun _ _ => by fix_rfl, fun _ _ => by fix_rfl, fun _ _ _ => by fix_rfl, fun _ => by fix_rfl⟩

theorem Fix.subs (c : Client) (l : List (Str × Sub)) : Fix c { c with subs := l } := by fix_rfl

structure KV (s s' : Server) : Prop where
  len : s'.objs.length = s.objs.length
  fix : ∀ k, Fix (getObj s k) (getObj s' k)
  cv : CV s → CV s'
  connOf : s'.connOf = s.connOf

theorem KV.refl (s : Server) : KV s s := ⟨rfl, fun _ => Fix.refl _, fun h => h, rfl⟩

theorem KV.trans {s s1 s2 : Server} (h : KV s s1) (g : KV s1 s2) : KV s s2 :=
  ⟨g.len.trans h.len, fun k => (h.fix k).trans (g.fix k), fun x => g.cv (h.cv x), g.connOf.trans h.connOf⟩

/-- a change to server fields other than `objs`, `clients` -/
theorem KV.upd {s0 s s' : Server} (h : KV s0 s) (ho : s'.objs = s.objs) (hc : s'.clients = s.clients)
    (hn : s'.connOf = s.connOf) : KV s0 s' := by
  refine ⟨by rw [ho]; exact h.len, fun k => by rw [getObj_of_objs_eq ho k]; exact h.fix k, fun x => ?_, hn.trans h.connOf⟩
  intro cid j hm
  rw [hc] at hm
  rw [ho]
  exact h.cv x cid j hm

theorem KV.delClient {s0 s : Server} (h : KV s0 s) (cid : Str) : KV s0 { s with clients := assocDel s.clients cid } := by
  refine ⟨h.len, h.fix, fun x => ?_, h.connOf⟩
  intro c j hm
  exact h.cv x c j (List.mem_filter.mp hm).1

theorem KV.set {s0 s : Server} (h : KV s0 s) (i : Nat) (c : Client) (hc : Fix (getObj s i) c) :
    KV s0 (setObj s i c) :=
  ⟨(setObj_length s i c).trans h.len, fun k => getObj_setObj_ind s i c k (h.fix k) fun e => (h.fix k).trans (e ▸ hc),
   fun x cid j hm => (setObj_length s i c).symm ▸ h.cv x cid j hm, h.connOf⟩

theorem KV.mod {s0 s : Server} (h : KV s0 s) (i : Nat) (f : Client → Client) (hf : Fix (getObj s i) (f (getObj s i))) :
    KV s0 (modObj s i f) := h.set i _ hf

theorem KV.walk (i : Nat) : ObjWalk i Fix KV :=
  ⟨KV.refl, KV.trans, fun s c h => (KV.refl s).set i c h, fun s _ => (KV.refl s).upd rfl rfl rfl,
   fun s _ => (KV.refl s).upd rfl rfl rfl, fun s _ => (KV.refl s).upd rfl rfl rfl⟩

theorem KV.idx (s : Server) (t : Index) (inf : Info) : KV s { s with topics := t, info := inf } :=
  (KV.refl s).upd rfl rfl rfl

theorem KV.pre {s s' : Server} (h : KV s s') (p : Pre s) : Pre s' := by
  refine ⟨h.cv p.cv, ?_, fun k => (h.fix k).so (p.so k)⟩
  intro i j hi hj hii hij e
  rw [h.len] at hi hj
  rw [(h.fix i).inline] at hii
  rw [(h.fix j).inline] at hij
  rw [(h.fix i).conn, (h.fix j).conn] at e
  exact p.cd i j hi hj hii hij e

theorem KV.closedOn {s s' : Server} (h : KV s s') {conn : Nat} (c : ClosedOn s conn) : ClosedOn s' conn := by
  intro j hj hin hc
  rw [h.len] at hj
  rw [(h.fix j).inline] at hin
  rw [(h.fix j).conn] at hc
  exact (h.fix j).shut (c j hj hin hc)

theorem OutOK.back {s s' : Server} (h : KV s s') {x : Out} (g : OutOK s' x) : OutOK s x := by
  cases x with
  | wrote conn pk =>
    obtain ⟨sh, j, hj, hin, hc, hv, ho⟩ := g
    refine ⟨sh, j, by rw [← h.len]; exact hj, by rw [← (h.fix j).inline]; exact hin,
      by rw [← (h.fix j).conn]; exact hc, fun v e => by rw [← (h.fix j).ver]; exact hv v e, ?_⟩
    cases hb : (getObj s j).isOpen with
    | true => rfl
    | false => rw [(h.fix j).shut hb] at ho; cases ho
  | closed _ => trivial
  | event _ => trivial
  | inline _ _ _ => trivial

/-! ### `VOK` -/

structure VOK (s s' : Server) (o : List Out) : Prop where
  kv : KV s s'
  ok : ∀ x ∈ o, OutOK s x
  disc : Disc s' o

theorem Disc.of_noDisc {s' : Server} {o : List Out} (h : NoDisc o) : Disc s' o := by
  intro o1 conn v code o2 e
  exact absurd trivial (h (Out.wrote conn (.disconnect v code)) (by rw [e]; simp))

theorem NoDisc.nil : NoDisc [] := fun _ h => by cases h

theorem NoDisc.append {a b : List Out} (h : NoDisc a) (g : NoDisc b) : NoDisc (a ++ b) := by
  intro x hx
  rcases List.mem_append.mp hx with hx | hx
  · exact h x hx
  · exact g x hx

theorem VOK.of_kv {s s' : Server} (h : KV s s') : VOK s s' [] :=
  ⟨h, fun _ hx => (by cases hx), Disc.of_noDisc NoDisc.nil⟩

theorem VOK.refl (s : Server) : VOK s s [] := VOK.of_kv (KV.refl s)

theorem VOK.of_writes {s s' : Server} {o : List Out} (h : KV s s') (ok : ∀ x ∈ o, OutOK s x) (nd : NoDisc o) :
    VOK s s' o := ⟨h, ok, Disc.of_noDisc nd⟩

theorem VOK.trans {s s1 s2 : Server} {o1 o2 : List Out} (h : VOK s s1 o1) (g : VOK s1 s2 o2) :
    VOK s s2 (o1 ++ o2) := by
  refine ⟨h.kv.trans g.kv, ?_, ?_⟩
  · intro x hx
    rcases List.mem_append.mp hx with hx | hx
    · exact h.ok x hx
    · exact (g.ok x hx).back h.kv
  · intro a conn v code b e
    rcases List.append_eq_append_iff.mp e with ⟨a', ha, hb⟩ | ⟨c', ha, hb⟩
    · -- the DISCONNECT lies in `o2`
      exact g.disc a' conn v code b hb
    · cases c' with
      | nil =>
        rw [List.nil_append] at hb
        exact g.disc [] conn v code b hb.symm
      | cons d c'' =>
        rw [List.cons_append] at hb
        injection hb with hd hb
        subst hd
        obtain ⟨hc, hn⟩ := h.disc a conn v code c'' ha
        refine ⟨g.kv.closedOn hc, fun pk hm => ?_⟩
        rw [hb] at hm
        rcases List.mem_append.mp hm with hm | hm
        · exact hn pk hm
        · obtain ⟨_, j, hj, hin, hcj, _, ho⟩ := g.ok _ hm
          rw [hc j hj hin hcj] at ho
          cases ho

theorem VOK.stepQ {s s1 s2 : Server} {o : List Out} (h : VOK s s1 o) (g : KV s1 s2) : VOK s s2 o := by
  have := h.trans (VOK.of_kv g)
  rw [List.append_nil] at this
  exact this

theorem VOK.pre {s s' : Server} {o : List Out} (h : VOK s s' o) (p : Pre s) : Pre s' := h.kv.pre p

theorem VOK.fst_mk {α} {s0 x : Server} {y : α} {o : List Out} (h : VOK s0 x o) : VOK s0 (x, y).1 o := h

theorem VOK.filter {s s' : Server} {o : List Out} (h : VOK s s' o) (p : Out → Bool) : VOK s s' (o.filter p) := by
  refine ⟨h.kv, fun x hx => h.ok x (List.mem_filter.mp hx).1, fun a conn v code b e => ?_⟩
  -- split `o` at the element the filtered list is split at
  obtain ⟨l1, l2, rfl, -, h2⟩ := List.filter_eq_append_iff.mp e
  obtain ⟨m1, m2, rfl, -, -, rfl⟩ := List.filter_eq_cons_iff.mp h2
  obtain ⟨hc, hn⟩ := h.disc (l1 ++ m1) conn v code m2 (List.append_assoc ..).symm
  exact ⟨hc, fun pk hm => hn pk (List.mem_filter.mp hm).1⟩

theorem VOK.noPingresp {s s' : Server} {o : List Out} (h : VOK s s' o) : VOK s s' (noPingresp o) := h.filter _

theorem VOK.traced : Traced VOK := ⟨VOK.refl, VOK.trans⟩

theorem VOK.drops : Drops VOK := fun p h => h.filter p

/-- `VOK` for the handlers of object `i`, which exists in every state `KV` reaches -/
theorem VOK.tracedAt (i : Nat) : Traced (fun s s' o => Pre s ∧ i < s.objs.length → VOK s s' o) :=
  VOK.traced.guard fun v c => ⟨v.pre c.1, v.kv.len ▸ c.2⟩

theorem VOK.single {s s' : Server} (h : KV s s') {x : Out} (ok : OutOK s x) (nd : ¬ IsDisc x) : VOK s s' [x] :=
  VOK.of_writes h (fun _ hx => List.mem_singleton.mp hx ▸ ok) (fun _ hx => List.mem_singleton.mp hx ▸ nd)

theorem VOK.inlines {s s' : Server} {o : List Out} (h : KV s s') (ho : ∀ x ∈ o, ∃ id t p, x = Out.inline id t p) :
    VOK s s' o :=
  VOK.of_writes h (fun x hx => by obtain ⟨_, _, _, rfl⟩ := ho x hx; trivial)
    (fun x hx => by obtain ⟨_, _, _, rfl⟩ := ho x hx; exact id)

/-! ### primitives -/

theorem writeMsg_ok (s : Server) (i : Nat) (m : Msg) (hi : i < s.objs.length) :
    (∀ x ∈ writeMsg s i m, OutOK s x) ∧ NoDisc (writeMsg s i m) := by
  unfold writeMsg
  refine iteInduction (motive := fun o : List Out => (∀ x ∈ o, OutOK s x) ∧ NoDisc o)
    (fun _ => ⟨fun _ hx => (nomatch hx), NoDisc.nil⟩) fun h => ?_
  have h' : (getObj s i).isOpen = true ∧ (getObj s i).inline = false := by
    cases h1 : (getObj s i).isOpen <;> cases h2 : (getObj s i).inline <;> simp [h1, h2] at h ⊢
  -- a PUBLISH or an acknowledgement: encoded for the object's version, no shape to keep
  have one : ∀ pk, Shape pk → (∀ v, verOf pk = some v → v = (getObj s i).ver) →
      ¬ IsDisc (.wrote (getObj s i).conn pk) →
      (∀ x ∈ [Out.wrote (getObj s i).conn pk], OutOK s x) ∧ NoDisc [Out.wrote (getObj s i).conn pk] :=
    fun pk hs hv nd => ⟨fun _ hx => List.mem_singleton.mp hx ▸ ⟨hs, i, hi, h'.2, rfl, hv, h'.1⟩,
      fun _ hx => List.mem_singleton.mp hx ▸ nd⟩
  exact iteInduction (motive := fun o : List Out => (∀ x ∈ o, OutOK s x) ∧ NoDisc o)
    (fun _ => one _ trivial (fun v e => by cases e; rfl) id) fun _ => one _ trivial (fun v e => by cases e; rfl) id

theorem stopClient_vok (s : Server) (i : Nat) : VOK s (stopClient s i).1 (stopClient s i).2 := by
  unfold stopClient
  refine iteInduction (motive := fun r : Server × List Out => VOK s r.1 r.2) (fun _ => VOK.refl s) fun _ => ?_
  have k := (KV.refl s).set i { getObj s i with isOpen := false, stopped := true }
    ⟨rfl, rfl, rfl, fun _ => rfl, fun _ _ => rfl⟩
  exact iteInduction (motive := VOK s _) (fun _ => VOK.of_kv k) fun _ => VOK.single k trivial id

theorem stopClient_closed_obj (s : Server) (i : Nat) (hi : i < s.objs.length) (ho : (getObj s i).isOpen = true → (getObj s i).stopped = false) :
    (getObj (stopClient s i).1 i).isOpen = false := by
  unfold stopClient
  extract_lets +onlyGivenNames c
  split
  · rename_i hst
    cases hb : (getObj s i).isOpen with
    | false => rfl
    | true => have := ho hb; rw [this] at hst; cases hst
  · rw [getObj_setObj_eq s i _ hi]

/-! ### the relation on results -/

abbrev VOKr (s : Server) (r : Server × List Out) : Prop := VOK s r.1 r.2
abbrev VOKh (s : Server) (r : HRes) : Prop := VOK s r.1 r.2.1

theorem VOK.event {s s' : Server} (h : KV s s') (e : String) : VOK s s' [.event e] := VOK.single h trivial id

theorem VOK.append_nil {s s' : Server} {o : List Out} (h : VOK s s' o) : VOK s s' (o ++ []) := by
  rw [List.append_nil]; exact h

theorem disconnectClient_eq (s : Server) (i code : Nat) :
    disconnectClient s i code = ((stopClient s i).1,
      (if (getObj s i).isOpen && !(getObj s i).inline && !(getObj s i).peerGone
        then [Out.wrote (getObj s i).conn (.disconnect (getObj s i).ver code)] else []) ++ (stopClient s i).2) := rfl

theorem stopClient_out (s : Server) (i : Nat) : ∀ x ∈ (stopClient s i).2, ∃ c, x = Out.closed c := by
  unfold stopClient
  extract_lets +onlyGivenNames c
  intro x hx
  split at hx
  · cases hx
  · split at hx
    · cases hx
    · rw [List.mem_singleton] at hx; exact ⟨_, hx⟩

/-- `DisconnectClient`: the DISCONNECT goes to the object's own connection, for its version; afterwards the object
    (the only one on that connection) is closed -/
theorem disconnectClient_vok (s : Server) (i code : Nat) (p : Pre s) (hi : i < s.objs.length) :
    VOKr s (disconnectClient s i code) := by
  rw [disconnectClient_eq]
  have hst := stopClient_vok s i
  by_cases hw : ((getObj s i).isOpen && !(getObj s i).inline && !(getObj s i).peerGone) = true
  · rw [if_pos hw]
    have hw' : (getObj s i).isOpen = true ∧ (getObj s i).inline = false := by
      cases h1 : (getObj s i).isOpen <;> cases h2 : (getObj s i).inline <;> simp [h1, h2] at hw ⊢
    refine ⟨hst.kv, fun x hx => ?_, ?_⟩
    · rcases List.mem_append.mp hx with hx | hx
      · rw [List.mem_singleton] at hx; subst hx
        exact ⟨trivial, i, hi, hw'.2, rfl, fun v e => by cases e; rfl, hw'.1⟩
      · obtain ⟨c, rfl⟩ := stopClient_out s i x hx; trivial
    · intro a conn v cd b e
      cases a with
      | nil =>
        rw [List.nil_append, List.singleton_append] at e
        injection e with e1 e2
        injection e1 with e1 _
        refine ⟨?_, fun pk hm => ?_⟩
        · intro j hj hin hc
          have hj' : j < s.objs.length := by rw [← hst.kv.len]; exact hj
          have : j = i := by
            apply p.cd j i hj' hi
            · rw [← (hst.kv.fix j).inline]; exact hin
            · exact hw'.2
            · rw [← (hst.kv.fix j).conn, hc, e1]
          subst this
          exact stopClient_closed_obj s j hi (fun h => by
            cases hb : (getObj s j).stopped with
            | false => rfl
            | true => rw [p.so j hb] at h; cases h)
        · rw [← e2] at hm
          obtain ⟨c, hc⟩ := stopClient_out s i _ hm
          cases hc
      | cons a0 as =>
        rw [List.singleton_append, List.cons_append] at e
        injection e with _ e2
        have : Out.wrote conn (.disconnect v cd) ∈ (stopClient s i).2 := by rw [e2]; simp
        obtain ⟨c, hc⟩ := stopClient_out s i _ this
        cases hc
  · rw [if_neg hw, List.nil_append]
    exact hst

/-! ### the delivery family -/

/-- a message written in an intermediate state `s1`, the state moving on to `s2` -/
theorem VOK.write_at {s s1 s2 : Server} (h1 : KV s s1) (h2 : KV s s2) (i : Nat) (m : Msg) (hi : i < s.objs.length) :
    VOK s s2 (writeMsg s1 i m) :=
  VOK.of_writes h2 (fun x hx => ((writeMsg_ok s1 i m (h1.len ▸ hi)).1 x hx).back h1) (writeMsg_ok s1 i m (h1.len ▸ hi)).2

theorem VOK.write {s s' : Server} (h : KV s s') (i : Nat) (m : Msg) (hi : i < s.objs.length) :
    VOK s s' (writeMsg s' i m) := VOK.write_at h h i m hi

theorem VOK.after {s s1 s2 : Server} {o : List Out} (h : KV s s1) (g : VOK s1 s2 o) : VOK s s2 o :=
  List.nil_append o ▸ (VOK.of_kv h).trans g

theorem publishToClientCore_vok (s : Server) (i : Nat) (sub : Sub) (f : Bool) (pk : Msg) (hi : i < s.objs.length) :
    VOKr s (publishToClientCore s i sub f pk) := by
  have hc1 : Fix (getObj s i) (coreClient (getObj s i) pk.topic) := by
    obtain ⟨ao, cur, e⟩ := coreClient_eq (getObj s i) pk.topic
    rw [e]
    fix_rfl
  have hs1 : KV s (setObj s i (coreClient (getObj s i) pk.topic)) := (KV.refl s).set i _ hc1
  -- the copy filed under `pid`
  have hst := fun pid : Nat => hc1.trans (((Fix.ops.packetID _ pid).trans
    (Fix.flSet _ { coreOut s.caps (getObj s i) sub f pk with id := pid })).trans (Fix.decSend _))
  have hdr : KV s (coreDropped s i (coreClient (getObj s i) pk.topic)) := hs1.upd rfl rfl rfl
  refine publishToClientCore_cases (Q := VOKr s) s i sub f pk rfl rfl (fun _ => ?_)
    (fun _ _ => VOK.of_kv hdr) (fun _ _ _ => VOK.event hdr _)
    (fun pid _ _ _ _ _ _ => VOK.of_kv ((KV.walk i).setInfl s _ _ ((hst pid).trans (Fix.flSet _ _))))
    (fun pid _ _ _ _ _ _ => ?_)
  · split
    · exact VOK.of_kv hs1
    · exact VOK.write hs1 i _ hi
  · split
    · exact VOK.of_kv ((KV.walk i).setInfl s _ _ (hst pid))
    · exact VOK.write ((KV.walk i).setInfl s _ _ (hst pid)) i _ hi

theorem publishToSubscribers_vok (s : Server) (pk : Msg) (p : Pre s) : VOKr s (publishToSubscribers s pk) :=
  publishToSubscribers_cases (J := VOKr s) s pk
    (fun _ ho => VOK.inlines (KV.refl s) fun x hx => (ho x hx).imp fun _ e => ⟨_, _, e⟩) fun acc cs i hc h =>
      h.trans (publishToClientCore_vok acc.1 i cs.2 false _ ((h.pre p).cv _ _ (assocGet_mem _ _ _ hc)))

theorem publishRetainedToClient_vok (s : Server) (i : Nat) (sub : Sub) (ex : Bool) (k : Nat) (hi : i < s.objs.length) :
    VOKr s (publishRetainedToClient s i sub ex k) :=
  publishRetainedToClient_cases (J := VOKr s) s i sub ex k (VOK.refl s) fun acc sub' _ m _ h =>
    h.trans (publishToClientCore_vok acc.1 i sub' true m (h.kv.len ▸ hi))

theorem retainMsg_kv (s : Server) (pk : Msg) : KV s (retainMsg s pk) := by
  unfold retainMsg
  exact iteInduction (motive := KV s) (fun _ => KV.refl s) fun _ => (KV.refl s).upd rfl rfl rfl

theorem retainedState_kv (s : Server) (pk : Msg) : KV s (retainedState s pk) :=
  iteInduction (motive := KV s) (fun _ => retainMsg_kv s pk) fun _ => KV.refl s

theorem sendLWT_vok (s : Server) (i : Nat) (p : Pre s) : VOKr s (sendLWT s i) := by
  refine sendLWT_cases (Q := VOKr s) s i (fun _ => VOK.refl s)
    (fun _ _ _ _ => VOK.of_kv ((KV.refl s).upd rfl rfl rfl)) (fun pk _ _ _ => ?_)
  have hs1 := retainedState_kv s pk
  have h2 := VOK.after hs1 (publishToSubscribers_vok _ pk (hs1.pre p))
  exact (h2.stepQ (s2 := willCleared _ i) ((KV.refl _).mod i _ (by fix_rfl))).trans (VOK.event (KV.refl _) _)

/-! ### the handlers -/

/-- a packet the handler writes directly to its own (live, non-inline) client -/
theorem VOK.direct {s s' : Server} (h : KV s s') (i : Nat) (hi : i < s.objs.length) (hin : (getObj s i).inline = false)
    (pk : WPk) (hd : dead (getObj s' i) = false) (hv : ∀ v, verOf pk = some v → v = (getObj s' i).ver)
    (hsh : Shape pk) (hnd : ¬ IsDisc (.wrote (getObj s' i).conn pk)) :
    VOK s s' [.wrote (getObj s' i).conn pk] :=
  VOK.single h (OutOK.back h ⟨hsh, i, h.len ▸ hi, (h.fix i).inline.trans hin, rfl, hv, ((dead_eq_false_iff _).mp hd).1⟩)
    hnd

theorem ackRes_vok (s : Server) (i t id rc : Nat) (hi : i < s.objs.length) : VOKh s (ackRes s i t id rc) := by
  rcases ackRes_cases s i t id rc with h | h <;> rw [h]
  · exact VOK.write (KV.refl s) i _ hi
  · exact VOK.refl s

theorem processPuback_vok (s : Server) (i id : Nat) : VOKh s (processPuback s i id) :=
  processPuback_cases (Q := VOKh s) s i id (fun _ => VOK.refl s)
    (fun _ => VOK.of_kv (recordGone_walk Fix.ops (KV.walk i) s id _ Fix.incSend))

theorem processPubrec_vok (s : Server) (i id rc : Nat) (hi : i < s.objs.length) : VOKh s (processPubrec s i id rc) := by
  have hs1 : KV s (setObj s i (flSet (decRecv (getObj s i)) (pubrelAck s id)).1) :=
    (KV.refl s).set i _ ((Fix.decRecv _).trans (Fix.flSet _ _))
  exact processPubrec_cases (Q := VOKh s) s i id rc rfl (fun _ => ackRes_vok s i 6 id 0x92 hi)
    (fun _ _ => VOK.of_kv ((KV.walk i).setInfl s _ _ (Fix.flDelete _ id))) (fun _ _ _ => VOK.of_kv hs1)
    (fun _ _ _ => VOK.write hs1 i _ hi)

theorem processPubrel_vok (s : Server) (i id rc : Nat) (hi : i < s.objs.length) : VOKh s (processPubrel s i id rc) := by
  have hc1 : Fix (getObj s i) (flSet (getObj s i) (pubcompAck s id)).1 := Fix.flSet _ _
  have hs1 : KV s (setObj s i (flSet (getObj s i) (pubcompAck s id)).1) := (KV.refl s).set i _ hc1
  exact processPubrel_cases (Q := VOKh s) s i id rc rfl (fun _ => ackRes_vok s i 7 id 0x92 hi)
    (fun _ _ => VOK.of_kv ((KV.walk i).setInfl s _ _ (Fix.flDelete _ id))) (fun _ _ _ => VOK.of_kv hs1)
    (fun _ _ _ => VOK.write_at hs1 ((KV.walk i).setInfl s _ _
      (hc1.trans (((Fix.incRecv _).trans (Fix.incSend _)).trans (Fix.flDelete _ id)))) i _ hi)

theorem processPubcomp_vok (s : Server) (i id : Nat) : VOKh s (processPubcomp s i id) :=
  VOK.of_kv (processPubcomp_walk Fix.ops (KV.walk i) s id)

theorem nextImmediate_vok (s : Server) (i : Nat) (hi : i < s.objs.length) : VOKr s (nextImmediate s i) :=
  nextImmediate_cases (Q := VOKr s) s i (VOK.refl s) fun m _ _ =>
    VOK.write_at (KV.refl s)
      (((KV.refl s).upd (s' := { s with nextSeed := s.nextSeed / 64 }) rfl rfl rfl).trans
        (recordGone_walk Fix.ops (KV.walk i) _ m.id _ Fix.decSend)) i m hi

theorem processDisconnect_vok (s : Server) (i rc : Nat) (sei : Option Nat) : VOKh s (processDisconnect s i rc sei) :=
  have h : KV s (discState s i sei) := (KV.refl s).set i _ (by cases sei; exact Fix.refl _; exact Fix.ops.sei _ _ _)
  processDisconnect_cases (Q := VOKh s) s i rc sei (fun _ => VOK.refl s) (fun _ _ => VOK.of_kv h)
    (fun _ _ => VOK.after
      (h.upd (s' := { discState s i sei with willDelayed := assocDel s.willDelayed (getObj s i).id }) rfl rfl rfl)
      (stopClient_vok _ i))

theorem processUnsubscribe_vok (s : Server) (i id : Nat) (filters : List Str) (hi : i < s.objs.length)
    (hin : (getObj s i).inline = false) : VOKh s (processUnsubscribe s i id filters) :=
  processUnsubscribe_cases (I := fun s' _ => KV s s') (Q := VOKh s) s i id filters (KV.refl s) (fun _ _ _ h => h)
    (fun s' _ _ _ h => h.trans ((KV.walk i).subsWritten Fix.subs KV.idx s' _ _ _)) (fun _ _ h _ => VOK.of_kv h)
    (fun s' rcs h hd => VOK.direct h i hi hin (.unsuback (getObj s' i).ver id rcs) hd (fun v e => by cases e; rfl)
      trivial (fun h => h))

theorem fin_v3 (ver rc : Nat) (h : ver < 5) : V3SubCode (if (decide (rc > 2) && decide (ver < 5)) = true then 0x80 else rc) := by
  by_cases h2 : rc > 2
  · simp [h2, h, V3SubCode]
  · simp only [h2, decide_false, Bool.false_and, Bool.false_eq_true, if_false]
    unfold V3SubCode
    omega

/-- every code `subCode` yields goes through the MQTT 3 downgrade `finCode` -/
theorem _root_.Mochi.Broker.subCode_v3 (s : Server) (i id : Nat) (sub : Sub) (hv : (getObj s i).ver < 5) :
    V3SubCode (R07.subCode s i id sub) := by
  have fin' : ∀ x, V3SubCode (R07.finCode (getObj s i).ver x) := fun x => fin_v3 _ x hv
  unfold R07.subCode
  exact iteInduction (fun _ => fin' _) fun _ => iteInduction (fun _ => fin' _) fun _ =>
    iteInduction (fun _ => fin' _) fun _ => iteInduction (fun _ => fin' _) fun _ => fin' _

/-- the per-filter fold keeps `KV` and, for an MQTT 3 client, collects MQTT 3 return codes only; the replay starts from
    the state `s'` it leaves, which is why its invariant carries `KV s s'` along -/
theorem processSubscribe_vok (s : Server) (i id subId : Nat) (filters : List Sub) (hi : i < s.objs.length)
    (hin : (getObj s i).inline = false) : VOKh s (processSubscribe s i id subId filters) := by
  have more : ∀ {rcs : List Nat} (rc), ((getObj s i).ver < 5 → ∀ x ∈ rcs, V3SubCode x) →
      (getObj s i).ver < 5 → ∀ x ∈ rcs ++ [R07.finCode (getObj s i).ver rc], V3SubCode x := fun rc h hv x hx =>
    (List.mem_append.mp hx).elim (h hv x) fun hx => List.mem_singleton.mp hx ▸ fin_v3 _ rc hv
  refine processSubscribe_cases (I := fun s' rcs => KV s s' ∧ ((getObj s i).ver < 5 → ∀ x ∈ rcs, V3SubCode x))
    (J := fun s' acc => KV s s' ∧ VOKr s' acc) (Q := VOKh s) s i id subId filters
    ⟨KV.refl s, fun _ _ hx => nomatch hx⟩ (fun s' rcs rc h => ⟨h.1, more rc h.2⟩)
    (fun s' rcs sub h _ _ _ _ => ⟨h.1.trans ((KV.walk i).subsWritten Fix.subs KV.idx s' _ _ _), more _ h.2⟩)
    (fun _ _ h _ => VOK.of_kv h.1) (fun s' _ h _ => ⟨h.1, VOK.refl s'⟩) (fun s' acc sub ex k h => ⟨h.1, ?_⟩)
    (fun s' rcs z h hd hz => ?_)
  · exact h.2.trans (publishRetainedToClient_vok acc.1 i sub ex k (by rw [h.2.kv.len, h.1.len]; exact hi))
  · exact (VOK.direct h.1 i hi hin (.suback (getObj s' i).ver id rcs) hd (fun v e => by cases e; rfl)
      (fun hlt => h.2 (by rw [← (h.1.fix i).ver]; exact hlt)) (fun h => h)).trans hz.2

theorem processPublish_vok (s : Server) (i : Nat) (qos : Nat) (dup retain : Bool) (id : Nat) (topic payload : Str)
    (msgExpiry : Nat) (alias : Option Nat) (p : Pre s) (hi : i < s.objs.length) :
    VOKh s (processPublish s i qos dup retain id topic payload msgExpiry alias) :=
  processPublish_tr (VOK.tracedAt i) i id s qos dup retain topic payload msgExpiry alias
    (fun s' code _ c => disconnectClient_vok s' i code c.1 c.2)
    (fun s' t rc _ c => ackRes_vok s' i t id rc c.2) (fun _ => VOK.of_kv (pubTaken_walk Fix.ops (KV.walk i) s id _))
    (fun s' pk _ _ _ => VOK.of_kv (retainMsg_kv s' pk)) (fun s' pk _ c => publishToSubscribers_vok s' pk c.1)
    (fun s' ack _ _ _ => VOK.of_kv (pubAcked_walk Fix.ops (KV.walk i) s' ack))
    (fun s' ack _ c => VOK.write (KV.refl s') i ack c.2)
    (fun s' _ => VOK.of_kv (recordGone_walk Fix.ops (KV.walk i) s' id _ Fix.incRecv)) ⟨p, hi⟩

/-! ### one inbound packet -/

def isPublish : InPk → Bool
  | .publish .. => true
  | _ => false

theorem receivePacket_vok (s : Server) (i : Nat) (pk : InPk) (p : Pre s) (hi : i < s.objs.length)
    (hin : (getObj s i).inline = false ∨ isPublish pk = true) : VOKh s (receivePacket s i pk) := by
  have hin' : isPublish pk = false → (getObj s i).inline = false := fun e => hin.elim id fun h => nomatch e.symm.trans h
  have h : VOKh s (R07.handler s i pk) := handler_cases (Q := VOKh s) s i pk
    (fun _ _ _ _ _ _ _ _ _ _ _ => VOK.refl s)
    (fun q d r id t pl me al _ _ => processPublish_vok s i q d r id t pl me al p hi) (fun _ => VOK.refl s)
    (fun id si fs e => processSubscribe_vok s i id si fs hi (hin' (e ▸ rfl)))
    (fun id fs e => processUnsubscribe_vok s i id fs hi (hin' (e ▸ rfl))) (fun id _ _ => processPuback_vok s i id)
    (fun id rc _ => processPubrec_vok s i id rc hi) (fun id rc _ => processPubrel_vok s i id rc hi)
    (fun id _ _ => processPubcomp_vok s i id)
    (fun e hd => VOK.direct (KV.refl s) i hi (hin' (e ▸ rfl)) .pingresp hd (fun v e => nomatch e) trivial id)
    (fun _ _ => VOK.refl s) (fun rc sei _ => processDisconnect_vok s i rc sei)
  exact receivePacket_tr (VOK.tracedAt i) i s pk (fun _ => h) (fun s c => nextImmediate_vok s i c.2)
    (fun s' code _ _ c => disconnectClient_vok s' i code c.1 c.2) ⟨p, hi⟩

theorem detachA_vok (s : Server) (i : Nat) (withErr : Bool) (p : Pre s) : VOKr s (detachA s i withErr) :=
  detachA_cases (Q := VOKr s) s i withErr (fun _ => (sendLWT_vok s i p).trans (stopClient_vok _ i))
    (fun _ => VOK.of_kv ((KV.refl s).mod i (fun c => { c with will := {} }) (by fix_rfl)))

theorem sessionEnded_kv (s : Server) (i : Nat) (cid : Str) : KV s (sessionEnded s i cid) :=
  ((clearInflights_walk Fix.ops (KV.walk i) s).trans (unsubscribeClient_walk (KV.walk i) Fix.subs KV.idx _)).delClient cid

theorem detachB_kv (s : Server) (i : Nat) : KV s (detachB s i) :=
  detachB_stages (Q := KV s) s i fun s' hs' =>
    KV.upd (s := s') (hs'.elim (fun e => e ▸ KV.refl s) fun e => e ▸ sessionEnded_kv s i _) rfl rfl rfl

theorem detach_vok (s : Server) (i : Nat) (withErr : Bool) (p : Pre s) : VOKr s (detach s i withErr) :=
  detach_tr (VOK.traced.guard fun v p => v.pre p) i (fun s b p => detachA_vok s i b p)
    (fun s _ => VOK.of_kv (detachB_kv s i)) s withErr p

/-- the connection table points at existing, non-inline objects -/
def ConnOK (s : Server) : Prop := ∀ n i, assocGet s.connOf n = some i → i < s.objs.length ∧ (getObj s i).inline = false

theorem recvOn_vok (s : Server) (conn : Nat) (pk : InPk) (b : Bool) (p : Pre s) (hc : ConnOK s) :
    VOKr s (recvOn s conn pk b) := by
  cases hci : assocGet s.connOf conn with
  | none => rw [recvOn_unknown hci]; exact VOK.refl s
  | some i =>
    -- the handlers of the connection's object `i`, which exists and is a network client in every state `KV` reaches
    have H := VOK.traced.guard (C := fun s => Pre s ∧ i < s.objs.length ∧ (getObj s i).inline = false)
      fun v c => ⟨v.pre c.1, v.kv.len ▸ c.2.1, (v.kv.fix i).inline.trans c.2.2⟩
    have rp := fun s pk (c : Pre s ∧ i < s.objs.length ∧ (getObj s i).inline = false) =>
      receivePacket_vok s i pk c.1 c.2.1 (Or.inl c.2.2)
    exact recvOn_trAt H i (fun h c => (h c).noPingresp) s pk (rp s pk) (rp · _) (fun s b c => detach_vok s i b c.1)
      conn b hci ⟨p, hc conn i hci⟩

/-! ### connecting -/

theorem KV.addClient {s0 s : Server} (h : KV s0 s) (cid : Str) (i : Nat) (hi : i < s.objs.length) :
    KV s0 { s with clients := assocSet s.clients cid i } := by
  refine ⟨h.len, h.fix, fun x => ?_, h.connOf⟩
  intro c j hm
  rcases assocSet_mem_cases _ _ _ _ hm with hm | hm
  · exact h.cv x c j hm
  · cases hm; exact hi

theorem admitA_vok (s : Server) (i : Nat) (k : Connect) (p : Pre s) (hi : i < s.objs.length) :
    VOK s (admitA s i k).1 (admitA s i k).2.1 := by
  -- the only write is the DISCONNECT to the object the client id was registered for, which exists in `s`
  obtain ⟨b, v, e⟩ := admitA_tr (VOK.traced.guard (C := fun t => Pre t ∧ t.objs.length = s.objs.length)
      fun v c => ⟨v.pre c.1, v.kv.len.trans c.2⟩) s i k (fun _ => VOK.of_kv ((KV.refl s).upd rfl rfl rfl))
    (fun t e he c => disconnectClient_vok t e 0x8E c.1 (c.2 ▸ p.cv _ _ (assocGet_mem _ _ _ he)))
    (fun t e _ _ => VOK.of_kv (unsubscribeClient_walk (KV.walk e) Fix.subs KV.idx t))
    (fun t e _ _ => VOK.of_kv (clearInflights_walk Fix.ops (KV.walk e) t))
    (fun t e _ _ => VOK.of_kv ((KV.refl t).mod e (fun x => { x with takenOver := true }) (by fix_rfl)))
    (fun t e _ _ => VOK.of_kv (iteInduction (motive := KV t) (fun _ => (KV.walk i).setInfl t _ _ (by fix_rfl))
      fun _ => KV.refl t))
    (fun t l _ => VOK.of_kv (List.foldlRecOn l _ (motive := KV t) (KV.refl t) fun b h fs _ =>
      h.trans ((KV.walk i).subsWritten Fix.subs KV.idx b _ _ _)))
  rw [e]
  exact (v ⟨p, rfl⟩).stepQ ((KV.refl b).addClient k.id i ((v ⟨p, rfl⟩).kv.len ▸ hi))

/-- `admitA` keeps `isOpen` of the connecting object (the session it takes over is another object) -/
theorem admitA_open (s : Server) (i : Nat) (k : Connect) (hne : ∀ e, assocGet s.clients k.id = some e → e ≠ i) :
    (getObj (admitA s i k).1 i).isOpen = (getObj s i).isOpen := by
  cases he : assocGet s.clients k.id with
  | none => exact ((admitA_qc_none s i k he).q.all i).isOpen.symm
  | some e =>
    have q := ((admitA_qc_some s i k e he).q.all i).isOpen
    have f := ((stopClient_frame (connCounted s) e).other i (fun h => hne e he h.symm)).isOpen
    exact (f.trans q).symm

theorem admitConnack_vok (s : Server) (i conn : Nat) (present : Bool) (hi : i < s.objs.length)
    (hin : (getObj s i).inline = false) (hconn : (getObj s i).conn = conn) (hopen : (getObj s i).isOpen = true) :
    VOKr s (admitConnack s i conn present) :=
  have hw : ∀ {s' : Server} (sei : Option Nat), KV s s' →
      VOK s s' [.wrote conn (mkConnack s (getObj s i) present 0 sei)] := fun sei hk =>
    VOK.single hk (x := .wrote conn (mkConnack s (getObj s i) present 0 sei))
      ⟨fun _ => Or.inl rfl, i, hi, hin, hconn, fun v e => by cases e; rfl, hopen⟩ id
  admitConnack_cases (Q := VOKr s) s i conn present (fun _ => hw _ ((KV.refl s).set i _ (Fix.ops.sei _ _ _)))
    (fun _ => hw _ (KV.refl s))

theorem admitC_vok (s : Server) (i : Nat) (k : Connect) (present : Bool) (hi : i < s.objs.length) :
    VOKr s (admitC s i k present) :=
  admitC_cases (J := VOKr s) s i k present (VOK.of_kv ((KV.refl s).upd rfl rfl rfl)) fun acc m h =>
    h.trans (VOK.write_at (KV.refl acc.1)
      (iteInduction (motive := KV acc.1) (fun _ => recordGone_walk Fix.ops (KV.walk i) acc.1 m.id (fun c => c) Fix.refl)
        fun _ => KV.refl _)
      i _ (h.kv.len ▸ hi))

theorem admitClient_vok (s : Server) (i conn : Nat) (k : Connect) (p : Pre s) (hi : i < s.objs.length)
    (hin : (getObj s i).inline = false) (hconn : (getObj s i).conn = conn) (hopen : (getObj s i).isOpen = true)
    (hne : ∀ e, assocGet s.clients k.id = some e → e ≠ i) : VOKr s (admitClient s i conn k) :=
  have v1 := admitA_vok s i k p hi
  admitClient_tr (VOK.tracedAt i) i conn k s rfl rfl (fun _ => v1)
    (fun c => admitConnack_vok _ i conn _ c.2 ((v1.kv.fix i).inline.trans hin) ((v1.kv.fix i).conn.trans hconn)
      ((admitA_open s i k hne).trans hopen))
    (fun e _ c => detach_vok _ e true c.1) (fun s' c => admitC_vok s' i k _ c.2) ⟨p, hi⟩

/-- every code of the table is in the MQTT 3 list, 0x89 apart, which is what an MQTT 5 client is told -/
theorem refuseCode_v3 (s : Server) (k : Connect) (c : Client) (code : Nat) (h : refuseCode s k c = some code)
    (hv : k.ver < 5) : V3ConnackCode code := by
  have ok : ∀ n, V3ConnackCode n → some n = some code → V3ConnackCode code := fun n hn e => Option.some.inj e ▸ hn
  exact refuseCode_cases (Q := fun r => r = some code → V3ConnackCode code) s k c
    (fun _ => ok _ (by rw [if_pos hv]; decide)) (fun _ => ok _ (by decide)) (fun _ => ok _ (by decide))
    (fun _ => ok _ (by decide)) (fun _ => ok _ (by decide)) (fun _ _ => ok _ (by decide)) (fun _ _ e => nomatch e) h

theorem connect_vok (s : Server) (conn : Nat) (k : Connect) (p : Pre (connState s conn k))
    (hne : ∀ cid e, assocGet s.clients cid = some e → e ≠ s.objs.length) :
    VOKr (connState s conn k) (connect s conn k) := by
  have hi := connState_lt s conn k
  have hobj := getObj_connState_new s conn k
  exact connect_tr VOK.traced _ s conn k (VOK.refl _)
    (fun code hcode => (VOK.single (KV.refl _) (x := .wrote conn (mkConnack _ (parseConnect s conn k) false code none))
      ⟨fun hv => refuseCode_v3 _ k _ code hcode hv, _, hi, by rw [hobj]; rfl, by rw [hobj]; rfl,
        fun v e => by cases e; rw [hobj], by rw [hobj]; rfl⟩ id).trans (stopClient_vok _ _))
    (admitClient_vok _ _ conn k p hi (by rw [hobj]; rfl) (by rw [hobj]; rfl) (by rw [hobj]; rfl)
      fun e he => hne k.id e he)

/-! ### housekeeping -/

theorem tickClients_vok (s : Server) (dt : Int) : VOKr s (tickClients s dt) :=
  tickClients_cases (J := VOKr s) s dt (VOK.refl s) fun acc e _ _ h =>
    h.trans (VOK.event (sessionEnded_kv acc.1 e.2 e.1) _)

theorem tickRetained_kv (s : Server) (now : Int) : KV s (tickRetained s now) :=
  tickRetained_cases (J := KV s) s now (KV.refl s) (fun _ _ _ _ h => h.upd rfl rfl rfl) fun _ h => h.upd rfl rfl rfl

theorem tickInflight_kv (s : Server) (now : Int) : KV s (tickInflight s now) :=
  tickInflight_cases (J := KV s) s now (KV.refl s) fun b e m _ h =>
    h.trans (recordGone_walk Fix.ops (KV.walk e.2) b m.id (fun c => c) Fix.refl)

theorem publishDue_vok {s : Server} (acc : Server × List Out) (e : Str × Msg) (h : VOKr s acc) (p : Pre s) :
    VOKr s (publishDue acc e) := by
  have g1 := h.trans (publishToSubscribers_vok acc.1 e.2 (h.pre p))
  refine publishDue_cases (Q := VOKr s) acc e rfl (fun _ => ?_) (fun j _ => ?_)
  · refine VOK.append_nil (VOK.stepQ g1 ?_)
    exact (KV.refl _).upd rfl rfl rfl
  · refine VOK.stepQ (g1.trans (VOK.event ((retainedState_kv _ e.2).mod j (fun c => { c with will := {} }) ?_) _)) ?_
    · fix_rfl
    · exact (KV.refl _).upd rfl rfl rfl

theorem tickWills_vok (s : Server) (dt : Int) (p : Pre s) : VOKr s (tickWills s dt) :=
  tickWills_cases (J := VOKr s) s dt (VOK.refl s) fun acc e _ _ h => publishDue_vok acc e h p

/-! ### one op -/

/-- the post-state reading of `OutOK` (an object written to may have been closed later in the op) -/
def Addr (s : Server) : Out → Prop
  | .wrote conn pk => Shape pk ∧ ∃ j, j < s.objs.length ∧ (getObj s j).inline = false ∧ (getObj s j).conn = conn ∧
      (∀ v, verOf pk = some v → v = (getObj s j).ver)
  | _ => True

theorem OutOK.fwd {s s' : Server} (h : KV s s') {x : Out} (g : OutOK s x) : Addr s' x := by
  cases x with
  | wrote conn pk =>
    obtain ⟨sh, j, hj, hin, hc, hv, _⟩ := g
    exact ⟨sh, j, by rw [h.len]; exact hj, by rw [(h.fix j).inline]; exact hin,
      by rw [(h.fix j).conn]; exact hc, fun v e => by rw [(h.fix j).ver]; exact hv v e⟩
  | closed _ => trivial
  | event _ => trivial
  | inline _ _ _ => trivial

/-- the invariant the op-level theorems assume (holds initially, kept by every covered op: `Inv_init`, `Inv_step`) -/
structure Inv (s : Server) : Prop where
  pre : Pre s
  connOK : ConnOK s
  map : ConnMap s
  inl : 0 < s.objs.length

theorem KV.inv {s s' : Server} (h : KV s s') (i : Inv s) : Inv s' := by
  refine ⟨h.pre i.pre, ?_, ?_, by rw [h.len]; exact i.inl⟩
  · intro n j hj
    rw [h.connOf] at hj
    obtain ⟨a, b⟩ := i.connOK n j hj
    exact ⟨by rw [h.len]; exact a, by rw [(h.fix j).inline]; exact b⟩
  · exact i.map.of_ck ⟨h.len, h.connOf, fun k => (h.fix k).conn, fun k => (h.fix k).inline⟩

theorem getObj_ge (s : Server) (k : Nat) (h : s.objs.length ≤ k) : getObj s k = {} :=
  getObj_default (Nat.not_lt.mpr h)

theorem Inv.add {s : Server} (h : Inv s) (conn : Nat) (k : Connect) (hf : conn ∉ s.connOf.map (·.1)) :
    Inv (connState s conn k) := by
  have hlen := connState_length s conn k
  have hmap : ConnMap (connState s conn k) := connMap_addObj h.map (parseConnect s conn k) conn rfl hf
  refine ⟨⟨?_, hmap.distinct, ?_⟩, ?_, hmap, by rw [hlen]; omega⟩
  · intro cid j hm
    have : j < s.objs.length := h.pre.cv cid j hm
    rw [hlen]; omega
  · intro j
    by_cases h2 : j = s.objs.length
    · subst h2
      rw [getObj_connState_new]
      intro hst
      have : (parseConnect s conn k).stopped = false := rfl
      rw [this] at hst; cases hst
    · rw [getObj_connState_ne s conn k j h2]; exact h.pre.so j
  · intro n j hj
    have hj' : assocGet (s.connOf ++ [(conn, s.objs.length)]) n = some j := hj
    rw [assocGet_append] at hj'
    cases h1 : assocGet s.connOf n with
    | some j' =>
      rw [h1] at hj'
      cases hj'
      obtain ⟨a, b⟩ := h.connOK n j h1
      exact ⟨by rw [hlen]; omega, by rw [getObj_connState_old s conn k j a]; exact b⟩
    | none =>
      rw [h1] at hj'
      have : j = s.objs.length := by
        simp only [Option.none_or, assocGet] at hj'
        split at hj'
        · cases hj'; rfl
        · cases hj'
      subst this
      exact ⟨by rw [hlen]; omega, by rw [getObj_connState_new]; rfl⟩

/-- the state in which the op is served -/
def startOf (s : Server) : Op → Server
  | .connect conn k => connState s conn k
  | _ => s

/-- the ops the walk covers: all but `connectHold` (a CONNECT whose handler is parked inside `attachClient`) and
    `release` — that one wholesale, also where it releases a handler parked after its read loop -/
def Covered : Op → Bool
  | .connectHold .. => false
  | .release _ => false
  | _ => true

theorem Inv.start {s : Server} (h : Inv s) (op : Op) (hf : OpFresh s op) : Inv (startOf s op) := by
  cases op with
  | connect conn k => exact h.add conn k hf
  | _ => exact h

theorem VOK.filterClosed {s s' : Server} {o : List Out} (h : VOK s s' o) (conn : Nat) :
    VOK s s' (o.filter (fun x => match x with | .closed c => c != conn | _ => true)) := h.filter _

theorem step_vok (s : Server) (op : Op) (h : Inv s) (hc : Covered op = true) (hf : OpFresh s op) :
    VOKr (startOf s op) (step s op) := by
  have H := VOK.traced.guard (C := Inv) fun v i => v.kv.inv i
  have ping := fun s' c (h' : Inv s') => recvOn_vok s' c .pingreq false h'.pre h'.connOK
  -- every op but a CONNECT is served in `s` itself
  have rest : (∀ c k, op ≠ .connect c k) → VOKr s (step s op) := fun hnc =>
    step_tr H VOK.drops.guard s op
      (conn := fun c k e => absurd e (hnc c k))
      (hold := fun _ _ _ e => by subst e; cases hc)
      (recv := fun c pk _ h' => recvOn_vok s c pk true h'.pre h'.connOK)
      (cut := fun c pk _ _ _ h' => recvOn_vok _ c pk false h'.pre h'.connOK)
      (ping := ping)
      (peer := fun s' i _ => VOK.of_kv ((KV.refl s').mod i _ (by fix_rfl)))
      (det := fun s' i b h' => detach_vok s' i b h'.pre)
      (detA := fun s' i h' => detachA_vok s' i true h'.pre)
      (detB := fun s' i _ => VOK.of_kv (detachB_kv s' i))
      (park := fun s' _ _ _ => VOK.of_kv ((KV.refl s').upd rfl rfl rfl))
      (unpark := fun _ _ => VOK.of_kv ((KV.refl s).upd rfl rfl rfl))
      (rel := fun _ _ e => by subst e; cases hc)
      (tick := fun kind t e _ => e ▸ step_tick_cases (Q := VOKr s) s kind t (tickClients_vok s t)
        (VOK.of_kv (tickRetained_kv s t)) (VOK.of_kv (tickInflight_kv s t)) (tickWills_vok s t h.pre) (VOK.refl s))
      (pub := fun _ _ _ _ _ _ => receivePacket_vok s 0 _ h.pre h.inl (Or.inr rfl))
      (isub := fun _ _ _ ho _ => VOK.inlines ((KV.refl s).upd rfl rfl rfl) ho)
      (iunsub := fun _ _ _ => VOK.of_kv ((KV.refl s).upd rfl rfl rfl)) h
  cases op with
  | connect c k =>
    exact step_connect_tr H VOK.drops.guard _ s c k (fun h0 => connect_vok s c k h0.pre fun cid e he =>
      Nat.ne_of_lt (h.pre.cv cid e (assocGet_mem _ _ _ he))) (ping · c) (h.add c k hf)
  | _ => exact rest fun _ _ e => nomatch e

theorem Inv_step (s : Server) (op : Op) (h : Inv s) (hc : Covered op = true) (hf : OpFresh s op) :
    Inv (step s op).1 :=
  (step_vok s op h hc hf).kv.inv (h.start op hf)

theorem Inv_init (caps : Caps) : Inv (init caps) := by
  have hmap := ConnMap_init caps
  refine ⟨⟨?_, hmap.distinct, ?_⟩, ?_, hmap, Nat.zero_lt_one⟩
  · intro cid j hm
    have : (cid, j) ∈ [(inlineID, 0)] := hm
    rw [List.mem_singleton] at this
    cases this
    exact Nat.zero_lt_one
  · intro k
    by_cases hk : k = 0
    · subst hk; intro hst; cases hst
    · rw [getObj_ge _ k (by show 1 ≤ k; omega)]
      intro hst; cases hst
  · intro n j hj
    cases hj

theorem Inv_run (caps : Caps) (ops : List Op) (hc : ∀ op ∈ ops, Covered op = true) (hf : OpsFresh (init caps) ops) :
    Inv (run (init caps) ops) :=
  run_inv (fun s op i c => Inv_step s op i c.1 c.2) (Inv_init caps) ((OpsOK.forall.mpr hc).and (OpsFresh_iff.mp hf))

/-! ### the op-level statements -/

/-- every write of a covered op goes to the connection of an existing non-inline object of the post-state, is encoded
    for that object's version and has an MQTT 3 shape -/
theorem step_addr (s : Server) (op : Op) (h : Inv s) (hc : Covered op = true) (hf : OpFresh s op) :
    ∀ x ∈ (step s op).2, Addr (step s op).1 x := fun x hx =>
  ((step_vok s op h hc hf).ok x hx).fwd (step_vok s op h hc hf).kv

/-- … and that object is THE object the connection table maps the connection to -/
theorem step_version (s : Server) (op : Op) (h : Inv s) (hc : Covered op = true) (hf : OpFresh s op)
    (conn : Nat) (pk : WPk) (hw : Out.wrote conn pk ∈ (step s op).2) :
    ∃ j, assocGet (step s op).1.connOf conn = some j ∧ j < (step s op).1.objs.length ∧
      ∀ v, verOf pk = some v → v = (getObj (step s op).1 j).ver := by
  obtain ⟨_, j, hj, hin, hcj, hv⟩ := step_addr s op h hc hf _ hw
  have := (Inv_step s op h hc hf).map j hj hin
  rw [hcj] at this
  exact ⟨j, this, hj, hv⟩

theorem step_shape (s : Server) (op : Op) (h : Inv s) (hc : Covered op = true) (hf : OpFresh s op)
    (conn : Nat) (pk : WPk) (hw : Out.wrote conn pk ∈ (step s op).2) : Shape pk :=
  (step_addr s op h hc hf _ hw).1

/-- nothing follows a DISCONNECT on its connection within one op -/
theorem step_disc (s : Server) (op : Op) (h : Inv s) (hc : Covered op = true) (hf : OpFresh s op)
    (o1 o2 : List Out) (conn v code : Nat) (e : (step s op).2 = o1 ++ Out.wrote conn (.disconnect v code) :: o2) :
    (∀ pk, Out.wrote conn pk ∉ o2) ∧ ClosedOn (step s op).1 conn :=
  have := (step_vok s op h hc hf).disc o1 conn v code o2 e
  ⟨this.2, this.1⟩

end Mochi.Broker.W23
