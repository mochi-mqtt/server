import Mochi.Model.Broker
import Mochi.Lemmas.BrokerBasics
import Mochi.Lemmas.BrokerFrame
import Mochi.Lemmas.BrokerInv
import Mochi.Lemmas.BrokerDelivery
import Mochi.Lemmas.BrokerAnswers
import Mochi.Lemmas.BrokerWellFormedOut
import Mochi.Lemmas.BrokerPublishOp
import Mochi.Lemmas.BrokerExitsDelivery
import Mochi.Lemmas.BrokerWalk
import Mochi.Lemmas.BrokerExitsFanout
import Mochi.Lemmas.BrokerExitsStep
/-!
# C23 at broker level, second part: the shape of written PUBLISH packets, their topics, the DISCONNECT codes

One more walk over every function of the sequential broker model (`Mochi/Model/Broker.lean`) — this time carrying a
state invariant `SG T s` and a predicate on every output `OutP T x`:

* a written PUBLISH `m` has `PubShape m` (type 3, QoS ≤ 2, packet identifier 0 exactly when QoS 0) and a topic in `T`;
* a written DISCONNECT carries one of the six codes of `DiscCode`.

`T : Str → Prop` is a parameter (`TOK T`: it holds of the empty topic — the alias-only form — and of every topic that
`publishValidate` lets through): `T := fun _ => True` gives the shape theorems without any hypothesis on wills,
`T := NoWild` gives "no wildcard in an outbound topic" under the hypothesis that the will topics of CONNECT packets are
wildcard-free (they are NOT validated: finding F28b).

The invariant needs no bound on object indices (`setObj` out of range changes nothing, `getObj` out of range is the
default client, which satisfies `CG`), so — unlike `W23` — the walk covers ALL ops, `.connectHold` and `.release`
included, and needs no freshness of connection numbers.
-/
namespace Mochi.Broker.P23
open Mochi.Topics

/-! ### the predicates -/

/-- a well-formed outbound PUBLISH: QoS at most 2, packet identifier exactly when QoS > 0 -/
def PubShape (m : Msg) : Prop := m.type = 3 ∧ m.qos ≤ 2 ∧ (m.qos = 0 → m.id = 0) ∧ (0 < m.qos → 0 < m.id)

instance (m : Msg) : Decidable (PubShape m) := by unfold PubShape; infer_instance

/-- a topic NAME: neither `+` (43) nor `#` (35) -/
def NoWild (t : Str) : Prop := t.contains plus = false ∧ t.contains hash = false

instance (t : Str) : Decidable (NoWild t) := by unfold NoWild; infer_instance

/-- the DISCONNECT reason codes the sequential model writes: 0x82 protocol error (PublishValidate, empty
    SUBSCRIBE/UNSUBSCRIBE, unbound topic alias, session expiry raised from 0), 0x87 not authorized and 0x90 topic name
    invalid (MQTT 3 publisher, QoS > 0: finding F23b makes these DISCONNECT packets), 0x8E session taken over, 0x93
    receive maximum exceeded, 0x94 topic alias invalid -/
def DiscCode (c : Nat) : Prop := c = 0x82 ∨ c = 0x87 ∨ c = 0x8E ∨ c = 0x90 ∨ c = 0x93 ∨ c = 0x94

instance (c : Nat) : Decidable (DiscCode c) := by unfold DiscCode; infer_instance

/-- what is claimed of one output -/
def OutP (T : Str → Prop) : Out → Prop
  | .wrote _ (.publish _ m _) => PubShape m ∧ T m.topic
  | .wrote _ (.disconnect _ code) => DiscCode code
  | _ => True

/-- the topics `T` may be asked of: the empty one (a PUBLISH that carries only an alias) and whatever
    `publishValidate` accepts -/
structure TOK (T : Str → Prop) : Prop where
  nil : T []
  val : ∀ (s : Server) (q id : Nat) (t : Str) (al : Option Nat), publishValidate s q id t al = none → T t

theorem TOK_true : TOK (fun _ => True) := ⟨trivial, fun _ _ _ _ _ _ => trivial⟩

theorem TOK_noWild : TOK NoWild := by
  refine ⟨by decide, fun s q id t al h => ?_⟩
  refine publishValidate_cases (Q := fun r => r = none → NoWild t) s q id t al (fun e => nomatch e) (fun e => nomatch e)
    (fun _ _ hw _ _ _ _ => ?_) h
  rw [Bool.not_eq_true, Bool.or_eq_false_iff] at hw
  exact hw

/-- an in-flight record that is a PUBLISH (the map also holds the PUBACK/PUBREC/PUBREL/PUBCOMP records, F10) -/
def Rec (T : Str → Prop) (m : Msg) : Prop := m.type = 3 → 0 < m.qos ∧ m.qos ≤ 2 ∧ 0 < m.id ∧ T m.topic

structure CG (T : Str → Prop) (c : Client) : Prop where
  infl : ∀ m ∈ c.inflight, Rec T m
  will : T c.will.topic
  alias : ∀ e ∈ c.aliasIn, T e.2

/-- the state invariant of the walk -/
structure SG (T : Str → Prop) (s : Server) : Prop where
  caps : s.caps.maximumQos ≤ 2
  objs : ∀ k, CG T (getObj s k)
  ret : ∀ e ∈ s.rmsgs, T e.2.topic
  wd : ∀ e ∈ s.willDelayed, T e.2.topic

def OKo (T : Str → Prop) (o : List Out) : Prop := ∀ x ∈ o, OutP T x

/-- the error a handler returns is below 0x80 (no DISCONNECT is written for it) or in the table -/
def CodeOK (e : Option Nat) : Prop := ∀ code, e = some code → code < 0x80 ∨ DiscCode code

abbrev Gr (T : Str → Prop) (r : Server × List Out) : Prop := SG T r.1 ∧ OKo T r.2
abbrev Gh (T : Str → Prop) (r : HRes) : Prop := SG T r.1 ∧ OKo T r.2.1 ∧ CodeOK r.2.2

variable {T : Str → Prop}

theorem Gr.mk {s : Server} {o : List Out} (h : SG T s) (g : OKo T o) : Gr T (s, o) := ⟨h, g⟩
theorem Gh.mk {s : Server} {o : List Out} {e : Option Nat} (h : SG T s) (g : OKo T o) (c : CodeOK e) :
    Gh T (s, o, e) := ⟨h, g, c⟩

theorem OKo.nil : OKo T [] := fun _ h => by cases h

theorem OKo.append {a b : List Out} (h : OKo T a) (g : OKo T b) : OKo T (a ++ b) := by
  intro x hx
  rcases List.mem_append.mp hx with hx | hx
  · exact h x hx
  · exact g x hx

theorem OKo.filter {a : List Out} (h : OKo T a) (p : Out → Bool) : OKo T (a.filter p) :=
  fun x hx => h x (List.mem_filter.mp hx).1

theorem OKo.event (e : String) : OKo T [.event e] := by
  intro x hx; rw [List.mem_singleton] at hx; subst hx; trivial

theorem CodeOK.none : CodeOK none := fun _ h => by cases h
theorem CodeOK.low {c : Nat} (h : c < 0x80) : CodeOK (some c) := fun _ e => by cases e; exact Or.inl h
theorem CodeOK.disc {c : Nat} (h : DiscCode c) : CodeOK (some c) := fun _ e => by cases e; exact Or.inr h

/-! ### client level -/

theorem CG.of_eq {c c' : Client} (h : CG T c) (hi : c'.inflight = c.inflight) (hw : c'.will.topic = c.will.topic)
    (ha : c'.aliasIn = c.aliasIn) : CG T c' :=
  ⟨by rw [hi]; exact h.infl, by rw [hw]; exact h.will, by rw [ha]; exact h.alias⟩

theorem CG.default (hT : TOK T) : CG T ({} : Client) :=
  ⟨fun _ h => (by cases h), hT.nil, fun _ h => (by cases h)⟩

theorem CG.flSet {c : Client} (h : CG T c) (m : Msg) (hm : Rec T m) : CG T (flSet c m).1 := by
  unfold Mochi.Broker.flSet
  split
  · refine ⟨?_, h.will, h.alias⟩
    intro x hx
    obtain ⟨y, hy, rfl⟩ := List.mem_map.mp hx
    split
    · exact hm
    · exact h.infl y hy
  · refine ⟨?_, h.will, h.alias⟩
    intro x hx
    rcases List.mem_append.mp hx with hx | hx
    · exact h.infl x hx
    · rw [List.mem_singleton] at hx; subst hx; exact hm

theorem CG.flDelete {c : Client} (h : CG T c) (id : Nat) : CG T (flDelete c id).1 := by
  unfold Mochi.Broker.flDelete
  exact ⟨fun x hx => h.infl x (List.mem_filter.mp hx).1, h.will, h.alias⟩

theorem CG.decSend {c : Client} (h : CG T c) : CG T (decSend c) := by
  unfold Mochi.Broker.decSend; split
  · exact h.of_eq rfl rfl rfl
  · exact h
theorem CG.incSend {c : Client} (h : CG T c) : CG T (incSend c) := by
  unfold Mochi.Broker.incSend; split
  · exact h.of_eq rfl rfl rfl
  · exact h
theorem CG.decRecv {c : Client} (h : CG T c) : CG T (decRecv c) := by
  unfold Mochi.Broker.decRecv; split
  · exact h.of_eq rfl rfl rfl
  · exact h
theorem CG.incRecv {c : Client} (h : CG T c) : CG T (incRecv c) := by
  unfold Mochi.Broker.incRecv; split
  · exact h.of_eq rfl rfl rfl
  · exact h
theorem CG.aliasOutSet {c : Client} (h : CG T c) (t : Str) : CG T (aliasOutSet c t).1 := by
  unfold Mochi.Broker.aliasOutSet
  split
  · exact h
  · split
    · exact h
    · split
      · exact h
      · exact h.of_eq rfl rfl rfl

/-! ### server level -/

theorem SG.set {s : Server} (h : SG T s) (i : Nat) (c : Client) (hc : CG T c) : SG T (setObj s i c) :=
  ⟨h.caps, fun k => getObj_setObj_ind s i c k (h.objs k) fun _ => hc, h.ret, h.wd⟩

theorem SG.mod {s : Server} (h : SG T s) (i : Nat) (f : Client → Client) (hf : CG T (f (getObj s i))) :
    SG T (modObj s i f) := h.set i _ hf

theorem SG.upd {s s' : Server} (h : SG T s) (hc : s'.caps = s.caps) (ho : s'.objs = s.objs) (hr : s'.rmsgs = s.rmsgs)
    (hw : s'.willDelayed = s.willDelayed) : SG T s' :=
  ⟨by rw [hc]; exact h.caps, fun k => by rw [getObj_of_objs_eq ho k]; exact h.objs k, by rw [hr]; exact h.ret,
   by rw [hw]; exact h.wd⟩

/-! ### primitives -/

theorem shapeQos_le2 (caps : Caps) (sub : Sub) (q : Nat) (h : caps.maximumQos ≤ 2) : shapeQos caps sub q ≤ 2 := by
  rw [shapeQos_eq_min]; omega

theorem writeMsg_g (s : Server) (i : Nat) (m : Msg) (hm : m.type = 3 → PubShape m ∧ T m.topic) :
    OKo T (writeMsg s i m) := by
  unfold writeMsg
  extract_lets +onlyGivenNames c
  split
  · exact OKo.nil
  · split
    · rename_i ht
      intro x hx
      rw [List.mem_singleton] at hx; subst hx
      exact hm (by simpa using ht)
    · intro x hx
      rw [List.mem_singleton] at hx; subst hx
      trivial

theorem writeAck_g (s : Server) (i t id rc : Nat) (ht : t ≠ 3) : OKo T (writeAck s i t id rc) :=
  writeMsg_g s i _ (fun h => absurd h ht)

theorem stopClient_out (s : Server) (i : Nat) : OKo T (stopClient s i).2 := by
  intro x hx
  obtain ⟨c, rfl⟩ := W23.stopClient_out s i x hx
  trivial

theorem stopClient_sg (s : Server) (i : Nat) (h : SG T s) : SG T (stopClient s i).1 := by
  unfold stopClient
  extract_lets +onlyGivenNames c
  split
  · exact h
  · exact h.set i _ ((h.objs i).of_eq rfl rfl rfl)

theorem stopClient_g (s : Server) (i : Nat) (h : SG T s) : Gr T (stopClient s i) :=
  ⟨stopClient_sg s i h, stopClient_out s i⟩

theorem disconnectClient_g (s : Server) (i code : Nat) (h : SG T s) (hc : DiscCode code) :
    Gr T (disconnectClient s i code) := by
  rw [W23.disconnectClient_eq]
  refine ⟨stopClient_sg s i h, OKo.append ?_ (stopClient_out s i)⟩
  split
  · intro x hx
    rw [List.mem_singleton] at hx; subst hx
    exact hc
  · exact OKo.nil

/-! ### the delivery family -/

theorem coreClient_cg {c : Client} (h : CG T c) (t : Str) : CG T (coreClient c t) := by
  obtain ⟨ao, cur, e⟩ := coreClient_eq c t
  rw [e]
  exact h.of_eq rfl rfl rfl

/-- filing a record, deferred or not -/
theorem coreStored_sg (s : Server) (i : Nat) (c : Client) (m : Msg) (h : SG T s) (hc : CG T c)
    (hm : ∀ e, Rec T { m with expiry := e }) : SG T (coreStored s i c m) ∧ SG T (coreDeferred s i c m) :=
  ⟨(h.set i _ (hc.flSet m (hm m.expiry)).decSend).upd rfl rfl rfl rfl,
   (h.set i _ ((hc.flSet m (hm m.expiry)).decSend.flSet _ (hm (-1)))).upd rfl rfl rfl rfl⟩

theorem publishToClientCore_g (hT : TOK T) (s : Server) (i : Nat) (sub : Sub) (f : Bool) (pk : Msg) (h : SG T s)
    (hpk : T pk.topic) : Gr T (publishToClientCore s i sub f pk) := by
  have hc1 : CG T (coreClient (getObj s i) pk.topic) := coreClient_cg (h.objs i) _
  have hs1 : SG T (setObj s i (coreClient (getObj s i) pk.topic)) := h.set i _ hc1
  have hq1 : (coreOut s.caps (getObj s i) sub f pk).qos ≤ 2 := by
    rw [coreOut_qos]; exact shapeQos_le2 s.caps sub pk.qos h.caps
  have ht1 : T (coreOut s.caps (getObj s i) sub f pk).topic := by
    rcases coreOut_topic s.caps (getObj s i) sub f pk with e | e <;> rw [e]
    · exact hpk
    · exact hT.nil
  -- with its identifier the copy is a record
  have hst := fun pid (hpos : (coreOut s.caps (getObj s i) sub f pk).qos > 0) (hp : 0 < pid) =>
    coreStored_sg s i { coreClient (getObj s i) pk.topic with packetID := pid }
      { coreOut s.caps (getObj s i) sub f pk with id := pid } h (hc1.of_eq rfl rfl rfl) (fun _ _ => ⟨hpos, hq1, hp, ht1⟩)
  refine publishToClientCore_cases (Q := Gr T) s i sub f pk rfl rfl (fun hz => ⟨hs1, ?_⟩)
    (fun _ _ => ⟨hs1.upd rfl rfl rfl rfl, OKo.nil⟩) (fun _ _ _ => ⟨hs1.upd rfl rfl rfl rfl, OKo.event _⟩)
    (fun pid hpos _ _ hp _ _ => ⟨(hst pid hpos hp).2, OKo.nil⟩) (fun pid hpos _ _ hp _ _ => ⟨(hst pid hpos hp).1, ?_⟩)
  · split
    · exact OKo.nil
    · exact writeMsg_g _ i _ (fun ht => ⟨⟨ht, hq1, fun _ => coreOut_id .., fun hp => absurd hp hz⟩, ht1⟩)
  · split
    · exact OKo.nil
    · exact writeMsg_g _ i _ (fun ht => ⟨⟨ht, hq1, fun h0 => absurd hpos (by rw [h0]; exact Nat.lt_irrefl 0),
        fun _ => hp⟩, ht1⟩)

/-- what a fold has produced so far, and one more call -/
theorem Gr.more {acc r : Server × List Out} (ha : Gr T acc) (hr : Gr T r) : Gr T (r.1, acc.2 ++ r.2) :=
  ⟨hr.1, ha.2.append hr.2⟩

theorem Gr.filter {r : Server × List Out} (g : Gr T r) (p : Out → Bool) : Gr T (r.1, r.2.filter p) :=
  ⟨g.1, g.2.filter p⟩

/-- the invariant is kept and every output is as claimed: the relation the composite handlers are carried through -/
theorem Gr.traced : Traced (fun s s' o => SG T s → SG T s' ∧ OKo T o) :=
  ⟨fun _ h => ⟨h, OKo.nil⟩, fun h g x => ⟨(g (h x).1).1, (h x).2.append (g (h x).1).2⟩⟩

theorem Gr.drops : Drops (fun s s' o => SG T s → SG T s' ∧ OKo T o) := fun p h x => ⟨(h x).1, (h x).2.filter p⟩

theorem publishToSubscribers_g (hT : TOK T) (s : Server) (pk : Msg) (h : SG T s) (hpk : T pk.topic) :
    Gr T (publishToSubscribers s pk) :=
  publishToSubscribers_cases (J := Gr T) s pk
    (fun o ho => ⟨h, fun x hx => by obtain ⟨_, rfl⟩ := ho x hx; trivial⟩) fun acc cs i _ ha =>
      ha.more (publishToClientCore_g hT acc.1 i cs.2 false _ ha.1 ((stamped_fields s pk).1 ▸ hpk))

theorem publishRetainedToClient_g (hT : TOK T) (s : Server) (i : Nat) (sub : Sub) (ex : Bool) (k : Nat) (h : SG T s) :
    Gr T (publishRetainedToClient s i sub ex k) :=
  publishRetainedToClient_cases (J := Gr T) s i sub ex k ⟨h, OKo.nil⟩ fun acc sub' _ m hm ha =>
    ha.more (publishToClientCore_g hT acc.1 i sub' true m ha.1 (ha.1.ret _ (assocGet_mem _ _ _ hm)))

theorem retainMsg_sg (s : Server) (pk : Msg) (h : SG T s) (hpk : T pk.topic) : SG T (retainMsg s pk) := by
  unfold retainMsg
  split
  · exact h
  · extract_lets r rm
    refine ⟨h.caps, h.objs, ?_, h.wd⟩
    show ∀ e ∈ rm, T e.2.topic
    intro e he
    simp only [rm] at he
    split at he
    · rcases assocSet_mem_cases _ _ _ _ he with he | he
      · exact h.ret e he
      · rw [he]; exact hpk
    · exact h.ret e (List.mem_filter.mp he).1

theorem unsubscribeClient_sg (s : Server) (i : Nat) (h : SG T s) : SG T (unsubscribeClient s i) := by
  unfold unsubscribeClient
  extract_lets +onlyGivenNames c s1
  have h1 : SG T s1 := h.set i _ ((h.objs i).of_eq rfl rfl rfl)
  split
  · exact h1
  · refine foldl_inv (fun (x : Server) => SG T x) _ _ _ h1 ?_
    intro b a hb
    exact hb.upd rfl rfl rfl rfl

theorem clearInflights_sg (s : Server) (i : Nat) (h : SG T s) : SG T (clearInflights s i) := by
  unfold clearInflights
  extract_lets +onlyGivenNames c n
  have hc : CG T { c with inflight := [] } :=
    ⟨fun _ hx => absurd hx List.not_mem_nil, (h.objs i).will, (h.objs i).alias⟩
  exact (h.set i _ hc).upd rfl rfl rfl rfl

theorem retainedState_sg (s : Server) (pk : Msg) (h : SG T s) (hpk : T pk.topic) : SG T (retainedState s pk) := by
  unfold retainedState
  split
  · exact retainMsg_sg s pk h hpk
  · exact h

theorem sendLWT_g (hT : TOK T) (s : Server) (i : Nat) (h : SG T s) : Gr T (sendLWT s i) := by
  refine sendLWT_cases (Q := Gr T) s i (fun _ => ⟨h, OKo.nil⟩)
    (fun pk e _ _ => ⟨⟨h.caps, h.objs, h.ret, ?_⟩, OKo.nil⟩) (fun pk e _ _ => ?_)
  · intro x hx
    rcases assocSet_mem_cases _ _ _ _ hx with hx | hx
    · exact h.wd x hx
    · rw [hx, e]; exact (h.objs i).will
  · have hpk : T pk.topic := e ▸ (h.objs i).will
    have hf := publishToSubscribers_g hT _ pk (retainedState_sg s pk h hpk) hpk
    exact Gr.mk (hf.1.mod i _ ((hf.1.objs i).of_eq rfl rfl rfl)) (hf.2.append (OKo.event _))

/-! ### the handlers -/

theorem dc82 : DiscCode 0x82 := Or.inl rfl
theorem dc87 : DiscCode 0x87 := Or.inr (Or.inl rfl)
theorem dc8E : DiscCode 0x8E := Or.inr (Or.inr (Or.inl rfl))
theorem dc90 : DiscCode 0x90 := Or.inr (Or.inr (Or.inr (Or.inl rfl)))
theorem dc93 : DiscCode 0x93 := Or.inr (Or.inr (Or.inr (Or.inr (Or.inl rfl))))
theorem dc94 : DiscCode 0x94 := Or.inr (Or.inr (Or.inr (Or.inr (Or.inr rfl))))

theorem OKo.connack (s : Server) (c : Client) (conn : Nat) (sp : Bool) (code : Nat) (sei : Option Nat) :
    OKo T [Out.wrote conn (mkConnack s c sp code sei)] := by
  intro y hy; rw [List.mem_singleton] at hy; subst hy; exact True.intro

theorem OKo.single {x : Out} (h : OutP T x) : OKo T [x] := by
  intro y hy; rw [List.mem_singleton] at hy; subst hy; exact h

theorem ackRes_g (s : Server) (i t id rc : Nat) (h : SG T s) (ht : t ≠ 3) : Gh T (ackRes s i t id rc) := by
  rcases ackRes_cases s i t id rc with e | e <;> rw [e]
  · exact Gh.mk h (writeAck_g s i t id rc ht) CodeOK.none
  · exact Gh.mk h OKo.nil (CodeOK.low (by decide))

theorem recordGone_sg (s : Server) (i id : Nat) (q : Client → Client) (h : SG T s) (hq : ∀ c, CG T c → CG T (q c)) :
    SG T (recordGone s i id q) :=
  (h.set i _ (hq _ ((h.objs i).flDelete id))).upd rfl rfl rfl rfl

theorem processPuback_g (s : Server) (i id : Nat) (h : SG T s) : Gh T (processPuback s i id) :=
  processPuback_cases (Q := Gh T) s i id (fun _ => Gh.mk h OKo.nil CodeOK.none)
    (fun _ => Gh.mk (recordGone_sg s i id _ h fun _ hc => hc.incSend) OKo.nil CodeOK.none)

theorem ackDropped_sg (s : Server) (i id : Nat) (h : SG T s) : SG T (ackDropped s i id) :=
  (h.set i _ ((h.objs i).flDelete id)).upd rfl rfl rfl rfl

theorem processPubrec_g (s : Server) (i id rc : Nat) (h : SG T s) : Gh T (processPubrec s i id rc) := by
  have hn : (pubrelAck s id).type ≠ 3 := show (6 : Nat) ≠ 3 by decide
  have hs1 : SG T (setObj s i (flSet (decRecv (getObj s i)) (pubrelAck s id)).1) :=
    h.set i _ ((h.objs i).decRecv.flSet _ (fun ht => absurd ht hn))
  exact processPubrec_cases (Q := Gh T) s i id rc rfl (fun _ => ackRes_g s i 6 id 0x92 h (by decide))
    (fun _ _ => Gh.mk (ackDropped_sg s i id h) OKo.nil CodeOK.none)
    (fun _ _ _ => Gh.mk hs1 OKo.nil (CodeOK.low (by decide)))
    (fun _ _ _ => Gh.mk hs1 (writeMsg_g _ i _ (fun ht => absurd ht hn)) CodeOK.none)

theorem processPubrel_g (s : Server) (i id rc : Nat) (h : SG T s) : Gh T (processPubrel s i id rc) := by
  have hn : (pubcompAck s id).type ≠ 3 := show (7 : Nat) ≠ 3 by decide
  have hc1 : CG T (flSet (getObj s i) (pubcompAck s id)).1 := (h.objs i).flSet _ (fun ht => absurd ht hn)
  exact processPubrel_cases (Q := Gh T) s i id rc rfl (fun _ => ackRes_g s i 7 id 0x92 h (by decide))
    (fun _ _ => Gh.mk (ackDropped_sg s i id h) OKo.nil CodeOK.none)
    (fun _ _ _ => Gh.mk (h.set i _ hc1) OKo.nil (CodeOK.low (by decide)))
    (fun _ _ _ => Gh.mk ((h.set i _ (hc1.incRecv.incSend.flDelete id)).upd rfl rfl rfl rfl)
      (writeMsg_g _ i _ (fun ht => absurd ht hn)) CodeOK.none)

theorem processPubcomp_g (s : Server) (i id : Nat) (h : SG T s) : Gh T (processPubcomp s i id) := by
  rw [processPubcomp_eq]
  exact Gh.mk (recordGone_sg s i id _ h fun _ hc => hc.incRecv.incSend) OKo.nil CodeOK.none

/-- `NextImmediate`: the released record is a stored in-flight record -/
theorem nextImmediate_g (s : Server) (i : Nat) (h : SG T s) : Gr T (nextImmediate s i) := by
  refine nextImmediate_cases (Q := Gr T) s i (Gr.mk h OKo.nil) (fun m _ hm => ?_)
  have hrec : Rec T m := (h.objs i).infl m (List.mem_filter.mp (mem_permuteBy _ _ _ (List.mem_of_mem_head? hm))).1
  refine Gr.mk (recordGone_sg _ i m.id _ (h.upd rfl rfl rfl rfl) fun _ hc => hc.decSend) (writeMsg_g s i m fun ht => ?_)
  obtain ⟨a, b, c', d⟩ := hrec ht
  exact ⟨⟨ht, b, fun h0 => by omega, fun _ => c'⟩, d⟩

theorem discState_sg (s : Server) (i : Nat) (sei : Option Nat) (h : SG T s) : SG T (discState s i sei) := by
  unfold discState discObj
  cases sei with
  | none => exact h.set i _ (h.objs i)
  | some v => exact h.set i _ ((h.objs i).of_eq rfl rfl rfl)

theorem processDisconnect_g (s : Server) (i rc : Nat) (sei : Option Nat) (h : SG T s) :
    Gh T (processDisconnect s i rc sei) := by
  refine processDisconnect_cases (Q := Gh T) s i rc sei (fun _ => Gh.mk h OKo.nil (CodeOK.disc dc82))
    (fun _ _ => Gh.mk (discState_sg s i sei h) OKo.nil (CodeOK.low (by decide))) (fun _ _ => ?_)
  have hs1 := discState_sg s i sei h
  have := stopClient_g _ i (⟨hs1.caps, hs1.objs, hs1.ret, fun e he => hs1.wd e (List.mem_filter.mp he).1⟩ :
    SG T { discState s i sei with willDelayed := assocDel s.willDelayed (getObj s i).id })
  exact Gh.mk this.1 this.2 CodeOK.none

theorem unsubDropped_sg (s : Server) (i : Nat) (cid f : Str) (h : SG T s) : SG T (unsubDropped s i cid f) := by
  unfold unsubDropped
  refine SG.mod ?_ i _ ((h.objs i).of_eq rfl rfl rfl)
  exact h.upd rfl rfl rfl rfl

theorem processUnsubscribe_g (s : Server) (i id : Nat) (filters : List Str) (h : SG T s) :
    Gh T (processUnsubscribe s i id filters) :=
  processUnsubscribe_cases (I := fun s' _ => SG T s') (Q := Gh T) s i id filters h (fun _ _ _ h' => h')
    (fun s' _ f _ h' => unsubDropped_sg s' i _ f h') (fun _ _ h' _ => Gh.mk h' OKo.nil (CodeOK.low (by decide)))
    (fun s' rcs h' _ => Gh.mk h' (OKo.single (x := .wrote (getObj s' i).conn (.unsuback (getObj s' i).ver id rcs)) trivial)
      CodeOK.none)

theorem subAccepted_sg (s : Server) (i : Nat) (cid : Str) (sub : Sub) (h : SG T s) : SG T (subAccepted s i cid sub) := by
  unfold subAccepted
  refine SG.mod ?_ i _ ((h.objs i).of_eq rfl rfl rfl)
  exact h.upd rfl rfl rfl rfl

theorem processSubscribe_g (hT : TOK T) (s : Server) (i id subId : Nat) (filters : List Sub) (h : SG T s) :
    Gh T (processSubscribe s i id subId filters) := by
  refine processSubscribe_cases (I := fun s' _ => SG T s') (J := fun _ acc => Gr T acc) (Q := Gh T) s i id subId filters
    h (fun _ _ _ h' => h') (fun s' _ _ h' _ _ _ _ => subAccepted_sg s' i _ _ h')
    (fun _ _ h' _ => Gh.mk h' OKo.nil (CodeOK.low (by decide))) (fun _ _ h' _ => ⟨h', OKo.nil⟩)
    (fun _ acc sub ex k ha => ?_) (fun s' rcs z _ _ hz => Gh.mk hz.1
      ((OKo.single (x := .wrote (getObj s' i).conn (.suback (getObj s' i).ver id rcs)) trivial).append hz.2) CodeOK.none)
  exact ha.more (publishRetainedToClient_g hT acc.1 i sub ex k ha.1)

/-! ### `processPublish` -/

/-- the alias table stays a table of admissible topics, and what it resolves to is one -/
theorem aliasBound_g {aliasIn : List (Nat × Str)} {topic : Str} (ha : ∀ e ∈ aliasIn, T e.2) (ht : T topic) (tamax : Nat)
    (alias : Option Nat) :
    (∀ e ∈ aliasBound tamax aliasIn topic alias, T e.2) ∧ T (R07.aliasTopic aliasIn tamax topic alias) := by
  have hset : ∀ a, ∀ e ∈ assocSet aliasIn a topic, T e.2 := fun a e he => by
    rcases assocSet_mem_cases _ _ _ _ he with he | he
    · exact ha e he
    · rw [he]; exact ht
  unfold aliasBound R07.aliasTopic
  cases alias with
  | none => exact ⟨ha, ht⟩
  | some a =>
    dsimp only
    by_cases h1 : a > 0
    · rw [if_pos h1, if_pos h1]
      by_cases h2 : (tamax == 0) = true
      · rw [if_pos h2, if_pos h2]; exact ⟨ha, ht⟩
      · rw [if_neg h2, if_neg h2]
        cases hg : assocGet aliasIn a with
        | none => exact ⟨hset a, ht⟩
        | some ex =>
          dsimp only
          by_cases h3 : topic.isEmpty = true
          · rw [if_pos h3, if_pos h3]; exact ⟨ha, ha _ (assocGet_mem _ _ _ hg)⟩
          · rw [if_neg h3, if_neg h3]; exact ⟨hset a, ht⟩
    · rw [if_neg h1, if_neg h1]; exact ⟨ha, ht⟩

theorem pubTaken_sg (s : Server) (i id : Nat) (A : List (Nat × Str)) (h : SG T s) (hA : ∀ e ∈ A, T e.2) :
    SG T (pubTaken s i id A) := by
  unfold pubTaken
  split
  · exact (h.set i { (flDelete (getObj s i) id).1 with aliasIn := A }
      ⟨((h.objs i).flDelete id).infl, (h.objs i).will, hA⟩).upd rfl rfl rfl rfl
  · exact h.set i { getObj s i with aliasIn := A } ⟨(h.objs i).infl, (h.objs i).will, hA⟩

theorem pubAcked_sg (s : Server) (i : Nat) (ack : Msg) (h : SG T s) (hn : ack.type ≠ 3) : SG T (pubAcked s i ack) :=
  (h.set i (flSet (decRecv (getObj s i)) ack).1 ((h.objs i).decRecv.flSet ack (fun ht => absurd ht hn))).upd
    rfl rfl rfl rfl

/-- the error `processPublish` returns is the code it disconnects with, or below `0x80` -/
theorem processPublish_code (s : Server) (i : Nat) (qos : Nat) (dup retain : Bool) (id : Nat) (topic payload : Str)
    (msgExpiry : Nat) (alias : Option Nat) :
    CodeOK (processPublish s i qos dup retain id topic payload msgExpiry alias).2.2 :=
  have ack : ∀ s' t rc, CodeOK (ackRes s' i t id rc).2.2 := fun s' t rc => by
    rcases ackRes_cases s' i t id rc with e | e <;> rw [e]
    · exact CodeOK.none
    · exact CodeOK.low (by decide)
  have refuse : ∀ code, DiscCode code → CodeOK (pubRefuse s i qos id code).2.2 := fun code hc =>
    pubRefuse_cases (Q := fun r => CodeOK r.2.2) s i qos id code (fun _ => CodeOK.none) (fun _ _ => CodeOK.disc hc)
      (fun _ _ => ack _ _ _)
  processPublish_cases (Q := fun r => CodeOK r.2.2) s i qos dup retain id topic payload msgExpiry alias
    (fun _ => refuse _ dc90) (fun _ _ => CodeOK.disc dc93) (fun _ _ _ => refuse _ dc87) (fun _ _ _ _ => ack _ _ _)
    (fun _ => pubGo_cases (Q := fun r => CodeOK r.2.2) _ i id _ (fun _ => CodeOK.disc dc82) (fun _ _ => CodeOK.none)
      (fun _ _ _ _ _ => ack _ _ _) (fun _ _ _ _ _ _ => CodeOK.none) (fun _ _ _ _ _ _ _ _ _ => CodeOK.low (by decide))
      (fun _ _ _ _ _ _ _ _ _ => CodeOK.none))

theorem processPublish_g (hT : TOK T) (s : Server) (i : Nat) (qos : Nat) (dup retain : Bool) (id : Nat)
    (topic payload : Str) (msgExpiry : Nat) (alias : Option Nat) (h : SG T s) (htop : T topic) :
    Gh T (processPublish s i qos dup retain id topic payload msgExpiry alias) :=
  -- what is retained and fanned out carries the topic the alias resolves to, which the table or the packet vouches for
  have ha := aliasBound_g (h.objs i).alias htop s.caps.topicAliasMaximum alias
  have g := processPublish_tr Gr.traced i id s qos dup retain topic payload msgExpiry alias
    (fun s' code hc h' => disconnectClient_g s' i code h' (by rcases hc with rfl | rfl | rfl | rfl <;> decide))
    (fun s' t rc ht h' => ⟨(ackRes_g s' i t id rc h' ht).1, (ackRes_g s' i t id rc h' ht).2.1⟩)
    (fun h' => ⟨pubTaken_sg s i id _ h' ha.1, OKo.nil⟩)
    (fun s' pk _ e h' => ⟨retainMsg_sg s' pk h' (e ▸ ha.2), OKo.nil⟩)
    (fun s' pk e h' => publishToSubscribers_g hT s' pk h' (e ▸ ha.2))
    (fun s' ack ht _ h' => ⟨pubAcked_sg s' i ack h' ht, OKo.nil⟩)
    (fun s' ack ht h' => ⟨h', writeMsg_g s' i ack fun e => absurd e ht⟩)
    (fun s' h' => ⟨recordGone_sg s' i id incRecv h' fun _ hc => hc.incRecv, OKo.nil⟩) h
  ⟨g.1, g.2, processPublish_code s i qos dup retain id topic payload msgExpiry alias⟩

/-! ### one inbound packet -/

theorem publishValidate_code (s : Server) (q id : Nat) (t : Str) (al : Option Nat) (code : Nat)
    (h : publishValidate s q id t al = some code) : DiscCode code :=
  publishValidate_cases (Q := fun r => r = some code → DiscCode code) s q id t al (fun e => Option.some.inj e ▸ dc82)
    (fun e => Option.some.inj e ▸ dc94) (fun _ _ _ _ _ _ e => nomatch e) h

theorem receivePacket_g (hT : TOK T) (s : Server) (i : Nat) (pk : InPk) (h : SG T s) : Gh T (receivePacket s i pk) := by
  have hr : Gh T (R07.handler s i pk) := handler_cases (Q := Gh T) s i pk
    (fun _ _ _ _ _ _ _ _ _ _ hv => Gh.mk h OKo.nil (CodeOK.disc (publishValidate_code _ _ _ _ _ _ hv)))
    (fun q d r id t p me al _ hv => processPublish_g hT s i q d r id t p me al h (hT.val _ _ _ _ _ hv))
    (fun _ => Gh.mk h OKo.nil (CodeOK.disc dc82)) (fun id si fs _ => processSubscribe_g hT s i id si fs h)
    (fun id fs _ => processUnsubscribe_g s i id fs h) (fun id _ _ => processPuback_g s i id h)
    (fun id rc _ => processPubrec_g s i id rc h) (fun id rc _ => processPubrel_g s i id rc h)
    (fun id _ _ => processPubcomp_g s i id h) (fun _ _ => Gh.mk h (OKo.single trivial) CodeOK.none)
    (fun _ _ => Gh.mk h OKo.nil (CodeOK.low (by decide))) (fun rc sei _ => processDisconnect_g s i rc sei h)
  -- the DISCONNECT for an error code is written under the test `code ≥ 0x80`, which the table needs
  refine receivePacket_cases_code (Q := Gh T) s i pk rfl
    (fun _ => Gh.mk (nextImmediate_g _ i hr.1).1 (hr.2.1.append (nextImmediate_g _ i hr.1).2) CodeOK.none)
    (fun code hc hcond => ?_) fun _ hc _ => ⟨hr.1, hr.2.1, hc ▸ hr.2.2⟩
  have hcode : DiscCode code := (hr.2.2 code hc).resolve_left fun hlt => by
    have hge : code ≥ 0x80 := of_decide_eq_true (Bool.and_eq_true _ _ |>.mp hcond).2
    omega
  have g := disconnectClient_g _ i code hr.1 hcode
  exact Gh.mk g.1 (hr.2.1.append g.2) (CodeOK.disc hcode)

theorem detachA_g (hT : TOK T) (s : Server) (i : Nat) (withErr : Bool) (h : SG T s) : Gr T (detachA s i withErr) :=
  detachA_cases (Q := Gr T) s i withErr
    (fun _ => Gr.mk (stopClient_g _ i (sendLWT_g hT s i h).1).1 ((sendLWT_g hT s i h).2.append (stopClient_g _ i (sendLWT_g hT s i h).1).2))
    (fun _ => Gr.mk (h.mod i _ ⟨(h.objs i).infl, hT.nil, (h.objs i).alias⟩) OKo.nil)

theorem sessionEnded_sg (s : Server) (i : Nat) (cid : Str) (h : SG T s) : SG T (sessionEnded s i cid) := by
  unfold sessionEnded
  exact (unsubscribeClient_sg _ i (clearInflights_sg s i h)).upd rfl rfl rfl rfl

theorem detachB_sg (s : Server) (i : Nat) (h : SG T s) : SG T (detachB s i) :=
  detachB_stages (Q := SG T) s i fun s' hs' =>
    SG.upd (s := s') (hs'.elim (fun e => e ▸ h) fun e => e ▸ sessionEnded_sg s i _ h) rfl rfl rfl rfl

theorem detach_g (hT : TOK T) (s : Server) (i : Nat) (withErr : Bool) (h : SG T s) : Gr T (detach s i withErr) :=
  detach_tr Gr.traced i (fun s b h => detachA_g hT s i b h) (fun s h => ⟨detachB_sg s i h, OKo.nil⟩) s withErr h

theorem recvOn_g (hT : TOK T) (s : Server) (conn : Nat) (pk : InPk) (b : Bool) (h : SG T s) :
    Gr T (recvOn s conn pk b) :=
  recvOn_tr Gr.traced (Gr.drops _) (fun i s pk h => ⟨(receivePacket_g hT s i pk h).1, (receivePacket_g hT s i pk h).2.1⟩)
    (fun i s b h => detach_g hT s i b h) s conn pk b h

/-! ### connecting -/

/-- the will topic of a CONNECT is in `T` (for `T := NoWild` this is what the broker does NOT check: F28b) -/
def WillT (T : Str → Prop) (k : Connect) : Prop := ∀ w, k.will = some w → T w.topic

theorem parseConnect_cg (hT : TOK T) (s : Server) (conn : Nat) (k : Connect) (hw : WillT T k) :
    CG T (parseConnect s conn k) := by
  unfold parseConnect
  extract_lets rmProp rmProp' will
  refine ⟨fun _ hx => absurd hx List.not_mem_nil, ?_, fun _ hx => absurd hx List.not_mem_nil⟩
  show T will.topic
  simp only [will]
  split
  · rename_i w hk
    exact hw w hk
  · exact hT.nil

theorem addObj_sg (hT : TOK T) (s : Server) (conn : Nat) (k : Connect) (h : SG T s) (hw : WillT T k) :
    SG T (connState s conn k) := by
  refine ⟨h.caps, fun j => ?_, h.ret, h.wd⟩
  by_cases h2 : j = s.objs.length
  · subst h2
    rw [getObj_connState_new]
    exact parseConnect_cg hT s conn k hw
  · rw [getObj_connState_ne s conn k j h2]; exact h.objs j

theorem takenOver_sg (s : Server) (e : Nat) (h : SG T s) : SG T (takenOver s e) :=
  h.mod e _ ((h.objs e).of_eq rfl rfl rfl)

/-- the new object takes the old one's records, and keeps its own will and alias table -/
theorem inflInherited_sg (s : Server) (i e : Nat) (h : SG T s) : SG T (inflInherited s i e) := by
  unfold inflInherited
  split
  · refine (h.set i _ ?_).upd rfl rfl rfl rfl
    exact ⟨(h.objs e).infl, (h.objs i).will, (h.objs i).alias⟩
  · exact h

theorem subsInherited_sg (s : Server) (i : Nat) (cid : Str) (subs : List (Str × Sub)) (h : SG T s) :
    SG T (subsInherited s i cid subs) :=
  List.foldlRecOn subs _ (motive := SG T) h fun b hb fs _ => subAccepted_sg b i cid fs.2 hb

theorem admitA_g (s : Server) (i : Nat) (k : Connect) (h : SG T s) :
    SG T (admitA s i k).1 ∧ OKo T (admitA s i k).2.1 := by
  obtain ⟨b, g, e⟩ := admitA_tr Gr.traced s i k (fun h => ⟨h.upd rfl rfl rfl rfl, OKo.nil⟩)
    (fun t e _ h => disconnectClient_g t e 0x8E h dc8E) (fun t e _ h => ⟨unsubscribeClient_sg t e h, OKo.nil⟩)
    (fun t e _ h => ⟨clearInflights_sg t e h, OKo.nil⟩) (fun t e _ h => ⟨takenOver_sg t e h, OKo.nil⟩)
    (fun t e _ h => ⟨inflInherited_sg t i e h, OKo.nil⟩) (fun t l h => ⟨subsInherited_sg t i k.id l h, OKo.nil⟩)
  rw [e]
  exact ⟨(g h).1.upd rfl rfl rfl rfl, (g h).2⟩

theorem admitConnack_g (s : Server) (i conn : Nat) (present : Bool) (h : SG T s) :
    Gr T (admitConnack s i conn present) :=
  admitConnack_cases (Q := Gr T) s i conn present
    (fun _ => Gr.mk (h.mod i _ ((h.objs i).of_eq rfl rfl rfl)) (OKo.connack _ _ _ _ _ _))
    (fun _ => Gr.mk h (OKo.connack _ _ _ _ _ _))

/-- `ResendInflightMessages`: every resent PUBLISH is a stored in-flight record with DUP set -/
theorem admitC_g (s : Server) (i : Nat) (k : Connect) (present : Bool) (h : SG T s) :
    Gr T (admitC s i k present) := by
  have hs1 : SG T { s with willDelayed := assocDel s.willDelayed k.id } :=
    ⟨h.caps, h.objs, h.ret, fun e he => h.wd e (List.mem_filter.mp he).1⟩
  refine admitC_cases_mem (J := Gr T) s i k present ⟨hs1, OKo.nil⟩ fun acc m hm ha =>
    ⟨iteInduction (motive := SG T) (fun _ => recordGone_sg acc.1 i m.id (fun c => c) ha.1 fun _ hc => hc) fun _ => ha.1,
     ha.2.append (writeMsg_g acc.1 i _ fun ht => ?_)⟩
  obtain ⟨e1, e2, e3, e4⟩ : (if m.type == 3 then { m with dup := true } else m).type = m.type ∧
      (if m.type == 3 then { m with dup := true } else m).qos = m.qos ∧
      (if m.type == 3 then { m with dup := true } else m).id = m.id ∧
      (if m.type == 3 then { m with dup := true } else m).topic = m.topic := by
    split <;> exact ⟨rfl, rfl, rfl, rfl⟩
  obtain ⟨a, b, c', d⟩ := (h.objs i).infl m (mem_permuteBy _ _ _ hm) (e1 ▸ ht)
  refine ⟨⟨ht, ?_, ?_, ?_⟩, ?_⟩
  · rw [e2]; exact b
  · rw [e2]; intro h0; omega
  · rw [e3]; exact fun _ => c'
  · rw [e4]; exact d

theorem tookOverDown_g (hT : TOK T) (s : Server) (ex : Option Nat) (h : SG T s) : Gr T (tookOverDown s ex) := by
  unfold tookOverDown
  cases ex with
  | none => exact ⟨h, OKo.nil⟩
  | some e => exact detach_g hT s e true h

theorem admitClient_g (hT : TOK T) (s : Server) (i conn : Nat) (k : Connect) (h : SG T s) :
    Gr T (admitClient s i conn k) :=
  admitClient_tr Gr.traced i conn k s rfl rfl (admitA_g s i k) (fun h => admitConnack_g _ i conn _ h)
    (fun e _ h => detach_g hT _ e true h) (fun s' h => admitC_g s' i k _ h) h

/-- the failure CONNACK, then `Client.Stop` -/
theorem refused_g (s : Server) (i conn : Nat) (pk : WPk) (hpk : OutP T (.wrote conn pk)) (h : SG T s) :
    Gr T ((stopClient s i).1, [Out.wrote conn pk] ++ (stopClient s i).2) :=
  ⟨stopClient_sg s i h, (OKo.single hpk).append (stopClient_out s i)⟩

theorem connect_g (hT : TOK T) (s : Server) (conn : Nat) (k : Connect) (h : SG T s) (hw : WillT T k) :
    Gr T (connect s conn k) :=
  connect_tr Gr.traced s s conn k (fun h => ⟨addObj_sg hT s conn k h hw, OKo.nil⟩)
    (fun _ _ h' => refused_g _ _ conn _ trivial h') (fun h' => admitClient_g hT _ _ conn k h') h

theorem connectHold_g (hT : TOK T) (s : Server) (conn : Nat) (k : Connect) (stage : Nat) (h : SG T s)
    (hw : WillT T k) : Gr T (connectHold s conn k stage) := by
  have hs1 := addObj_sg hT s conn k h hw
  refine connectHold_cases (Q := Gr T) s conn k stage (fun _ _ e _ _ => e ▸ ⟨hs1.upd rfl rfl rfl rfl, OKo.nil⟩)
    (fun _ _ e _ _ => e ▸ refused_g _ _ conn _ trivial hs1) (fun _ e _ _ => e ▸ ⟨hs1.upd rfl rfl rfl rfl, OKo.nil⟩) ?_
  rintro _ a sD oD rfl _ _ rfl hD
  have v1 := admitA_g _ s.objs.length k hs1
  have v3 := tookOverDown_g hT _ (admitA (connState s conn k) s.objs.length k).2.2.2 v1.1
  rw [← hD] at v3
  exact ⟨v3.1.upd rfl rfl rfl rfl, v1.2.append v3.2⟩

theorem connectRelease_g (hT : TOK T) (s : Server) (p : Pending) (h : SG T s) : Gr T (connectRelease s p) :=
  connectRelease_cases (Q := Gr T) s p (fun _ _ _ => refused_g s p.obj p.conn _ trivial h)
    (fun _ _ => admitClient_g hT s p.obj p.conn p.k h) (fun _ _ => ⟨h.upd rfl rfl rfl rfl, OKo.nil⟩) fun _ _ =>
      have v2 := admitConnack_g s p.obj p.conn p.present h
      ⟨(admitC_g _ p.obj p.k p.present v2.1).1, v2.2.append (admitC_g _ p.obj p.k p.present v2.1).2⟩

/-! ### housekeeping -/

theorem tickClients_g (s : Server) (dt : Int) (h : SG T s) : Gr T (tickClients s dt) :=
  tickClients_cases (J := Gr T) s dt ⟨h, OKo.nil⟩ fun acc e _ _ ha =>
    Gr.mk (sessionEnded_sg acc.1 e.2 e.1 ha.1) (ha.2.append (OKo.event _))

theorem tickRetained_sg (s : Server) (now : Int) (h : SG T s) : SG T (tickRetained s now) :=
  tickRetained_cases (J := SG T) s now h
    (fun _ _ _ _ hb => ⟨hb.caps, hb.objs, fun x hx => hb.ret x (List.mem_filter.mp hx).1, hb.wd⟩)
    fun _ hb => hb.upd rfl rfl rfl rfl

theorem tickInflight_sg (s : Server) (now : Int) (h : SG T s) : SG T (tickInflight s now) :=
  tickInflight_cases (J := SG T) s now h fun b e m _ hb => recordGone_sg b e.2 m.id (fun c => c) hb fun _ hc => hc

theorem publishDue_g (hT : TOK T) (acc : Server × List Out) (e : Str × Msg) (ha : Gr T acc) (hte : T e.2.topic) :
    Gr T (publishDue acc e) := by
  have g1 := publishToSubscribers_g hT acc.1 e.2 ha.1 hte
  have wd : ∀ {s' : Server}, SG T s' → ∀ l, (∀ x ∈ l, x ∈ s'.willDelayed) → SG T { s' with willDelayed := l } :=
    fun h' l hl => ⟨h'.caps, h'.objs, h'.ret, fun x hx => h'.wd x (hl x hx)⟩
  refine publishDue_cases (Q := Gr T) acc e rfl (fun _ => ?_) (fun j _ => ?_)
  · exact ⟨wd g1.1 _ fun x hx => (List.mem_filter.mp hx).1, (ha.2.append g1.2).append OKo.nil⟩
  · have g3 := retainedState_sg _ e.2 g1.1 hte
    exact ⟨wd (g3.mod j (fun c => { c with will := {} }) ⟨(g3.objs j).infl, hT.nil, (g3.objs j).alias⟩) _
      fun x hx => (List.mem_filter.mp hx).1, (ha.2.append g1.2).append (OKo.event _)⟩

theorem tickWills_g (hT : TOK T) (s : Server) (dt : Int) (h : SG T s) : Gr T (tickWills s dt) :=
  tickWills_cases (J := Gr T) s dt ⟨h, OKo.nil⟩ fun acc e he _ ha => publishDue_g hT acc e ha (h.wd e he)

/-! ### one op -/

/-- what is asked of an op: the will topic of a CONNECT is in `T` (nothing for `T := fun _ => True`) -/
def OpT (T : Str → Prop) : Op → Prop
  | .connect _ k => WillT T k
  | .connectHold _ k _ => WillT T k
  | _ => True

theorem step_g (hT : TOK T) (s : Server) (op : Op) (h : SG T s) (hop : OpT T op) : Gr T (step s op) :=
  step_tr Gr.traced Gr.drops s op
    (conn := fun c k e h => connect_g hT s c k h (by subst e; exact hop))
    (hold := fun c k st e h => connectHold_g hT s c k st h (by subst e; exact hop))
    (recv := fun c pk _ h => recvOn_g hT s c pk true h)
    (cut := fun c pk _ _ _ h => recvOn_g hT _ c pk false h)
    (ping := fun s' c h => recvOn_g hT s' c .pingreq false h)
    (peer := fun s' i h => ⟨h.mod i _ ((h.objs i).of_eq rfl rfl rfl), OKo.nil⟩)
    (det := fun s' i b h => detach_g hT s' i b h)
    (detA := fun s' i h => detachA_g hT s' i true h)
    (detB := fun s' i h => ⟨detachB_sg s' i h, OKo.nil⟩)
    (park := fun _ _ _ h => ⟨h.upd rfl rfl rfl rfl, OKo.nil⟩)
    (unpark := fun _ h => ⟨h.upd rfl rfl rfl rfl, OKo.nil⟩)
    (rel := fun c p _ _ h => connectRelease_g hT _ p h)
    (tick := fun kind t e h => e ▸ step_tick_cases (Q := Gr T) s kind t (tickClients_g s t h)
      ⟨tickRetained_sg s t h, OKo.nil⟩ ⟨tickInflight_sg s t h, OKo.nil⟩ (tickWills_g hT s t h) ⟨h, OKo.nil⟩)
    (pub := fun _ _ _ _ _ h => ⟨(receivePacket_g hT s 0 _ h).1, (receivePacket_g hT s 0 _ h).2.1⟩)
    (isub := fun _ _ _ ho h => ⟨h.upd rfl rfl rfl rfl, fun x hx => by obtain ⟨_, _, _, rfl⟩ := ho x hx; trivial⟩)
    (iunsub := fun _ _ h => ⟨h.upd rfl rfl rfl rfl, OKo.nil⟩) h

/-- the invariant holds initially (whenever the configured maximum QoS is a QoS) -/
theorem SG_init (hT : TOK T) (caps : Caps) (hc : caps.maximumQos ≤ 2) : SG T (init caps) := by
  refine ⟨hc, fun k => ?_, fun _ hx => absurd hx List.not_mem_nil, fun _ hx => absurd hx List.not_mem_nil⟩
  by_cases hk : k = 0
  · subst hk
    exact ⟨fun _ hx => absurd hx List.not_mem_nil, hT.nil, fun _ hx => absurd hx List.not_mem_nil⟩
  · rw [W23.getObj_ge _ k (by show 1 ≤ k; omega)]
    exact CG.default hT

/-- … and in every state reached from `init` by ops whose CONNECT will topics are in `T` -/
theorem SG_run (hT : TOK T) (caps : Caps) (hc : caps.maximumQos ≤ 2) (ops : List Op) (hop : ∀ op ∈ ops, OpT T op) :
    SG T (run (init caps) ops) :=
  run_inv (fun s op i c => (step_g hT s op i c).1) (SG_init hT caps hc) (OpsOK.forall.mpr hop)

/-! ### the instances -/

/-- the invariant of the shape theorems: the configured maximum QoS is at most 2; every in-flight record that is a
    PUBLISH has QoS 1 or 2 and a non-zero packet identifier -/
abbrev Inv (s : Server) : Prop := SG (fun _ => True) s

/-- the invariant of the topic theorem: `Inv`, and no wildcard in the topic of any in-flight PUBLISH record, retained
    message, pending delayed will, registered will, or inbound alias binding -/
abbrev InvNW (s : Server) : Prop := SG NoWild s

instance (k : Connect) : Decidable (WillT NoWild k) :=
  match h : k.will with
  | none => isTrue (fun w hw => by rw [h] at hw; cases hw)
  | some w =>
    if hn : NoWild w.topic then isTrue (fun w' hw => by rw [h] at hw; cases hw; exact hn)
    else isFalse (fun g => hn (g w h))

instance (op : Op) : Decidable (OpT NoWild op) := by
  cases op <;> simp only [OpT] <;> infer_instance

theorem OpT_true (op : Op) : OpT (fun _ => True) op := by
  cases op <;> first | exact True.intro | exact fun _ _ => True.intro

theorem InvNW.inv {s : Server} (h : InvNW s) : Inv s :=
  ⟨h.caps, fun k => ⟨fun m hm ht => by
      obtain ⟨a, b, c, _⟩ := (h.objs k).infl m hm ht
      exact ⟨a, b, c, trivial⟩, trivial, fun _ _ => trivial⟩, fun _ _ => trivial, fun _ _ => trivial⟩

end Mochi.Broker.P23
