import Mochi.Model.Broker
/-!
# The exits of `step`

One exit principle per kind of op (`step_connect_cases`, `step_drop_cases`, …): a predicate holds of `step s op` if it
holds of what `step` returns on each of its paths, each a closed term over the handlers, with the tests that lead to it.
The ops `recv`, `connectHold` and `inlinePublish` are a handler call each (`step_recv`, `step_connectHold`,
`step_inlinePublish`).  The small state changes the paths name (`barrier`, `unparkP`, `unparkB`, `unparkE`) and
`Op.isSeq` (the op is no schedule op) are defined here.

The harness's own traffic is cut out of the trace by `noPingresp` (the answer to its barrier PINGREQ) and `noClosed`
(the closing of a connection that the peer has dropped itself).
-/
namespace Mochi.Broker
open Mochi.Topics

/-- the trace without the answers to the harness's barrier PINGREQ -/
def noPingresp (o : List Out) : List Out :=
  o.filter (fun x => match x with | .wrote _ .pingresp => false | _ => true)

/-- the trace without the closing of connection `conn`, which its peer has dropped -/
def noClosed (conn : Nat) (o : List Out) : List Out :=
  o.filter (fun x => match x with | .closed c => c != conn | _ => true)

/-- the PINGREQ the harness sends on `conn` once the connection is established (after the output `o`) -/
def barrier (s : Server) (conn : Nat) (o : List Out) : Server × List Out :=
  ((recvOn s conn .pingreq false).1, o ++ noPingresp (recvOn s conn .pingreq false).2)

/-- the parked connecting handler of `conn` is taken out of `pending` -/
def unparkP (s : Server) (conn : Nat) : Server := { s with pending := s.pending.filter (·.conn != conn) }

/-- the handler of object `i`, parked before its session clean-up, is taken out of `parked` -/
def unparkB (s : Server) (i : Nat) : Server := { s with parked := s.parked.filter (· != i) }

/-- the handler of object `i`, parked right after its read loop, is taken out of `parkedEarly` -/
def unparkE (s : Server) (i : Nat) : Server := { s with parkedEarly := s.parkedEarly.filter (· != i) }

/-- no schedule op: only `connect`, `recv`, `recvCut`, `drop`, ticks and the inline API -/
def Op.isSeq : Op → Bool
  | .dropHold _ => false
  | .dropHoldEarly _ => false
  | .connectHold .. => false
  | .release _ => false
  | _ => true

section
variable {Q : Server × List Out → Prop}

theorem step_recv (s : Server) (conn : Nat) (pk : InPk) : step s (.recv conn pk) = recvOn s conn pk true := rfl

theorem step_connectHold (s : Server) (conn : Nat) (k : Connect) (stage : Nat) :
    step s (.connectHold conn k stage) = connectHold s conn k stage := rfl

theorem step_inlinePublish (s : Server) (topic payload : Str) (retain : Bool) (qos : Nat) :
    step s (.inlinePublish topic payload retain qos) =
      ((receivePacket s 0 (.publish qos false retain qos topic payload 0 none)).1,
       (receivePacket s 0 (.publish qos false retain qos topic payload 0 none)).2.1) := rfl

/-- `connect`: the connection is established (then the barrier) or refused -/
theorem step_connect_cases (s : Server) (conn : Nat) (k : Connect)
    (established : ∀ i, assocGet (connect s conn k).1.connOf conn = some i →
      (getObj (connect s conn k).1 i).isOpen = true → Q (barrier (connect s conn k).1 conn (connect s conn k).2))
    (refused : (∀ i, assocGet (connect s conn k).1.connOf conn = some i →
      (getObj (connect s conn k).1 i).isOpen = false) → Q (connect s conn k)) :
    Q (step s (.connect conn k)) := by
  rw [step]
  generalize connect s conn k = r at established refused ⊢
  obtain ⟨s1, o⟩ := r
  dsimp only at established refused ⊢
  cases h : assocGet s1.connOf conn with
  | none => exact refused fun i hi => nomatch h.symm.trans hi
  | some i =>
    dsimp only
    exact iteInduction (motive := Q) (established i h) fun ho =>
      refused fun j hj => Option.some.inj (h.symm.trans hj) ▸ Bool.eq_false_iff.mpr ho

/-- `drop`: the connection is lost while its handler is in its read loop -/
theorem step_drop_cases (s : Server) (conn : Nat)
    (unknown : assocGet s.connOf conn = none → Q (s, []))
    (stopped : ∀ i, assocGet s.connOf conn = some i → (getObj s i).stopped = true → Q (s, []))
    (lost : ∀ i, assocGet s.connOf conn = some i → (getObj s i).stopped = false →
      Q ((detach (modObj s i (fun c => { c with peerGone := true })) i true).1,
         noClosed conn (detach (modObj s i (fun c => { c with peerGone := true })) i true).2)) :
    Q (step s (.drop conn)) := by
  rw [step]
  cases h : assocGet s.connOf conn with
  | none => exact unknown h
  | some i =>
    dsimp only
    refine iteInduction (motive := Q) (stopped i h) fun hs => ?_
    have e := lost i h (Bool.eq_false_iff.mpr hs)
    generalize detach (modObj s i (fun c => { c with peerGone := true })) i true = d at e ⊢
    exact e

/-- `recvCut`: the peer sends one packet and vanishes -/
theorem step_recvCut_cases (s : Server) (conn : Nat) (pk : InPk)
    (unknown : assocGet s.connOf conn = none → Q (s, []))
    (closed : ∀ i, assocGet s.connOf conn = some i → ((getObj s i).stopped || !(getObj s i).isOpen) = true → Q (s, []))
    (handled : ∀ i r, assocGet s.connOf conn = some i → ((getObj s i).stopped || !(getObj s i).isOpen) = false →
      r = recvOn (modObj s i (fun c => { c with peerGone := true })) conn pk false →
      (getObj r.1 i).stopped = true → Q (r.1, noClosed conn r.2))
    (cut : ∀ i r, assocGet s.connOf conn = some i → ((getObj s i).stopped || !(getObj s i).isOpen) = false →
      r = recvOn (modObj s i (fun c => { c with peerGone := true })) conn pk false →
      (getObj r.1 i).stopped = false → Q ((detach r.1 i true).1, noClosed conn (r.2 ++ (detach r.1 i true).2))) :
    Q (step s (.recvCut conn pk)) := by
  rw [step]
  cases h : assocGet s.connOf conn with
  | none => exact unknown h
  | some i =>
    dsimp only
    refine iteInduction (motive := Q) (closed i h) fun hs => ?_
    have e1 := handled i _ h (Bool.eq_false_iff.mpr hs) rfl
    have e2 := cut i _ h (Bool.eq_false_iff.mpr hs) rfl
    generalize recvOn (modObj s i (fun c => { c with peerGone := true })) conn pk false = r at e1 e2 ⊢
    obtain ⟨s2, o⟩ := r
    dsimp only at e1 e2 ⊢
    cases hst : (getObj s2 i).stopped with
    | true =>
      rw [if_pos rfl]
      dsimp only
      rw [List.append_nil]
      exact e1 hst
    | false =>
      have e := e2 hst
      rw [if_neg Bool.false_ne_true]
      generalize detach s2 i true = d at e ⊢
      exact e

/-- `dropHold`: the connection is lost; its handler is parked before the session clean-up -/
theorem step_dropHold_cases (s : Server) (conn : Nat)
    (unknown : assocGet s.connOf conn = none → Q (s, []))
    (stopped : ∀ i, assocGet s.connOf conn = some i → (getObj s i).stopped = true → Q (s, []))
    (parked : ∀ i d, assocGet s.connOf conn = some i → (getObj s i).stopped = false →
      d = detachA (modObj s i (fun c => { c with peerGone := true })) i true →
      Q ({ d.1 with parked := d.1.parked ++ [i] }, noClosed conn d.2)) :
    Q (step s (.dropHold conn)) := by
  rw [step]
  cases h : assocGet s.connOf conn with
  | none => exact unknown h
  | some i =>
    dsimp only
    exact iteInduction (motive := Q) (stopped i h) fun hs => parked i _ h (Bool.eq_false_iff.mpr hs) rfl

/-- `dropHoldEarly`: the connection is lost; its handler is parked right after the read loop -/
theorem step_dropHoldEarly_cases (s : Server) (conn : Nat)
    (unknown : assocGet s.connOf conn = none → Q (s, []))
    (stopped : ∀ i, assocGet s.connOf conn = some i → (getObj s i).stopped = true → Q (s, []))
    (parked : ∀ i, assocGet s.connOf conn = some i → (getObj s i).stopped = false →
      Q (modObj { s with parkedEarly := s.parkedEarly ++ [i] } i (fun c => { c with peerGone := true }), [])) :
    Q (step s (.dropHoldEarly conn)) := by
  rw [step]
  cases h : assocGet s.connOf conn with
  | none => exact unknown h
  | some i =>
    dsimp only
    exact iteInduction (motive := Q) (stopped i h) fun hs => parked i h (Bool.eq_false_iff.mpr hs)

/-- `release`: a parked handler runs on — a connecting one (then the barrier, if it is admitted), or one that lost
    its connection -/
theorem step_release_cases (s : Server) (conn : Nat)
    (admitted : ∀ p, s.pending.find? (·.conn == conn) = some p →
      (getObj (connectRelease (unparkP s conn) p).1 p.obj).isOpen = true →
      Q (barrier (connectRelease (unparkP s conn) p).1 conn (connectRelease (unparkP s conn) p).2))
    (turnedAway : ∀ p, s.pending.find? (·.conn == conn) = some p →
      (getObj (connectRelease (unparkP s conn) p).1 p.obj).isOpen = false → Q (connectRelease (unparkP s conn) p))
    (unknown : s.pending.find? (·.conn == conn) = none → assocGet s.connOf conn = none → Q (s, []))
    (cleanUp : ∀ i, s.pending.find? (·.conn == conn) = none → assocGet s.connOf conn = some i →
      s.parked.contains i = true → Q (detachB (unparkB s i) i, []))
    (tearDown : ∀ i, s.pending.find? (·.conn == conn) = none → assocGet s.connOf conn = some i →
      s.parked.contains i = false → s.parkedEarly.contains i = true →
      Q ((detach (unparkE s i) i true).1, noClosed conn (detach (unparkE s i) i true).2))
    (notParked : ∀ i, s.pending.find? (·.conn == conn) = none → assocGet s.connOf conn = some i →
      s.parked.contains i = false → s.parkedEarly.contains i = false → Q (s, [])) :
    Q (step s (.release conn)) := by
  rw [step]
  cases hp : s.pending.find? (·.conn == conn) with
  | some p =>
    have e1 := admitted p hp
    have e2 := turnedAway p hp
    unfold unparkP at e1 e2
    dsimp only
    generalize connectRelease _ p = r at e1 e2 ⊢
    exact iteInduction (motive := Q) e1 fun ho => e2 (Bool.eq_false_iff.mpr ho)
  | none =>
    dsimp only
    cases h : assocGet s.connOf conn with
    | none => exact unknown hp h
    | some i =>
      dsimp only
      refine iteInduction (motive := Q) (cleanUp i hp h) fun h1 => ?_
      refine iteInduction (motive := Q) (fun h2 => ?_) fun h2 =>
        notParked i hp h (Bool.eq_false_iff.mpr h1) (Bool.eq_false_iff.mpr h2)
      have e := tearDown i hp h (Bool.eq_false_iff.mpr h1) h2
      unfold unparkE at e
      generalize detach _ i true = d at e ⊢
      exact e

/-- `tick`: one of the four housekeeping loops, each with the `kind` that selects it -/
theorem step_tick_cases_kind (s : Server) (kind : String) (t : Int)
    (clients : kind = "clients" → Q (tickClients s t)) (retained : kind = "retained" → Q (tickRetained s t, []))
    (inflight : kind = "inflight" → Q (tickInflight s t, [])) (wills : kind = "wills" → Q (tickWills s t))
    (other : Q (s, [])) : Q (step s (.tick kind t)) := by
  rw [step]
  exact iteInduction (motive := Q) (fun h => clients (beq_iff_eq.mp h)) fun _ =>
    iteInduction (motive := Q) (fun h => retained (beq_iff_eq.mp h)) fun _ =>
    iteInduction (motive := Q) (fun h => inflight (beq_iff_eq.mp h)) fun _ =>
    iteInduction (motive := Q) (fun h => wills (beq_iff_eq.mp h)) fun _ => other

/-- … for a proof that does not look at `kind` -/
theorem step_tick_cases (s : Server) (kind : String) (t : Int)
    (clients : Q (tickClients s t)) (retained : Q (tickRetained s t, [])) (inflight : Q (tickInflight s t, []))
    (wills : Q (tickWills s t)) (other : Q (s, [])) : Q (step s (.tick kind t)) :=
  step_tick_cases_kind s kind t (fun _ => clients) (fun _ => retained) (fun _ => inflight) (fun _ => wills) other

/-- `inlineSubscribe`: the subscription is entered and the retained messages it matches are handed over -/
theorem step_inlineSubscribe_cases (s : Server) (id : Nat) (filter : Str)
    (invalid : (!isValidFilter filter false) = true → Q (s, []))
    (subscribed : ∀ s', s' = { s with topics := (inlineSubscribe s.topics id { filter := filter, ident := id }).1 } →
      ¬ (!isValidFilter filter false) = true →
      Q (s', (permuteBy s'.permSeed (messages s'.topics filter)).map fun r => Out.inline id r.topic r.payload)) :
    Q (step s (.inlineSubscribe id filter)) := by
  rw [step]
  exact iteInduction (motive := Q) invalid fun h => subscribed _ rfl h

theorem step_inlineUnsubscribe_cases (s : Server) (id : Nat) (filter : Str)
    (invalid : (!isValidFilter filter false) = true → Q (s, []))
    (unsubscribed : ¬ (!isValidFilter filter false) = true →
      Q ({ s with topics := (inlineUnsubscribe s.topics id filter).1 }, [])) :
    Q (step s (.inlineUnsubscribe id filter)) := by
  rw [step]
  exact iteInduction (motive := Q) invalid unsubscribed

end

end Mochi.Broker
