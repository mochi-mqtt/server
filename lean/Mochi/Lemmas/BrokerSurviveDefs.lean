import Mochi.Lemmas.RecordWalkDefs
/-!
# C09 — definitions: the in-flight record of one exchange, "the session holds it", "this op may end it"

* `Rec c k p`      — client object `c` has, under packet identifier `k`, the record of the exchange that delivered
                     payload `p`: the PUBLISH (type 3) with that payload or the PUBREL (type 6) `processPubrec` put in
                     its place (the packet identifier is the key — `flSet` replaces the record under the same id);
                     a record deferred by flow control (`expiry = -1`, finding F09) does not count;
* `Holds s cid k p` — the object REGISTERED under `cid` has that record;
* `Ends s cid k op` — decidable: `op` may legitimately end the exchange in state `s`;
* `RK`, `Surv`, `SurvW` — declarations of their own with the content of `RecWalk.RK recOk`, `RecWalk.Surv recOk`,
                     `RecWalk.SurvW recOk` (`Mochi/Lemmas/RecordWalkDefs.lean`); `RK.walk` / `RK.of_walk` convert.

Of what may end an exchange only `pkEnds` looks at the record: `sessionClean`, `seiAfter`, `endsWithConn`, `connEnds` and
the `Ends…` conditions per kind of op are what the generic walk (`Mochi/Lemmas/RecordWalk.lean`) takes, whatever the record.
-/
namespace Mochi.Broker
open Mochi.Topics

/-! ### the record -/

/-- `m` is the record of the exchange that delivered payload `p`: the PUBLISH itself or the PUBREL that replaced it
    after PUBREC; not a record deferred by flow control (`expiry = -1`, F09) -/
def recOk (m : Msg) (p : Str) : Bool :=
  decide (0 ≤ m.expiry) && ((m.type == 3 && m.payload == p) || m.type == 6)

def Rec (c : Client) (k : Nat) (p : Str) : Prop := ∃ m, flGet c k = some m ∧ recOk m p = true

instance (c : Client) (k : Nat) (p : Str) : Decidable (Rec c k p) :=
  match h : flGet c k with
  | some m =>
    if h' : recOk m p = true then isTrue ⟨m, h, h'⟩
    else isFalse (by rintro ⟨m', hm, hr⟩; rw [h] at hm; cases hm; exact h' hr)
  | none => isFalse (by rintro ⟨m', hm, _⟩; rw [h] at hm; cases hm)

/-- **the session registered under `cid` holds the record of exchange `k` (payload `p`)** -/
def Holds (s : Server) (cid : Str) (k : Nat) (payload : Str) : Prop :=
  ∃ i, assocGet s.clients cid = some i ∧ Rec (getObj s i) k payload

instance (s : Server) (cid : Str) (k : Nat) (p : Str) : Decidable (Holds s cid k p) :=
  match h : assocGet s.clients cid with
  | some i =>
    if h' : Rec (getObj s i) k p then isTrue ⟨i, h, h'⟩
    else isFalse (by rintro ⟨i', hi, hr⟩; rw [h] at hi; cases hi; exact h' hr)
  | none => isFalse (by rintro ⟨i', hi, _⟩; rw [h] at hi; cases hi)

/-! ### what may end the exchange -/

/-- the session of this object ends when its connection does (`attachClient`'s clean-up: `expire`) -/
def sessionClean (c : Client) : Bool := (c.ver == 5 && c.sei == 0) || (c.ver < 5 && c.clean)

/-- the packets that end (or overwrite — F10: ONE in-flight map serves both directions) the record under `k`:
    PUBACK k, PUBCOMP k, PUBREC k with a failure (or undefined) reason code, and the client's OWN PUBLISH / PUBREL
    with packet identifier `k` -/
def pkEnds (k : Nat) : InPk → Bool
  | .puback id _ => id == k
  | .pubcomp id _ => id == k
  | .pubrec id rc => id == k && (rc ≥ 0x80 || !reasonValid 5 rc)
  | .pubrel id _ => id == k
  | .publish _ _ _ id _ _ _ _ => id == k
  | _ => false

/-- the session expiry interval after this packet (only DISCONNECT carries one; `processDisconnect` refuses to raise it
    from 0) -/
def seiAfter (c : Client) : InPk → Nat
  | .disconnect _ (some v) => if v > 0 && c.sei == 0 then c.sei else v
  | _ => c.sei

/-- the session of object `c` ends with its connection: it is a clean one and was not taken over -/
def endsWithConn0 (c : Client) : Bool := sessionClean c && !c.takenOver

/-- the session of object `c` ends with its connection once `pk` is handled -/
def endsWithConn (c : Client) (pk : InPk) : Bool := endsWithConn0 { c with sei := seiAfter c pk }

/-- handling `pk` for object `j` ends the connection: the handler returns an error, or closes the connection
    (DISCONNECT), or — with the harness's barrier — the barrier PINGREQ's handler returns an error -/
def connEnds (s : Server) (j : Nat) (pk : InPk) (barrier : Bool) : Bool :=
  let r := receivePacket s j pk
  r.2.2.isSome || !(getObj r.1 j).isOpen || (barrier && (receivePacket r.1 j .pingreq).2.2.isSome)

/-- one inbound packet on connection `conn`, for client id `cid` -/
def EndsRecv (s : Server) (cid : Str) (k : Nat) (conn : Nat) (pk : InPk) (barrier : Bool) : Prop :=
  match assocGet s.connOf conn with
  | some j => (getObj s j).id = cid ∧ (getObj s j).isOpen = true ∧
      (pkEnds k pk = true ∨ (connEnds s j pk barrier = true ∧ endsWithConn (getObj s j) pk = true))
  | none => False

instance (s : Server) (cid : Str) (k conn : Nat) (pk : InPk) (b : Bool) : Decidable (EndsRecv s cid k conn pk b) := by
  unfold EndsRecv; split <;> infer_instance

/-- the connection's handler leaves its read loop (the connection is lost): the session ends if it is a clean one -/
def EndsDrop (s : Server) (cid : Str) (conn : Nat) : Prop :=
  match assocGet s.connOf conn with
  | some j => (getObj s j).id = cid ∧ (getObj s j).stopped = false ∧ endsWithConn0 (getObj s j) = true
  | none => False

instance (s : Server) (cid : Str) (conn : Nat) : Decidable (EndsDrop s cid conn) := by
  unfold EndsDrop; split <;> infer_instance

/-- a handler parked by `dropHold` / `dropHoldEarly` runs its session clean-up -/
def EndsParked (s : Server) (cid : Str) (conn : Nat) : Prop :=
  match assocGet s.connOf conn with
  | some j => (getObj s j).id = cid ∧ (s.parked.contains j = true ∨ s.parkedEarly.contains j = true) ∧
      endsWithConn0 (getObj s j) = true
  | none => False

instance (s : Server) (cid : Str) (conn : Nat) : Decidable (EndsParked s cid conn) := by
  unfold EndsParked; split <;> infer_instance

/-- an admitted CONNECT for `cid` discards the session: Clean Start, or the old session is an MQTT 3 clean one -/
def EndsTakeover (s : Server) (cid : Str) (k' : Connect) : Prop :=
  k'.id = cid ∧ (k'.clean = true ∨
    match assocGet s.clients cid with
    | some e => ((getObj s e).clean && (getObj s e).ver < 5) = true
    | none => False)

instance (s : Server) (cid : Str) (k' : Connect) : Decidable (EndsTakeover s cid k') := by
  unfold EndsTakeover
  cases assocGet s.clients cid <;> infer_instance

/-- a record is removed by the `inflight` housekeeping at virtual time `t` -/
def recExpired (caps : Caps) (m : Msg) (t : Int) : Bool :=
  (m.ver == 5 && m.expiry > 0 && m.expiry < t) || (caps.maxMessageExpiry > 0 && t - m.created > caps.maxMessageExpiry)

/-- the peer sends one packet and vanishes: the connection ends in any case -/
def EndsRecvCut (s : Server) (cid : Str) (k : Nat) (conn : Nat) (pk : InPk) : Prop :=
  match assocGet s.connOf conn with
  | some j => (getObj s j).id = cid ∧ (getObj s j).isOpen = true ∧ (getObj s j).stopped = false ∧
      (pkEnds k pk = true ∨ endsWithConn (getObj s j) pk = true)
  | none => False

instance (s : Server) (cid : Str) (k conn : Nat) (pk : InPk) : Decidable (EndsRecvCut s cid k conn pk) := by
  unfold EndsRecvCut; split <;> infer_instance

/-- a parked handler runs on: a parked CONNECT as `connect` (stage 1) / with only its barrier left (stage 2); a
    handler parked by `dropHold` / `dropHoldEarly` runs its clean-up -/
def EndsRelease (s : Server) (cid : Str) (k : Nat) (conn : Nat) : Prop :=
  match s.pending.find? (·.conn == conn) with
  | some p =>
    (p.stage = 1 ∧ p.refuse = none ∧ EndsTakeover s cid p.k) ∨
    ((getObj (connectRelease { s with pending := s.pending.filter (·.conn != conn) } p).1 p.obj).isOpen = true ∧
      EndsRecv (connectRelease { s with pending := s.pending.filter (·.conn != conn) } p).1 cid k conn .pingreq false)
  | none => EndsParked s cid conn

instance (s : Server) (cid : Str) (k conn : Nat) : Decidable (EndsRelease s cid k conn) := by
  unfold EndsRelease; split <;> infer_instance

/-- the `clients` housekeeping finds the session due -/
def EndsDue (s : Server) (cid : Str) (t : Int) : Prop :=
  match assocGet s.clients cid with
  | some i => sessionDue s.caps (getObj s i) t = true
  | none => False

instance (s : Server) (cid : Str) (t : Int) : Decidable (EndsDue s cid t) := by
  unfold EndsDue; split <;> infer_instance

/-- the `inflight` housekeeping finds the record expired -/
def EndsExpired (s : Server) (cid : Str) (k : Nat) (t : Int) : Prop :=
  match assocGet s.clients cid with
  | some i =>
    (match flGet (getObj s i) k with
     | some m => recExpired s.caps m t = true
     | none => False)
  | none => False

instance (s : Server) (cid : Str) (k : Nat) (t : Int) : Decidable (EndsExpired s cid k t) := by
  unfold EndsExpired; split
  · split <;> infer_instance
  · infer_instance

/-- **the ops that may legitimately end exchange `k` of client `cid` in state `s`** -/
def Ends (s : Server) (cid : Str) (k : Nat) : Op → Prop
  | .recv conn pk => EndsRecv s cid k conn pk true
  | .recvCut conn pk => EndsRecvCut s cid k conn pk
  | .drop conn => EndsDrop s cid conn
  | .dropHold _ => False            -- parked BEFORE the session clean-up: the `release` ends it
  | .dropHoldEarly _ => False
  | .release conn => EndsRelease s cid k conn
  | .connect conn k' =>
    (refuseCode s k' (parseConnect s conn k') = none ∧ EndsTakeover s cid k') ∨
    -- the barrier PINGREQ of the op is an inbound packet on the new connection like any other
    EndsRecv (connect s conn k').1 cid k conn .pingreq false
  | .connectHold conn k' stage =>
    -- parked in the authentication hook (stage 1): nothing is registered yet
    stage ≠ 1 ∧ refuseCode s k' (parseConnect s conn k') = none ∧ EndsTakeover s cid k'
  | .tick kind t => (kind = "clients" ∧ EndsDue s cid t) ∨ (kind = "inflight" ∧ EndsExpired s cid k t)
  | .inlinePublish _ _ _ qos =>
    -- the inline client (object 0) "receives" a PUBLISH whose packet identifier is its QoS
    (getObj s 0).id = cid ∧ qos = k
  | .inlineSubscribe _ _ => False
  | .inlineUnsubscribe _ _ => False

instance (s : Server) (cid : Str) (k : Nat) (op : Op) : Decidable (Ends s cid k op) := by
  cases op <;> unfold Ends <;> infer_instance

/-! ### what keeps the record

`Rec c k p` unfolds to `RecWalk.Rec recOk c k p`.  `RK` is a structure of its own with the fields of `RecWalk.RK recOk`
(`.walk` / `.of_walk` convert), `Surv` and `SurvW` are stated over it: what is proved of `RecWalk.Surv recOk` and
`RecWalk.SurvW recOk` in `Mochi/Lemmas/RecordWalkDefs.lean` is carried over by the conversion. -/

/-- `b` keeps the record of exchange `k` of `a`, and the parameters that decide whether the session ends with its
    connection -/
structure RK (k : Nat) (a b : Client) : Prop where
  keep : ∀ p, Rec a k p → Rec b k p
  ver : b.ver = a.ver
  clean : b.clean = a.clean
  sei : b.sei = a.sei
  takenOver : b.takenOver = a.takenOver

theorem RK.walk {k : Nat} {a b : Client} (h : RK k a b) : RecWalk.RK recOk k a b :=
  ⟨h.keep, h.ver, h.clean, h.sei, h.takenOver⟩
theorem RK.of_walk {k : Nat} {a b : Client} (h : RecWalk.RK recOk k a b) : RK k a b :=
  ⟨h.keep, h.ver, h.clean, h.sei, h.takenOver⟩

theorem RK.of_eq {k : Nat} {a b : Client} (h : a = b) : RK k a b := h ▸ .of_walk (.refl k a)

theorem RK.of_sess {k : Nat} {a b : Client} (h : SessEq a b) (hi : b.inflight = a.inflight) : RK k a b :=
  .of_walk (.of_sess h hi)

theorem RK.decRecv {k : Nat} {a b : Client} (h : RK k a b) : RK k a (decRecv b) :=
  .of_walk (h.walk.trans (.decRecv' k b))

theorem Rec.of_infl {a b : Client} {k : Nat} {p : Str} (h : b.inflight = a.inflight) (r : Rec a k p) : Rec b k p :=
  RecWalk.Rec.of_infl h r
theorem Rec.ne_of_none {c : Client} {k id : Nat} {p : Str} (r : Rec c k p) (h : flGet c id = none) : id ≠ k :=
  RecWalk.Rec.ne_of_none r h
theorem Rec.ne_of_mem {c : Client} {k : Nat} {p : Str} (r : Rec c k p) (hn : (c.inflight.map (·.id)).Nodup)
    {m : Msg} (hm : m ∈ c.inflight) (hb : recOk m p = false) : m.id ≠ k := RecWalk.Rec.ne_of_mem r hn hm hb

/-! what the operations on a client object do to the record -/

theorem RK.flSet_ne' (k : Nat) (c : Client) (m : Msg) (h : m.id ≠ k) : RK k c (flSet c m).1 :=
  .of_walk (.flSet_ne' k c m h)
theorem RK.flDelete_ne' (k : Nat) (c : Client) (id : Nat) (h : id ≠ k) : RK k c (flDelete c id).1 :=
  .of_walk (.flDelete_ne' k c id h)
/-- rewriting the record under `m.id` keeps exchange `k` if `m` is itself a record of the exchange (PUBREC → PUBREL) -/
theorem RK.flSet_ok' (k : Nat) (c : Client) (m : Msg) (h : m.id = k → ∀ p, recOk m p = true) : RK k c (flSet c m).1 :=
  .of_walk (.flSet_ok' k c m h)
theorem RK.decRecv' (k : Nat) (c : Client) : RK k c (Mochi.Broker.decRecv c) := .of_walk (.decRecv' k c)
theorem RK.incRecv' (k : Nat) (c : Client) : RK k c (incRecv c) := .of_walk (.incRecv' k c)
theorem RK.aliasOutSet' (k : Nat) (c : Client) (t : Str) : RK k c (aliasOutSet c t).1 := .of_walk (.aliasOutSet' k c t)
theorem RK.decSend {k : Nat} {a b : Client} (h : RK k a b) : RK k a (decSend b) := .of_walk h.walk.decSend
theorem RK.incSend {k : Nat} {a b : Client} (h : RK k a b) : RK k a (incSend b) := .of_walk h.walk.incSend
theorem RK.incRecv {k : Nat} {a b : Client} (h : RK k a b) : RK k a (incRecv b) := .of_walk h.walk.incRecv
/-- a condition on the identifier that only has to hold when `a` holds the record at all -/
theorem RK.flSet_if {k : Nat} {a b : Client} (h : RK k a b) (m : Msg) (hm : ∀ p, Rec a k p → m.id ≠ k) :
    RK k a (flSet b m).1 := .of_walk (h.walk.flSet_if m hm)
theorem RK.flDelete_if {k : Nat} {a b : Client} (h : RK k a b) (id : Nat) (hm : ∀ p, Rec a k p → id ≠ k) :
    RK k a (flDelete b id).1 := .of_walk (h.walk.flDelete_if id hm)

/-- every object keeps the record of exchange `k` and its session parameters -/
def Surv (k : Nat) (s s' : Server) : Prop := ∀ x, RK k (getObj s x) (getObj s' x)

/-- work done for object `j`: every OTHER object keeps the record of exchange `k`; object `j` itself does if `own` -/
def SurvW (j k : Nat) (own : Prop) (s s' : Server) : Prop := ∀ x, (x ≠ j ∨ own) → RK k (getObj s x) (getObj s' x)

theorem SurvW.own {j k : Nat} {own : Prop} {s s' : Server} (h : SurvW j k own s s') (ho : own) : Surv k s s' :=
  fun x => h x (Or.inr ho)

end Mochi.Broker
