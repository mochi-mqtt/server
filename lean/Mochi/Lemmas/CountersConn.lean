import Mochi.Lemmas.CountersInfl
import Mochi.Lemmas.CountersCore
/-!
# C38 — the `connected` counter

`Hb s k`: the connection handler of client object `k` has passed the `ClientsConnected` increment of
`attachClient` and not yet run its deferred decrement: `k` is a network client (`k ≠ 0`) whose handler is
parked mid-teardown (`parked`, `parkedEarly`), parked after the increment (`pending`, stage 2), or in its
read loop (`isOpen`, and not parked in the authentication hook).  `hcount s` counts these objects.
In a quiescent state (no parked handler at all) `Hb s k` is "`k` is an open network client".
-/
namespace Mochi.Broker
open Mochi.Topics

/-! ### counting -/

def b2i (b : Bool) : Int := if b then 1 else 0

theorem countP_range_update (f g : Nat → Bool) (n i : Nat) (hi : i < n) (h : ∀ k, k ≠ i → f k = g k) :
    ((List.range n).countP f : Int) = (List.range n).countP g + b2i (f i) - b2i (g i) := by
  induction n with
  | zero => cases hi
  | succ n ih =>
    rw [List.range_succ, List.countP_append, List.countP_append]
    by_cases hin : i < n
    · have := ih hin
      have hn : f n = g n := h n (by omega)
      simp only [List.countP_cons, List.countP_nil, hn]
      push_cast
      omega
    · have hin' : i = n := by omega
      subst hin'
      have : (List.range i).countP f = (List.range i).countP g := by
        apply List.countP_congr
        intro k hk
        have : k < i := List.mem_range.mp hk
        rw [h k (by omega)]
      rw [this]
      unfold b2i
      cases hf : f i <;> cases hg : g i <;> simp [hf, hg]

theorem countP_range_congr (f g : Nat → Bool) (n : Nat) (h : ∀ k, k < n → f k = g k) :
    (List.range n).countP f = (List.range n).countP g := by
  apply List.countP_congr
  intro k hk
  rw [h k (List.mem_range.mp hk)]

/-! ### the handlers that count -/

/-- the handler of `k` is between the increment of `ClientsConnected` and its deferred decrement: parked in the
    teardown, parked in `attachClient` past the increment (`stage ≠ 1`), or open and not parked before it (`stage = 1`:
    in the authentication hook) -/
def Hb (s : Server) (k : Nat) : Bool :=
  k != 0 && (s.parked.contains k || s.parkedEarly.contains k || s.pending.any (fun p => p.obj == k && p.stage != 1) ||
    ((getObj s k).isOpen && !s.pending.any (fun p => p.obj == k && p.stage == 1)))

/-- what `info.connected` should read -/
def hcount (s : Server) : Nat := (List.range s.objs.length).countP (Hb s)

theorem Hb_congr {s s' : Server} {k : Nat} (h1 : s'.parked = s.parked) (h2 : s'.parkedEarly = s.parkedEarly)
    (h3 : s'.pending = s.pending) (h4 : (getObj s' k).isOpen = (getObj s k).isOpen) : Hb s' k = Hb s k := by
  unfold Hb
  rw [h1, h2, h3, h4]

theorem Hb_zero (s : Server) : Hb s 0 = false := by
  unfold Hb; rfl

theorem Hb_plain {s : Server} {k : Nat} (hk : k ≠ 0) (h1 : k ∉ s.parked) (h2 : k ∉ s.parkedEarly)
    (h3 : ∀ p ∈ s.pending, p.obj ≠ k) : Hb s k = (getObj s k).isOpen := by
  have c : ∀ f : Pending → Bool, s.pending.any (fun p => p.obj == k && f p) = false := fun f =>
    List.any_eq_false.mpr fun p hp => by simp [h3 p hp]
  simp [Hb, hk, h1, h2, c]

theorem Hb_parked {s : Server} {k : Nat} (hk : k ≠ 0) (h1 : k ∈ s.parked) : Hb s k = true := by
  simp [Hb, hk, h1]

theorem Hb_parkedEarly {s : Server} {k : Nat} (hk : k ≠ 0) (h1 : k ∈ s.parkedEarly) : Hb s k = true := by
  simp [Hb, hk, h1]

theorem Hb_pending2 {s : Server} {k : Nat} (hk : k ≠ 0) (p : Pending) (hp : p ∈ s.pending) (hpo : p.obj = k)
    (hps : p.stage ≠ 1) : Hb s k = true := by
  have c : s.pending.any (fun p => p.obj == k && p.stage != 1) = true :=
    List.any_eq_true.mpr ⟨p, hp, by simp [hpo, hps]⟩
  simp [Hb, hk, c]

theorem Hb_pending1 {s : Server} {k : Nat} (h1 : k ∉ s.parked) (h2 : k ∉ s.parkedEarly)
    (h3 : ∀ p ∈ s.pending, p.obj = k → p.stage = 1) (p : Pending) (hp : p ∈ s.pending) (hpo : p.obj = k) :
    Hb s k = false := by
  have c : s.pending.any (fun p => p.obj == k && p.stage != 1) = false :=
    List.any_eq_false.mpr fun q hq => by
      by_cases hqo : q.obj = k
      · simp [h3 q hq hqo]
      · simp [hqo]
  have d : s.pending.any (fun p => p.obj == k && p.stage == 1) = true :=
    List.any_eq_true.mpr ⟨p, hp, by simp [hpo, h3 p hp hpo]⟩
  simp [Hb, h1, h2, c, d]

/-! ### `QuietC` and `Act`: transitions that leave the three lists alone -/

/-- nothing `Hb` looks at changes: lists kept, `isOpen` / `stopped` / `inline` / `id` of every object kept -/
structure QuietC (s s' : Server) : Prop where
  len : s'.objs.length = s.objs.length
  connOf : s'.connOf = s.connOf
  pending : s'.pending = s.pending
  parked : s'.parked = s.parked
  parkedEarly : s'.parkedEarly = s.parkedEarly
  all : ∀ k, OwnEq (getObj s k) (getObj s' k)

theorem QuietC.refl (s : Server) : QuietC s s := ⟨rfl, rfl, rfl, rfl, rfl, fun _ => OwnEq.refl _⟩

theorem QuietC.trans {s s1 s2 : Server} (h : QuietC s s1) (g : QuietC s1 s2) : QuietC s s2 :=
  ⟨g.len.trans h.len, g.connOf.trans h.connOf, g.pending.trans h.pending, g.parked.trans h.parked,
   g.parkedEarly.trans h.parkedEarly, fun k => (h.all k).trans (g.all k)⟩

theorem QuietC.upd {s0 s s' : Server} (h : QuietC s0 s) (ho : s'.objs = s.objs) (hn : s'.connOf = s.connOf)
    (hp : s'.pending = s.pending) (h1 : s'.parked = s.parked) (h2 : s'.parkedEarly = s.parkedEarly) : QuietC s0 s' :=
  ⟨by rw [ho]; exact h.len, hn.trans h.connOf, hp.trans h.pending, h1.trans h.parked, h2.trans h.parkedEarly,
   fun k => by rw [getObj_of_objs_eq ho k]; exact h.all k⟩

theorem QuietC.set {s0 s : Server} (h : QuietC s0 s) (i : Nat) (c : Client) (hc : OwnEq (getObj s i) c) :
    QuietC s0 (setObj s i c) :=
  h.trans ⟨setObj_length s i c, rfl, rfl, rfl, rfl, (ObjWalk.pointwise OwnEq.ops i).set s c hc⟩

theorem QuietC.mod {s0 s : Server} (h : QuietC s0 s) (i : Nat) (f : Client → Client)
    (hf : OwnEq (getObj s i) (f (getObj s i))) : QuietC s0 (modObj s i f) := h.set i _ hf

theorem QuietC.fst_mk {α} {s0 x : Server} {y : α} (h : QuietC s0 x) : QuietC s0 (x, y).1 := h

theorem QuietC.of_deliv {s s' : Server} (d : Deliv s s') (hp : s'.pending = s.pending) (h1 : s'.parked = s.parked)
    (h2 : s'.parkedEarly = s.parkedEarly) : QuietC s s' :=
  ⟨d.len, d.connOf, hp, h1, h2, fun k => (d.all k).own⟩

/-- work on behalf of object `i` that leaves the three lists alone; every OTHER object keeps its flags -/
structure Act (i : Nat) (s s' : Server) : Prop where
  len : s'.objs.length = s.objs.length
  connOf : s'.connOf = s.connOf
  pending : s'.pending = s.pending
  parked : s'.parked = s.parked
  parkedEarly : s'.parkedEarly = s.parkedEarly
  other : ∀ k, k ≠ i → OwnEq (getObj s k) (getObj s' k)
  inl : (getObj s' i).inline = (getObj s i).inline
  id : (getObj s' i).id = (getObj s i).id

theorem Act.refl (i : Nat) (s : Server) : Act i s s := ⟨rfl, rfl, rfl, rfl, rfl, fun _ _ => OwnEq.refl _, rfl, rfl⟩

theorem Act.trans {i : Nat} {s s1 s2 : Server} (h : Act i s s1) (g : Act i s1 s2) : Act i s s2 :=
  ⟨g.len.trans h.len, g.connOf.trans h.connOf, g.pending.trans h.pending, g.parked.trans h.parked,
   g.parkedEarly.trans h.parkedEarly, fun k hk => (h.other k hk).trans (g.other k hk), g.inl.trans h.inl,
   g.id.trans h.id⟩

theorem QuietC.act {s s' : Server} (h : QuietC s s') (i : Nat) : Act i s s' :=
  ⟨h.len, h.connOf, h.pending, h.parked, h.parkedEarly, fun k _ => h.all k, (h.all i).inline.symm, (h.all i).id.symm⟩

theorem Act.of_frame {i : Nat} {s s' : Server} {o : List Out} (f : Frame i s s' o) (hp : s'.pending = s.pending)
    (h1 : s'.parked = s.parked) (h2 : s'.parkedEarly = s.parkedEarly) : Act i s s' :=
  ⟨f.len, f.connOf, hp, h1, h2, fun k hk => (f.other k hk).own, f.inline, f.id⟩

theorem Act.upd {i : Nat} {s0 s s' : Server} (h : Act i s0 s) (ho : s'.objs = s.objs) (hn : s'.connOf = s.connOf)
    (hp : s'.pending = s.pending) (h1 : s'.parked = s.parked) (h2 : s'.parkedEarly = s.parkedEarly) : Act i s0 s' :=
  h.trans ((QuietC.refl s).upd ho hn hp h1 h2 |>.act i)

theorem hcount_update {i : Nat} {s s' : Server} (hlen : s'.objs.length = s.objs.length) (hi : i < s.objs.length)
    (hH : ∀ k, k ≠ i → Hb s' k = Hb s k) : (hcount s' : Int) = hcount s + b2i (Hb s' i) - b2i (Hb s i) := by
  unfold hcount
  rw [hlen]
  exact countP_range_update (Hb s') (Hb s) _ i hi hH

theorem hcount_act {i : Nat} {s s' : Server} (a : Act i s s') (hi : i < s.objs.length) :
    (hcount s' : Int) = hcount s + b2i (Hb s' i) - b2i (Hb s i) :=
  hcount_update a.len hi fun k hk => Hb_congr a.parked a.parkedEarly a.pending (a.other k hk).isOpen.symm

theorem hcount_quiet {s s' : Server} (q : QuietC s s') : hcount s' = hcount s := by
  unfold hcount
  rw [q.len]
  exact countP_range_congr _ _ _ (fun k _ => Hb_congr q.parked q.parkedEarly q.pending (q.all k).isOpen.symm)

/-! ### side conditions -/

/-- the parked connecting handlers: none uses the inline client's id; one entry per connection -/
structure PendOK (l : List Pending) : Prop where
  ids : ∀ p ∈ l, p.k.id ≠ inlineID
  nodup : (l.map (·.conn)).Nodup

theorem PendOK.sublist {l l' : List Pending} (h : PendOK l) (hs : l'.Sublist l) : PendOK l' :=
  ⟨fun p hp => h.ids p (hs.subset hp), (hs.map _).nodup h.nodup⟩

theorem PendOK.snoc {l : List Pending} (h : PendOK l) (p : Pending) (hid : p.k.id ≠ inlineID)
    (hc : p.conn ∉ l.map (·.conn)) : PendOK (l ++ [p]) := by
  refine ⟨forall_mem_snoc h.ids hid, ?_⟩
  · rw [List.map_append, List.nodup_append]
    refine ⟨h.nodup, by simp, ?_⟩
    intro a ha b hb hab
    simp only [List.map_cons, List.map_nil, List.mem_singleton] at hb
    subst hb; subst hab
    exact hc ha

theorem PendOK.eq_of_conn {l : List Pending} (h : PendOK l) {p q : Pending} (hp : p ∈ l) (hq : q ∈ l)
    (e : q.conn = p.conn) : q = p := by
  induction l with
  | nil => cases hp
  | cons x xs ih =>
    have hnd := h.nodup
    rw [List.map_cons, List.nodup_cons] at hnd
    have hxs : PendOK xs := h.sublist (List.sublist_cons_self _ _)
    rcases List.mem_cons.mp hp with rfl | hp'
    · rcases List.mem_cons.mp hq with rfl | hq'
      · rfl
      · exact absurd (List.mem_map.mpr ⟨q, hq', e⟩) hnd.1
    · rcases List.mem_cons.mp hq with rfl | hq'
      · exact absurd (List.mem_map.mpr ⟨p, hp', e.symm⟩) hnd.1
      · exact ih hxs hp' hq'

/-- what `info.connected = hcount` needs beside it to be inductive: the three lists of parked handlers are disjoint, in
    range and consistent with `stopped` (so that a handler is counted once), and object 0 is the one inline client -/
structure Side (s : Server) : Prop where
  /-- a handler parked before its session clean-up has already stopped its client -/
  parked_stopped : ∀ k ∈ s.parked, (getObj s k).stopped = true
  disj : ∀ k ∈ s.parked, k ∉ s.parkedEarly
  pend_np : ∀ p ∈ s.pending, p.obj ∉ s.parked ∧ p.obj ∉ s.parkedEarly
  /-- a client whose handler is parked in the authentication hook has not been stopped -/
  pend1_live : ∀ p ∈ s.pending, p.stage = 1 → (getObj s p.obj).stopped = false
  conn_nz : ∀ c i, assocGet s.connOf c = some i → i ≠ 0
  parked_lt : ∀ k ∈ s.parked, k < s.objs.length
  parkedEarly_lt : ∀ k ∈ s.parkedEarly, k < s.objs.length
  /-- object 0 is the inline client, and the only inline client -/
  id0 : (getObj s 0).id = inlineID
  inl : ∀ k, k ≠ 0 → (getObj s k).inline = false
  pendOK : PendOK s.pending
  parked_nz : ∀ k ∈ s.parked, k ≠ 0
  inl0 : (getObj s 0).inline = true

theorem Side.not_parked {s : Server} (h : Side s) {k : Nat} (hlive : (getObj s k).stopped = false) : k ∉ s.parked :=
  fun x => nomatch (h.parked_stopped k x).symm.trans hlive

/-- `Side` reads the lists, the connection table, `inline` of every object, the id of object 0, and `stopped` of the
    objects parked or held in the authentication hook -/
theorem Side.transfer {s s' : Server} (h : Side s) (hl : s'.objs.length = s.objs.length) (hn : s'.connOf = s.connOf)
    (hp : s'.pending = s.pending) (h1 : s'.parked = s.parked) (h2 : s'.parkedEarly = s.parkedEarly)
    (inl : ∀ k, (getObj s' k).inline = (getObj s k).inline) (id0 : (getObj s' 0).id = (getObj s 0).id)
    (stp : ∀ k, (k ∈ s.parked ∨ ∃ p ∈ s.pending, p.stage = 1 ∧ p.obj = k) →
      (getObj s' k).stopped = (getObj s k).stopped) : Side s' := by
  refine ⟨?_, ?_, ?_, ?_, ?_, ?_, ?_, ?_, ?_, by rw [hp]; exact h.pendOK, by rw [h1]; exact h.parked_nz,
    by rw [inl]; exact h.inl0⟩
  · intro k hk
    rw [h1] at hk
    rw [stp k (Or.inl hk)]
    exact h.parked_stopped k hk
  · rw [h1, h2]; exact h.disj
  · rw [h1, h2, hp]; exact h.pend_np
  · intro p hp' hs
    rw [hp] at hp'
    rw [stp _ (Or.inr ⟨p, hp', hs, rfl⟩)]
    exact h.pend1_live p hp' hs
  · rw [hn]; exact h.conn_nz
  · rw [h1, hl]; exact h.parked_lt
  · rw [h2, hl]; exact h.parkedEarly_lt
  · rw [id0]; exact h.id0
  · intro k hk
    rw [inl]; exact h.inl k hk

theorem Side.of_act {i : Nat} {s s' : Server} (h : Side s) (a : Act i s s') (hip : i ∉ s.parked)
    (hpe : ∀ p ∈ s.pending, p.stage = 1 → p.obj ≠ i) : Side s' := by
  refine h.transfer a.len a.connOf a.pending a.parked a.parkedEarly (fun k => ?_) ?_ fun k hk => ?_
  · by_cases hk : k = i
    · subst hk; exact a.inl
    · exact (a.other k hk).inline.symm
  · by_cases h0 : 0 = i
    · subst h0; exact a.id
    · exact (a.other 0 h0).id.symm
  · refine (a.other k fun e => ?_).stopped.symm
    subst e
    rcases hk with hk | ⟨p, hp, h1, e⟩
    · exact hip hk
    · exact hpe p hp h1 e

theorem Side.of_quiet {s s' : Server} (h : Side s) (q : QuietC s s') : Side s' :=
  h.transfer q.len q.connOf q.pending q.parked q.parkedEarly (fun k => (q.all k).inline.symm) (q.all 0).id.symm
    fun k _ => (q.all k).stopped.symm

/-- the `connected` conjunct of `Counted`, with what its proof needs -/
structure ConnInv (s : Server) : Prop where
  side : Side s
  /-- `ClientsConnected` is the number of handlers between their increment and their deferred decrement -/
  eq : s.info.connected = hcount s

theorem ConnInv.of_quiet {s s' : Server} (h : ConnInv s) (q : QuietC s s') (hc : s'.info.connected = s.info.connected) :
    ConnInv s' :=
  ⟨h.side.of_quiet q, by rw [hc, h.eq, hcount_quiet q]⟩

/-! ### the quiet handlers -/

abbrev CoreT := CoreR (fun _ => True)

theorem QuietC.walk (i : Nat) : ObjWalk i OwnEq QuietC :=
  ⟨QuietC.refl, QuietC.trans, fun s c h => (QuietC.refl s).set i c h, fun s _ => (QuietC.refl s).upd rfl rfl rfl rfl rfl,
   fun s _ => (QuietC.refl s).upd rfl rfl rfl rfl rfl, fun s _ => (QuietC.refl s).upd rfl rfl rfl rfl rfl⟩

/-- `QuietC` that also keeps `ClientsConnected` -/
structure QCC (s s' : Server) : Prop where
  q : QuietC s s'
  c : s'.info.connected = s.info.connected

theorem QCC.refl (s : Server) : QCC s s := ⟨QuietC.refl s, rfl⟩
theorem QCC.trans {s s1 s2 : Server} (h : QCC s s1) (g : QCC s1 s2) : QCC s s2 := ⟨h.q.trans g.q, g.c.trans h.c⟩
theorem QCC.upd {s0 s s' : Server} (h : QCC s0 s) (ho : s'.objs = s.objs) (hn : s'.connOf = s.connOf)
    (hp : s'.pending = s.pending) (h1 : s'.parked = s.parked) (h2 : s'.parkedEarly = s.parkedEarly)
    (hc : s'.info.connected = s.info.connected) : QCC s0 s' := ⟨h.q.upd ho hn hp h1 h2, hc.trans h.c⟩
theorem QCC.mod {s0 s : Server} (h : QCC s0 s) (i : Nat) (f : Client → Client)
    (hf : OwnEq (getObj s i) (f (getObj s i))) : QCC s0 (modObj s i f) := ⟨h.q.mod i f hf, h.c⟩

theorem QCC.walk (i : Nat) : ObjWalk i OwnEq QCC :=
  ⟨QCC.refl, QCC.trans, fun s c h => ⟨(QuietC.refl s).set i c h, rfl⟩,
   fun s _ => (QCC.refl s).upd rfl rfl rfl rfl rfl rfl, fun s _ => (QCC.refl s).upd rfl rfl rfl rfl rfl rfl,
   fun s _ => (QCC.refl s).upd rfl rfl rfl rfl rfl rfl⟩

theorem clearInflights_qc (s : Server) (i : Nat) : QCC s (clearInflights s i) :=
  clearInflights_walk OwnEq.ops (QCC.walk i) s

/-- the index counter moves with the index: `ClientsConnected` is read off the walk over the core -/
theorem unsubscribeClient_qc (s : Server) (i : Nat) : QCC s (unsubscribeClient s i) :=
  ⟨unsubscribeClient_walk (QuietC.walk i) (fun _ _ => by own_rfl)
     (fun s _ _ => (QuietC.refl s).upd rfl rfl rfl rfl rfl) s, (unsubscribeClient_core trivial_laws s i).conn⟩

theorem publishToSubscribers_qc (s : Server) (pk : Msg) : QCC s (publishToSubscribers s pk).1 :=
  have c : CoreT s (publishToSubscribers s pk).1 := publishToSubscribers_core s pk
  ⟨QuietC.of_deliv (publishToSubscribers_deliv s pk) (publishToSubscribers_good s pk).pending c.parked c.parkedEarly,
   c.conn⟩

theorem retainMsg_qc (s : Server) (pk : Msg) : QCC s (retainMsg s pk) :=
  have c : CoreT s (retainMsg s pk) := retainMsg_core trivial_laws s pk
  ⟨QuietC.of_deliv (retainMsg_deliv s pk) (retainMsg_good s pk).pending c.parked c.parkedEarly, c.conn⟩

theorem retainedState_qc (s : Server) (pk : Msg) : QCC s (retainedState s pk) :=
  iteInduction (motive := QCC s) (fun _ => retainMsg_qc s pk) fun _ => QCC.refl s

theorem sessionEnded_qc (s : Server) (i : Nat) (cid : Str) : QCC s (sessionEnded s i cid) :=
  ((clearInflights_qc s i).trans (unsubscribeClient_qc _ i)).upd rfl rfl rfl rfl rfl rfl

theorem admitConnack_qc (s : Server) (i conn : Nat) (present : Bool) : QCC s (admitConnack s i conn present).1 :=
  admitConnack_walk OwnEq.ops (QCC.walk i) s conn present

theorem admitC_qc (s : Server) (i : Nat) (k : Connect) (present : Bool) : QCC s (admitC s i k present).1 :=
  admitC_walk OwnEq.ops (QCC.walk i) (fun s _ => (QCC.refl s).upd rfl rfl rfl rfl rfl rfl) s k present

theorem tickClients_qc (s : Server) (dt : Int) : QCC s (tickClients s dt).1 :=
  tickClients_cases (J := fun acc => QCC s acc.1) s dt (QCC.refl s) fun acc e _ _ h =>
    h.trans (sessionEnded_qc acc.1 e.2 e.1)

theorem tickRetained_qc (s : Server) (now : Int) : QCC s (tickRetained s now) :=
  tickRetained_cases (J := QCC s) s now (QCC.refl s) (fun _ _ _ _ h => h.upd rfl rfl rfl rfl rfl rfl)
    fun _ h => h.upd rfl rfl rfl rfl rfl rfl

theorem tickInflight_qc (s : Server) (now : Int) : QCC s (tickInflight s now) :=
  tickInflight_cases (J := QCC s) s now (QCC.refl s) fun b e m _ h =>
    h.trans (recordGone_walk OwnEq.ops (QCC.walk e.2) b m.id (fun c => c) OwnEq.refl)

theorem publishDue_qc (acc : Server × List Out) (e : Str × Msg) : QCC acc.1 (publishDue acc e).1 :=
  have h := publishToSubscribers_qc acc.1 e.2
  publishDue_cases (Q := fun r => QCC acc.1 r.1) acc e rfl (fun _ => h.upd rfl rfl rfl rfl rfl rfl) fun j _ =>
    ((h.trans (retainedState_qc _ e.2)).mod j (fun c => { c with will := {} }) (by own_rfl)).upd rfl rfl rfl
      rfl rfl rfl

theorem tickWills_qc (s : Server) (dt : Int) : QCC s (tickWills s dt).1 :=
  tickWills_cases (J := fun acc => QCC s acc.1) s dt (QCC.refl s) fun acc e _ _ h => h.trans (publishDue_qc acc e)

theorem tick_qc (s : Server) (kind : String) (t : Int) : QCC s (step s (.tick kind t)).1 :=
  step_tick_cases (Q := fun r => QCC s r.1) s kind t (tickClients_qc s t) (tickRetained_qc s t) (tickInflight_qc s t)
    (tickWills_qc s t) (QCC.refl s)

/-! ### the acting handlers -/

theorem act_of {i : Nat} {s s' : Server} {o : List Out} (f : Frame i s s' o) (g : Good s s') (c : CoreT s s') :
    Act i s s' ∧ s'.info.connected = s.info.connected :=
  ⟨Act.of_frame f g.pending c.parked c.parkedEarly, c.conn⟩

theorem receivePacket_act (s : Server) (i : Nat) (pk : InPk) :
    Act i s (receivePacket s i pk).1 ∧ (receivePacket s i pk).1.info.connected = s.info.connected :=
  act_of (receivePacket_frame s i pk) (receivePacket_good s i pk) (receivePacket_core trivial_laws s i pk)

theorem detachA_act (s : Server) (i : Nat) (b : Bool) :
    Act i s (detachA s i b).1 ∧ (detachA s i b).1.info.connected = s.info.connected :=
  act_of (detachA_frame s i b) (detachA_good s i b) (detachA_core trivial_laws s i b)

theorem stopClient_act (s : Server) (i : Nat) :
    Act i s (stopClient s i).1 ∧ (stopClient s i).1.info.connected = s.info.connected :=
  act_of (stopClient_frame s i) (stopClient_good s i) (stopClient_core s i)

theorem stopClient_of_stopped (s : Server) (i : Nat) (h : (getObj s i).stopped = true) : (stopClient s i).1 = s := by
  unfold stopClient
  simp only [h, if_true]

theorem disconnectClient_fst (s : Server) (i code : Nat) : (disconnectClient s i code).1 = (stopClient s i).1 := rfl

theorem detachA_true_fst (s : Server) (i : Nat) : (detachA s i true).1 = (stopClient (sendLWT s i).1 i).1 :=
  detachA_cases (Q := fun r => r.1 = (stopClient (sendLWT s i).1 i).1) s i true (fun _ => rfl) fun h => nomatch h

theorem detachA_false_qc (s : Server) (i : Nat) : QCC s (detachA s i false).1 :=
  detachA_cases (Q := fun r => QCC s r.1) s i false (fun h => nomatch h) fun _ =>
    (QCC.refl s).mod i (fun c => { c with will := {} }) (by own_rfl)

theorem detachB_quietC (s : Server) (i : Nat) :
    QuietC s (detachB s i) ∧ (detachB s i).info.connected = s.info.connected - 1 :=
  detachB_stages (Q := fun x => QuietC s x ∧ x.info.connected = s.info.connected - 1) s i fun s' h =>
    have h2 : QCC s s' := h.elim (fun e => e.symm ▸ QCC.refl s) fun e => e.symm ▸ sessionEnded_qc s i _
    ⟨h2.q.upd rfl rfl rfl rfl rfl, congrArg (· - 1) h2.c⟩

/-- leaving the read loop with an error: the client is stopped, the counter decremented -/
theorem detach_true_act (s : Server) (i : Nat) (hi : i < s.objs.length) :
    Act i s (detach s i true).1 ∧ (detach s i true).1.info.connected = s.info.connected - 1 ∧
      (getObj (detach s i true).1 i).stopped = true := by
  rw [detach_fst]
  obtain ⟨a, ca⟩ := detachA_act s i true
  obtain ⟨q, cq⟩ := detachB_quietC (detachA s i true).1 i
  refine ⟨a.trans (q.act i), by rw [cq, ca], ?_⟩
  rw [← (q.all i).stopped]
  exact detachA_true_stopped s i hi

/-- leaving the read loop normally: the flags stay, the counter is decremented -/
theorem detach_false_quietC (s : Server) (i : Nat) :
    QuietC s (detach s i false).1 ∧ (detach s i false).1.info.connected = s.info.connected - 1 := by
  rw [detach_fst]
  have qa := detachA_false_qc s i
  obtain ⟨q, cq⟩ := detachB_quietC (detachA s i false).1 i
  exact ⟨qa.q.trans q, by rw [cq, qa.c]⟩

theorem Frame.kept_of_nil {i : Nat} {s s' : Server} (f : Frame i s s' []) (hinl : (getObj s i).inline = false) :
    (getObj s' i).isOpen = (getObj s i).isOpen ∧ (getObj s' i).stopped = (getObj s i).stopped := by
  rcases f.stop with h | h
  · exact h
  · cases h hinl

theorem receivePacket_pingreq_none (s : Server) (i : Nat) (hinl : (getObj s i).inline = false)
    (h : (receivePacket s i .pingreq).2.2 = none) :
    (getObj (receivePacket s i .pingreq).1 i).isOpen = (getObj s i).isOpen := by
  unfold receivePacket at h ⊢
  simp only [] at h ⊢
  by_cases hd : (!dead (getObj s i)) = true
  · simp only [hd, if_true] at h ⊢
    exact ((nextImmediate_frame s i).kept_of_nil hinl).1
  · simp [hd] at h

theorem OS.open_of {c : Client} (h : OS c) (hs : c.stopped = false) : c.isOpen = true := by
  unfold OS at h; rw [h, hs]; rfl

theorem OS.closed_of {c : Client} (h : OS c) (hs : c.stopped = true) : c.isOpen = false := by
  unfold OS at h; rw [h, hs]; rfl

theorem OS.stopped_of_closed {c : Client} (h : OS c) (ho : c.isOpen = false) : c.stopped = true := by
  unfold OS at h; rw [ho] at h; cases hs : c.stopped <;> simp_all

theorem OS.live_of_open {c : Client} (h : OS c) (ho : c.isOpen = true) : c.stopped = false := by
  unfold OS at h; rw [ho] at h; cases hs : c.stopped <;> simp_all

/-- the object whose handler is in its read loop: in none of the lists -/
structure InLoop (s : Server) (i : Nat) : Prop where
  lt : i < s.objs.length
  nz : i ≠ 0
  np : i ∉ s.parked
  ne : i ∉ s.parkedEarly
  npend : ∀ p ∈ s.pending, p.obj ≠ i

theorem InLoop.hb {s : Server} {i : Nat} (h : InLoop s i) : Hb s i = (getObj s i).isOpen :=
  Hb_plain h.nz h.np h.ne h.npend

theorem InLoop.act {s s' : Server} {i j : Nat} (h : InLoop s i) (a : Act j s s') : InLoop s' i :=
  ⟨by rw [a.len]; exact h.lt, h.nz, by rw [a.parked]; exact h.np, by rw [a.parkedEarly]; exact h.ne,
   by rw [a.pending]; exact h.npend⟩

theorem ConnInv.finish {i : Nat} {s s' : Server} (h : ConnInv s) (a : Act i s s') (hl : InLoop s i)
    (hc : s'.info.connected = s.info.connected + b2i (getObj s' i).isOpen - b2i (getObj s i).isOpen) : ConnInv s' := by
  refine ⟨h.side.of_act a hl.np (fun p hp _ => hl.npend p hp), ?_⟩
  have := hcount_act a hl.lt
  rw [(hl.act a).hb, hl.hb] at this
  rw [hc, h.eq, this]

theorem InLoop.of_conn {s : Server} (hw : WF s) (h : ConnInv s) {c i : Nat}
    (hc : assocGet s.connOf c = some i) (hnp : ∀ p ∈ s.pending, p.obj ≠ i) (hne : i ∉ s.parkedEarly)
    (hlive : (getObj s i).stopped = false) : InLoop s i :=
  ⟨conn_lt hw hc, h.side.conn_nz c i hc, h.side.not_parked hlive, hne, hnp⟩

theorem b2i_true : b2i true = 1 := rfl
theorem b2i_false : b2i false = 0 := rfl

theorem detach_true_conn {s : Server} (s1 : Server) (i : Nat) (h : ConnInv s) (hl : InLoop s i)
    (hopen : (getObj s i).isOpen = true) (a : Act i s s1) (c : s1.info.connected = s.info.connected)
    (hos' : ∀ k, OS (getObj (detach s1 i true).1 k)) : ConnInv (detach s1 i true).1 := by
  obtain ⟨a2, c2, st⟩ := detach_true_act s1 i (hl.act a).lt
  refine h.finish (a.trans a2) hl ?_
  rw [c2, c, (hos' i).closed_of st, hopen, b2i_true, b2i_false]
  omega

theorem recvOn_conn (s : Server) (c : Nat) (pk : InPk) (b : Bool) (hw : WF s) (h : ConnInv s)
    (hos : ∀ k, OS (getObj s k))
    (hsch : ∀ i, assocGet s.connOf c = some i → (∀ p ∈ s.pending, p.obj ≠ i) ∧ i ∉ s.parkedEarly) :
    (∀ k, OS (getObj (recvOn s c pk b).1 k)) → ConnInv (recvOn s c pk b).1 := by
  have loop : ∀ i, assocGet s.connOf c = some i → (getObj s i).isOpen = true → InLoop s i := fun i hc ho =>
    InLoop.of_conn hw h hc (hsch i hc).1 (hsch i hc).2 ((hos i).live_of_open ho)
  refine recvOn_cases (Q := fun r => (∀ k, OS (getObj r.1 k)) → ConnInv r.1) s c pk b (fun _ _ => h)
    (fun _ _ _ _ => h) ?_ ?_ ?_ ?_ ?_
  · rintro i r hc ho hr _ hos'
    obtain ⟨a1, c1⟩ := hr ▸ receivePacket_act s i pk
    exact detach_true_conn r.1 i h (loop i hc ho) ho a1 c1 hos'
  · rintro i r hc ho hr _ ho1 _
    obtain ⟨a1, c1⟩ := hr ▸ receivePacket_act s i pk
    obtain ⟨q, cq⟩ := detach_false_quietC r.1 i
    refine h.finish (a1.trans (q.act i)) (loop i hc ho) ?_
    rw [cq, c1, ← (q.all i).isOpen, ho1, ho, b2i_true, b2i_false]
    omega
  · rintro i r hc ho hr _ ho1 _ _
    obtain ⟨a1, c1⟩ := hr ▸ receivePacket_act s i pk
    refine h.finish a1 (loop i hc ho) ?_
    rw [c1, ho1, ho]
    omega
  · rintro i r r2 hc ho hr _ _ _ hr2 _ hos'
    obtain ⟨a1, c1⟩ := hr ▸ receivePacket_act s i pk
    obtain ⟨a2, c2⟩ := hr2 ▸ receivePacket_act r.1 i .pingreq
    exact detach_true_conn r2.1 i h (loop i hc ho) ho (a1.trans a2) (c2.trans c1) hos'
  · rintro i r r2 hc ho hr _ ho1 _ hr2 he2 _
    obtain ⟨a1, c1⟩ := hr ▸ receivePacket_act s i pk
    obtain ⟨a2, c2⟩ := hr2 ▸ receivePacket_act r.1 i .pingreq
    refine h.finish (a1.trans a2) (loop i hc ho) ?_
    -- the PINGREQ barrier that reports no error leaves the connection as it was
    rw [c2, c1, hr2, receivePacket_pingreq_none _ i (by rw [a1.inl]; exact h.side.inl i (loop i hc ho).nz) (hr2 ▸ he2),
      ho1, ho]
    omega

/-! ### connecting -/

theorem info_ite_connected (b : Bool) (x y : Info) (hx : x.connected = y.connected) :
    (if b = true then x else y).connected = y.connected := by
  cases b
  · rfl
  · exact hx

theorem connCounted_quietC (s : Server) : QuietC s (connCounted s) := (QuietC.refl s).upd rfl rfl rfl rfl rfl

theorem QCC.takenOver {s0 s : Server} (h : QCC s0 s) (e : Nat) : QCC s0 (takenOver s e) := h.mod e _ (by own_rfl)

theorem QCC.registered {s0 s : Server} (h : QCC s0 s) (cid : Str) (i : Nat) : QCC s0 (registered s cid i) :=
  h.upd rfl rfl rfl rfl rfl rfl

theorem QCC.inflOf {s0 s : Server} (h : QCC s0 s) (i : Nat) (f : Client → Client) (hf : ∀ c, OwnEq c (f c)) (n : Int) :
    QCC s0 { modObj s i f with info := { s.info with inflight := n } } :=
  (h.mod i f (hf _)).upd rfl rfl rfl rfl rfl rfl

theorem inflInherited_qc (s : Server) (i e : Nat) : QCC s (inflInherited s i e) := by
  unfold inflInherited
  exact iteInduction (motive := QCC s) (fun _ => (QCC.refl s).inflOf i _ (fun c => by own_rfl) _) fun _ => QCC.refl s

theorem subAccepted_qc (s : Server) (i : Nat) (cid : Str) (sb : Sub) : QCC s (subAccepted s i cid sb) := by
  have h : QCC s
      { s with topics := (subscribe s.topics cid sb).1,
               info := if (subscribe s.topics cid sb).2 then { s.info with subs := s.info.subs + 1 } else s.info } :=
    (QCC.refl s).upd rfl rfl rfl rfl rfl (info_ite_connected _ _ _ rfl)
  exact h.mod i _ (by own_rfl)

theorem subsInherited_qc (s : Server) (i : Nat) (cid : Str) (subs : List (Str × Sub)) :
    QCC s (subsInherited s i cid subs) :=
  List.foldlRecOn subs _ (motive := QCC s) (QCC.refl s) fun b h fs _ => h.trans (subAccepted_qc b i cid fs.2)

/-- a session for the client id exists: apart from stopping the existing client, `admitA` is quiet -/
theorem admitA_qc_some (s : Server) (i : Nat) (k : Connect) (e : Nat) (he : assocGet s.clients k.id = some e) :
    QCC (stopClient (connCounted s) e).1 (admitA s i k).1 := by
  refine admitA_cases (Q := fun r => QCC (stopClient (connCounted s) e).1 r.1) s i k rfl
    (fun hn => nomatch he.symm.trans hn) (fun e' s1 he' h1 _ => ?_) (fun e' s2 he' h2 _ => ?_)
  · obtain rfl : e = e' := Option.some.inj (he.symm.trans he')
    subst h1
    exact ((((QCC.refl _).trans (unsubscribeClient_qc _ e)).trans (clearInflights_qc _ e)).takenOver e).registered _ i
  · obtain rfl : e = e' := Option.some.inj (he.symm.trans he')
    subst h2
    exact ((((((QCC.refl _).takenOver e).trans (inflInherited_qc _ i e)).trans (subsInherited_qc _ i k.id _)).trans
      (unsubscribeClient_qc _ e)).trans (clearInflights_qc _ e)).registered _ i

/-- no session for the client id: `admitA` only increments the counter and registers the client -/
theorem admitA_qc_none (s : Server) (i : Nat) (k : Connect) (he : assocGet s.clients k.id = none) :
    QCC (connCounted s) (admitA s i k).1 :=
  admitA_cases (Q := fun r => QCC (connCounted s) r.1) s i k rfl (fun _ => (QCC.refl _).registered _ i)
    (fun _ _ he' _ _ => nomatch he.symm.trans he') fun _ _ he' _ _ => nomatch he.symm.trans he'

theorem admitA_exLive_eq (s : Server) (i : Nat) (k : Connect) :
    (admitA s i k).2.2.2 = match assocGet s.clients k.id with
      | some e => if ((getObj s e).stopped || s.parkedEarly.contains e || s.pending.any (·.obj == e)) = true then none else some e
      | none => none := by
  unfold admitA
  extract_lets +onlyGivenNames src s0 exLive
  split
  rfl

theorem Hb_listed {s s' : Server} {k : Nat} (h1 : s'.parked = s.parked) (h2 : s'.parkedEarly = s.parkedEarly)
    (h3 : s'.pending = s.pending)
    (hl : k ∈ s.parked ∨ k ∈ s.parkedEarly ∨ ∃ p ∈ s.pending, p.obj = k ∧ p.stage ≠ 1) : Hb s' k = Hb s k := by
  by_cases hk : k = 0
  · subst hk; rw [Hb_zero, Hb_zero]
  · rcases hl with hl | hl | ⟨p, hp, hpo, hps⟩
    · rw [Hb_parked hk hl, Hb_parked hk (h1 ▸ hl)]
    · rw [Hb_parkedEarly hk hl, Hb_parkedEarly hk (h2 ▸ hl)]
    · rw [Hb_pending2 hk p hp hpo hps, Hb_pending2 hk p (h3 ▸ hp) hpo hps]

/-- object `i` is open and in none of the lists, and its handler has not passed the increment yet -/
structure PreAdmit (t : Server) (i : Nat) : Prop where
  side : Side t
  loop : InLoop t i
  isOpen : (getObj t i).isOpen = true
  eq : t.info.connected = hcount t - 1

/-- the core of `attachClient` between the increment and the read loop: `admitA`, anything quiet, the
    taken-over handler leaving its read loop, anything quiet -/
theorem admit_conn (t : Server) (i : Nat) (k : Connect) (hw : WF t) (hinf : InflInv t) (hp : PreAdmit t i)
    (hunreg : ¬ Reg t i) (hid : k.id ≠ inlineID)
    (s2 : Server) (q2 : QCC (admitA t i k).1 s2)
    (s4 : Server) (q4 : QCC (match (admitA t i k).2.2.2 with | some e => (detach s2 e true).1 | none => s2) s4)
    (hos4 : ∀ k, OS (getObj s4 k)) :
    ConnInv s4 ∧ InLoop s4 i ∧ (getObj s4 i).isOpen = true ∧ s4.pending = t.pending := by
  have hex := admitA_exLive_eq t i k
  -- nothing but the increment happened to what `Hb` looks at
  have quiet : ∀ q : QuietC t s4, s4.info.connected = t.info.connected + 1 →
      ConnInv s4 ∧ InLoop s4 i ∧ (getObj s4 i).isOpen = true ∧ s4.pending = t.pending := fun q c =>
    ⟨⟨hp.side.of_quiet q, by rw [hcount_quiet q, c, hp.eq]; omega⟩, hp.loop.act (q.act i),
      (q.all i).isOpen.symm.trans hp.isOpen, q.pending⟩
  cases he : assocGet t.clients k.id with
  | none =>
    rw [he] at hex
    simp only [] at hex
    rw [hex] at q4
    simp only [] at q4
    have q1 := admitA_qc_none t i k he
    exact quiet (((connCounted_quietC t).trans q1.q).trans (q2.q.trans q4.q)) (q4.c.trans (q2.c.trans q1.c))
  | some e =>
    rw [he] at hex
    simp only [] at hex
    have hreg : Reg t e := Reg.of_assocGet he
    have hie : i ≠ e := fun x => hunreg (x ▸ hreg)
    have hv := hw.clients_valid k.id e (assocGet_mem _ _ _ he)
    have he0 : e ≠ 0 := by
      rintro rfl
      exact hid (hv.2.symm.trans hp.side.id0)
    have q1 := admitA_qc_some t i k e he
    obtain ⟨as, cs⟩ := stopClient_act (connCounted t) e
    -- up to (and including) the first quiet part: work for `e`
    have a2 : Act e t s2 := (((connCounted_quietC t).act e).trans as).trans ((q1.q.trans q2.q).act e)
    have c2 : s2.info.connected = t.info.connected + 1 := by
      rw [q2.c, q1.c, cs]; rfl
    have np1 : ∀ p ∈ t.pending, p.stage = 1 → p.obj ≠ e := fun p hp h1 x => (hinf.pend p hp h1).1 (x ▸ hreg)
    -- work for `e` after which the counter has moved by the increment and as `Hb` of `e` did
    have acted : ∀ a4 : Act e t s4, e ∉ t.parked →
        s4.info.connected = t.info.connected + 1 + b2i (Hb s4 e) - b2i (Hb t e) →
        ConnInv s4 ∧ InLoop s4 i ∧ (getObj s4 i).isOpen = true ∧ s4.pending = t.pending := fun a4 hnp c =>
      ⟨⟨hp.side.of_act a4 hnp np1, by have := hcount_act a4 hv.1; rw [c, hp.eq]; omega⟩, hp.loop.act a4,
        (a4.other i hie).isOpen.symm.trans hp.isOpen, a4.pending⟩
    by_cases hcond : ((getObj t e).stopped || t.parkedEarly.contains e || t.pending.any (·.obj == e)) = true
    · rw [if_pos hcond] at hex
      rw [hex] at q4
      simp only [] at q4
      have a4 := a2.trans (q4.q.act e)
      have c4 := q4.c.trans c2
      by_cases hst : (getObj t e).stopped = true
      · -- the existing client was stopped already: nothing changes for it
        have hs : (stopClient (connCounted t) e).1 = connCounted t := stopClient_of_stopped _ e hst
        rw [hs] at q1
        exact quiet (((connCounted_quietC t).trans q1.q).trans (q2.q.trans q4.q)) c4
      · -- its handler is parked: it stays counted
        have hst' : (getObj t e).stopped = false := by simpa using hst
        have hlisted : e ∈ t.parked ∨ e ∈ t.parkedEarly ∨ ∃ p ∈ t.pending, p.obj = e ∧ p.stage ≠ 1 := by
          simp only [hst', Bool.false_or, Bool.or_eq_true, List.contains_iff_mem, List.any_eq_true, beq_iff_eq] at hcond
          rcases hcond with h | ⟨p, hp, hpo⟩
          · exact Or.inr (Or.inl h)
          · exact Or.inr (Or.inr ⟨p, hp, hpo, fun h1 => np1 p hp h1 hpo⟩)
        refine acted a4 (hp.side.not_parked hst') ?_
        rw [Hb_listed a4.parked a4.parkedEarly a4.pending hlisted, c4]
        omega
    · -- the existing client's handler is in its read loop: it leaves it now
      rw [if_neg hcond] at hex
      rw [hex] at q4
      simp only [] at q4
      simp only [Bool.or_eq_true, not_or, Bool.not_eq_true, List.contains_iff_mem, List.any_eq_true, beq_iff_eq,
        not_exists, not_and] at hcond
      obtain ⟨⟨hst, hpe⟩, hpend⟩ := hcond
      have hpe' : e ∉ t.parkedEarly := by simpa using hpe
      have hl : InLoop t e := ⟨hv.1, he0, hp.side.not_parked hst, hpe', fun p hp => hpend p hp⟩
      have hopen : (getObj t e).isOpen = true := (hinf.os e).open_of hst
      obtain ⟨a3, c3, st3⟩ := detach_true_act s2 e (by rw [a2.len]; exact hv.1)
      have a4 := (a2.trans a3).trans (q4.q.act e)
      have st4 := (q4.q.all e).stopped.symm.trans st3
      refine acted a4 hl.np ?_
      rw [(hl.act a4).hb, hl.hb, (hos4 e).closed_of st4, hopen, b2i_true, b2i_false, q4.c, c3, c2]
      omega

theorem admitClient_conn (t : Server) (i conn : Nat) (k : Connect) (hw : WF t) (hinf : InflInv t)
    (hos' : ∀ j, OS (getObj (admitClient t i conn k).1 j)) (hp : PreAdmit t i) (hunreg : ¬ Reg t i)
    (hid : k.id ≠ inlineID) :
    ConnInv (admitClient t i conn k).1 ∧ InLoop (admitClient t i conn k).1 i ∧
      (getObj (admitClient t i conn k).1 i).isOpen = true := by
  rw [admitClient_fst, tookOverDown_fst] at hos' ⊢
  obtain ⟨a, b, c, _⟩ := admit_conn t i k hw hinf hp hunreg hid _ (admitConnack_qc _ i conn _) _ (admitC_qc _ i k _) hos'
  exact ⟨a, b, c⟩

/-! ### transitions that move an object between the lists -/

theorem Hb_congr' {s s' : Server} {k : Nat} (h1 : s'.parked.contains k = s.parked.contains k)
    (h2 : s'.parkedEarly.contains k = s.parkedEarly.contains k)
    (h3 : s'.pending.any (fun p => p.obj == k && p.stage != 1) = s.pending.any (fun p => p.obj == k && p.stage != 1))
    (h3' : s'.pending.any (fun p => p.obj == k && p.stage == 1) = s.pending.any (fun p => p.obj == k && p.stage == 1))
    (h4 : (getObj s' k).isOpen = (getObj s k).isOpen) : Hb s' k = Hb s k := by
  unfold Hb
  rw [h1, h2, h3, h3', h4]

theorem contains_snoc_ne (l : List Nat) (i k : Nat) (h : k ≠ i) : (l ++ [i]).contains k = l.contains k := by
  rw [Bool.eq_iff_iff]
  simp [h]

theorem contains_filter_ne (l : List Nat) (i k : Nat) (h : k ≠ i) : (l.filter (· != i)).contains k = l.contains k := by
  rw [Bool.eq_iff_iff]
  simp [h]

theorem any_snoc_irrelevant {α} (l : List α) (x : α) (f : α → Bool) (h : f x = false) : (l ++ [x]).any f = l.any f := by
  simp [h]

theorem any_filter_irrelevant {α} (l : List α) (keep f : α → Bool) (h : ∀ x ∈ l, keep x = false → f x = false) :
    (l.filter keep).any f = l.any f := by
  induction l with
  | nil => rfl
  | cons x xs ih =>
    have ih' := ih (fun y hy => h y (List.mem_cons_of_mem _ hy))
    rw [List.filter_cons]
    cases hk : keep x
    · simp only [Bool.false_eq_true, if_false, List.any_cons, h x List.mem_cons_self hk, Bool.false_or, ih']
    · simp only [if_true, List.any_cons, ih']

theorem preAdmit_new (s : Server) (hw : WF s) (hinf : InflInv s) (h : ConnInv s) (conn : Nat) (kc : Connect) :
    PreAdmit (connState s conn kc) s.objs.length := by
  have hg := getObj_connState_ne s conn kc
  have hlen := connState_length s conn kc
  have hn := getObj_connState_new s conn kc
  have hnz : s.objs.length ≠ 0 := Nat.ne_of_gt hinf.nz
  have hl : InLoop (connState s conn kc) s.objs.length := by
    refine ⟨hlen ▸ Nat.lt_succ_self _, hnz, ?_, ?_, ?_⟩
    · intro x; have := h.side.parked_lt _ x; omega
    · intro x; have := h.side.parkedEarly_lt _ x; omega
    · intro p hp x
      have := (hw.pending_valid p hp).1
      omega
  refine ⟨?_, hl, by rw [hn]; rfl, ?_⟩
  · refine ⟨?_, h.side.disj, h.side.pend_np, ?_, ?_, fun k hk => hlen ▸ Nat.lt_succ_of_lt (h.side.parked_lt k hk),
      fun k hk => hlen ▸ Nat.lt_succ_of_lt (h.side.parkedEarly_lt k hk), ?_, ?_, h.side.pendOK, h.side.parked_nz,
      by rw [hg 0 (Ne.symm hnz)]; exact h.side.inl0⟩
    · intro k hk
      rw [hg k (by have := h.side.parked_lt k hk; omega)]
      exact h.side.parked_stopped k hk
    · intro p hp h1
      rw [hg p.obj (fun x => hl.npend p hp x)]
      exact h.side.pend1_live p hp h1
    · intro c1 i hi
      rcases assocGet_snoc _ _ _ _ _ hi with a | ⟨_, _, a⟩
      · exact h.side.conn_nz c1 i a
      · rw [a]; exact hnz
    · rw [hg 0 (Ne.symm hnz)]; exact h.side.id0
    · intro k hk
      by_cases hkn : k = s.objs.length
      · rw [hkn, hn]; rfl
      · rw [hg k hkn]; exact h.side.inl k hk
  · have hb : Hb (connState s conn kc) s.objs.length = true := by
      rw [hl.hb, hn]; rfl
    show s.info.connected = ((hcount (connState s conn kc) : Nat) : Int) - 1
    rw [h.eq]
    unfold hcount
    rw [hlen, List.range_succ, List.countP_append, countP_range_congr (Hb (connState s conn kc)) (Hb s)
      s.objs.length fun k hk => Hb_congr rfl rfl rfl (by rw [hg k (by omega)])]
    simp only [List.countP_cons, List.countP_nil, hb, if_true]
    push_cast
    omega

/-- the connection is refused: the new client is stopped without ever being counted -/
theorem PreAdmit.stop {t : Server} {i : Nat} (hp : PreAdmit t i) (hos' : ∀ k, OS (getObj (stopClient t i).1 k)) :
    ConnInv (stopClient t i).1 := by
  obtain ⟨a, c⟩ := stopClient_act t i
  have st := stopClient_stopped t i hp.loop.lt
  refine ⟨hp.side.of_act a hp.loop.np (fun p hq _ => hp.loop.npend p hq), ?_⟩
  have := hcount_act a hp.loop.lt
  rw [(hp.loop.act a).hb, hp.loop.hb, (hos' i).closed_of st, hp.isOpen, b2i_true, b2i_false] at this
  rw [c, hp.eq]
  omega

theorem Side.park {t : Server} {i : Nat} (hs : Side t) (hl : InLoop t i) (p : Pending) (hpo : p.obj = i)
    (hst : p.stage = 1 → (getObj t i).stopped = false) (hok : PendOK (t.pending ++ [p])) :
    Side { t with pending := t.pending ++ [p] } ∧
      (hcount { t with pending := t.pending ++ [p] } : Int) =
        hcount t + b2i (Hb { t with pending := t.pending ++ [p] } i) - b2i (getObj t i).isOpen := by
  refine ⟨⟨hs.parked_stopped, hs.disj, forall_mem_snoc hs.pend_np (hpo ▸ ⟨hl.np, hl.ne⟩),
    forall_mem_snoc hs.pend1_live (hpo ▸ hst), hs.conn_nz, hs.parked_lt, hs.parkedEarly_lt, hs.id0, hs.inl, hok,
    hs.parked_nz, hs.inl0⟩, ?_⟩
  rw [← hl.hb]
  refine hcount_update rfl hl.lt fun k hk => Hb_congr' rfl rfl ?_ ?_ rfl
  · exact any_snoc_irrelevant _ _ _ (by simp [hpo, Ne.symm hk])
  · exact any_snoc_irrelevant _ _ _ (by simp [hpo, Ne.symm hk])

/-- the handler is parked in the authentication hook: still not counted -/
theorem PreAdmit.park1 {t : Server} {i : Nat} (hp : PreAdmit t i) (hst : (getObj t i).stopped = false) (p : Pending)
    (hpo : p.obj = i) (hps : p.stage = 1) (hok : PendOK (t.pending ++ [p])) :
    ConnInv { t with pending := t.pending ++ [p] } := by
  have hl := hp.loop
  obtain ⟨sd, hc⟩ := hp.side.park hl p hpo (fun _ => hst) hok
  have hb : Hb { t with pending := t.pending ++ [p] } i = false :=
    Hb_pending1 hl.np hl.ne (fun q hq hqo => (List.mem_append.mp hq).elim (fun hq => absurd hqo (hl.npend q hq))
      fun hq => List.mem_singleton.mp hq ▸ hps) p (List.mem_append_right _ (List.mem_singleton.mpr rfl)) hpo
  refine ⟨sd, ?_⟩
  rw [hb, hp.isOpen, b2i_true, b2i_false] at hc
  show t.info.connected = _
  rw [hp.eq]
  omega

/-- the handler is parked after the increment: it stays counted -/
theorem ConnInv.park2 {t : Server} {i : Nat} (h : ConnInv t) (hl : InLoop t i) (hopen : (getObj t i).isOpen = true)
    (p : Pending) (hpo : p.obj = i) (hps : p.stage ≠ 1) (hok : PendOK (t.pending ++ [p])) :
    ConnInv { t with pending := t.pending ++ [p] } := by
  obtain ⟨sd, hc⟩ := h.side.park hl p hpo (fun x => absurd x hps) hok
  refine ⟨sd, ?_⟩
  rw [Hb_pending2 hl.nz p (List.mem_append_right _ (List.mem_singleton.mpr rfl)) hpo hps, hopen] at hc
  show t.info.connected = _
  rw [h.eq]
  omega

theorem unpark (s : Server) (hw : WF s) (hinf : InflInv s) (h : ConnInv s) (p : Pending) (hp : p ∈ s.pending) :
    Side (unparkP s p.conn) ∧ InLoop (unparkP s p.conn) p.obj ∧
    (hcount (unparkP s p.conn) : Int) = hcount s + b2i (getObj s p.obj).isOpen - b2i (Hb s p.obj) := by
  unfold unparkP
  have hobj : ∀ q ∈ s.pending, (q.conn = p.conn ↔ q.obj = p.obj) := fun q hq =>
    ⟨fun e => Option.some.inj ((hinf.pconn q hq).symm.trans (e ▸ hinf.pconn p hp)),
     fun e => hinf.conn_of hq (e ▸ hinf.pconn p hp)⟩
  have hsub : ∀ q, q ∈ s.pending.filter (·.conn != p.conn) → q ∈ s.pending ∧ q.obj ≠ p.obj := by
    intro q hq
    obtain ⟨hq1, hq2⟩ := List.mem_filter.mp hq
    refine ⟨hq1, fun e => ?_⟩
    rw [(hobj q hq1).mpr e] at hq2
    simp at hq2
  have hl : InLoop { s with pending := s.pending.filter (·.conn != p.conn) } p.obj :=
    ⟨(hw.pending_valid p hp).1, hinf.pnz p hp, (h.side.pend_np p hp).1, (h.side.pend_np p hp).2,
     fun q hq => (hsub q hq).2⟩
  refine ⟨⟨h.side.parked_stopped, h.side.disj, fun q hq => h.side.pend_np q (hsub q hq).1,
    fun q hq => h.side.pend1_live q (hsub q hq).1, h.side.conn_nz, h.side.parked_lt, h.side.parkedEarly_lt, h.side.id0,
    h.side.inl, h.side.pendOK.sublist List.filter_sublist, h.side.parked_nz, h.side.inl0⟩, hl, ?_⟩
  have hH : ∀ k, k ≠ p.obj → Hb { s with pending := s.pending.filter (·.conn != p.conn) } k = Hb s k := by
    intro k hk
    have irr : ∀ f : Pending → Bool, ∀ q ∈ s.pending, (q.conn != p.conn) = false → (q.obj == k && f q) = false :=
      fun f q hq hkeep => by
        have := (hobj q hq).mp (by simpa using hkeep)
        simp [this, Ne.symm hk]
    exact Hb_congr' rfl rfl (any_filter_irrelevant _ _ _ (irr _)) (any_filter_irrelevant _ _ _ (irr _)) rfl
  have := hcount_update (s := s) (s' := { s with pending := s.pending.filter (·.conn != p.conn) }) rfl hl.lt hH
  rw [hl.hb] at this
  exact this

/-- the connection is lost and its handler parked before the session clean-up: it stays counted -/
theorem ConnInv.toParked {t t' : Server} {i : Nat} (h : ConnInv t) (hl : InLoop t i)
    (hopen : (getObj t i).isOpen = true) (a : Act i t t') (hc : t'.info.connected = t.info.connected)
    (hst : (getObj t' i).stopped = true) : ConnInv { t' with parked := t'.parked ++ [i] } := by
  have hs' : Side t' := h.side.of_act a hl.np (fun p hp _ => hl.npend p hp)
  have hl' := hl.act a
  refine ⟨⟨forall_mem_snoc hs'.parked_stopped hst, forall_mem_snoc hs'.disj hl'.ne, ?_, hs'.pend1_live, hs'.conn_nz,
    forall_mem_snoc hs'.parked_lt hl'.lt, hs'.parkedEarly_lt, hs'.id0, hs'.inl, hs'.pendOK,
    forall_mem_snoc hs'.parked_nz hl.nz, hs'.inl0⟩, ?_⟩
  · intro p hp
    refine ⟨fun x => ?_, (hs'.pend_np p hp).2⟩
    rcases List.mem_append.mp x with x | x
    · exact (hs'.pend_np p hp).1 x
    · exact hl'.npend p hp (List.mem_singleton.mp x)
  · have := hcount_update (s := t) (s' := { t' with parked := t'.parked ++ [i] }) a.len hl.lt fun k hk =>
      Hb_congr' ((contains_snoc_ne _ _ _ hk).trans (by rw [a.parked])) (by rw [a.parkedEarly]) (by rw [a.pending])
        (by rw [a.pending]) (a.other k hk).isOpen.symm
    have hb' : Hb { t' with parked := t'.parked ++ [i] } i = true :=
      Hb_parked hl.nz (List.mem_append_right _ (List.mem_singleton.mpr rfl))
    rw [hb', hl.hb, hopen] at this
    show t'.info.connected = _
    rw [hc, h.eq]
    omega

/-- the connection is lost and its handler parked right after the read loop: it stays counted -/
theorem ConnInv.toParkedEarly {t : Server} {i : Nat} (h : ConnInv t) (hl : InLoop t i)
    (hopen : (getObj t i).isOpen = true) :
    ConnInv (modObj { t with parkedEarly := t.parkedEarly ++ [i] } i (fun c => { c with peerGone := true })) := by
  have q : QuietC { t with parkedEarly := t.parkedEarly ++ [i] }
      (modObj { t with parkedEarly := t.parkedEarly ++ [i] } i (fun c => { c with peerGone := true })) :=
    (QuietC.refl _).mod i _ (by own_rfl)
  have hmid : ConnInv { t with parkedEarly := t.parkedEarly ++ [i] } := by
    refine ⟨⟨h.side.parked_stopped, ?_, ?_, h.side.pend1_live, h.side.conn_nz, h.side.parked_lt,
      forall_mem_snoc h.side.parkedEarly_lt hl.lt, h.side.id0, h.side.inl, h.side.pendOK, h.side.parked_nz, h.side.inl0⟩, ?_⟩
    · intro k hk x
      rcases List.mem_append.mp x with x | x
      · exact h.side.disj k hk x
      · exact hl.np ((List.mem_singleton.mp x) ▸ hk)
    · intro p hp
      refine ⟨(h.side.pend_np p hp).1, fun x => ?_⟩
      rcases List.mem_append.mp x with x | x
      · exact (h.side.pend_np p hp).2 x
      · exact hl.npend p hp (List.mem_singleton.mp x)
    · have := hcount_update (s := t) (s' := { t with parkedEarly := t.parkedEarly ++ [i] }) rfl hl.lt fun k hk =>
        Hb_congr' rfl (contains_snoc_ne _ _ _ hk) rfl rfl rfl
      have hb' : Hb { t with parkedEarly := t.parkedEarly ++ [i] } i = true :=
        Hb_parkedEarly hl.nz (List.mem_append_right _ (List.mem_singleton.mpr rfl))
      rw [hb', hl.hb, hopen] at this
      show t.info.connected = _
      rw [h.eq]
      omega
  exact hmid.of_quiet q rfl

/-- a handler parked before the session clean-up runs on: deferred decrement -/
theorem ConnInv.fromParked {s : Server} {i : Nat} (h : ConnInv s) (hos : ∀ k, OS (getObj s k)) (hip : i ∈ s.parked)
    (hnz : i ≠ 0) : ConnInv (detachB (unparkB s i) i) := by
  have hlt := h.side.parked_lt i hip
  have hne : i ∉ s.parkedEarly := h.side.disj i hip
  have hnpend : ∀ p ∈ s.pending, p.obj ≠ i := fun p hp x => (h.side.pend_np p hp).1 (x ▸ hip)
  have hclosed : (getObj s i).isOpen = false := (hos i).closed_of (h.side.parked_stopped i hip)
  have hsub : ∀ k, k ∈ (unparkB s i).parked → k ∈ s.parked ∧ k ≠ i := by
    intro k hk
    obtain ⟨a, b⟩ := List.mem_filter.mp hk
    exact ⟨a, by simpa using b⟩
  have hside0 : Side (unparkB s i) :=
    ⟨fun k hk => h.side.parked_stopped k (hsub k hk).1, fun k hk => h.side.disj k (hsub k hk).1,
      fun p hp => ⟨fun x => (h.side.pend_np p hp).1 (hsub _ x).1, (h.side.pend_np p hp).2⟩, h.side.pend1_live,
      h.side.conn_nz, fun k hk => h.side.parked_lt k (hsub k hk).1, h.side.parkedEarly_lt, h.side.id0, h.side.inl,
      h.side.pendOK, fun k hk => h.side.parked_nz k (hsub k hk).1, h.side.inl0⟩
  have hcnt := hcount_update (s := s) (s' := unparkB s i) rfl hlt fun k hk =>
    Hb_congr' (contains_filter_ne _ _ _ hk) rfl rfl rfl rfl
  have hb' : Hb (unparkB s i) i = false := by
    rw [Hb_plain (s := unparkB s i) hnz (fun x => (hsub i x).2 rfl) hne hnpend]
    exact hclosed
  rw [hb', Hb_parked hnz hip, b2i_true, b2i_false] at hcnt
  obtain ⟨q, c⟩ := detachB_quietC (unparkB s i) i
  refine ⟨hside0.of_quiet q, ?_⟩
  rw [c, hcount_quiet q]
  show s.info.connected - 1 = _
  rw [h.eq]
  omega

/-- a handler parked right after the read loop runs on: will, stop, clean-up, deferred decrement -/
theorem ConnInv.fromParkedEarly {s : Server} {i : Nat} (h : ConnInv s) (hie : i ∈ s.parkedEarly) (hnz : i ≠ 0)
    (hos' : ∀ k, OS (getObj (detach (unparkE s i) i true).1 k)) :
    ConnInv (detach (unparkE s i) i true).1 := by
  have hlt := h.side.parkedEarly_lt i hie
  have hnp : i ∉ s.parked := fun x => h.side.disj i x hie
  have hnpend : ∀ p ∈ s.pending, p.obj ≠ i := fun p hp x => (h.side.pend_np p hp).2 (x ▸ hie)
  have hsub : ∀ k, k ∈ (unparkE s i).parkedEarly → k ∈ s.parkedEarly ∧ k ≠ i := by
    intro k hk
    obtain ⟨a, b⟩ := List.mem_filter.mp hk
    exact ⟨a, by simpa using b⟩
  obtain ⟨a, c, st⟩ := detach_true_act (unparkE s i) i hlt
  have hside0 : Side (unparkE s i) :=
    ⟨h.side.parked_stopped, fun k hk x => h.side.disj k hk (hsub k x).1,
      fun p hp => ⟨(h.side.pend_np p hp).1, fun x => (h.side.pend_np p hp).2 (hsub _ x).1⟩, h.side.pend1_live,
      h.side.conn_nz, h.side.parked_lt, fun k hk => h.side.parkedEarly_lt k (hsub k hk).1, h.side.id0, h.side.inl,
      h.side.pendOK, h.side.parked_nz, h.side.inl0⟩
  refine ⟨hside0.of_act a hnp (fun p hp _ => hnpend p hp), ?_⟩
  have hH : ∀ k, k ≠ i → Hb (detach (unparkE s i) i true).1 k = Hb s k := by
    intro k hk
    refine Hb_congr' (by rw [a.parked]; rfl) ?_ (by rw [a.pending]; rfl) (by rw [a.pending]; rfl)
      (a.other k hk).isOpen.symm
    rw [a.parkedEarly]
    exact contains_filter_ne _ _ _ hk
  have := hcount_update (s := s) (s' := (detach (unparkE s i) i true).1)
    a.len hlt hH
  have hb' : Hb (detach (unparkE s i) i true).1 i = false := by
    rw [Hb_plain hnz (by rw [a.parked]; exact hnp) (by rw [a.parkedEarly]; exact fun x => (hsub i x).2 rfl)
      (by rw [a.pending]; exact hnpend)]
    exact (hos' i).closed_of st
  rw [hb', Hb_parkedEarly hnz hie, b2i_true, b2i_false] at this
  rw [c]
  show s.info.connected - 1 = _
  rw [h.eq]
  omega

/-! ### the ops -/

theorem connect_conn (s : Server) (conn : Nat) (k : Connect) (hw : WF s) (hf : conn ∉ s.connOf.map (·.1))
    (hinf : InflInv s) (h : ConnInv s) (hid : k.id ≠ inlineID) :
    (∀ j, OS (getObj (connect s conn k).1 j)) →
      ConnInv (connect s conn k).1 ∧ InLoop (connect s conn k).1 s.objs.length := by
  obtain ⟨w1, i1, f1⟩ := entered_inv_cnt s conn k hw hinf hf
  have pa := preAdmit_new s hw hinf h conn k
  refine connect_cases (Q := fun r => (∀ j, OS (getObj r.1 j)) → ConnInv r.1 ∧ InLoop r.1 s.objs.length) s conn k
    (fun _ _ e _ hos' => by subst e; exact ⟨pa.stop hos', pa.loop.act (stopClient_act _ _).1⟩) fun _ e _ hos' => ?_
  subst e
  obtain ⟨a, b, _⟩ := admitClient_conn _ _ conn k w1 i1 hos' pa f1.unreg hid
  exact ⟨a, b⟩

theorem fresh_not_pending {s : Server} (hinf : InflInv s) {conn : Nat} (hf : conn ∉ s.connOf.map (·.1)) :
    conn ∉ s.pending.map (·.conn) := by
  intro x
  obtain ⟨p, hp, e⟩ := List.mem_map.mp x
  exact hf (e ▸ (mem_keys_iff_assocGet _ _).mpr ⟨_, hinf.pconn p hp⟩)

theorem connectHold_conn (s : Server) (conn : Nat) (k : Connect) (stage : Nat) (hw : WF s)
    (hf : conn ∉ s.connOf.map (·.1)) (hinf : InflInv s) (h : ConnInv s) (hid : k.id ≠ inlineID) :
    (∀ j, OS (getObj (connectHold s conn k stage).1 j)) → ConnInv (connectHold s conn k stage).1 := by
  obtain ⟨w1, i1, f1⟩ := entered_inv_cnt s conn k hw hinf hf
  have pa := preAdmit_new s hw hinf h conn k
  have hfp : conn ∉ (connState s conn k).pending.map (·.conn) := fresh_not_pending hinf hf
  have hst : (getObj (connState s conn k) s.objs.length).stopped = false := by rw [getObj_connState_new]; rfl
  have hpark1 : ∀ (rf : Option Nat), ConnInv { connState s conn k with pending := (connState s conn k).pending ++
      [{ conn := conn, obj := s.objs.length, k := k, stage := 1, refuse := rf }] } :=
    fun rf => pa.park1 hst _ rfl rfl (pa.side.pendOK.snoc _ hid hfp)
  refine connectHold_cases (Q := fun r => (∀ j, OS (getObj r.1 j)) → ConnInv r.1) s conn k stage
    (fun _ _ e _ _ _ => e ▸ hpark1 _) (fun _ _ e _ _ hos' => by subst e; exact pa.stop hos')
    (fun _ e _ _ _ => e ▸ hpark1 _) ?_
  -- stage 2: admitted, parked before the CONNACK
  rintro _ _ sD oD rfl _ _ rfl hD hos'
  obtain ⟨hc3, hl3, ho3, hp3⟩ := admit_conn (connState s conn k) s.objs.length k w1 i1 pa f1.unreg hid _ (QCC.refl _)
    sD (by
      obtain rfl : sD = _ := congrArg Prod.fst hD
      unfold tookOverDown
      generalize (admitA _ _ k).2.2.2 = x
      cases x <;> exact QCC.refl _) hos'
  exact hc3.park2 hl3 ho3 _ rfl (fun x => by cases x) (hc3.side.pendOK.snoc _ hid (by rw [hp3]; exact hfp))

theorem connectRelease_conn (s : Server) (p : Pending) (hw : WF s) (hinf : InflInv s) (h : ConnInv s)
    (hp : p ∈ s.pending) :
    (∀ j, OS (getObj (connectRelease (unparkP s p.conn) p).1 j)) →
      ConnInv (connectRelease (unparkP s p.conn) p).1 ∧ InLoop (connectRelease (unparkP s p.conn) p).1 p.obj := by
  obtain ⟨side0, hl0, hcnt0⟩ := unpark s hw hinf h p hp
  have hsame : ∀ q ∈ s.pending, q.obj = p.obj → q = p := fun q hq e =>
    h.side.pendOK.eq_of_conn hp hq (hinf.conn_of hq (e ▸ hinf.pconn p hp))
  have hnp := h.side.pend_np p hp
  -- parked in the authentication hook: open, and not counted yet
  have pa : p.stage = 1 → PreAdmit (unparkP s p.conn) p.obj := fun hst1 => by
    have hopen : (getObj s p.obj).isOpen = true := (hinf.os _).open_of (h.side.pend1_live p hp hst1)
    refine ⟨side0, hl0, hopen, ?_⟩
    rw [Hb_pending1 hnp.1 hnp.2 (fun q hq hqo => by rw [hsame q hq hqo]; exact hst1) p hp rfl, hopen, b2i_true,
      b2i_false] at hcnt0
    show s.info.connected = _
    rw [h.eq]
    omega
  -- parked before the CONNACK: counted
  have hb : p.stage ≠ 1 → Hb s p.obj = true := Hb_pending2 (hinf.pnz p hp) p hp rfl
  refine connectRelease_cases (Q := fun r => (∀ j, OS (getObj r.1 j)) → ConnInv r.1 ∧ InLoop r.1 p.obj)
    (unparkP s p.conn) p (fun _ hst1 _ hos' => ⟨(pa (eq_of_beq hst1)).stop hos', hl0.act (stopClient_act _ _).1⟩)
    (fun hst1 _ hos' => ?_) (fun hst1 hstop _ => ?_) (fun hst1 hlive _ => ?_)
  · obtain ⟨a, b, _⟩ := admitClient_conn (unparkP s p.conn) p.obj p.conn p.k (hw.filterPending _)
      (hinf.filterPending _) hos' (pa (eq_of_beq hst1)) (hinf.pend p hp (eq_of_beq hst1)).1 (h.side.pendOK.ids p hp)
    exact ⟨a, b⟩
  · rw [hb (fun e => hst1 (beq_iff_eq.mpr e)), (hinf.os p.obj).closed_of hstop, b2i_true, b2i_false] at hcnt0
    have q : QuietC (unparkP s p.conn)
        { unparkP s p.conn with info := { (unparkP s p.conn).info with connected := (unparkP s p.conn).info.connected - 1 } } :=
      (QuietC.refl _).upd rfl rfl rfl rfl rfl
    refine ⟨⟨side0.of_quiet q, ?_⟩, hl0.act (q.act p.obj)⟩
    rw [hcount_quiet q]
    show s.info.connected - 1 = _
    rw [h.eq]
    omega
  · rw [hb (fun e => hst1 (beq_iff_eq.mpr e)), (hinf.os p.obj).open_of (Bool.eq_false_iff.mpr hlive), b2i_true] at hcnt0
    have c0 : ConnInv (unparkP s p.conn) := ⟨side0, by show s.info.connected = _; rw [h.eq]; omega⟩
    have q := (admitConnack_qc (unparkP s p.conn) p.obj p.conn p.present).trans (admitC_qc _ p.obj p.k p.present)
    exact ⟨c0.of_quiet q.q q.c, hl0.act (q.q.act p.obj)⟩

theorem detach_act (s : Server) (i : Nat) (b : Bool) : Act i s (detach s i b).1 := by
  rw [detach_fst]
  exact (detachA_act s i b).1.trans ((detachB_quietC _ i).1.act i)

theorem recvOn_act (s : Server) (c : Nat) (pk : InPk) (b : Bool) (i : Nat) (hc : assocGet s.connOf c = some i) :
    Act i s (recvOn s c pk b).1 :=
  recvOn_trAt (.ofState (Act.refl i) Act.trans) i (fun h => h) s pk (receivePacket_act s i pk).1
    (fun s' => (receivePacket_act s' i _).1) (fun s b => detach_act s i b) c b hc

/-! ### `step` -/

/-- no network client uses the inline client's id -/
def opIdOK : Op → Bool
  | .connect _ k => k.id != inlineID
  | .connectHold _ k _ => k.id != inlineID
  | _ => true

/-- schedule sanity: a handler parked inside `attachClient` (`connectHold`) or right after its read loop
    (`dropHoldEarly`) reads nothing from — and notices no loss of — its connection until it is released; and `opIdOK` -/
def OpSched (s : Server) (op : Op) : Prop :=
  (∀ i, opObj s op = some i → (∀ p ∈ s.pending, p.obj ≠ i) ∧ i ∉ s.parkedEarly) ∧ opIdOK op = true

instance (s : Server) (op : Op) : Decidable (OpSched s op) := by
  unfold OpSched
  have d1 : Decidable (∀ i, opObj s op = some i → (∀ p ∈ s.pending, p.obj ≠ i) ∧ i ∉ s.parkedEarly) :=
    match h : opObj s op with
    | none => isTrue (fun i hi => by cases hi)
    | some j =>
      if hj : (∀ p ∈ s.pending, p.obj ≠ j) ∧ j ∉ s.parkedEarly then isTrue (fun i hi => by cases hi; exact hj)
      else isFalse (fun g => hj (g j rfl))
  exact instDecidableAnd

theorem OpSched.sched1 {s : Server} {op : Op} (h : OpSched s op) : OpSched1 s op :=
  fun i hi p hp _ => (h.1 i hi).1 p hp

/-- **the `connected` invariant is kept by every op** of a well-scheduled history -/
theorem ConnInv_step (s : Server) (op : Op) (hw : WF s) (hf : OpFresh s op) (hs : OpSched s op) (hinf : InflInv s)
    (h : ConnInv s) : ConnInv (step s op).1 := by
  have hinf' := InflInv_step s op hw hf hs.sched1 hinf
  have lost : ∀ i, QuietC s (modObj s i (fun c => { c with peerGone := true })) := fun i =>
    (QuietC.refl s).mod i _ (by own_rfl)
  -- the handler of a live connection the op is about is in its read loop
  have loop : ∀ conn i, opObj s op = assocGet s.connOf conn → assocGet s.connOf conn = some i →
      (getObj s i).stopped = false → InLoop s i := fun conn i ho hc hlive =>
    InLoop.of_conn hw h hc (hs.1 i (ho ▸ hc)).1 (hs.1 i (ho ▸ hc)).2 hlive
  cases op with
  | connect conn k =>
    obtain ⟨i1, hp1, hc1⟩ := connect_inv_cnt s conn k hw hinf hf
    obtain ⟨c1, hl1⟩ := connect_conn s conn k hw hf hinf h (by simpa [opIdOK] using hs.2) i1.os
    refine step_connect_cases (Q := fun r => (∀ j, OS (getObj r.1 j)) → ConnInv r.1) s conn k
      (fun _ _ _ hos' => ?_) (fun _ _ => c1) hinf'.os
    refine recvOn_conn _ conn .pingreq false (connect_wf s conn k hw hf) c1 i1.os (fun j hj => ?_) hos'
    rw [hc1, assocGet_append_fresh _ _ _ hf] at hj
    cases hj
    exact ⟨hl1.npend, hl1.ne⟩
  | recv conn pk =>
    exact recvOn_conn s conn pk true hw h hinf.os hs.1 hinf'.os
  | drop conn =>
    refine step_drop_cases (Q := fun r => (∀ j, OS (getObj r.1 j)) → ConnInv r.1) s conn (fun _ _ => h)
      (fun _ _ _ _ => h) (fun i hc hlive hos' => ?_) hinf'.os
    exact detach_true_conn _ i h (loop conn i rfl hc hlive) ((hinf.os i).open_of hlive) ((lost i).act i) rfl hos'
  | recvCut conn pk =>
    -- up to the end of the read
    have hcut : ∀ i r, assocGet s.connOf conn = some i → ((getObj s i).stopped || !(getObj s i).isOpen) = false →
        r = recvOn (modObj s i (fun c => { c with peerGone := true })) conn pk false →
        WF r.1 ∧ InflInv r.1 ∧ ConnInv r.1 ∧ assocGet r.1.connOf conn = some i ∧ (∀ p ∈ r.1.pending, p.obj ≠ i) ∧
          i ∉ r.1.parkedEarly := by
      rintro i _ hc hst rfl
      have g1 : Infl i 0 s (modObj s i (fun c => { c with peerGone := true })) :=
        InflW.set s _ (CL.peerGone' _) hw (conn_lt hw hc)
      have np1 : NotPend1 s i := fun p hp _ => (hs.1 i hc).1 p hp
      have i1 := hinf.of_infl g1 np1
      have hc1 : assocGet (modObj s i (fun c => { c with peerGone := true })).connOf conn = some i := hc
      have g2 := recvOn_infl _ conn pk false (g1.wf hw) i hc1
      have i2 := i1.of_infl g2 (np1.keep g1.good.pending)
      have a2 := recvOn_act _ conn pk false i hc1
      exact ⟨g2.wf (g1.wf hw), i2,
        recvOn_conn _ conn pk false (g1.wf hw) (h.of_quiet (lost i) rfl) i1.os hs.1 i2.os,
        g2.good.connOf.symm ▸ hc1, g2.good.pending.symm ▸ (hs.1 i hc).1, a2.parkedEarly.symm ▸ (hs.1 i hc).2⟩
    refine step_recvCut_cases (Q := fun r => (∀ j, OS (getObj r.1 j)) → ConnInv r.1) s conn pk (fun _ _ => h)
      (fun _ _ _ _ => h) (fun i r hc hst hr _ _ => (hcut i r hc hst hr).2.2.1) (fun i r hc hst hr hlive hos' => ?_)
      hinf'.os
    obtain ⟨w2, i2, c2, hc2, hnp2, hne2⟩ := hcut i r hc hst hr
    exact detach_true_conn r.1 i c2 (InLoop.of_conn w2 c2 hc2 hnp2 hne2 hlive) ((i2.os i).open_of hlive)
      (Act.refl i _) rfl hos'
  | dropHold conn =>
    refine step_dropHold_cases (Q := fun r => ConnInv r.1) s conn (fun _ => h) (fun _ _ _ => h)
      fun i d hc hlive hd => ?_
    subst hd
    have hl1 := (loop conn i rfl hc hlive).act ((lost i).act i)
    obtain ⟨a, c⟩ := detachA_act (modObj s i (fun c => { c with peerGone := true })) i true
    exact (h.of_quiet (lost i) rfl).toParked hl1 (((lost i).all i).isOpen.symm.trans ((hinf.os i).open_of hlive)) a c
      (detachA_true_stopped _ i hl1.lt)
  | dropHoldEarly conn =>
    exact step_dropHoldEarly_cases (Q := fun r => ConnInv r.1) s conn (fun _ => h) (fun _ _ _ => h)
      fun i hc hlive => h.toParkedEarly (loop conn i rfl hc hlive) ((hinf.os i).open_of hlive)
  | release conn =>
    refine step_release_cases (Q := fun r => (∀ j, OS (getObj r.1 j)) → ConnInv r.1) s conn (fun p hp _ hos' => ?_)
      (fun p hp _ _ => ?_) (fun _ _ _ => h)
      (fun i _ hc hip _ => ?_)
      (fun i _ hc _ hie hos' => ?_)
      (fun _ _ _ _ _ _ => h) hinf'.os
    rotate_left 2
    · exact h.fromParked hinf.os (by simpa using hip) (h.side.conn_nz conn i hc)
    · exact h.fromParkedEarly (by simpa using hie) (h.side.conn_nz conn i hc) hos'
    · have R := release_inv_cnt s conn p hw hinf hp
      obtain rfl := R.onConn
      obtain ⟨c1, hl1⟩ := connectRelease_conn s p hw hinf h R.mem R.inv.os
      refine recvOn_conn _ p.conn .pingreq false R.wf c1 R.inv.os (fun i hi => ?_) hos'
      rw [R.keep.connOf, show (unparkP s p.conn).connOf = s.connOf from rfl, hinf.pconn p R.mem] at hi
      cases hi
      exact ⟨hl1.npend, hl1.ne⟩
    · have R := release_inv_cnt s conn p hw hinf hp
      obtain rfl := R.onConn
      exact (connectRelease_conn s p hw hinf h R.mem R.inv.os).1
  | connectHold conn k stage =>
    exact connectHold_conn s conn k stage hw hf hinf h (by simpa [opIdOK] using hs.2) hinf'.os
  | tick kind t => exact h.of_quiet (tick_qc s kind t).q (tick_qc s kind t).c
  | inlinePublish topic payload retain qos =>
    obtain ⟨a, c⟩ := receivePacket_act s 0 (.publish qos false retain qos topic payload 0 none)
    refine ⟨h.side.of_act a (fun x => h.side.parked_nz 0 x rfl) (fun p hp _ => hinf.pnz p hp), ?_⟩
    have := hcount_act a hinf.nz
    rw [Hb_zero, Hb_zero, b2i_false] at this
    show (receivePacket s 0 (.publish qos false retain qos topic payload 0 none)).1.info.connected =
      ((hcount (receivePacket s 0 (.publish qos false retain qos topic payload 0 none)).1 : Nat) : Int)
    rw [c, h.eq]
    omega
  | inlineSubscribe id filter =>
    exact step_inlineSubscribe_cases (Q := fun r => ConnInv r.1) s id filter (fun _ => h)
      fun _ e _ => e ▸ h.of_quiet ((QuietC.refl s).upd rfl rfl rfl rfl rfl) rfl
  | inlineUnsubscribe id filter =>
    exact step_inlineUnsubscribe_cases (Q := fun r => ConnInv r.1) s id filter (fun _ => h)
      fun _ => h.of_quiet ((QuietC.refl s).upd rfl rfl rfl rfl rfl) rfl

end Mochi.Broker
