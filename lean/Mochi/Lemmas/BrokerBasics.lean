import Mochi.Model.Broker
/-!
# Small facts the broker lemmas share: `getObj` / `setObj`, `dead` / `ackRes` (a handler's own `WritePacket` and its
failure), in-flight records, `writeMsg`, an invariant carried through a fold, `permuteBy`
-/
namespace Mochi.Broker

/-! ### `getObj` / `setObj` -/

theorem getObj_setObj_ne (s : Server) (i k : Nat) (c : Client) (h : k ≠ i) :
    getObj (setObj s i c) k = getObj s k := by
  simp only [getObj, setObj, List.getD_eq_getElem?_getD]
  rw [List.getElem?_set_ne (fun e => h e.symm)]

theorem getObj_setObj_eq (s : Server) (i : Nat) (c : Client) (h : i < s.objs.length) :
    getObj (setObj s i c) i = c := by
  simp only [getObj, setObj, List.getD_eq_getElem?_getD]
  rw [List.getElem?_set_self h]; rfl

theorem getObj_setObj_ge (s : Server) (i : Nat) (c : Client) (h : ¬ i < s.objs.length) :
    getObj (setObj s i c) i = getObj s i := by
  have h1 : s.objs.length ≤ i := Nat.le_of_not_lt h
  have h2 : (s.objs.set i c).length ≤ i := by rw [List.length_set]; exact h1
  simp only [getObj, setObj, List.getD_eq_getElem?_getD]
  rw [List.getElem?_eq_none h1, List.getElem?_eq_none h2]

theorem getObj_setObj_self_cases (s : Server) (i : Nat) (c : Client) :
    getObj (setObj s i c) i = c ∨ getObj (setObj s i c) i = getObj s i := by
  by_cases h : i < s.objs.length
  · exact Or.inl (getObj_setObj_eq s i c h)
  · exact Or.inr (getObj_setObj_ge s i c h)

theorem getObj_setObj_ind {P : Client → Prop} (s : Server) (i : Nat) (c : Client) (k : Nat) (old : P (getObj s k))
    (new : k = i → P c) : P (getObj (setObj s i c) k) := by
  by_cases hk : k = i
  · subst hk
    rcases getObj_setObj_self_cases s k c with e | e <;> rw [e]
    · exact new rfl
    · exact old
  · rw [getObj_setObj_ne s i k c hk]; exact old

theorem setObj_length (s : Server) (i : Nat) (c : Client) : (setObj s i c).objs.length = s.objs.length := by
  simp only [setObj, List.length_set]

theorem getObj_of_objs_eq {s s' : Server} (h : s'.objs = s.objs) (k : Nat) : getObj s' k = getObj s k := by
  simp only [getObj, h]

theorem getObj_default {s : Server} {i : Nat} (h : ¬ i < s.objs.length) : getObj s i = {} := by
  simp only [getObj, List.getD_eq_getElem?_getD, List.getElem?_eq_none (Nat.le_of_not_lt h), Option.getD_none]

theorem lt_of_recvQuota_ne_zero (s : Server) (i : Nat) (h : (getObj s i).recvQuota ≠ 0) : i < s.objs.length := by
  false_or_by_contra
  rename_i hn
  exact h (by rw [getObj_default hn])

theorem stopClient_stopped (s : Server) (i : Nat) (hi : i < s.objs.length) :
    (getObj (stopClient s i).1 i).stopped = true := by
  unfold stopClient
  extract_lets +onlyGivenNames c
  split
  · rename_i h; exact h
  · show (getObj (setObj s i _) i).stopped = true
    rw [getObj_setObj_eq s i _ hi]

theorem setObj_setObj (s : Server) (i : Nat) (a b : Client) : setObj (setObj s i a) i b = setObj s i b := by
  simp only [setObj, List.set_set]

/-- reading back a modified object; `f` has to keep the default object, which is what an index out of range reads -/
theorem getObj_modObj_self (s : Server) (i : Nat) (f : Client → Client) (hf : f {} = {}) :
    getObj (modObj s i f) i = f (getObj s i) := by
  unfold modObj
  by_cases h : i < s.objs.length
  · exact getObj_setObj_eq s i _ h
  · rw [getObj_setObj_ge s i _ h, getObj_default h, hf]

theorem getObj_modObj_lt (s : Server) (i : Nat) (f : Client → Client) (hi : i < s.objs.length) :
    getObj (modObj s i f) i = f (getObj s i) := getObj_setObj_eq s i _ hi

theorem getObj_modObj_ne (s : Server) (i k : Nat) (f : Client → Client) (h : k ≠ i) :
    getObj (modObj s i f) k = getObj s k := getObj_setObj_ne s i k _ h

/-- a field on which the written object agrees with what was there reads the same in and out of range -/
theorem getObj_setObj_proj {α} (f : Client → α) (s : Server) (i : Nat) (c : Client) (h : f c = f (getObj s i)) :
    f (getObj (setObj s i c) i) = f c := by
  rcases getObj_setObj_self_cases s i c with e | e <;> rw [e]
  exact h.symm

theorem getObj_modObj_proj {α} (f : Client → α) (s : Server) (j : Nat) (g : Client → Client) (x : Nat)
    (h : ∀ c, f (g c) = f c) : f (getObj (modObj s j g) x) = f (getObj s x) := by
  unfold modObj
  by_cases hx : x = j
  · subst hx
    rcases getObj_setObj_self_cases s x (g (getObj s x)) with e | e <;> rw [e]
    exact h _
  · rw [getObj_setObj_ne s j x _ hx]

theorem getObj_append_lt {s s' : Server} {c : Client} (ho : s'.objs = s.objs ++ [c]) (j : Nat)
    (hj : j < s.objs.length) : getObj s' j = getObj s j := by
  simp only [getObj, ho, List.getD_eq_getElem?_getD]
  rw [List.getElem?_append_left hj]

theorem getObj_append_eq {s s' : Server} {c : Client} (ho : s'.objs = s.objs ++ [c]) :
    getObj s' s.objs.length = c := by
  simp only [getObj, ho, List.getD_eq_getElem?_getD]
  rw [List.getElem?_append_right (Nat.le_refl _), Nat.sub_self]
  rfl

theorem getObj_append_ne {s s' : Server} {c : Client} (ho : s'.objs = s.objs ++ [c]) (k : Nat) (hk : k ≠ s.objs.length) :
    getObj s' k = getObj s k := by
  by_cases hlt : k < s.objs.length
  · exact getObj_append_lt ho k hlt
  · have h1 : s.objs.length + 1 ≤ k := by omega
    simp only [getObj, ho, List.getD_eq_getElem?_getD]
    rw [List.getElem?_eq_none (by simp; omega), List.getElem?_eq_none (by omega)]

theorem dead_eq_false_iff (c : Client) : dead c = false ↔ c.isOpen = true ∧ c.peerGone = false := by
  unfold dead
  cases c.isOpen <;> cases c.peerGone <;> simp

theorem dead_eq_true_iff (c : Client) : dead c = true ↔ c.isOpen = false ∨ c.peerGone = true := by
  unfold dead
  cases c.isOpen <;> cases c.peerGone <;> simp

theorem dead_of_live {c : Client} (ho : c.isOpen = true) (hp : c.peerGone = false) : dead c = false :=
  (dead_eq_false_iff c).2 ⟨ho, hp⟩

theorem dead_of_closed {c : Client} (ho : c.isOpen = false) : dead c = true :=
  (dead_eq_true_iff c).2 (Or.inl ho)

theorem ackRes_live (s : Server) (i t id rc : Nat) (h : dead (getObj s i) = false) :
    ackRes s i t id rc = (s, writeAck s i t id rc, none) := by
  unfold ackRes
  simp [h]

theorem ackRes_inline (s : Server) (i t id rc : Nat) (h : (getObj s i).inline = true) :
    ackRes s i t id rc = (s, writeAck s i t id rc, none) := by
  unfold ackRes
  simp [h]

theorem ackRes_dead (s : Server) (i t id rc : Nat) (h : dead (getObj s i) = true)
    (hin : (getObj s i).inline = false) :
    ackRes s i t id rc = (s, [], some 0) := by
  unfold ackRes
  simp [h, hin]

@[simp] theorem ackRes_fst (s : Server) (i t id rc : Nat) : (ackRes s i t id rc).1 = s := by
  unfold ackRes
  split <;> rfl

theorem ackRes_cases (s : Server) (i t id rc : Nat) :
    ackRes s i t id rc = (s, writeAck s i t id rc, none) ∨ ackRes s i t id rc = (s, [], some 0) := by
  unfold ackRes
  split
  · exact Or.inr rfl
  · exact Or.inl rfl

theorem ackRes_out (s : Server) (i t id rc : Nat) :
    (ackRes s i t id rc).2.1 = writeAck s i t id rc ∨ (ackRes s i t id rc).2.1 = [] := by
  rcases ackRes_cases s i t id rc with h | h <;> rw [h]
  · exact Or.inl rfl
  · exact Or.inr rfl

theorem foldl_inv {α β} (P : β → Prop) (f : β → α → β) (l : List α) (b : β) (h0 : P b)
    (hs : ∀ b a, P b → P (f b a)) : P (l.foldl f b) := by
  induction l generalizing b with
  | nil => exact h0
  | cons x xs ih => exact ih _ (hs _ _ h0)

theorem eq_of_nodup_map {α β} (f : α → β) (l : List α) (h : (l.map f).Nodup) (a b : α) (ha : a ∈ l) (hb : b ∈ l)
    (hab : f a = f b) : a = b := by
  induction l with
  | nil => cases ha
  | cons x xs ih =>
    rw [List.map_cons, List.nodup_cons] at h
    rcases List.mem_cons.mp ha with ha' | ha' <;> rcases List.mem_cons.mp hb with hb' | hb'
    · rw [ha', hb']
    · subst ha'
      exact absurd (List.mem_map.mpr (⟨b, hb', hab.symm⟩ : ∃ y, y ∈ xs ∧ f y = f a)) h.1
    · subst hb'
      exact absurd (List.mem_map.mpr (⟨a, ha', hab⟩ : ∃ y, y ∈ xs ∧ f y = f b)) h.1
    · exact ih h.2 ha' hb'

/-! ### in-flight records -/

theorem flGet_mem_sv {c : Client} {k : Nat} {m : Msg} (h : flGet c k = some m) : m ∈ c.inflight ∧ m.id = k := by
  unfold flGet at h
  exact ⟨List.mem_of_find?_eq_some h, by simpa using List.find?_some h⟩

theorem flGet_flSet_self_sv (c : Client) (m : Msg) : flGet (flSet c m).1 m.id = some m := by
  unfold flSet
  split
  · rename_i h
    unfold flGet at h ⊢
    obtain ⟨x, hx⟩ := Option.isSome_iff_exists.mp h
    show List.find? _ (c.inflight.map _) = _
    have hmem := List.mem_of_find?_eq_some hx
    have hid : x.id = m.id := by simpa using List.find?_some hx
    clear hx h
    generalize c.inflight = l at hmem
    induction l with
    | nil => cases hmem
    | cons y ys ih =>
      rw [List.map_cons, List.find?_cons]
      by_cases hy : y.id = m.id
      · simp [hy]
      · have hy' : (y.id == m.id) = false := by simpa using hy
        simp only [hy', Bool.false_eq_true, if_false]
        apply ih
        rcases List.mem_cons.mp hmem with h1 | h1
        · subst h1; exact absurd hid hy
        · exact h1
  · rename_i h
    unfold flGet at h ⊢
    show List.find? _ (c.inflight ++ [m]) = _
    rw [List.find?_append]
    have : List.find? (fun x => x.id == m.id) c.inflight = none := by simpa using h
    simp [this]

theorem flGet_flDelete_self (c : Client) (id : Nat) : flGet (flDelete c id).1 id = none := by
  unfold flDelete flGet
  exact List.find?_eq_none.mpr fun m hm => by simpa using (List.mem_filter.mp hm).2

/-! the quota operations saturate; as record updates -/

theorem decSend_eq (c : Client) : decSend c = { c with sendQuota := c.sendQuota - 1 } := by
  unfold decSend
  split
  · rfl
  · rw [show c.sendQuota - 1 = c.sendQuota by omega]

theorem decRecv_eq (c : Client) : decRecv c = { c with recvQuota := c.recvQuota - 1 } := by
  unfold decRecv
  split
  · rfl
  · rw [show c.recvQuota - 1 = c.recvQuota by omega]

theorem incRecv_eq (c : Client) :
    incRecv c = { c with recvQuota := if c.recvQuota < c.maxRecv then c.recvQuota + 1 else c.recvQuota } := by
  unfold incRecv
  split <;> rfl

theorem writeMsg_eq (s : Server) (i : Nat) (m : Msg) :
    writeMsg s i m =
      if ((getObj s i).isOpen && !(getObj s i).inline && !(getObj s i).peerGone) = true then
        [Out.wrote (getObj s i).conn
          (if m.type == 3 then .publish (getObj s i).ver m (decide (m.expiry > 0) || decide (m.msgExpiry > 0))
           else .ack (getObj s i).ver m.type m.id m.reasonCode)]
      else [] := by
  have e : ∀ a b c : Bool, (!a || b || c) = !(a && !b && !c) := by decide
  unfold writeMsg
  dsimp only
  rw [e]
  cases ((getObj s i).isOpen && !(getObj s i).inline && !(getObj s i).peerGone)
  · rfl
  · show (if (m.type == 3) = true then _ else _) = _
    split <;> rfl

theorem writeMsg_ack {s : Server} {i : Nat} (m : Msg) (ho : (getObj s i).isOpen = true)
    (hi : (getObj s i).inline = false) (hp : (getObj s i).peerGone = false) (ht : m.type ≠ 3) :
    writeMsg s i m = [.wrote (getObj s i).conn (.ack (getObj s i).ver m.type m.id m.reasonCode)] := by
  rw [writeMsg_eq, ho, hi, hp, beq_eq_false_iff_ne.mpr ht]
  rfl

theorem writeMsg_publish (s : Server) (i : Nat) (m : Msg) (hm : m.type = 3) :
    writeMsg s i m =
      if ((getObj s i).isOpen && !(getObj s i).inline && !(getObj s i).peerGone) = true then
        [Out.wrote (getObj s i).conn (.publish (getObj s i).ver m (decide (m.expiry > 0) || decide (m.msgExpiry > 0)))]
      else [] := by
  rw [writeMsg_eq, hm]
  rfl

theorem writeMsg_pub (s : Server) (i : Nat) (m : Msg) (hm : m.type = 3) :
    ∃ me, writeMsg s i m =
      if ((getObj s i).isOpen && !(getObj s i).inline && !(getObj s i).peerGone) = true then
        [Out.wrote (getObj s i).conn (.publish (getObj s i).ver m me)] else [] :=
  ⟨_, writeMsg_publish s i m hm⟩

theorem writeMsg_live_pub (s : Server) (i : Nat) (m : Msg) (hm : m.type = 3) (ho : (getObj s i).isOpen = true)
    (hp : (getObj s i).peerGone = false) (hi : (getObj s i).inline = false) :
    writeMsg s i m = [.wrote (getObj s i).conn (.publish (getObj s i).ver m (decide (m.expiry > 0) || decide (m.msgExpiry > 0)))] := by
  rw [writeMsg_publish s i m hm, ho, hp, hi]
  rfl

theorem writeMsg_conn (s : Server) (i : Nat) (m : Msg) (x : Out) (h : x ∈ writeMsg s i m) :
    ∃ pk, x = Out.wrote (getObj s i).conn pk := by
  rw [writeMsg_eq, List.mem_ite_nil_right] at h
  exact ⟨_, List.mem_singleton.mp h.2⟩

theorem writeMsg_congr {s t : Server} {i : Nat} (m : Msg) (ho : (getObj t i).isOpen = (getObj s i).isOpen)
    (hp : (getObj t i).peerGone = (getObj s i).peerGone) (hi : (getObj t i).inline = (getObj s i).inline)
    (hc : (getObj t i).conn = (getObj s i).conn) (hv : (getObj t i).ver = (getObj s i).ver) :
    writeMsg t i m = writeMsg s i m := by
  rw [writeMsg_eq, writeMsg_eq, ho, hp, hi, hc, hv]

/-- what `writeMsg` reads of the receiving object -/
structure LiveEq (a b : Client) : Prop where
  isOpen : b.isOpen = a.isOpen
  peerGone : b.peerGone = a.peerGone
  inline : b.inline = a.inline
  conn : b.conn = a.conn
  ver : b.ver = a.ver

theorem LiveEq.refl (a : Client) : LiveEq a a := ⟨rfl, rfl, rfl, rfl, rfl⟩
theorem LiveEq.trans {a b c : Client} (h : LiveEq a b) (g : LiveEq b c) : LiveEq a c :=
  ⟨g.isOpen.trans h.isOpen, g.peerGone.trans h.peerGone, g.inline.trans h.inline, g.conn.trans h.conn,
   g.ver.trans h.ver⟩

theorem writeMsg_live {s s' : Server} {n : Nat} (h : LiveEq (getObj s n) (getObj s' n)) (m : Msg) :
    writeMsg s' n m = writeMsg s n m :=
  writeMsg_congr m h.isOpen h.peerGone h.inline h.conn h.ver

/-! ### `permuteBy`, by which the model takes a Go map's order from a seed, permutes -/

theorem permuteBy_nil {α} (seed : Nat) : permuteBy seed ([] : List α) = [] := rfl

theorem permuteFuel_perm {α} (fuel : Nat) : ∀ (seed : Nat) (l : List α), (permuteFuel fuel seed l).Perm l := by
  induction fuel with
  | zero => intro seed l; cases l <;> exact List.Perm.refl _
  | succ fuel ih =>
    intro seed l
    cases l with
    | nil => exact List.Perm.refl _
    | cons x xs =>
      unfold permuteFuel
      extract_lets l n k
      split
      · rename_i y hy
        obtain ⟨hk, rfl⟩ := List.getElem?_eq_some_iff.mp hy
        refine ((ih _ _).cons _).trans ?_
        rw [List.eraseIdx_eq_take_drop_succ]
        refine List.perm_middle.symm.trans ?_
        rw [List.getElem_cons_drop hk, List.take_append_drop]
      · exact List.Perm.refl _

theorem permuteBy_perm {α} (seed : Nat) (l : List α) : (permuteBy seed l).Perm l :=
  permuteFuel_perm l.length seed l

theorem mem_permuteBy {α} (seed : Nat) (l : List α) (x : α) (h : x ∈ permuteBy seed l) : x ∈ l :=
  (permuteBy_perm seed l).mem_iff.mp h

end Mochi.Broker
