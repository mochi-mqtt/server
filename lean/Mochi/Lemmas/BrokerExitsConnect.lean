import Mochi.Model.Broker
import Mochi.Lemmas.BrokerBasics
/-!
# The rows of `refuseCode` and the exits of `connectHold`

`refuseCode` (the checks of `attachClient` before a session exists) is a first-match table: a predicate holds of the
decision if it holds of every row's answer.
`connectHold` (a connecting handler parked inside `attachClient`) is walked once: a predicate holds of its result if
it holds of its four exits, each a closed term over `connState` (the new object and its connection entered) and
`tookOverDown` (the teardown of the handler taken over by `admitA`).
-/
namespace Mochi.Broker

/-- `refuseCode` is a first-match table: what holds of every row's answer holds of the decision.  Every row below
    the first was reached with `ClientsConnected` under the limit; the last two rows split on the authentication
    hook.  (`iteInduction` row by row: `split` on a goal over `Server` is slow.) -/
theorem refuseCode_cases {Q : Option Nat → Prop} (s : Server) (k : Connect) (c : Client)
    (full : s.info.connected ≥ s.caps.maximumClients → Q (some (if k.ver < 5 then 0x88 else 0x89)))
    (noId : s.info.connected < s.caps.maximumClients → Q (some 0x80))
    (ver : s.info.connected < s.caps.maximumClients → Q (some 0x84))
    (willQos : s.info.connected < s.caps.maximumClients → Q (some 0x9B))
    (willRetain : s.info.connected < s.caps.maximumClients → Q (some 0x9A))
    (auth : s.info.connected < s.caps.maximumClients → authAllows s k.id = false → Q (some 0x86))
    (admitted : s.info.connected < s.caps.maximumClients → authAllows s k.id = true → Q none) :
    Q (refuseCode s k c) := by
  unfold refuseCode
  refine iteInduction full fun h => ?_
  have lt := Int.not_le.mp h
  refine iteInduction (fun _ => noId lt) fun _ => iteInduction (fun _ => ver lt) fun _ =>
    iteInduction (fun _ => willQos lt) fun _ => iteInduction (fun _ => willRetain lt) fun _ => ?_
  cases ha : authAllows s k.id
  · exact auth lt ha
  · exact admitted lt ha

/-- the state in which `attachClient` decides about a CONNECT: the new client object and its connection exist -/
def connState (s : Server) (conn : Nat) (k : Connect) : Server :=
  { s with objs := s.objs ++ [parseConnect s conn k], connOf := s.connOf ++ [(conn, s.objs.length)] }

theorem connState_length (s : Server) (conn : Nat) (k : Connect) :
    (connState s conn k).objs.length = s.objs.length + 1 := List.length_append

theorem connState_lt (s : Server) (conn : Nat) (k : Connect) : s.objs.length < (connState s conn k).objs.length :=
  connState_length s conn k ▸ Nat.lt_succ_self _

theorem getObj_connState_ne (s : Server) (conn : Nat) (k : Connect) (j : Nat) (hj : j ≠ s.objs.length) :
    getObj (connState s conn k) j = getObj s j := getObj_append_ne (s := s) rfl j hj

theorem getObj_connState_new (s : Server) (conn : Nat) (k : Connect) :
    getObj (connState s conn k) s.objs.length = parseConnect s conn k := getObj_append_eq (s := s) rfl

theorem getObj_connState_old (s : Server) (conn : Nat) (k : Connect) (j : Nat) (hj : j < s.objs.length) :
    getObj (connState s conn k) j = getObj s j := getObj_append_lt (s := s) rfl j hj

/-- a refusal that waits for the authentication hook: 0x86 at stage 1, and a hook is installed -/
def hookAsked (s : Server) (code stage : Nat) : Bool :=
  code == 0x86 && stage == 1 && (match s.auth with | .none => false | _ => true)

/-- the handler `admitA` took the session over from (if there is one) runs its teardown -/
def tookOverDown (s : Server) (exLive : Option Nat) : Server × List Out :=
  match exLive with
  | some e => detach s e true
  | none => (s, [])

theorem connectHold_cases {Q : Server × List Out → Prop} (s : Server) (conn : Nat) (k : Connect) (stage : Nat)
    (hook : ∀ s1 code, s1 = connState s conn k → refuseCode s1 k (parseConnect s conn k) = some code →
      hookAsked s1 code stage = true →
      Q ({ s1 with pending := s1.pending ++
            [{ conn := conn, obj := s.objs.length, k := k, stage := 1, refuse := some code }] }, []))
    (refused : ∀ s1 code, s1 = connState s conn k → refuseCode s1 k (parseConnect s conn k) = some code →
      hookAsked s1 code stage = false →
      Q ((stopClient s1 s.objs.length).1,
         [Out.wrote conn (mkConnack s1 (parseConnect s conn k) false code none)] ++ (stopClient s1 s.objs.length).2))
    (parked1 : ∀ s1, s1 = connState s conn k → refuseCode s1 k (parseConnect s conn k) = none →
      (stage == 1) = true →
      Q ({ s1 with pending := s1.pending ++ [{ conn := conn, obj := s.objs.length, k := k, stage := 1 }] }, []))
    (parked2 : ∀ s1 a sD oD, s1 = connState s conn k → refuseCode s1 k (parseConnect s conn k) = none →
      (stage == 1) = false → a = admitA s1 s.objs.length k → (sD, oD) = tookOverDown a.1 a.2.2.2 →
      Q ({ sD with pending := sD.pending ++
            [{ conn := conn, obj := s.objs.length, k := k, stage := 2, present := a.2.2.1 }] }, a.2.1 ++ oD)) :
    Q (connectHold s conn k stage) := by
  unfold connectHold
  extract_lets +onlyGivenNames c n s1 dec
  cases hdec : dec with
  | some code =>
    show Q (if hookAsked s1 code stage = true then _ else _)
    cases hh : hookAsked s1 code stage
    · rw [if_neg Bool.false_ne_true]; exact refused s1 code rfl hdec hh
    · rw [if_pos rfl]; exact hook s1 code rfl hdec hh
  | none =>
    show Q (if (stage == 1) = true then _ else _)
    cases hst : stage == 1
    · rw [if_neg Bool.false_ne_true]; exact parked2 s1 _ _ _ rfl hdec hst rfl rfl
    · rw [if_pos rfl]; exact parked1 s1 rfl hdec hst

end Mochi.Broker
