import Mochi.Lemmas.RecordWalkDefs
import Mochi.Lemmas.BrokerWalk
/-!
# The delivery family and the handlers that never touch an in-flight list keep every record (`RecWalk.Surv`); the walk
through PUBLISH (`RecWalk.SurvW`)

A delivery to an object assigns a FRESH packet identifier (`nextPacketID_fresh`): the record it writes never replaces
the record of exchange `k`.
-/
namespace Mochi.Broker.RecWalk
open Mochi.Topics
variable {π : Type} (ok : Msg → π → Bool)

/-! ### the delivery family -/

theorem publishToClientCore_surv (k : Nat) (s : Server) (i : Nat) (sub : Sub) (f : Bool) (pk : Msg) :
    Surv ok k s (publishToClientCore s i sub f pk).1 := by
  -- `c0` the subscriber, `c1` the subscriber with the alias assigned: as variables, which keeps `rk_rfl` cheap
  obtain ⟨c0, h0⟩ : ∃ c0, c0 = getObj s i := ⟨_, rfl⟩
  obtain ⟨c1, hc⟩ : ∃ c1, c1 = coreClient c0 pk.topic := ⟨_, rfl⟩
  have hc1 : RK ok k c0 c1 := by
    rw [hc]
    exact iteInduction (motive := fun c => RK ok k c0 c) (fun _ => RK.aliasOutSet' k _ _) (fun _ => RK.refl k _)
  have hs : ∀ c, RK ok k c0 c → Surv ok k s (setObj s i c) := fun c h => (Surv.refl k s).set i c (h0 ▸ h)
  -- the copy is filed under a fresh identifier: not the one of exchange `k`, if the object holds its record
  have filed : ∀ pid m, flGet c1 pid = none → m.id = pid →
      RK ok k c0 (decSend (flSet { c1 with packetID := pid } m).1) ∧ ∀ p, Rec ok c0 k p → pid ≠ k :=
    fun pid m hfree e =>
    have hm : ∀ p, Rec ok c0 k p → pid ≠ k := fun p r => (hc1.keep p r).ne_of_none hfree
    ⟨((hc1.trans (by rk_rfl)).flSet_if m (fun p r => e ▸ hm p r)).decSend, hm⟩
  exact publishToClientCore_cases (Q := fun r => Surv ok k s r.1) s i sub f pk (h0 ▸ hc) rfl (fun _ => hs _ hc1)
    (fun _ _ => (hs _ hc1).upd rfl) (fun _ _ _ => (hs _ hc1).upd rfl)
    (fun pid _ _ _ _ hfree _ =>
      have h := filed pid { coreOut s.caps (getObj s i) sub f pk with id := pid } hfree rfl
      (hs _ (h.1.flSet_if _ h.2)).upd rfl)
    (fun pid _ _ _ _ hfree _ => (hs _ (filed pid _ hfree rfl).1).upd rfl)

theorem publishToSubscribers_surv (k : Nat) (s : Server) (pk : Msg) : Surv ok k s (publishToSubscribers s pk).1 :=
  publishToSubscribers_state (Surv.refl k) Surv.trans (publishToClientCore_surv ok k) s pk

theorem publishRetainedToClient_surv (k : Nat) (s : Server) (i : Nat) (sub : Sub) (ex : Bool) (n : Nat) :
    Surv ok k s (publishRetainedToClient s i sub ex n).1 :=
  publishRetainedToClient_state i (Surv.refl k) Surv.trans (publishToClientCore_surv ok k · i) s sub ex n

theorem retainMsg_surv (k : Nat) (s : Server) (pk : Msg) : Surv ok k s (retainMsg s pk) := by
  unfold retainMsg
  split
  · exact Surv.refl k s
  · exact (Surv.refl k s).upd rfl

theorem retainedState_surv (k : Nat) (s : Server) (pk : Msg) : Surv ok k s (retainedState s pk) :=
  iteInduction (motive := fun x => Surv ok k s x) (fun _ => retainMsg_surv ok k s pk) (fun _ => Surv.refl k s)

/-! ### the handlers that never touch an in-flight list -/

/-- `Surv` accepts any `RK`-related rewrite of an object and does not look at the counters: what `BrokerWalk` asks of a
    relation to carry it through the handlers that write other fields only -/
theorem Surv.walk (k i : Nat) : ObjWalk i (RK ok k) (Surv ok k) :=
  ⟨Surv.refl k, Surv.trans, fun s c h => (Surv.refl k s).set i c h, fun s _ => (Surv.refl k s).upd rfl,
   fun s _ => (Surv.refl k s).upd rfl, fun s _ => (Surv.refl k s).upd rfl⟩

theorem RK.subs' (k : Nat) (c : Client) (l : List (Str × Sub)) : RK ok k c { c with subs := l } := by rk_rfl

theorem Surv.idx (k : Nat) (s : Server) (t : Index) (inf : Info) : Surv ok k s { s with topics := t, info := inf } :=
  (Surv.refl k s).upd rfl


theorem stopClient_surv (k : Nat) (s : Server) (i : Nat) : Surv ok k s (stopClient s i).1 :=
  stopClient_walk (Surv.walk ok k i) (fun _ => by rk_rfl) s

theorem disconnectClient_surv (k : Nat) (s : Server) (i code : Nat) : Surv ok k s (disconnectClient s i code).1 :=
  stopClient_surv ok k s i

theorem processUnsubscribe_surv (k : Nat) (s : Server) (i id : Nat) (filters : List Str) :
    Surv ok k s (processUnsubscribe s i id filters).1 :=
  processUnsubscribe_walk (Surv.walk ok k i) (RK.subs' ok k) (Surv.idx ok k) s id filters

theorem processSubscribe_surv (k : Nat) (s : Server) (i id subId : Nat) (filters : List Sub) :
    Surv ok k s (processSubscribe s i id subId filters).1 :=
  processSubscribe_walk (Surv.walk ok k i) (RK.subs' ok k) (Surv.idx ok k)
    (publishRetainedToClient_surv ok k · i) s id subId filters

theorem unsubscribeClient_sv (k : Nat) (s : Server) (i : Nat) : Surv ok k s (unsubscribeClient s i) :=
  unsubscribeClient_walk (Surv.walk ok k i) (RK.subs' ok k) (Surv.idx ok k) s

/-! ### a record leaves the acting object's in-flight map: another one than that of exchange `k` -/

variable {ok} in
theorem SurvW.recordGone {i k : Nat} {own : Prop} {s0 s : Server} (h : SurvW ok i k own s0 s) (id : Nat)
    (q : Client → Client) (hq : ∀ c, RK ok k c (q c)) (hne : own → ∀ p, Rec ok (getObj s i) k p → id ≠ k) :
    SurvW ok i k own s0 (recordGone s i id q) :=
  (h.set _ (fun ho => (RK.flDelete_if (RK.refl k _) id (hne ho)).trans (hq _))).upd rfl

/-! ### PUBLISH: the acting object's record under the packet's OWN identifier may go (F10) — no other -/

theorem processPublish_surv (k : Nat) (s : Server) (i : Nat) (qos : Nat) (dup retain : Bool) (id : Nat)
    (topic payload : Str) (msgExpiry : Nat) (alias : Option Nat) :
    SurvW ok i k (id ≠ k) s (processPublish s i qos dup retain id topic payload msgExpiry alias).1 :=
  -- the stages write object `i` only
  processPublish_tr (.ofState (SurvW.refl i k _) SurvW.trans) i id s qos dup retain topic payload msgExpiry alias
    (fun t code _ => (disconnectClient_surv ok k t i code).w _ _)
    (fun t _ _ _ => by rw [ackRes_fst]; exact SurvW.refl i k _ t)
    (iteInduction (motive := fun x => SurvW ok i k (id ≠ k) s x)
      (fun _ => ((SurvW.refl i k _ s).mod (fun c => { (flDelete c id).1 with aliasIn := _ })
        (fun hne c => (RK.flDelete_ne' k c id hne).trans (by rk_rfl))).upd rfl)
      (fun _ => (SurvW.refl i k _ s).mod (fun c => { c with aliasIn := _ }) (fun _ _ => by rk_rfl)))
    (fun t pk _ _ => (retainMsg_surv ok k t pk).w _ _) (fun t pk _ => (publishToSubscribers_surv ok k t pk).w _ _)
    (fun t ack _ e => ((SurvW.refl i k _ t).mod (fun c => (flSet (decRecv c) ack).1)
      (fun hne c => (RK.decRecv' k c).trans (RK.flSet_ne' k _ ack (e ▸ hne)))).upd rfl)
    (fun t _ _ => SurvW.refl i k _ t)
    (fun t => (SurvW.refl i k _ t).recordGone id incRecv (RK.incRecv' k) (fun hne _ _ => hne))

end Mochi.Broker.RecWalk
