import Mochi.Lemmas.PropsRoundtrip
/-!
Round trip of whole packets: the fixed header byte, the shape of a round-trip claim
(`RoundTrips`), and the packet types without loops and without CONNECT's flag byte:
PINGREQ/PINGRESP, CONNACK, SUBACK, UNSUBACK, DISCONNECT, AUTH, the four acknowledgements, PUBLISH.

The decoder's half of each round trip is a walk: the decoder's `do` block, step by step, over the body the
encoder wrote (`Reads.bind`, Lemmas/CodecAt.lean).  For PUBLISH and the acknowledgements the walk stands on
its own (`publish_body_walk`, `ack_body_walk`), under the hypotheses the DECODER needs: Props/C26.lean has
instances of it that say nothing of header flags.
-/
namespace Mochi.Codec
open Mochi.Varint

/-- the first byte `FixedHeader.Encode` writes -/
def headerByte (fh : FixedHeader) : Nat :=
  (fh.type * 16) % 256 ||| encodeBool fh.dup * 8 ||| (fh.qos * 2) % 256 ||| encodeBool fh.retain

theorem withHeader_eq (pk : Packet) (body : Str) :
    withHeader pk body = headerByte pk.fixedHeader :: encodeLength body.length ++ body := by
  simp [withHeader, fixedHeaderEncode, headerByte]

/-- a fixed header the decoder accepts: a known type and the flag bits MQTT prescribes for it
    (PUBLISH: QoS 0–2, no DUP at QoS 0; PUBREL, SUBSCRIBE, UNSUBSCRIBE: exactly `0010`; all others `0000`) -/
def WFHeader (fh : FixedHeader) : Prop :=
  if fh.type = 3 then fh.qos ≤ 2 ∧ ¬ (fh.qos = 0 ∧ fh.dup = true)
  else if fh.type = 6 ∨ fh.type = 8 ∨ fh.type = 10 then fh.qos = 1 ∧ fh.dup = false ∧ fh.retain = false
  else 1 ≤ fh.type ∧ fh.type ≤ 15 ∧ fh.qos = 0 ∧ fh.dup = false ∧ fh.retain = false

instance (fh : FixedHeader) : Decidable (WFHeader fh) := by unfold WFHeader; infer_instance

/-- the accepted header bytes are a table: 16 types, QoS 0–2, two flags -/
theorem headerTable : ∀ (t : Fin 16) (q : Fin 3) (d r : Bool), WFHeader ⟨0, t, q, d, r⟩ →
    (fixedHeaderDecode (headerByte ⟨0, t, q, d, r⟩)).toOption = some ⟨0, t, q, d, r⟩ := by
  decide +kernel

theorem header_roundtrip (fh : FixedHeader) (h : WFHeader fh) :
    fixedHeaderDecode (headerByte fh) = .ok { fh with remaining := 0 } := by
  obtain ⟨rem, t, q, d, r⟩ := fh
  have hb : t < 16 ∧ q < 3 := by
    unfold WFHeader at h
    simp only at h
    split at h
    · omega
    · split at h <;> omega
  -- `headerByte` does not read `remaining`: the row of the table, stated at 0, is by `rfl` the row of every `rem`
  have := headerTable ⟨t, hb.1⟩ ⟨q, hb.2⟩ d r h
  match he : fixedHeaderDecode (headerByte ⟨rem, t, q, d, r⟩), this with
  | .ok _, rfl => rfl

/-- the shape of one round-trip claim: the encoder writes header byte, exact remaining length and
    `body`; the header byte decodes to the packet's header; the body decodes to `np` -/
def RoundTrips (pk : Packet) (body : Str) (np : Packet) : Prop :=
  encodePacket pk = .ok (headerByte pk.fixedHeader :: encodeLength body.length ++ body) ∧
  fixedHeaderDecode (headerByte pk.fixedHeader) = .ok { pk.fixedHeader with remaining := 0 } ∧
  decodeBody pk.protocolVersion { pk.fixedHeader with remaining := body.length } body = .ok np

theorem encodeBool_roundtrip (b : Bool) : (encodeBool b % 2 == 1) = b := by cases b <;> rfl

/-- the packet a decoder starts from -/
def basePacket (pk : Packet) (body : Str) : Packet :=
  { protocolVersion := pk.protocolVersion, fixedHeader := { pk.fixedHeader with remaining := body.length } }

theorem decodeBody_connect (pk : Packet) (body : Str) (h : pk.fixedHeader.type = 1) :
    decodeBody pk.protocolVersion { pk.fixedHeader with remaining := body.length } body =
      connectDecode (basePacket pk body) body := by simp [decodeBody, basePacket, h]
theorem decodeBody_connack (pk : Packet) (body : Str) (h : pk.fixedHeader.type = 2) :
    decodeBody pk.protocolVersion { pk.fixedHeader with remaining := body.length } body =
      connackDecode (basePacket pk body) body := by simp [decodeBody, basePacket, h]
theorem decodeBody_publish (pk : Packet) (body : Str) (h : pk.fixedHeader.type = 3) :
    decodeBody pk.protocolVersion { pk.fixedHeader with remaining := body.length } body =
      publishDecode (basePacket pk body) body := by simp [decodeBody, basePacket, h]
theorem decodeBody_ack (pk : Packet) (body : Str) (h : pk.fixedHeader.type = 4 ∨ pk.fixedHeader.type = 5 ∨ pk.fixedHeader.type = 6 ∨ pk.fixedHeader.type = 7) :
    decodeBody pk.protocolVersion { pk.fixedHeader with remaining := body.length } body =
      ackDecode (basePacket pk body) body := by
  rcases h with h | h | h | h <;> simp [decodeBody, basePacket, h]
theorem decodeBody_subscribe (pk : Packet) (body : Str) (h : pk.fixedHeader.type = 8) :
    decodeBody pk.protocolVersion { pk.fixedHeader with remaining := body.length } body =
      subscribeDecode (basePacket pk body) body := by simp [decodeBody, basePacket, h]
theorem decodeBody_suback (pk : Packet) (body : Str) (h : pk.fixedHeader.type = 9) :
    decodeBody pk.protocolVersion { pk.fixedHeader with remaining := body.length } body =
      subackDecode (basePacket pk body) body := by simp [decodeBody, basePacket, h]
theorem decodeBody_unsubscribe (pk : Packet) (body : Str) (h : pk.fixedHeader.type = 10) :
    decodeBody pk.protocolVersion { pk.fixedHeader with remaining := body.length } body =
      unsubscribeDecode (basePacket pk body) body := by simp [decodeBody, basePacket, h]
theorem decodeBody_unsuback (pk : Packet) (body : Str) (h : pk.fixedHeader.type = 11) :
    decodeBody pk.protocolVersion { pk.fixedHeader with remaining := body.length } body =
      unsubackDecode (basePacket pk body) body := by simp [decodeBody, basePacket, h]
theorem decodeBody_disconnect (pk : Packet) (body : Str) (h : pk.fixedHeader.type = 14) :
    decodeBody pk.protocolVersion { pk.fixedHeader with remaining := body.length } body =
      disconnectDecode (basePacket pk body) body := by simp [decodeBody, basePacket, h]
theorem decodeBody_auth (pk : Packet) (body : Str) (h : pk.fixedHeader.type = 15) :
    decodeBody pk.protocolVersion { pk.fixedHeader with remaining := body.length } body =
      authDecode (basePacket pk body) body := by simp [decodeBody, basePacket, h]

theorem encodePacket_connect (pk : Packet) (h : pk.fixedHeader.type = 1) : encodePacket pk = connectEncode pk := by
  simp [encodePacket, h]
theorem encodePacket_connack (pk : Packet) (h : pk.fixedHeader.type = 2) : encodePacket pk = connackEncode pk := by
  simp [encodePacket, h]
theorem encodePacket_publish (pk : Packet) (h : pk.fixedHeader.type = 3) : encodePacket pk = publishEncode pk := by
  simp [encodePacket, h]
theorem encodePacket_ack (pk : Packet) (h : pk.fixedHeader.type = 4 ∨ pk.fixedHeader.type = 5 ∨ pk.fixedHeader.type = 6 ∨
    pk.fixedHeader.type = 7) : encodePacket pk = ackEncode pk := by
  rcases h with h | h | h | h <;> simp [encodePacket, h]
theorem encodePacket_subscribe (pk : Packet) (h : pk.fixedHeader.type = 8) : encodePacket pk = subscribeEncode pk := by
  simp [encodePacket, h]
theorem encodePacket_suback (pk : Packet) (h : pk.fixedHeader.type = 9) : encodePacket pk = subackEncode pk := by
  simp [encodePacket, h]
theorem encodePacket_unsubscribe (pk : Packet) (h : pk.fixedHeader.type = 10) : encodePacket pk = unsubscribeEncode pk := by
  simp [encodePacket, h]
theorem encodePacket_unsuback (pk : Packet) (h : pk.fixedHeader.type = 11) : encodePacket pk = unsubackEncode pk := by
  simp [encodePacket, h]
theorem encodePacket_disconnect (pk : Packet) (h : pk.fixedHeader.type = 14) : encodePacket pk = disconnectEncode pk := by
  simp [encodePacket, h]
theorem encodePacket_auth (pk : Packet) (h : pk.fixedHeader.type = 15) : encodePacket pk = authEncode pk := by
  simp [encodePacket, h]

theorem propsBlock_At {name : String} {pkt : Nat} {mods : Mods} {n : Nat} {p : Props} {buf : Str} {off : Nat} {t : Str}
    {ver : Nat} (h : At buf off ((if ver == 5 then propsEncode pkt mods n p else []) ++ t))
    (hp : ver = 5 → WFProps p ∧ propsBodyLenC pkt mods n p ≤ maxVBI) :
    (if ver == 5 then decodePropsAt name pkt buf off {} else .ok ({}, off)) =
      .ok (if ver == 5 then normProps pkt mods n p else {},
           off + (if ver == 5 then propsEncode pkt mods n p else []).length) ∧
    At buf (off + (if ver == 5 then propsEncode pkt mods n p else []).length) t := by
  refine ⟨?_, h.step⟩
  by_cases hv : ver = 5
  · have hv' : (ver == 5) = true := by simpa using hv
    simp only [hv', if_true] at h ⊢
    exact decodePropsAt_AtC h (hp hv).1 (hp hv).2
  · have hv' : (ver == 5) = false := by simpa using hv
    simp [hv']

/-- the property block, read at the cursor (`pkt'` is how the decoder spells the packet type) -/
theorem props_reads {name : String} {pkt pkt' : Nat} {mods : Mods} {n : Nat} {p : Props} {buf t : Str} {off : Nat}
    (hk : pkt' = pkt) (h : At buf off (propsEncode pkt mods n p ++ t))
    (hp : WFProps p ∧ propsBodyLenC pkt mods n p ≤ maxVBI) :
    Reads buf t (normProps pkt mods n p) (decodePropsAt name pkt' buf off {}) := by
  subst hk; exact .of_eq (decodePropsAt_AtC h hp.1 hp.2) h.step

/-- the property block of the MQTT 5 forms, read into a packet that has none yet -/
theorem pkProps_reads {name : String} {pkt pkt' : Nat} {mods : Mods} {n : Nat} {p : Props} {buf t : Str} {off ver : Nat}
    (pk : Packet) (hpk : pk.properties = {}) (hk : pkt' = pkt)
    (h : At buf off ((if ver == 5 then propsEncode pkt mods n p else []) ++ t))
    (hp : ver = 5 → WFProps p ∧ propsBodyLenC pkt mods n p ≤ maxVBI) :
    Reads buf t { pk with properties := if ver == 5 then normProps pkt mods n p else {} }
      (if ver == 5 then do
          let (props, off) ← decodePropsAt name pkt' buf off pk.properties
          pure ({ pk with properties := props }, off)
        else pure (pk, off)) := by
  by_cases hv : (ver == 5) = true
  · simp only [hv, if_true] at h ⊢
    exact (hpk ▸ props_reads (name := name) hk h (hp (eq_of_beq hv))).seq fun _ ho => .ret _ ho
  · simp only [hv] at h ⊢
    exact hpk ▸ .ret pk h

/-- the conjunction the decoders of DISCONNECT, AUTH and the acknowledgements test: MQTT 5 and bytes left -/
theorem v5_and_gt {b : Bool} {n k : Nat} (hb : b = true) (h : n > k) : (b && decide (n > k)) = true := by
  simp [hb, h]

def WFPing (pk : Packet) : Prop := WFHeader pk.fixedHeader ∧ pk.fixedHeader.remaining = 0

theorem C26_ping_roundtrip (pk : Packet) (ht : pk.fixedHeader.type = 12 ∨ pk.fixedHeader.type = 13) (h : WFPing pk) :
    RoundTrips pk [] (basePacket pk []) := by
  obtain ⟨hh, hr⟩ := h
  refine ⟨?_, header_roundtrip _ hh, ?_⟩
  · rcases ht with ht | ht <;> simp [encodePacket, ht, fixedHeaderEncode, headerByte, hr]
  · rcases ht with ht | ht <;> simp [decodeBody, ht, basePacket, pure, Except.pure]

/-- The third argument of `propsEncode` is the `n` that the Go encoder hands to `Properties.Encode` (packets.go): the size
    of the rest of the packet as Go counts it, `nb.Len()` plus what is still to be written (`nb.Len()+len(pk.ReasonCodes)`,
    `nb.Len()+xb.Len()`, …), against which `Mods.MaxSize` drops the reason string and user properties.  Here it is
    `nb.Len()+2` with both bytes already in `nb`: 4. -/
def connackBody (pk : Packet) : Str :=
  [encodeBool pk.sessionPresent, pk.reasonCode % 256] ++
    (if pk.protocolVersion == 5 then propsEncode 2 pk.mods 4 pk.properties else [])

def WFConnack (pk : Packet) : Prop :=
  WFHeader pk.fixedHeader ∧ pk.reasonCode < 256 ∧
  (pk.protocolVersion = 5 → WFProps pk.properties ∧ propsBodyLenC 2 pk.mods 4 pk.properties ≤ maxVBI)

def connackNorm (pk : Packet) : Packet :=
  { basePacket pk (connackBody pk) with
    sessionPresent := pk.sessionPresent, reasonCode := pk.reasonCode,
    properties := if pk.protocolVersion == 5 then normProps 2 pk.mods 4 pk.properties else {} }

theorem C26_connack_roundtrip (pk : Packet) (ht : pk.fixedHeader.type = 2) (h : WFConnack pk) :
    RoundTrips pk (connackBody pk) (connackNorm pk) := by
  obtain ⟨hh, hrc, hp⟩ := h
  refine ⟨?_, header_roundtrip _ hh, (decodeBody_connack pk _ ht).trans ?_⟩
  · simp [encodePacket, ht, connackEncode, withHeader_eq, connackBody]
  · unfold connackDecode
    have h0 : At (connackBody pk) 0 (encodeBool pk.sessionPresent :: pk.reasonCode ::
        (if pk.protocolVersion == 5 then propsEncode 2 pk.mods 4 pk.properties else [])) := by
      rw [← Nat.mod_eq_of_lt hrc]; exact At.zero _
    refine ((byteBool_reads h0).wrap _).bind fun o1 h1 => ?_
    refine ((byte_reads h1).wrap _).bind fun o2 h2 => ?_
    by_cases hv : (pk.protocolVersion == 5) = true
    · rw [if_pos hv] at h2
      refine (if_pos hv).trans ((props_reads ht h2.app_nil (hp (eq_of_beq hv))).bind fun _ _ => congrArg Except.ok ?_)
      simp [connackNorm, basePacket, hv, encodeBool_roundtrip]
    · refine (if_neg hv).trans (congrArg Except.ok ?_)
      simp [connackNorm, basePacket, hv, encodeBool_roundtrip]

def subackBody (pk : Packet) : Str :=
  encodeUint16 pk.packetID ++
    ((if pk.protocolVersion == 5 then propsEncode 9 pk.mods (2 + pk.reasonCodes.length) pk.properties else []) ++
     pk.reasonCodes)

def WFSuback (pk : Packet) : Prop :=
  WFHeader pk.fixedHeader ∧ pk.packetID < 65536 ∧
  (pk.protocolVersion = 5 →
    WFProps pk.properties ∧ propsBodyLenC 9 pk.mods (2 + pk.reasonCodes.length) pk.properties ≤ maxVBI)

def subackNorm (pk : Packet) : Packet :=
  { basePacket pk (subackBody pk) with
    packetID := pk.packetID, reasonCodes := pk.reasonCodes,
    properties := if pk.protocolVersion == 5 then normProps 9 pk.mods (2 + pk.reasonCodes.length) pk.properties else {} }

theorem C26_suback_roundtrip (pk : Packet) (ht : pk.fixedHeader.type = 9) (h : WFSuback pk) :
    RoundTrips pk (subackBody pk) (subackNorm pk) := by
  obtain ⟨hh, hid, hp⟩ := h
  refine ⟨?_, header_roundtrip _ hh, (decodeBody_suback pk _ ht).trans ?_⟩
  · rw [encodePacket_suback pk ht]
    simp [subackEncode, withHeader_eq, subackBody, ht, encodeUint16]
  · unfold subackDecode
    have h0 : At (subackBody pk) 0 (encodeUint16 pk.packetID ++ _) := At.zero _
    refine ((u16_reads h0 hid).wrap _).bind fun o1 h1 => ?_
    refine (pkProps_reads _ rfl ht h1 hp).bind fun o2 h2 => ?_
    refine (slice_bind h2 _).trans (congrArg Except.ok ?_)
    simp [subackNorm, basePacket]

def unsubackBody (pk : Packet) : Str :=
  encodeUint16 pk.packetID ++
    (if pk.protocolVersion == 5 then propsEncode 11 pk.mods 2 pk.properties ++ pk.reasonCodes else [])

def WFUnsuback (pk : Packet) : Prop :=
  WFHeader pk.fixedHeader ∧ pk.packetID < 65536 ∧
  (pk.protocolVersion = 5 → WFProps pk.properties ∧ propsBodyLenC 11 pk.mods 2 pk.properties ≤ maxVBI)

/-- below MQTT 5 an UNSUBACK carries no reason codes -/
def unsubackNorm (pk : Packet) : Packet :=
  { basePacket pk (unsubackBody pk) with
    packetID := pk.packetID,
    reasonCodes := if pk.protocolVersion == 5 then pk.reasonCodes else [],
    properties := if pk.protocolVersion == 5 then normProps 11 pk.mods 2 pk.properties else {} }

theorem C26_unsuback_roundtrip (pk : Packet) (ht : pk.fixedHeader.type = 11) (h : WFUnsuback pk) :
    RoundTrips pk (unsubackBody pk) (unsubackNorm pk) := by
  obtain ⟨hh, hid, hp⟩ := h
  refine ⟨?_, header_roundtrip _ hh, (decodeBody_unsuback pk _ ht).trans ?_⟩
  · rw [encodePacket_unsuback pk ht]
    simp [unsubackEncode, withHeader_eq, unsubackBody, ht, encodeUint16]
  · unfold unsubackDecode
    have h0 : At (unsubackBody pk) 0 (encodeUint16 pk.packetID ++ _) := At.zero _
    refine ((u16_reads h0 hid).wrap _).bind fun o1 h1 => ?_
    by_cases hv : (pk.protocolVersion == 5) = true
    · rw [if_pos hv] at h1
      refine (if_pos hv).trans ((props_reads ht h1 (hp (eq_of_beq hv))).bind fun o2 h2 => ?_)
      refine (slice_bind h2 _).trans (congrArg Except.ok ?_)
      simp [unsubackNorm, basePacket, hv]
    · refine (if_neg hv).trans (congrArg Except.ok ?_)
      simp [unsubackNorm, basePacket, hv]

def disconnectBody (pk : Packet) : Str :=
  if pk.protocolVersion == 5 then [pk.reasonCode % 256] ++ propsEncode 14 pk.mods 1 pk.properties else []

def WFDisconnect (pk : Packet) : Prop :=
  WFHeader pk.fixedHeader ∧
  (pk.protocolVersion = 5 →
    pk.reasonCode < 256 ∧ WFProps pk.properties ∧ propsBodyLenC 14 pk.mods 1 pk.properties ≤ maxVBI)

/-- below MQTT 5 a DISCONNECT has no body: reason code and properties are not transmitted -/
def disconnectNorm (pk : Packet) : Packet :=
  { basePacket pk (disconnectBody pk) with
    reasonCode := if pk.protocolVersion == 5 then pk.reasonCode else 0,
    properties := if pk.protocolVersion == 5 then normProps 14 pk.mods 1 pk.properties else {} }

theorem propsEncode_length_pos (pkt : Nat) (mods : Mods) (n : Nat) (p : Props) : 0 < (propsEncode pkt mods n p).length := by
  unfold propsEncode
  have := encodeLength_length_pos (encodePropList (propsToList pkt mods n p)).length
  simp only [List.length_append]; omega

theorem C26_disconnect_roundtrip (pk : Packet) (ht : pk.fixedHeader.type = 14) (h : WFDisconnect pk) :
    RoundTrips pk (disconnectBody pk) (disconnectNorm pk) := by
  obtain ⟨hh, hp⟩ := h
  refine ⟨?_, header_roundtrip _ hh, (decodeBody_disconnect pk _ ht).trans ?_⟩
  · rw [encodePacket_disconnect pk ht]
    simp [disconnectEncode, withHeader_eq, disconnectBody, ht]
  · unfold disconnectDecode
    by_cases hv : (pk.protocolVersion == 5) = true
    · obtain ⟨hrc, hwf⟩ := hp (eq_of_beq hv)
      have hb : disconnectBody pk = pk.reasonCode :: propsEncode 14 pk.mods 1 pk.properties := by
        rw [disconnectBody, if_pos hv, Nat.mod_eq_of_lt hrc]; rfl
      -- the block is at least its length byte, so both tests on the remaining length succeed
      have g1 : (disconnectBody pk).length > 1 := by
        rw [hb, List.length_cons]; exact Nat.succ_lt_succ (propsEncode_length_pos 14 pk.mods 1 pk.properties)
      refine (if_pos (v5_and_gt hv (Nat.lt_of_succ_lt g1))).trans ?_
      refine ((byte_reads (At.start hb)).wrap _).bind fun o1 h1 => ?_
      refine (if_pos g1).trans ((props_reads ht h1.app_nil hwf).bind fun _ _ => congrArg Except.ok ?_)
      simp [disconnectNorm, basePacket, hv]
    · refine (if_neg (by simp [basePacket, hv])).trans (congrArg Except.ok ?_)
      simp [disconnectNorm, basePacket, hv]

theorem propsEncode_default (pkt : Nat) (mods : Mods) (n : Nat) : propsEncode pkt mods n {} = [0] := by
  simp only [propsEncode, propsToList_default, encodePropList, List.length_nil]
  rw [encodeLength]; simp

def authBody (pk : Packet) : Str := [pk.reasonCode % 256] ++ propsEncode 15 pk.mods 1 pk.properties

def WFAuth (pk : Packet) : Prop :=
  WFHeader pk.fixedHeader ∧ pk.reasonCode < 256 ∧ WFProps pk.properties ∧ propsBodyLenC 15 pk.mods 1 pk.properties ≤ maxVBI

def authNorm (pk : Packet) : Packet :=
  { basePacket pk (authBody pk) with
    reasonCode := pk.reasonCode, properties := normProps 15 pk.mods 1 pk.properties }

theorem C26_auth_roundtrip (pk : Packet) (ht : pk.fixedHeader.type = 15) (h : WFAuth pk) :
    RoundTrips pk (authBody pk) (authNorm pk) := by
  obtain ⟨hh, hrc, hp⟩ := h
  refine ⟨?_, header_roundtrip _ hh, (decodeBody_auth pk _ ht).trans ?_⟩
  · rw [encodePacket_auth pk ht]
    simp [authEncode, withHeader_eq, authBody, ht]
  · unfold authDecode
    have hb : authBody pk = pk.reasonCode :: propsEncode 15 pk.mods 1 pk.properties := by
      rw [authBody, Nat.mod_eq_of_lt hrc]; rfl
    have g1 : (authBody pk).length > 1 := by
      rw [hb, List.length_cons]; exact Nat.succ_lt_succ (propsEncode_length_pos 15 pk.mods 1 pk.properties)
    refine (if_neg fun h => Nat.ne_of_gt (Nat.lt_of_succ_lt g1) (eq_of_beq h)).trans ?_
    refine ((byte_reads (At.start hb)).wrap _).bind fun o1 h1 => ?_
    refine (if_pos g1).trans ((props_reads ht h1.app_nil hp).bind fun _ _ => congrArg Except.ok ?_)
    simp [authNorm, basePacket]

def ackBody (pk : Packet) : Str :=
  if pk.protocolVersion == 5 then
    let pb := propsEncode pk.fixedHeader.type pk.mods 2 pk.properties
    encodeUint16 pk.packetID ++ ((if pk.reasonCode != 0 || pb.length > 1 then [pk.reasonCode % 256] else []) ++
      (if pb.length > 1 then pb else []))
  else encodeUint16 pk.packetID

def WFAck (pk : Packet) : Prop :=
  WFHeader pk.fixedHeader ∧ pk.packetID < 65536 ∧
  (pk.protocolVersion = 5 →
    pk.reasonCode < 256 ∧ WFProps pk.properties ∧ propsBodyLenC pk.fixedHeader.type pk.mods 2 pk.properties ≤ maxVBI)

/-- below MQTT 5 an acknowledgement is the packet identifier only -/
def ackNorm (pk : Packet) : Packet :=
  { basePacket pk (ackBody pk) with
    packetID := pk.packetID,
    reasonCode := if pk.protocolVersion == 5 then pk.reasonCode else 0,
    properties := if pk.protocolVersion == 5 then normProps pk.fixedHeader.type pk.mods 2 pk.properties else {} }

/-- an empty property block (the single byte 0) stands for the empty record -/
theorem normProps_of_short (pkt : Nat) (mods : Mods) (n : Nat) (p : Props)
    (h : ¬ (propsEncode pkt mods n p).length > 1) : normProps pkt mods n p = {} := by
  rw [← foldl_propsToList]
  have hpos := encodeLength_length_pos (encodePropList (propsToList pkt mods n p)).length
  have h0 : (encodePropList (propsToList pkt mods n p)).length = 0 := by
    simp only [propsEncode, List.length_append] at h; omega
  have : propsToList pkt mods n p = [] := by
    have := encodePropList_length_ge (propsToList pkt mods n p)
    exact List.eq_nil_of_length_eq_zero (by omega)
  rw [this]; rfl

/-- the acknowledgements read back, from what the decoder needs.  The encoder chooses among three wire shapes by the
    values, the decoder by the remaining length: each case is the shape, its length, and the walk. -/
theorem ack_body_walk (pk : Packet) (hid : pk.packetID < 65536)
    (hp : pk.protocolVersion = 5 →
      pk.reasonCode < 256 ∧ WFProps pk.properties ∧ propsBodyLenC pk.fixedHeader.type pk.mods 2 pk.properties ≤ maxVBI) :
    ackDecode (basePacket pk (ackBody pk)) (ackBody pk) = .ok (ackNorm pk) := by
  unfold ackDecode
  by_cases hv : (pk.protocolVersion == 5) = true
  · obtain ⟨hrc, hwf⟩ := hp (eq_of_beq hv)
    have hm := Nat.mod_eq_of_lt hrc
    by_cases hl : (propsEncode pk.fixedHeader.type pk.mods 2 pk.properties).length > 1
    · -- reason code and property block
      have hb : ackBody pk = encodeUint16 pk.packetID ++
          (pk.reasonCode :: propsEncode pk.fixedHeader.type pk.mods 2 pk.properties) := by simp [ackBody, hv, hl, hm]
      have g : (ackBody pk).length > 3 := by rw [hb]; simp [encodeUint16]; omega
      refine ((u16_reads (At.start hb) hid).wrap _).bind fun o1 h1 => ?_
      refine (if_pos (v5_and_gt hv (show (ackBody pk).length > 2 by omega))).trans ?_
      refine ((byte_reads h1).wrap _).bind fun o2 h2 => ?_
      refine (if_pos g).trans ((props_reads rfl h2.app_nil hwf).bind fun _ _ => congrArg Except.ok ?_)
      simp [ackNorm, basePacket, hv]
    · -- an empty block (the single byte 0) is not written and stands for the empty record
      have hn := normProps_of_short _ _ _ _ hl
      by_cases hr : pk.reasonCode = 0
      · -- identifier only
        have hb : ackBody pk = encodeUint16 pk.packetID ++ [] := by simp [ackBody, hv, hl, hr]
        have g : (ackBody pk).length = 2 := by rw [hb]; rfl
        refine ((u16_reads (At.start hb) hid).wrap _).bind fun o1 h1 => ?_
        refine (if_neg (by simp [basePacket, g])).trans (congrArg Except.ok ?_)
        simp [ackNorm, basePacket, hv, hn, hr]
      · -- identifier and reason code
        have hb : ackBody pk = encodeUint16 pk.packetID ++ [pk.reasonCode] := by simp [ackBody, hv, hl, hr, hm]
        have g : (ackBody pk).length = 3 := by rw [hb]; rfl
        refine ((u16_reads (At.start hb) hid).wrap _).bind fun o1 h1 => ?_
        refine (if_pos (v5_and_gt hv (show (ackBody pk).length > 2 by omega))).trans ?_
        refine ((byte_reads h1).wrap _).bind fun o2 _ => ?_
        refine (if_neg (show ¬ (ackBody pk).length > 3 by omega)).trans (congrArg Except.ok ?_)
        simp [ackNorm, basePacket, hv, hn]
  · have hb : ackBody pk = encodeUint16 pk.packetID ++ [] := by simp [ackBody, hv]
    refine ((u16_reads (At.start hb) hid).wrap _).bind fun o1 h1 => ?_
    refine (if_neg (by simp [basePacket, hv])).trans (congrArg Except.ok ?_)
    simp [ackNorm, basePacket, hv]

theorem C26_ack_roundtrip (pk : Packet)
    (ht : pk.fixedHeader.type = 4 ∨ pk.fixedHeader.type = 5 ∨ pk.fixedHeader.type = 6 ∨ pk.fixedHeader.type = 7)
    (h : WFAck pk) : RoundTrips pk (ackBody pk) (ackNorm pk) := by
  refine ⟨?_, header_roundtrip _ h.1, (decodeBody_ack pk _ ht).trans (ack_body_walk pk h.2.1 h.2.2)⟩
  rw [encodePacket_ack pk ht]
  by_cases hv : pk.protocolVersion = 5
  · have hv' : (pk.protocolVersion == 5) = true := by simpa using hv
    simp [ackEncode, withHeader_eq, ackBody, hv', encodeUint16]
  · have hv' : (pk.protocolVersion == 5) = false := by simpa using hv
    simp [ackEncode, withHeader_eq, ackBody, hv']

/-- the `n` the encoder passes to `Properties.Encode`: length of topic and identifier plus payload -/
def publishN (pk : Packet) : Nat :=
  (encodeBytes pk.topicName ++ (if pk.fixedHeader.qos > 0 then encodeUint16 pk.packetID else [])).length + pk.payload.length

def publishBody (pk : Packet) : Str :=
  encodeBytes pk.topicName ++ ((if pk.fixedHeader.qos > 0 then encodeUint16 pk.packetID else []) ++
    ((if pk.protocolVersion == 5 then propsEncode 3 pk.mods (publishN pk) pk.properties else []) ++ pk.payload))

def WFPublish (pk : Packet) : Prop :=
  WFHeader pk.fixedHeader ∧ wfStr pk.topicName ∧
  (pk.fixedHeader.qos > 0 → pk.packetID ≠ 0 ∧ pk.packetID < 65536) ∧
  (pk.protocolVersion = 5 → WFProps pk.properties ∧ propsBodyLenC 3 pk.mods (publishN pk) pk.properties ≤ maxVBI)

/-- at QoS 0 no packet identifier is transmitted -/
def publishNorm (pk : Packet) : Packet :=
  { basePacket pk (publishBody pk) with
    topicName := pk.topicName, payload := pk.payload,
    packetID := if pk.fixedHeader.qos > 0 then pk.packetID else 0,
    properties := if pk.protocolVersion == 5 then normProps 3 pk.mods (publishN pk) pk.properties else {} }

/-- PUBLISH read back, from what the decoder needs (no header flags, no `packetID ≠ 0`) -/
theorem publish_body_walk (pk : Packet) (ht : pk.fixedHeader.type = 3) (htop : wfStr pk.topicName)
    (hid : pk.fixedHeader.qos > 0 → pk.packetID < 65536)
    (hp : pk.protocolVersion = 5 → WFProps pk.properties ∧ propsBodyLenC 3 pk.mods (publishN pk) pk.properties ≤ maxVBI) :
    publishDecode (basePacket pk (publishBody pk)) (publishBody pk) = .ok (publishNorm pk) := by
  unfold publishDecode
  have h0 : At (publishBody pk) 0 (encodeBytes pk.topicName ++ _) := At.zero _
  refine ((string_reads h0 htop).wrap _).bind fun o1 h1 => ?_
  refine (Reads.opt (c := pk.fixedHeader.qos > 0)
    (fun p : Packet => { p with packetID := if pk.fixedHeader.qos > 0 then pk.packetID else p.packetID })
    h1 (fun hq hq1 => ?id) fun hn => by simp [hn]).bind fun o2 h2 => ?_
  case id =>
    simp only [hq, if_true]
    exact ((u16_reads hq1 (hid hq)).wrap _).seq fun o h => .ret _ h
  refine (pkProps_reads _ rfl ht h2 hp).bind fun o3 h3 => ?_
  refine (slice_bind h3 _).trans (congrArg Except.ok ?_)
  simp [publishNorm, basePacket]

theorem C26_publish_roundtrip (pk : Packet) (ht : pk.fixedHeader.type = 3) (h : WFPublish pk) :
    RoundTrips pk (publishBody pk) (publishNorm pk) := by
  obtain ⟨hh, htop, hid, hp⟩ := h
  refine ⟨?_, header_roundtrip _ hh, (decodeBody_publish pk _ ht).trans
    (publish_body_walk pk ht htop (fun hq => (hid hq).2) hp)⟩
  rw [encodePacket_publish pk ht]
  simp only [publishEncode]
  have : (decide (pk.fixedHeader.qos > 0) && pk.packetID == 0) = false := by
    by_cases hq : pk.fixedHeader.qos > 0
    · have := (hid hq).1; simp [this]
    · simp [hq]
  simp only [this, Bool.false_eq_true, if_false]
  simp [fixedHeaderEncode, headerByte, publishBody, publishN, List.append_assoc, ht, Nat.add_assoc]

end Mochi.Codec
