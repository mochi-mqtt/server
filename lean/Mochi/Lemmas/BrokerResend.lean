import Mochi.Lemmas.BrokerResendDefs
/-!
# C09 — what a resumption resends (`ResendInflightMessages`, the loop of `admitC`)

* `admitC_true_snd`: the outputs of the resend loop are, record by record (in the order `resendSeed` picks), what
  `writeMsg` writes for the record — a PUBLISH record with the DUP flag set, any other record as it is;
* `admitA_exact`, `connect_resend_split`: a resuming CONNECT hands EXACTLY the old object's record to the new object, which
  stays as live as `parseConnect` made it (read off `Mochi/Lemmas/BrokerAdmit.lean`).
-/
namespace Mochi.Broker
open Mochi.Topics

/-! ### three handlers keep every record exactly

The retained replay, `DisconnectClient` and leaving the read loop (`SurvX`, `SurvXW`): each is `XK.of_walk` of two facts
proved elsewhere — the objects change in the five delivery fields at most (`Deliv`, `Frame` of
`Mochi/Lemmas/BrokerFrame.lean`), and the survival walk of `Mochi/Lemmas/RecordWalk.lean` for the record test `isMsg`. -/

theorem publishRetainedToClient_survx (k : Nat) (s : Server) (i : Nat) (sub : Sub) (ex : Bool) (n : Nat) :
    SurvX k s (publishRetainedToClient s i sub ex n).1 := fun x =>
  .of_walk ((publishRetainedToClient_deliv s i sub ex n).all x) (RecWalk.publishRetainedToClient_surv _ k s i sub ex n x)

theorem disconnectClient_survxw (k : Nat) (s : Server) (i code : Nat) :
    SurvXW i k s (disconnectClient s i code).1 := fun x hx =>
  .of_walk ((disconnectClient_frame s i code).other x hx) (RecWalk.disconnectClient_surv _ k s i code x)

theorem detach_survxw (k : Nat) (s : Server) (i : Nat) (withErr : Bool) : SurvXW i k s (detach s i withErr).1 :=
  fun x hx => .of_walk ((detach_frame s i withErr).other x hx) (RecWalk.detach_sv _ k s i withErr x (Or.inl hx))


/-! ### the resend loop -/

/-- what is resent for a record: a PUBLISH with the DUP flag, anything else (PUBREL, …) as it is -/
def resendMsg (m : Msg) : Msg := if m.type == 3 then { m with dup := true } else m

theorem resendMsg_type (m : Msg) : (resendMsg m).type = m.type := by
  unfold resendMsg; split <;> rfl
theorem resendMsg_id (m : Msg) : (resendMsg m).id = m.id := by
  unfold resendMsg; split <;> rfl

/-- one iteration of `ResendInflightMessages` -/
def resendStep (n : Nat) (acc : Server × List Out) (m : Msg) : Server × List Out :=
  (if m.type == 4 || m.type == 7 then recordGone acc.1 n m.id (fun c => c) else acc.1, acc.2 ++ writeMsg acc.1 n (resendMsg m))

theorem admitC_true_eq (s : Server) (n : Nat) (k' : Connect) :
    admitC s n k' true = (permuteBy s.resendSeed (getObj s n).inflight).foldl (resendStep n)
      ({ s with willDelayed := assocDel s.willDelayed k'.id }, []) := by
  unfold admitC
  rw [if_pos rfl]
  refine congrArg (fun f => List.foldl f _ _) (funext fun acc => funext fun m => ?_)
  unfold resendStep
  rw [← recordGone_eq acc.1 n m.id (fun c => c) rfl]
  rfl

theorem resendStep_snd (n : Nat) (acc : Server × List Out) (m : Msg) :
    (resendStep n acc m).2 = acc.2 ++ writeMsg acc.1 n (resendMsg m) := rfl

theorem resendStep_live (n : Nat) (acc : Server × List Out) (m : Msg) :
    LiveEq (getObj acc.1 n) (getObj (resendStep n acc m).1 n) :=
  iteInduction (motive := fun t : Server => LiveEq (getObj acc.1 n) (getObj t n))
    (fun _ => LiveEq.get_set rfl (LiveEq.flDelete' (getObj acc.1 n) m.id)) fun _ => LiveEq.refl _

theorem resendFold_snd (n : Nat) (L : List Msg) (acc : Server × List Out) :
    (L.foldl (resendStep n) acc).2 = acc.2 ++ L.flatMap (fun m => writeMsg acc.1 n (resendMsg m)) := by
  induction L generalizing acc with
  | nil => simp
  | cons x xs ih =>
    rw [List.foldl_cons, ih, resendStep_snd, List.flatMap_cons, List.append_assoc]
    have : (fun m => writeMsg (resendStep n acc x).1 n (resendMsg m)) = (fun m => writeMsg acc.1 n (resendMsg m)) :=
      funext (fun m => writeMsg_live (resendStep_live n acc x) (resendMsg m))
    rw [this]

/-- **the outputs of `ResendInflightMessages`**: for every in-flight record, in the order `resendSeed` picks, what
    `writeMsg` writes for it — a PUBLISH with DUP set, any other record unchanged -/
theorem admitC_true_snd (s : Server) (n : Nat) (k' : Connect) :
    (admitC s n k' true).2 =
      (permuteBy s.resendSeed (getObj s n).inflight).flatMap (fun m => writeMsg s n (resendMsg m)) := by
  rw [admitC_true_eq, resendFold_snd]
  rfl

/-- a live object's record is resent: the written packet -/
theorem admitC_resends (s : Server) (n : Nat) (k' : Connect) (k : Nat) (m : Msg)
    (hm : flGet (getObj s n) k = some m) (ho : (getObj s n).isOpen = true) (hi : (getObj s n).inline = false)
    (hp : (getObj s n).peerGone = false) :
    (m.type = 3 → Out.wrote (getObj s n).conn (.publish (getObj s n).ver { m with dup := true }
        (m.expiry > 0 || m.msgExpiry > 0)) ∈ (admitC s n k' true).2) ∧
    (m.type ≠ 3 → Out.wrote (getObj s n).conn (.ack (getObj s n).ver m.type k m.reasonCode) ∈
        (admitC s n k' true).2) := by
  rw [admitC_true_snd]
  have hmem := (permuteBy_perm s.resendSeed _).mem_iff.mpr (flGet_mem_sv hm).1
  have hid := (flGet_mem_sv hm).2
  constructor
  · intro ht
    refine List.mem_flatMap.mpr ⟨m, hmem, ?_⟩
    unfold writeMsg resendMsg
    simp [ho, hi, hp, ht]
  · intro ht
    refine List.mem_flatMap.mpr ⟨m, hmem, ?_⟩
    unfold writeMsg resendMsg
    simp [ho, hi, hp, ht, hid]

/-- a record that is not a PUBLISH (the PUBREL after PUBREC): no PUBLISH with its packet identifier is resent -/
theorem admitC_no_publish (s : Server) (n : Nat) (k' : Connect) (k : Nat) (m : Msg) (hw : ObjWF (getObj s n))
    (hm : flGet (getObj s n) k = some m) (ht : m.type ≠ 3) :
    ∀ c ver m' me, Out.wrote c (.publish ver m' me) ∈ (admitC s n k' true).2 → m'.id ≠ k := by
  intro c ver m' me ho
  rw [admitC_true_snd] at ho
  obtain ⟨x, hx, hox⟩ := List.mem_flatMap.mp ho
  have hx := mem_permuteBy _ _ _ hx
  rw [writeMsg_eq, List.mem_ite_nil_right, List.mem_singleton] at hox
  by_cases ht3 : ((resendMsg x).type == 3) = true
  · rw [if_pos ht3] at hox
    injection hox.2 with _ hpk
    injection hpk with _ hm' _
    rw [hm', resendMsg_id]
    intro e
    have := flGet_of_mem (getObj s n) x hw.ids_nodup hx
    rw [e, hm] at this
    cases this
    rw [resendMsg_type] at ht3
    exact ht (by simpa using ht3)
  · rw [if_neg ht3] at hox
    injection hox.2 with _ hpk
    cases hpk

/-! ### a resuming CONNECT hands the record over, exactly -/

theorem clearInflights_getObj_ne_x (s : Server) (e x : Nat) (h : x ≠ e) :
    getObj (clearInflights s e) x = getObj s x := by
  unfold clearInflights
  exact getObj_setObj_ne s e x _ h

theorem flGet_infl_eq {a b : Client} (h : b.inflight = a.inflight) (k : Nat) : flGet b k = flGet a k := by
  unfold flGet; rw [h]

/-- `inheritClientSession` without Clean Start, the old session not an MQTT 3 clean one: session present, the new
    object `n` has exactly the old object's record under `k` and is as live as it was (`admitA_session`) -/
theorem admitA_exact (k : Nat) (s : Server) (n : Nat) (k' : Connect) (e : Nat)
    (he : assocGet s.clients k'.id = some e) (hne : n ≠ e) (hn : n < s.objs.length) (hcl : k'.clean = false)
    (h3 : ((getObj s e).clean && (getObj s e).ver < 5) = false) :
    (admitA s n k').2.2.1 = true ∧
    LiveEq (getObj s n) (getObj (admitA s n k').1 n) ∧
    (∀ m, flGet (getObj s e) k = some m → flGet (getObj (admitA s n k').1 n) k = some m) := by
  have hp : sp14_present s k' = true := by
    unfold sp14_present; rw [he, hcl]
    show (!(false || ((getObj s e).clean && decide ((getObj s e).ver < 5)))) = true
    rw [h3]; rfl
  have A := admitA_session s n k' hn fun e' he' => Option.some.inj (he.symm.trans he') ▸ hne
  refine ⟨A.present.trans hp, A.live, fun m hm => ?_⟩
  -- a record under `k` means the old object's map is not empty: it is the new object's map
  have hi := (A.resumed e he hp).1
  rw [if_pos (RecWalk.Rec.pos (ok := isMsg) (rec_isMsg.mpr hm))] at hi
  exact (flGet_infl_eq hi k).trans hm

/-! ### the resuming CONNECT, assembled -/

/-- a CONNECT without Clean Start for a client id whose session (object `e`, not an MQTT 3 clean one) has a record `m`
    under `k`: the outputs of `attachClient` up to the read loop end with the outputs of the resend loop, run in a
    state where the new object has exactly that record and is live -/
theorem connect_resend_split (k : Nat) (s : Server) (conn : Nat) (k' : Connect) (e : Nat) (m : Msg) (hw : WF s)
    (hf : conn ∉ s.connOf.map (·.1)) (he : assocGet s.clients k'.id = some e)
    (hm : flGet (getObj s e) k = some m) (hadm : refuseCode s k' (parseConnect s conn k') = none)
    (hcl : k'.clean = false) (h3 : ((getObj s e).clean && (getObj s e).ver < 5) = false) :
    ∃ pre s3, (connect s conn k').2 = pre ++ (admitC s3 s.objs.length k' true).2 ∧
      flGet (getObj s3 s.objs.length) k = some m ∧ ObjWF (getObj s3 s.objs.length) ∧
      (getObj s3 s.objs.length).isOpen = true ∧ (getObj s3 s.objs.length).inline = false ∧
      (getObj s3 s.objs.length).peerGone = false ∧ (getObj s3 s.objs.length).conn = conn ∧
      (getObj s3 s.objs.length).ver = k'.ver := by
  have hel : e < s.objs.length := (hw.clients_valid _ _ (assocGet_mem _ _ _ he)).1
  have hne : s.objs.length ≠ e := Nat.ne_of_gt hel
  obtain ⟨hn0, hnid⟩ := RecWalk.connState_new s conn k'
  have w0 : WF (connState s conn k') := hw.addObj _ conn (parseConnect_wf s conn k') hf
  have e0 := getObj_connState_old s conn k' e hel
  let P : Server → Prop := fun s3 => flGet (getObj s3 s.objs.length) k = some m ∧ ObjWF (getObj s3 s.objs.length) ∧
    (getObj s3 s.objs.length).isOpen = true ∧ (getObj s3 s.objs.length).inline = false ∧
    (getObj s3 s.objs.length).peerGone = false ∧ (getObj s3 s.objs.length).conn = conn ∧
    (getObj s3 s.objs.length).ver = k'.ver
  refine connect_cases (Q := fun r => ∃ pre s3, r.2 = pre ++ (admitC s3 s.objs.length k' true).2 ∧ P s3) s conn k'
    (fun s1 code e1 hr => by
      subst e1
      rw [refuseCode_congr_sv (s := s) (s' := connState s conn k') rfl rfl rfl, hadm] at hr
      cases hr)
    fun s1 e1 _ => ?_
  subst e1
  -- `A`: admitted; `C`: the CONNACK written; `s3`: the handler taken over torn down
  obtain ⟨A, hA⟩ : ∃ A, A = admitA (connState s conn k') s.objs.length k' := ⟨_, rfl⟩
  obtain ⟨hpres, l1, x1⟩ := admitA_exact k (connState s conn k') s.objs.length k' e he hne hn0 hcl (e0.symm ▸ h3)
  have tk := admitA_marked (connState s conn k') s.objs.length k' e he hne (Nat.lt_trans hel hn0)
  have ex := fun e' h => Option.some.inj ((admitA_exLive (connState s conn k') s.objs.length k' e' h).1.symm.trans he)
  have w1 := admitA_wf _ _ k' w0 hn0 hnid
  rw [admitClient_eq _ _ conn k' hA rfl rfl]
  rw [← hA] at hpres l1 x1 tk ex w1
  rw [hpres]
  obtain ⟨C, hC⟩ : ∃ C, C = (admitConnack A.1 s.objs.length conn true).1 := ⟨_, rfl⟩
  have q2 := admitConnack_quiet A.1 s.objs.length conn true
  obtain ⟨l2, i2⟩ := admitConnack_exact A.1 s.objs.length conn true s.objs.length
  have w2 := admitConnack_wf _ s.objs.length conn true w1
  rw [← hC] at q2 l2 i2 w2 ⊢
  have hx3 : ∀ e', A.2.2.2 = some e' → s.objs.length ≠ e' := fun e' h => ex e' h ▸ hne
  have l3 := (tookOverDown_kept C A.2.2.2 fun e' h => ex e' h ▸ (q2.obj e).takenOver.trans tk).2.2 _ hx3
  have live := (l1.trans l2).trans l3.live
  rw [getObj_connState_new] at live
  refine ⟨_, _, rfl, rec_isMsg.mp ((RecWalk.tookOverDown_sv isMsg k C _ _ hx3).keep m (rec_isMsg.mpr ?_)),
    ((w2.of_good (tookOverDown_good _ _)).allWF _), live.isOpen, live.inline, live.peerGone, live.conn, live.ver⟩
  rw [flGet_infl_eq i2 k]
  exact x1 m (e0.symm ▸ hm)

/-- the outputs of `attachClient` are outputs of the `connect` op (which adds the barrier's) -/
theorem step_connect_out_sub (s : Server) (conn : Nat) (k' : Connect) (o : Out) (h : o ∈ (connect s conn k').2) :
    o ∈ (step s (.connect conn k')).2 :=
  step_connect_cases (Q := fun r => o ∈ r.2) s conn k' (fun _ _ _ => List.mem_append_left _ h) fun _ => h

end Mochi.Broker
