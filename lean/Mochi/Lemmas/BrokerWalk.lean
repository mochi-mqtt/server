import Mochi.Lemmas.BrokerExitsSession
/-!
# Carrying a relation through the composite handlers

The relations the broker lemmas are organised by relate the state before a piece of a handler to the state after it, and
some of them also look at what the piece wrote: `W s s' o` — "`s'` results from `s`, having written `o`".  Such a relation
is reflexive (nothing done, nothing written) and composes along `++` (`Traced`).  The handlers that mostly call other
handlers (`detach`, `processPublish`, `receivePacket`, `recvOn`, `admitA`, `admitClient`, `connect`, `step`) respect it
as soon as what they call and the few stage states they write themselves do; that is proved here once (`X_tr`), so a relation only has to be carried through the
handlers that write state or output themselves.  What depends on the arguments of the call is asked for in the state in
which the call is made, so that a relation with a side condition on the packet or the op can supply it there; a side
condition on the state goes into the relation (`Traced.guard`).  A relation between states alone is the instance that
does not look at `o` (`Traced.ofState`).

The folds over `publishToClient`, the dispatch and the two subscription handlers are carried here for relations between
states (`X_state`); with what they write they are the induction rules `X_cases` of `BrokerExitsFanout`,
`BrokerExitsDelivery` and `BrokerExitsSession`.

`SessOps`, `ObjWalk` and the `X_walk` lemmas serve the relations that look at the acting object through a relation
between clients: two instance lemmas (the `SessOps` instance of the client relation, the `ObjWalk` instance of the server
relation) give such a relation its lemmas for the delivery, acknowledgement, in-flight and
subscription handlers in one line each (some take what the relation makes of a callee as a further hypothesis).
-/
namespace Mochi.Broker
open Mochi.Topics

/-! ### relations between the state before, the state after and what was written in between -/

structure Traced (W : Server → Server → List Out → Prop) : Prop where
  refl : ∀ s, W s s []
  trans : ∀ {s s1 s2 o1 o2}, W s s1 o1 → W s1 s2 o2 → W s s2 (o1 ++ o2)

/-- `W` does not mind outputs being dropped (the barrier's filter, the lost connection's filter) -/
def Drops (W : Server → Server → List Out → Prop) : Prop := ∀ {s s' o} (p : Out → Bool), W s s' o → W s s' (o.filter p)

section
variable {W : Server → Server → List Out → Prop}

theorem Traced.ofState {R : Server → Server → Prop} (refl : ∀ s, R s s)
    (trans : ∀ {s s1 s2}, R s s1 → R s1 s2 → R s s2) : Traced (fun s s' _ => R s s') :=
  ⟨refl, fun h g => trans h g⟩

theorem Traced.guard {C : Server → Prop} (H : Traced W) (keep : ∀ {s s' o}, W s s' o → C s → C s') :
    Traced (fun s s' o => C s → W s s' o) :=
  ⟨fun s _ => H.refl s, fun h g c => H.trans (h c) (g (keep (h c) c))⟩

theorem Drops.guard {C : Server → Prop} (D : Drops W) : Drops (fun s s' o => C s → W s s' o) := fun p h c => D p (h c)

theorem Traced.quiet (H : Traced W) {s s1 s2 : Server} {o : List Out} (h : W s s1 o) (g : W s1 s2 []) : W s s2 o :=
  List.append_nil o ▸ H.trans h g

theorem Traced.after (H : Traced W) {s s1 s2 : Server} {o : List Out} (h : W s s1 []) (g : W s1 s2 o) : W s s2 o :=
  List.nil_append o ▸ H.trans h g

end

section
variable {R : Server → Server → Prop}

/-! ### the delivery family, for a relation between states -/

/-- `publishToClient` delivers to one object: `core` is asked for that object only, so that a relation indexed by the
    acting object is an instance -/
theorem publishToClient_state (i : Nat) (refl : ∀ s, R s s) (core : ∀ s sub f pk, R s (publishToClientCore s i sub f pk).1)
    (s : Server) (sub : Sub) (f : Bool) (pk : Msg) : R s (publishToClient s i sub f pk).1 := by
  rw [publishToClient_passes]
  split
  · exact core s sub f pk
  · exact refl s

theorem publishToSubscribers_state (refl : ∀ s, R s s) (trans : ∀ {s s1 s2}, R s s1 → R s1 s2 → R s s2)
    (core : ∀ s i sub f pk, R s (publishToClientCore s i sub f pk).1)
    (s : Server) (pk : Msg) : R s (publishToSubscribers s pk).1 := by
  unfold publishToSubscribers
  split
  · exact refl s
  · extract_lets e pk' r subsMap inl
    refine foldl_inv (fun (acc : Server × List Out) => R s acc.1) _ _ _ (refl s) ?_
    intro acc cs h
    split
    · exact h
    · exact trans h (publishToClient_state _ refl (core · _) acc.1 cs.2 false pk')

theorem publishRetainedToClient_state (i : Nat) (refl : ∀ s, R s s) (trans : ∀ {s s1 s2}, R s s1 → R s1 s2 → R s s2)
    (core : ∀ s sub f pk, R s (publishToClientCore s i sub f pk).1)
    (s : Server) (sub : Sub) (ex : Bool) (k : Nat) : R s (publishRetainedToClient s i sub ex k).1 := by
  unfold publishRetainedToClient
  split
  · exact refl s
  · split
    · exact refl s
    · extract_lets sub'
      refine foldl_inv (fun (acc : Server × List Out) => R s acc.1) _ _ _ (refl s) ?_
      intro acc r h
      split
      · exact h
      · exact trans h (publishToClient_state i refl core acc.1 sub' true _)

/-! ### the dispatch and the two subscription handlers, for a relation between states -/

theorem handler_state (refl : ∀ s, R s s) (i : Nat) (s : Server)
    (pub : ∀ q d r id t p me al, R s (processPublish s i q d r id t p me al).1)
    (sub : ∀ id si fs, R s (processSubscribe s i id si fs).1)
    (unsub : ∀ id fs, R s (processUnsubscribe s i id fs).1)
    (puback : ∀ id, R s (processPuback s i id).1) (pubrec : ∀ id rc, R s (processPubrec s i id rc).1)
    (pubrel : ∀ id rc, R s (processPubrel s i id rc).1) (pubcomp : ∀ id, R s (processPubcomp s i id).1)
    (disc : ∀ rc sei, R s (processDisconnect s i rc sei).1) (pk : InPk) : R s (R07.handler s i pk).1 := by
  unfold R07.handler
  split
  · split
    · exact refl s
    · exact pub ..
  · split
    · exact refl s
    · exact sub ..
  · split
    · exact refl s
    · exact unsub ..
  · exact puback _
  · exact pubrec ..
  · exact pubrel ..
  · exact pubcomp _
  · split <;> exact refl s
  · exact disc ..

end

/-- `iteInduction` for a property of the state component; walking a handler with this instead of `split` keeps Lean
    from simplifying the whole body at every test -/
theorem ite_fst {α β} {P : α → Prop} (c : Prop) [Decidable c] (a b : α × β) (ha : P a.1) (hb : ¬ c → P b.1) :
    P (if c then a else b).1 :=
  iteInduction (motive := fun r : α × β => P r.1) (fun _ => ha) hb

section
variable {R : Server → Server → Prop}

theorem processSubscribe_state (refl : ∀ s, R s s) (trans : ∀ {s s1 s2}, R s s1 → R s1 s2 → R s s2)
    (s : Server) (i id subId : Nat) (filters : List Sub)
    (sub : ∀ s' (sub : Sub), isValidFilter sub.filter false = true → R s' (subAccepted s' i (getObj s i).id sub))
    (ret : ∀ s' sub ex k, R s' (publishRetainedToClient s' i sub ex k).1) :
    R s (processSubscribe s i id subId filters).1 :=
  processSubscribe_cases (I := fun s' _ => R s s') (J := fun _ z => R s z.1) (Q := fun r => R s r.1) s i id subId filters
    (refl s) (fun _ _ _ h => h) (fun s' _ _ h _ hv _ _ => trans h (sub s' _ (by simpa using hv)))
    (fun _ _ h _ => h) (fun _ _ h _ => h) (fun _ acc sb ex k h => trans h (ret acc.1 sb ex k)) (fun _ _ _ _ _ h => h)

theorem processUnsubscribe_state (refl : ∀ s, R s s) (trans : ∀ {s s1 s2}, R s s1 → R s1 s2 → R s s2)
    (s : Server) (i id : Nat) (filters : List Str) (unsub : ∀ s' f, R s' (unsubDropped s' i (getObj s i).id f)) :
    R s (processUnsubscribe s i id filters).1 :=
  processUnsubscribe_cases (I := fun s' _ => R s s') (Q := fun r => R s r.1) s i id filters (refl s) (fun _ _ _ h => h)
    (fun s' _ f _ h => trans h (unsub s' f)) (fun _ _ h _ => h) (fun _ _ h _ => h)

end

theorem tookOverDown_fst (t : Server) (ex : Option Nat) :
    (tookOverDown t ex).1 = match ex with | some e => (detach t e true).1 | none => t := by
  cases ex <;> rfl

theorem recvOn_unknown {s : Server} {c : Nat} (h : assocGet s.connOf c = none) (pk : InPk) (b : Bool) :
    recvOn s c pk b = (s, []) := by
  unfold recvOn
  rw [h]

/-! ### the composite handlers, for a relation that may look at what was written -/

section
variable {W : Server → Server → List Out → Prop} (H : Traced W)
include H

theorem detach_tr (i : Nat) (dA : ∀ s b, W s (detachA s i b).1 (detachA s i b).2) (dB : ∀ s, W s (detachB s i) [])
    (s : Server) (b : Bool) : W s (detach s i b).1 (detach s i b).2 :=
  H.quiet (dA s b) (dB _)

/-- `processPublish`, given what the relation makes of its stages: the refusals (a DISCONNECT with one of four codes, or
    a negative acknowledgement), the packet taken in, the retained store, the acknowledgement filed, written and
    released, the fan-out.  The message that is retained and fanned out carries the topic the alias resolves to. -/
theorem processPublish_tr (i id : Nat) (s : Server) (qos : Nat) (dup retain : Bool) (topic payload : Str)
    (msgExpiry : Nat) (alias : Option Nat)
    (disc : ∀ s' code, code = 0x82 ∨ code = 0x87 ∨ code = 0x90 ∨ code = 0x93 →
      W s' (disconnectClient s' i code).1 (disconnectClient s' i code).2)
    (nack : ∀ s' t rc, t ≠ 3 → W s' (ackRes s' i t id rc).1 (ackRes s' i t id rc).2.1)
    (taken : W s (pubTaken s i id (aliasBound s.caps.topicAliasMaximum (getObj s i).aliasIn topic alias)) [])
    (retained : ∀ s' pk, retain = true → pk.topic = R07.pubTopic s i topic alias → W s' (retainMsg s' pk) [])
    (fan : ∀ s' pk, pk.topic = R07.pubTopic s i topic alias →
      W s' (publishToSubscribers s' pk).1 (publishToSubscribers s' pk).2)
    (acked : ∀ s' ack, ack.type ≠ 3 → ack.id = id → W s' (pubAcked s' i ack) [])
    (wrote : ∀ s' ack, ack.type ≠ 3 → W s' s' (writeMsg s' i ack))
    (released : ∀ s', W s' (recordGone s' i id incRecv) []) :
    W s (processPublish s i qos dup retain id topic payload msgExpiry alias).1
      (processPublish s i qos dup retain id topic payload msgExpiry alias).2.1 := by
  have t45 : ∀ q : Nat, (if q == 2 then 5 else 4) ≠ 3 := fun q => by split <;> decide
  have refuse : ∀ code, code = 0x82 ∨ code = 0x87 ∨ code = 0x90 ∨ code = 0x93 →
      W s (pubRefuse s i qos id code).1 (pubRefuse s i qos id code).2.1 := fun code hc =>
    pubRefuse_cases (Q := fun r => W s r.1 r.2.1) s i qos id code (fun _ => H.refl s) (fun _ _ => disc s code hc)
      (fun _ _ => nack s _ code (t45 qos))
  have go : ∀ s2 pk, pk.retain = retain → pk.topic = R07.pubTopic s i topic alias →
      W s2 (pubGo s2 i id pk).1 (pubGo s2 i id pk).2.1 := by
    intro s2 pk hr ht
    have hret : ∀ pk', pk' = pubShaped s2 pk → W s2 (retainedState s2 pk') [] := fun pk' e =>
      iteInduction (motive := fun x => W s2 x [])
        (fun h => retained s2 pk' ((e ▸ hr : pk'.retain = retain) ▸ h) (e ▸ ht)) fun _ => H.refl s2
    have hsh : ∀ pk', pk' = pubShaped s2 pk → pk'.topic = R07.pubTopic s i topic alias := fun pk' e => e ▸ ht
    refine pubGo_cases (Q := fun r => W s2 r.1 r.2.1) s2 i id pk (fun _ => disc s2 0x82 (Or.inl rfl))
      (fun _ _ => H.refl s2) (fun pk' _ _ _ _ => nack s2 _ 0x87 (t45 pk'.qos))
      (fun pk' e _ _ _ _ => H.after (hret pk' e) (fan _ pk' (hsh pk' e)))
      (fun pk' s6 e h6 _ _ _ _ _ => h6 ▸ H.quiet (hret pk' e) (acked _ _ (pubAck_ne_publish _ _ _) rfl))
      (fun pk' s6 e h6 _ _ _ _ _ => ?_)
    have h : W s2 s6 [] := h6 ▸ H.quiet (hret pk' e) (acked _ _ (pubAck_ne_publish _ _ _) rfl)
    have w := H.after h (wrote s6 _ (pubAck_ne_publish s2 pk'.qos id))
    refine H.trans (s1 := if pk'.qos == 1 then recordGone s6 i id incRecv else s6) ?_ (fan _ pk' (hsh pk' e))
    exact iteInduction (motive := fun x => W s2 x _) (fun _ => H.quiet w (released s6)) fun _ => w
  exact processPublish_cases (Q := fun r => W s r.1 r.2.1) s i qos dup retain id topic payload msgExpiry alias
    (fun _ => refuse 0x90 (by decide)) (fun _ _ => disc s 0x93 (by decide)) (fun _ _ _ => refuse 0x87 (by decide))
    (fun _ _ _ _ => nack s 5 0x91 (by decide)) (fun _ => H.after taken (go _ _ rfl rfl))

/-- `receivePacket`: the handler, then the release of a deferred message or the DISCONNECT for an error code -/
theorem receivePacket_tr (i : Nat) (s : Server) (pk : InPk)
    (h : W s (R07.handler s i pk).1 (R07.handler s i pk).2.1)
    (next : ∀ s, W s (nextImmediate s i).1 (nextImmediate s i).2)
    (disc : ∀ s' code, (R07.handler s i pk).2.2 = some code → ((getObj s i).ver == 5 && decide (code ≥ 0x80)) = true →
      W s' (disconnectClient s' i code).1 (disconnectClient s' i code).2) :
    W s (receivePacket s i pk).1 (receivePacket s i pk).2.1 :=
  receivePacket_cases_code (Q := fun r => W s r.1 r.2.1) s i pk rfl (fun _ => H.trans h (next _))
    (fun code hc ht => H.trans h (disc _ code hc ht)) (fun _ _ _ => h)

/-- `recvOn` on a connection whose client object is `i`: the packet, the barrier PINGREQ, the teardown -/
theorem recvOn_trAt (i : Nat) (pong : ∀ {s s' o}, W s s' o → W s s' (noPingresp o)) (s : Server) (pk : InPk)
    (recv : W s (receivePacket s i pk).1 (receivePacket s i pk).2.1)
    (ping : ∀ s', W s' (receivePacket s' i .pingreq).1 (receivePacket s' i .pingreq).2.1)
    (det : ∀ s b, W s (detach s i b).1 (detach s i b).2)
    (c : Nat) (b : Bool) (hc : assocGet s.connOf c = some i) :
    W s (recvOn s c pk b).1 (recvOn s c pk b).2 := by
  have at_i : ∀ {j}, assocGet s.connOf c = some j → j = i := fun h => Option.some.inj (h.symm.trans hc)
  have two : W s (receivePacket (receivePacket s i pk).1 i .pingreq).1
      ((receivePacket s i pk).2.1 ++ noPingresp (receivePacket (receivePacket s i pk).1 i .pingreq).2.1) :=
    H.trans recv (pong (ping _))
  have h1 := fun w => H.trans recv (det (receivePacket s i pk).1 w)
  have h2 := H.trans two (det _ true)
  -- `dsimp only` first: against the pair of the exit, `exact` would unfold `detach` looking for a pair
  exact recvOn_cases (Q := fun r => W s r.1 r.2) s c pk b (fun _ => H.refl s) (fun _ _ _ => H.refl s)
    (fun j r hj _ hr _ => by cases at_i hj; subst hr; dsimp only; exact h1 true)
    (fun j r hj _ hr _ _ => by cases at_i hj; subst hr; dsimp only; exact h1 false)
    (fun j r hj _ hr _ _ _ => by cases at_i hj; subst hr; exact recv)
    (fun j r r2 hj _ hr _ _ _ hr2 _ => by cases at_i hj; subst hr hr2; dsimp only; exact h2)
    (fun j r r2 hj _ hr _ _ _ hr2 _ => by cases at_i hj; subst hr hr2; exact two)

theorem recvOn_tr (pong : ∀ {s s' o}, W s s' o → W s s' (noPingresp o))
    (recv : ∀ i s pk, W s (receivePacket s i pk).1 (receivePacket s i pk).2.1)
    (det : ∀ i s b, W s (detach s i b).1 (detach s i b).2) (s : Server) (c : Nat) (pk : InPk) (b : Bool) :
    W s (recvOn s c pk b).1 (recvOn s c pk b).2 := by
  cases hc : assocGet s.connOf c with
  | none => rw [recvOn_unknown hc]; exact H.refl s
  | some i => exact recvOn_trAt H i pong s pk (recv i s pk) (recv i · .pingreq) (det i) c b hc

/-- `admitA` is a chain of its stages followed by `Clients.Add`: `b` is the state just before the registration, `e` the
    object the client id was registered for; what is written is the DISCONNECT to `e` -/
theorem admitA_tr (s : Server) (i : Nat) (k : Connect) (counted : W s (connCounted s) [])
    (disc : ∀ t e, assocGet s.clients k.id = some e → W t (disconnectClient t e 0x8E).1 (disconnectClient t e 0x8E).2)
    (unsub : ∀ t e, assocGet s.clients k.id = some e → W t (unsubscribeClient t e) [])
    (clear : ∀ t e, assocGet s.clients k.id = some e → W t (clearInflights t e) [])
    (taken : ∀ t e, assocGet s.clients k.id = some e → W t (takenOver t e) [])
    (infl : ∀ t e, assocGet s.clients k.id = some e → W t (inflInherited t i e) [])
    (subs : ∀ t l, W t (subsInherited t i k.id l) []) :
    ∃ b, W s b (admitA s i k).2.1 ∧ (admitA s i k).1 = registered b k.id i :=
  admitA_cases (Q := fun r => ∃ b, W s b r.2.1 ∧ r.1 = registered b k.id i) s i k rfl (fun _ => ⟨_, counted, rfl⟩)
    (fun e _ he e1 _ => ⟨_, H.quiet (H.quiet (H.quiet (e1 ▸ H.after counted (disc _ e he)) (unsub _ e he)) (clear _ e he))
      (taken _ e he), rfl⟩)
    (fun e _ he e2 _ => ⟨_, H.quiet (H.quiet (H.quiet (H.quiet (e2 ▸ H.quiet (H.after counted (disc _ e he)) (taken _ e he))
      (infl _ e he)) (subs _ _)) (unsub _ e he)) (clear _ e he), rfl⟩)

/-- `attachClient` from `Clients.Add` to the read loop, after a piece that led from `s0` to the state `admitA` leaves,
    having written `o0`: the CONNACK in that state, the teardown of the handler whose session was taken over in the state
    the CONNACK leaves, `admitC`.  (`a`, `c`, `d` are the results of the stages, as in `admitClient_eq`.) -/
theorem admitClient_trFrom (i conn : Nat) (k : Connect) (s : Server) {a : Server × List Out × Bool × Option Nat}
    {c d : Server × List Out} (ha : a = admitA s i k) (hc : c = admitConnack a.1 i conn a.2.2.1)
    (hd : d = tookOverDown c.1 a.2.2.2) {s0 : Server} {o0 : List Out} (h0 : W s0 a.1 o0) (ack : W a.1 c.1 c.2)
    (det : ∀ e, a.2.2.2 = some e → W c.1 (detach c.1 e true).1 (detach c.1 e true).2)
    (fin : ∀ s', W s' (admitC s' i k a.2.2.1).1 (admitC s' i k a.2.2.1).2) :
    W s0 (admitClient s i conn k).1 (o0 ++ c.2 ++ d.2 ++ (admitC d.1 i k a.2.2.1).2) := by
  have hdown : W c.1 d.1 d.2 := by
    subst hd
    cases hx : a.2.2.2 with
    | none => exact H.refl _
    | some e => exact det e hx
  subst ha hc hd
  rw [admitClient_fst]
  exact H.trans (H.trans (H.trans h0 ack) hdown) (fin _)

/-- `attachClient` from the admission to the read loop -/
theorem admitClient_tr (i conn : Nat) (k : Connect) (s : Server) {a : Server × List Out × Bool × Option Nat}
    {c : Server × List Out} (ha : a = admitA s i k) (hc : c = admitConnack a.1 i conn a.2.2.1) (h0 : W s a.1 a.2.1)
    (ack : W a.1 c.1 c.2) (det : ∀ e, a.2.2.2 = some e → W c.1 (detach c.1 e true).1 (detach c.1 e true).2)
    (fin : ∀ s', W s' (admitC s' i k a.2.2.1).1 (admitC s' i k a.2.2.1).2) :
    W s (admitClient s i conn k).1 (admitClient s i conn k).2 := by
  have h := admitClient_trFrom H i conn k s ha hc rfl h0 ack det fin
  rw [admitClient_eq s i conn k ha hc rfl] at h ⊢
  exact h

/-- `connect`, seen from `s0` (the state itself, or — for a relation that cannot see an object appear — the state in
    which the new object exists): the failure CONNACK and `Client.Stop`, or the admission -/
theorem connect_tr (s0 s : Server) (conn : Nat) (k : Connect) (enter : W s0 (connState s conn k) [])
    (refused : ∀ code, refuseCode (connState s conn k) k (parseConnect s conn k) = some code →
      W (connState s conn k) (stopClient (connState s conn k) s.objs.length).1
        ([Out.wrote conn (mkConnack (connState s conn k) (parseConnect s conn k) false code none)] ++
          (stopClient (connState s conn k) s.objs.length).2))
    (admitted : W (connState s conn k) (admitClient (connState s conn k) s.objs.length conn k).1
      (admitClient (connState s conn k) s.objs.length conn k).2) :
    W s0 (connect s conn k).1 (connect s conn k).2 :=
  connect_cases (Q := fun r => W s0 r.1 r.2) s conn k (fun _ code e hc => by subst e; exact H.after enter (refused code hc))
    (fun _ e _ => e ▸ H.after enter admitted)

/-! ### one op -/

/-- the barrier PINGREQ after what a connecting handler has written -/
theorem barrier_tr (D : Drops W) {s0 s1 : Server} {o : List Out} (c : Nat) (h : W s0 s1 o)
    (ping : W s1 (recvOn s1 c .pingreq false).1 (recvOn s1 c .pingreq false).2) :
    W s0 (barrier s1 c o).1 (barrier s1 c o).2 :=
  H.trans h (D _ ping)

/-- a CONNECT, seen from `s0` as in `connect_tr`: `connect`, then the barrier -/
theorem step_connect_tr (D : Drops W) (s0 s : Server) (c : Nat) (k : Connect)
    (conn : W s0 (connect s c k).1 (connect s c k).2)
    (ping : ∀ s', W s' (recvOn s' c .pingreq false).1 (recvOn s' c .pingreq false).2) :
    W s0 (step s (.connect c k)).1 (step s (.connect c k)).2 :=
  step_connect_cases (Q := fun r => W s0 r.1 r.2) s c k (fun _ _ _ => barrier_tr H D c conn (ping _)) (fun _ => conn)

/-- an op that is not a schedule op: `W` is respected by `step` once it is by what `step` calls.  What depends on the
    op's arguments (the CONNECT, the inbound packet, the kind of tick) is asked for in the state in which `step` calls
    it, with the op named; the pieces `step` chains them with are asked for in every state. -/
theorem step_seq_tr (D : Drops W) (s : Server) (op : Op) (hseq : op.isSeq = true)
    (conn : ∀ c k, op = .connect c k → W s (connect s c k).1 (connect s c k).2)
    (recv : ∀ c pk, op = .recv c pk → W s (recvOn s c pk true).1 (recvOn s c pk true).2)
    (cut : ∀ c pk i, op = .recvCut c pk → assocGet s.connOf c = some i →
      W (modObj s i (fun c => { c with peerGone := true }))
        (recvOn (modObj s i (fun c => { c with peerGone := true })) c pk false).1
        (recvOn (modObj s i (fun c => { c with peerGone := true })) c pk false).2)
    (ping : ∀ s' c, W s' (recvOn s' c .pingreq false).1 (recvOn s' c .pingreq false).2)
    (peer : ∀ s' i, W s' (modObj s' i (fun c => { c with peerGone := true })) [])
    (det : ∀ s' i b, W s' (detach s' i b).1 (detach s' i b).2)
    (tick : ∀ kind t, op = .tick kind t → W s (step s op).1 (step s op).2)
    (pub : ∀ t p r q, op = .inlinePublish t p r q →
      W s (receivePacket s 0 (.publish q false r q t p 0 none)).1 (receivePacket s 0 (.publish q false r q t p 0 none)).2.1)
    (isub : ∀ id sb o, (∀ x ∈ o, ∃ id t p, x = Out.inline id t p) →
      W s { s with topics := (inlineSubscribe s.topics id sb).1 } o)
    (iunsub : ∀ id f, W s { s with topics := (inlineUnsubscribe s.topics id f).1 } []) :
    W s (step s op).1 (step s op).2 := by
  let Q := fun r : Server × List Out => W s r.1 r.2
  cases op with
  | connect c k => exact step_connect_tr H D s s c k (conn c k rfl) (ping · c)
  | recv c pk => exact recv c pk rfl
  | drop c =>
    exact step_drop_cases (Q := Q) s c (fun _ => H.refl s) (fun _ _ _ => H.refl s)
      (fun i _ _ => D _ (H.after (peer s i) (det _ i true)))
  | recvCut c pk =>
    exact step_recvCut_cases (Q := Q) s c pk (fun _ => H.refl s) (fun _ _ _ => H.refl s)
      (fun i r hc _ hr _ => by subst hr; exact D _ (H.after (peer s i) (cut c pk i rfl hc)))
      (fun i r hc _ hr _ => by subst hr; exact D _ (H.trans (H.after (peer s i) (cut c pk i rfl hc)) (det _ i true)))
  | tick kind t => exact tick kind t rfl
  | inlinePublish t p r q => exact pub t p r q rfl
  | inlineSubscribe id f =>
    exact step_inlineSubscribe_cases (Q := Q) s id f (fun _ => H.refl s) (fun s' hs _ => by
      subst hs
      exact isub id _ _ fun x hx => by
        obtain ⟨a, _, rfl⟩ := List.mem_map.mp hx
        exact ⟨_, _, _, rfl⟩)
  | inlineUnsubscribe id f =>
    exact step_inlineUnsubscribe_cases (Q := Q) s id f (fun _ => H.refl s) (fun _ => iunsub id f)
  | dropHold _ => cases hseq
  | dropHoldEarly _ => cases hseq
  | connectHold _ _ _ => cases hseq
  | release _ => cases hseq

/-- any op: besides what `step_seq_tr` asks for, the handler parked inside `attachClient` (`hold`, `rel`), the two halves
    of the teardown and the lists of parked handlers -/
theorem step_tr (D : Drops W) (s : Server) (op : Op)
    (conn : ∀ c k, op = .connect c k → W s (connect s c k).1 (connect s c k).2)
    (hold : ∀ c k st, op = .connectHold c k st → W s (connectHold s c k st).1 (connectHold s c k st).2)
    (recv : ∀ c pk, op = .recv c pk → W s (recvOn s c pk true).1 (recvOn s c pk true).2)
    (cut : ∀ c pk i, op = .recvCut c pk → assocGet s.connOf c = some i →
      W (modObj s i (fun c => { c with peerGone := true }))
        (recvOn (modObj s i (fun c => { c with peerGone := true })) c pk false).1
        (recvOn (modObj s i (fun c => { c with peerGone := true })) c pk false).2)
    (ping : ∀ s' c, W s' (recvOn s' c .pingreq false).1 (recvOn s' c .pingreq false).2)
    (peer : ∀ s' i, W s' (modObj s' i (fun c => { c with peerGone := true })) [])
    (det : ∀ s' i b, W s' (detach s' i b).1 (detach s' i b).2)
    (detA : ∀ s' i, W s' (detachA s' i true).1 (detachA s' i true).2) (detB : ∀ s' i, W s' (detachB s' i) [])
    (park : ∀ s' p pe, W s' { s' with parked := p, parkedEarly := pe } []) (unpark : ∀ c, W s (unparkP s c) [])
    (rel : ∀ c p, op = .release c → s.pending.find? (·.conn == c) = some p →
      W (unparkP s c) (connectRelease (unparkP s c) p).1 (connectRelease (unparkP s c) p).2)
    (tick : ∀ kind t, op = .tick kind t → W s (step s op).1 (step s op).2)
    (pub : ∀ t p r q, op = .inlinePublish t p r q →
      W s (receivePacket s 0 (.publish q false r q t p 0 none)).1 (receivePacket s 0 (.publish q false r q t p 0 none)).2.1)
    (isub : ∀ id sb o, (∀ x ∈ o, ∃ id t p, x = Out.inline id t p) →
      W s { s with topics := (inlineSubscribe s.topics id sb).1 } o)
    (iunsub : ∀ id f, W s { s with topics := (inlineUnsubscribe s.topics id f).1 } []) :
    W s (step s op).1 (step s op).2 := by
  let Q := fun r : Server × List Out => W s r.1 r.2
  cases op with
  | connectHold c k st => exact hold c k st rfl
  | dropHold c =>
    exact step_dropHold_cases (Q := Q) s c (fun _ => H.refl s) (fun _ _ _ => H.refl s)
      (fun i d _ _ hd => by subst hd; exact D _ (H.quiet (H.after (peer s i) (detA _ i)) (park _ _ _)))
  | dropHoldEarly c =>
    exact step_dropHoldEarly_cases (Q := Q) s c (fun _ => H.refl s) (fun _ _ _ => H.refl s)
      (fun i _ _ => H.quiet (park s _ _) (peer _ i))
  | release c =>
    exact step_release_cases (Q := Q) s c
      (fun p hp _ => barrier_tr H D c (H.after (unpark c) (rel c p rfl hp)) (ping _ c))
      (fun p hp _ => H.after (unpark c) (rel c p rfl hp))
      (fun _ _ => H.refl s) (fun i _ _ _ => H.quiet (park s _ _) (detB (unparkB s i) i))
      (fun i _ _ _ _ => D _ (H.after (park s _ _) (det (unparkE s i) i true))) (fun _ _ _ _ _ => H.refl s)
  | _ => exact step_seq_tr H D s _ rfl conn recv cut ping peer det tick pub isub iunsub

end

/-! ### relations that look at object `i` through a relation between clients

Most relations accept a rewrite of object `i` as long as the new client is related to the old one by some `C` that the
session operations respect, and do not look at the in-flight counters or `nextSeed`.  For such a relation the delivery,
acknowledgement, in-flight and subscription handlers are carried through in one line each.  (A relation that counts —
the in-flight counter against the records, say — does not accept the field `inflight` of `ObjWalk` on its own: it takes
the compound states `recordGone`, `coreStored`, `pubAcked`, … from the exit principles instead.) -/

/-- a relation between clients that the in-flight and quota operations respect, and the rewrites of the fields a session
    handler sets.  The fields speak of one client (`flDelete : ∀ c id, C c (flDelete c id).1`).  For a named client relation `C` the
    lemmas are `C.flDelete' c id : C c (flDelete c id).1` (the field, primed) and `C.flDelete : C a b → C a (flDelete b id).1`
    (the same composed onto a relation that already holds) -/
structure SessOps (C : Client → Client → Prop) : Prop where
  refl : ∀ c, C c c
  trans : ∀ {a b c}, C a b → C b c → C a c
  flSet : ∀ c m, C c (flSet c m).1
  flDelete : ∀ c id, C c (flDelete c id).1
  decSend : ∀ c, C c (decSend c)
  incSend : ∀ c, C c (incSend c)
  decRecv : ∀ c, C c (decRecv c)
  incRecv : ∀ c, C c (incRecv c)
  aliasOutSet : ∀ c t, C c (aliasOutSet c t).1
  packetID : ∀ c p, C c { c with packetID := p }
  aliasIn : ∀ c a, C c { c with aliasIn := a }
  sei : ∀ c v b, C c { c with sei := v, fsei := b }
  clear : ∀ c, C c { c with inflight := [] }

/-- a reflexive, transitive relation between server states that accepts a `C`-related rewrite of object `i` and any
    change of the two in-flight counters and of `nextSeed` -/
structure ObjWalk (i : Nat) (C : Client → Client → Prop) (R : Server → Server → Prop) : Prop where
  refl : ∀ s, R s s
  trans : ∀ {s s1 s2}, R s s1 → R s1 s2 → R s s2
  set : ∀ s c, C (getObj s i) c → R s (setObj s i c)
  inflight : ∀ s n, R s { s with info := { s.info with inflight := n } }
  dropped : ∀ s n, R s { s with info := { s.info with inflightDropped := n } }
  seed : ∀ s n, R s { s with nextSeed := n }

/-- no condition on the clients: for a relation that does not look at the objects -/
theorem SessOps.top : SessOps (fun _ _ => True) :=
  ⟨fun _ => trivial, fun _ _ => trivial, fun _ _ => trivial, fun _ _ => trivial, fun _ => trivial, fun _ => trivial,
   fun _ => trivial, fun _ => trivial, fun _ _ => trivial, fun _ _ => trivial, fun _ _ => trivial,
   fun _ _ _ => trivial, fun _ => trivial⟩

theorem SessOps.and {C D : Client → Client → Prop} (S : SessOps C) (T : SessOps D) :
    SessOps (fun a b => C a b ∧ D a b) :=
  ⟨fun c => ⟨S.refl c, T.refl c⟩, fun h g => ⟨S.trans h.1 g.1, T.trans h.2 g.2⟩, fun c m => ⟨S.flSet c m, T.flSet c m⟩,
   fun c id => ⟨S.flDelete c id, T.flDelete c id⟩, fun c => ⟨S.decSend c, T.decSend c⟩,
   fun c => ⟨S.incSend c, T.incSend c⟩, fun c => ⟨S.decRecv c, T.decRecv c⟩, fun c => ⟨S.incRecv c, T.incRecv c⟩,
   fun c t => ⟨S.aliasOutSet c t, T.aliasOutSet c t⟩, fun c p => ⟨S.packetID c p, T.packetID c p⟩,
   fun c a => ⟨S.aliasIn c a, T.aliasIn c a⟩, fun c v b => ⟨S.sei c v b, T.sei c v b⟩, fun c => ⟨S.clear c, T.clear c⟩⟩

theorem ObjWalk.pointwise {C : Client → Client → Prop} (S : SessOps C) (i : Nat) :
    ObjWalk i C (fun s s' => ∀ k, C (getObj s k) (getObj s' k)) :=
  ⟨fun _ _ => S.refl _, fun h g k => S.trans (h k) (g k),
   fun s c hc k => getObj_setObj_ind s i c k (S.refl _) fun e => e ▸ hc, fun _ _ _ => S.refl _, fun _ _ _ => S.refl _,
   fun _ _ _ => S.refl _⟩

/-- a component of the state that neither a rewrite of an object nor the counters nor `nextSeed` touch is kept -/
theorem ObjWalk.proj {α} (f : Server → α) (i : Nat) (hset : ∀ s c, f (setObj s i c) = f s)
    (hinfo : ∀ s inf, f { s with info := inf } = f s) (hseed : ∀ s n, f { s with nextSeed := n } = f s) :
    ObjWalk i (fun _ _ => True) (fun s s' => f s' = f s) :=
  ⟨fun _ => rfl, fun h g => g.trans h, fun s c _ => hset s c, fun s _ => hinfo s _, fun s _ => hinfo s _, hseed⟩

section
variable {C : Client → Client → Prop} {R : Server → Server → Prop} {i : Nat}

theorem ObjWalk.setInfl (W : ObjWalk i C R) (s : Server) (c : Client) (n : Int) (h : C (getObj s i) c) :
    R s { setObj s i c with info := { s.info with inflight := n } } := W.trans (W.set s c h) (W.inflight _ n)

variable (S : SessOps C) (W : ObjWalk i C R)
include S W

theorem recordGone_walk (s : Server) (id : Nat) (q : Client → Client) (hq : ∀ c, C c (q c)) :
    R s (recordGone s i id q) := W.setInfl s _ _ (S.trans (S.flDelete _ id) (hq _))

theorem publishToClientCore_walk (s : Server) (sub : Sub) (f : Bool) (pk : Msg) :
    R s (publishToClientCore s i sub f pk).1 := by
  have h1 : C (getObj s i) (coreClient (getObj s i) pk.topic) :=
    iteInduction (motive := C (getObj s i)) (fun _ => S.aliasOutSet _ _) (fun _ => S.refl _)
  have h2 := fun p m => S.trans (S.trans (S.trans h1 (S.packetID _ p)) (S.flSet _ m)) (S.decSend _)
  have hd : R s (coreDropped s i _) := W.trans (W.set s _ h1) (W.dropped _ _)
  exact publishToClientCore_cases (Q := fun r => R s r.1) s i sub f pk rfl rfl (fun _ => W.set s _ h1)
    (fun _ _ => hd) (fun _ _ _ => hd)
    (fun p _ _ _ _ _ _ => W.setInfl s _ _ (S.trans (h2 p _) (S.flSet _ _))) (fun p _ _ _ _ _ _ => W.setInfl s _ _ (h2 p _))

theorem processPuback_walk (s : Server) (id : Nat) : R s (processPuback s i id).1 :=
  processPuback_cases (Q := fun r => R s r.1) s i id (fun _ => W.refl s) (fun _ => recordGone_walk S W s id _ S.incSend)

theorem processPubrec_walk (s : Server) (id rc : Nat) : R s (processPubrec s i id rc).1 :=
  have h := W.set s _ (S.trans (S.decRecv (getObj s i)) (S.flSet _ (pubrelAck s id)))
  processPubrec_cases (Q := fun r => R s r.1) s i id rc rfl (fun _ => by rw [ackRes_fst]; exact W.refl s)
    (fun _ _ => W.setInfl s _ _ (S.flDelete _ id)) (fun _ _ _ => h) (fun _ _ _ => h)

theorem processPubrel_walk (s : Server) (id rc : Nat) : R s (processPubrel s i id rc).1 :=
  have h := S.flSet (getObj s i) (pubcompAck s id)
  processPubrel_cases (Q := fun r => R s r.1) s i id rc rfl (fun _ => by rw [ackRes_fst]; exact W.refl s)
    (fun _ _ => W.setInfl s _ _ (S.flDelete _ id)) (fun _ _ _ => W.set s _ h)
    (fun _ _ _ => W.setInfl s _ _ (S.trans (S.trans (S.trans h (S.incRecv _)) (S.incSend _)) (S.flDelete _ id)))

theorem processPubcomp_walk (s : Server) (id : Nat) : R s (processPubcomp s i id).1 := by
  rw [processPubcomp_eq]
  exact recordGone_walk S W s id (fun c => incSend (incRecv c)) (fun c => S.trans (S.incRecv c) (S.incSend _))

theorem nextImmediate_walk (s : Server) : R s (nextImmediate s i).1 :=
  nextImmediate_cases (Q := fun r => R s r.1) s i (W.refl s) (fun m _ _ =>
    W.trans (W.seed s (s.nextSeed / 64)) (recordGone_walk S W _ m.id _ S.decSend))

theorem pubTaken_walk (s : Server) (id : Nat) (A : List (Nat × Str)) : R s (pubTaken s i id A) :=
  iteInduction (motive := R s) (fun _ => W.setInfl s _ _ (S.trans (S.flDelete _ id) (S.aliasIn _ A)))
    (fun _ => W.set s _ (S.aliasIn _ A))

theorem pubAcked_walk (s : Server) (ack : Msg) : R s (pubAcked s i ack) :=
  W.setInfl s _ _ (S.trans (S.decRecv _) (S.flSet _ ack))

theorem clearInflights_walk (s : Server) : R s (clearInflights s i) := W.setInfl s _ _ (S.clear _)

omit S in
theorem stopClient_walk (stop : ∀ c, C c { c with isOpen := false, stopped := true }) (s : Server) :
    R s (stopClient s i).1 :=
  iteInduction (motive := fun r : Server × List Out => R s r.1) (fun _ => W.refl s) (fun _ => W.set s _ (stop _))

theorem admitConnack_walk (s : Server) (conn : Nat) (present : Bool) : R s (admitConnack s i conn present).1 :=
  admitConnack_cases (Q := fun r => R s r.1) s i conn present (fun _ => W.set s _ (S.sei _ _ _)) (fun _ => W.refl s)

theorem admitC_walk (wd : ∀ s cid, R s { s with willDelayed := assocDel s.willDelayed cid }) (s : Server)
    (k : Connect) (present : Bool) : R s (admitC s i k present).1 :=
  admitC_cases (J := fun r => R s r.1) s i k present (wd s _) (fun acc m h =>
    iteInduction (motive := R s) (fun _ => W.trans h (recordGone_walk S W acc.1 m.id (fun c => c) S.refl)) (fun _ => h))

/-- `processPublish`, given what the relation makes of `DisconnectClient`, of a retained publish and of the fan-out -/
theorem processPublish_walk (disc : ∀ s code, R s (disconnectClient s i code).1) (s : Server) (qos : Nat)
    (dup retain : Bool) (id : Nat) (topic payload : Str) (msgExpiry : Nat) (alias : Option Nat)
    (retained : ∀ s' pk, retain = true → pk.topic = R07.pubTopic s i topic alias → R s' (retainMsg s' pk))
    (fan : ∀ s pk, R s (publishToSubscribers s pk).1) :
    R s (processPublish s i qos dup retain id topic payload msgExpiry alias).1 :=
  processPublish_tr (.ofState W.refl W.trans) i id s qos dup retain topic payload msgExpiry alias (fun s' code _ => disc s' code)
    (fun s' _ _ _ => by rw [ackRes_fst]; exact W.refl s') (pubTaken_walk S W s id _) retained (fun s' pk _ => fan s' pk)
    (fun s' ack _ _ => pubAcked_walk S W s' ack) (fun s' _ _ => W.refl s') (recordGone_walk S W · id _ S.incRecv)

end

/-! the subscription handlers rewrite `subs` and change the topic index with its counter -/

section
variable {C : Client → Client → Prop} {R : Server → Server → Prop} {i : Nat} (W : ObjWalk i C R)
  (subs : ∀ c l, C c { c with subs := l }) (idx : ∀ s t inf, R s { s with topics := t, info := inf })
include W subs idx

theorem ObjWalk.subsWritten (s : Server) (t : Index) (inf : Info) (g : Client → List (Str × Sub)) :
    R s (modObj { s with topics := t, info := inf } i (fun c => { c with subs := g c })) :=
  W.trans (idx s t inf) (W.set _ _ (subs _ _))

theorem unsubscribeClient_walk (s : Server) : R s (unsubscribeClient s i) := by
  have h1 : R s (setObj s i { getObj s i with subs := [] }) := W.set s _ (subs _ _)
  exact iteInduction (motive := R s) (fun _ => h1)
    (fun _ => foldl_inv (R s) _ _ _ h1 (fun b _ h => W.trans h (idx b _ _)))

theorem processUnsubscribe_walk (s : Server) (id : Nat) (filters : List Str) :
    R s (processUnsubscribe s i id filters).1 :=
  processUnsubscribe_cases (I := fun s' _ => R s s') (Q := fun r => R s r.1) s i id filters (W.refl s)
    (fun _ _ _ h => h) (fun s' _ _ _ h => W.trans h (W.subsWritten subs idx s' _ _ _)) (fun _ _ h _ => h)
    (fun _ _ h _ => h)

theorem processSubscribe_walk (replay : ∀ s sub ex k, R s (publishRetainedToClient s i sub ex k).1) (s : Server)
    (id subId : Nat) (filters : List Sub) : R s (processSubscribe s i id subId filters).1 :=
  processSubscribe_cases (I := fun s' _ => R s s') (J := fun _ z => R s z.1) (Q := fun r => R s r.1)
    s i id subId filters (W.refl s) (fun _ _ _ h => h)
    (fun s' _ _ h _ _ _ _ => W.trans h (W.subsWritten subs idx s' _ _ _))
    (fun _ _ h _ => h) (fun _ _ h _ => h) (fun _ acc sub ex k h => W.trans h (replay acc.1 sub ex k))
    (fun _ _ _ _ _ h => h)

end

end Mochi.Broker
