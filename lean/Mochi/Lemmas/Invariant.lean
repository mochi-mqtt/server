import Mochi.Lemmas.Scan
/-!
What the primitives of the index do to its shape.  `setPath`, `putNode` and the removal of a childless particle keep
`PrefixClosed` (under which `seek` is a plain lookup).  `trim` is walked once (`trim_ind`: it removes, one after the
other, particles that `nodeEmpty` found empty): it keeps `PrefixClosed`, returns a sublist, and takes only `dead`
particles, never a `live` one (`trim_keeps`: C31).  Also the histories of index operations, `IOp` / `applyOp` /
`runOps`, over which C01, C02 and C31 are stated.
-/
namespace Mochi.Topics

theorem prefixClosed_setPath (ns : List Node) (h : PrefixClosed ns) (p : Path) :
    PrefixClosed (setPath ns p) := by
  intro q hq k hk1 hk2
  rw [hasNode_setPath] at hq ⊢
  rcases hq with hq | hq
  · exact Or.inl (h q hq k hk1 hk2)
  · right
    rw [mem_prefixes] at hq ⊢
    obtain ⟨j, hj1, hj2, rfl⟩ := hq
    refine ⟨k, hk1, ?_, ?_⟩
    · simp at hk2; omega
    · rw [List.take_take]; congr 1; simp at hk2; omega

theorem prefixClosed_putNode (ns : List Node) (h : PrefixClosed ns) (n : Node) :
    PrefixClosed (putNode ns n) := by
  intro q hq k hk1 hk2
  rw [hasNode_putNode] at hq ⊢
  exact h q hq k hk1 hk2

theorem prefixClosed_remove (ns : List Node) (h : PrefixClosed ns) (p : Path)
    (hc : childCount ns p = 0) : PrefixClosed (ns.filter (fun m => m.path != p)) := by
  intro q hq k hk1 hk2
  rw [hasNode_filter_ne] at hq ⊢
  refine ⟨h q hq.1 k hk1 hk2, fun heq => ?_⟩
  -- otherwise `p = q.take k` is a proper prefix of `q`, and `q.take (k + 1)` is a child of `p`
  have hklt : k < q.length := Nat.lt_of_le_of_ne hk2 (fun e => hq.2 (by rw [← heq, e, List.take_length]))
  obtain ⟨c, hcm, hcp⟩ := (hasNode_iff ns _).mp (h q hq.1 (k + 1) (by omega) hklt)
  have hmem : c ∈ children ns p :=
    (mem_children ns p c).mpr ⟨hcm, q[k], by rw [hcp, ← heq, List.take_succ_eq_append_getElem hklt]⟩
  have hnil : children ns p = [] := List.eq_nil_of_length_eq_zero hc
  rw [hnil] at hmem
  cases hmem

theorem seek_eq_getNode (ns : List Node) (hpc : PrefixClosed ns) (p : Path) : seek ns p = getNode ns p := by
  unfold seek
  split
  · rfl
  · rename_i hall
    cases hg : getNode ns p with
    | none => rfl
    | some n =>
      exfalso; apply hall
      rw [List.all_eq_true]
      intro q hq
      rw [mem_prefixes] at hq
      obtain ⟨k, hk1, hk2, rfl⟩ := hq
      apply hpc p _ k hk1 hk2
      rw [hasNode_eq_isSome, hg]; rfl

theorem nodeEmpty_iff (ns : List Node) (n : Node) :
    nodeEmpty ns n = true ↔
      n.retainPath = [] ∧ childCount ns n.path = 0 ∧ n.subs = [] ∧ sharedLen n.shared = 0 ∧ n.inline = [] := by
  unfold nodeEmpty
  simp only [Bool.and_eq_true, beq_iff_eq, List.isEmpty_iff, Nat.add_eq_zero_iff, List.length_eq_zero_iff]
  constructor
  · rintro ⟨h1, ⟨⟨h2, h3⟩, h4⟩, h5⟩; exact ⟨h1, h2, h3, h4, h5⟩
  · rintro ⟨h1, h2, h3, h4, h5⟩; exact ⟨h1, ⟨⟨h2, h3⟩, h4⟩, h5⟩

theorem trim_ind {Q : List Node → Prop}
    (hstep : ∀ ms p n, getNode ms p = some n → nodeEmpty ms n = true → Q ms → Q (ms.filter (fun m => m.path != p)))
    (ns : List Node) (p : Path) (fuel : Nat) (h : Q ns) : Q (trim ns p fuel) := by
  induction fuel generalizing ns p with
  | zero => exact h
  | succ fuel ih =>
    unfold trim
    split
    · exact h
    · split
      · exact h
      · rename_i n hn
        split
        · rename_i he; exact ih _ _ (hstep ns p n hn he h)
        · exact h

theorem prefixClosed_trim (ns : List Node) (h : PrefixClosed ns) (p : Path) (fuel : Nat) :
    PrefixClosed (trim ns p fuel) :=
  trim_ind (fun ms p n hn he hms =>
    prefixClosed_remove ms hms p (getNode_path hn ▸ ((nodeEmpty_iff ms n).mp he).2.1)) ns p fuel h

theorem trim_sublist (ns : List Node) (p : Path) (fuel : Nat) : List.Sublist (trim ns p fuel) ns :=
  trim_ind (Q := fun ms => List.Sublist ms ns) (fun _ _ _ _ _ hms => List.filter_sublist.trans hms) ns p fuel
    (List.Sublist.refl _)

/-- a particle that holds no subscription of any kind and no retained path -/
def dead (n : Node) : Prop :=
  n.retainPath = [] ∧ n.subs = [] ∧ sharedLen n.shared = 0 ∧ n.inline = []

/-- what makes a particle non-removable -/
def live (n : Node) : Prop :=
  n.retainPath ≠ [] ∨ n.subs ≠ [] ∨ sharedLen n.shared ≠ 0 ∨ n.inline ≠ []

theorem dead_of_nodeEmpty (ns : List Node) (n : Node) (h : nodeEmpty ns n = true) : dead n :=
  have ⟨h1, _, h3, h4, h5⟩ := (nodeEmpty_iff ns n).mp h
  ⟨h1, h3, h4, h5⟩

theorem not_live_of_dead {n : Node} (hd : dead n) (hl : live n) : False := by
  rcases hl with h | h | h | h
  · exact h hd.1
  · exact h hd.2.1
  · exact h hd.2.2.1
  · exact h hd.2.2.2

theorem live_of_not_dead (n : Node) (h : ¬ dead n) : live n :=
  Classical.byContradiction fun hl => h
    ⟨Classical.not_not.mp fun e => hl (.inl e), Classical.not_not.mp fun e => hl (.inr (.inl e)),
     Classical.not_not.mp fun e => hl (.inr (.inr (.inl e))), Classical.not_not.mp fun e => hl (.inr (.inr (.inr e)))⟩

theorem getNode_trim (ns : List Node) (p : Path) (fuel : Nat) (q : Path) :
    getNode (trim ns p fuel) q = getNode ns q ∨
      (getNode (trim ns p fuel) q = none ∧ ∃ n, getNode ns q = some n ∧ dead n) := by
  refine trim_ind (Q := fun ms => getNode ms q = getNode ns q ∨
    (getNode ms q = none ∧ ∃ n, getNode ns q = some n ∧ dead n)) ?_ ns p fuel (Or.inl rfl)
  intro ms p' n hn he hms
  by_cases hqp : q = p'
  · subst hqp
    refine Or.inr ⟨getNode_filter_self ms q, ?_⟩
    rcases hms with h | ⟨_, h⟩
    · exact ⟨n, h ▸ hn, dead_of_nodeEmpty ms n he⟩
    · exact h
  · rw [getNode_filter_ne _ _ _ hqp]; exact hms

/-- `trim` never removes a particle that still holds a subscription, a shared or inline
    subscription, or a retained path (C31: removing empty index nodes never drops a live subscription
    or retained message). -/
theorem trim_keeps (ns : List Node) (p : Path) (fuel : Nat) (q : Path) (n : Node)
    (hn : getNode ns q = some n) (hlive : live n) : getNode (trim ns p fuel) q = some n := by
  rcases getNode_trim ns p fuel q with h | ⟨_, m, hm, hd⟩
  · rw [h, hn]
  · rw [hn] at hm; cases hm; exact (not_live_of_dead hd hlive).elim

/-! ### histories of index operations -/

/-- the mutating operations of the topic index -/
inductive IOp where
  | subscribe (client : Str) (s : Sub)
  | unsubscribe (filter client : Str)
  | inlineSubscribe (id : Nat) (s : Sub)
  | inlineUnsubscribe (id : Nat) (filter : Str)
  | retain (topic payload : Str) (flag : Bool)

def applyOp (x : Index) : IOp → Index
  | .subscribe c s => (subscribe x c s).1
  | .unsubscribe f c => (unsubscribe x f c).1
  | .inlineSubscribe id s => (inlineSubscribe x id s).1
  | .inlineUnsubscribe id f => (inlineUnsubscribe x id f).1
  | .retain t p fl => (retainMessage x t p fl).1

/-- the index reached from the empty index by a history of operations -/
def runOps (ops : List IOp) : Index := ops.foldl applyOp {}

end Mochi.Topics
