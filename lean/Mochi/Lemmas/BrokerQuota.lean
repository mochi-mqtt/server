import Mochi.Lemmas.CountersCore
import Mochi.Lemmas.BrokerSyncInv
import Mochi.Lemmas.BrokerExitsDelivery
import Mochi.Lemmas.BrokerWalk
import Mochi.Lemmas.BrokerExitsFanout
import Mochi.Lemmas.BrokerExitsStep
/-!
# C11 — flow-control quotas as accounting invariants over histories

`RecvAcc c`: `recvQuota + (in-flight records of the inbound direction) = maxRecv`;
`SendAcc c`: `maxSend > 0 → sendQuota + (outbound records that are not deferred) = maxSend`.

The walk is generic in a client predicate `P` obeying `Fc11Laws` (it only depends on the in-flight records
and the four quota fields, and a delivery keeps it): every handler that does not acknowledge anything is
handled once (`X_fc : Fc11G P s (X s).1`); the acknowledging handlers, `nextImmediate`, the session
take-over and the in-flight housekeeping are handled per side under explicit guards.
-/
namespace Mochi.Broker
open Mochi.Topics

/-! ### definitions -/

/-- a record of the inbound direction: an unwritten PUBACK (4) or a PUBREC awaiting PUBREL (5) -/
def fc11Inb (m : Msg) : Bool := m.type == 4 || m.type == 5
/-- an outbound record that consumed send quota: PUBLISH (3) or PUBREL (6), not deferred (`0 ≤ expiry`) -/
def fc11Out (m : Msg) : Bool := (m.type == 3 || m.type == 6) && decide (0 ≤ m.expiry)

def inboundOpen (c : Client) : Nat := c.inflight.countP fc11Inb
def outboundOpen (c : Client) : Nat := c.inflight.countP fc11Out
/-- open inbound QoS 2 exchanges only (the literal reading of the property text) -/
def inboundOpen5 (c : Client) : Nat := c.inflight.countP (fun m => m.type == 5)

def RecvAcc (c : Client) : Prop := c.recvQuota + inboundOpen c = c.maxRecv
def SendAcc (c : Client) : Prop := 0 < c.maxSend → c.sendQuota + outboundOpen c = c.maxSend

instance (c : Client) : Decidable (RecvAcc c) := by unfold RecvAcc; infer_instance
instance (c : Client) : Decidable (SendAcc c) := by unfold SendAcc; infer_instance

/-- a message the broker routes: a PUBLISH with non-negative time stamps -/
def fc11MsgOK (m : Msg) : Prop := m.type = 3 ∧ 0 ≤ m.expiry ∧ 0 ≤ m.created
instance (m : Msg) : Decidable (fc11MsgOK m) := by unfold fc11MsgOK; infer_instance

/-- every stored message (retained, delayed will) is a PUBLISH with non-negative time stamps (decidable; true in
    every state the model reaches from `init` — used as a side condition like `StoredPub`) -/
def Fc11Store (s : Server) : Prop := (∀ e ∈ s.rmsgs, fc11MsgOK e.2) ∧ (∀ e ∈ s.willDelayed, fc11MsgOK e.2)
instance (s : Server) : Decidable (Fc11Store s) := by unfold Fc11Store; infer_instance

/-- object `k` is in the Clients map -/
def Fc11Reg (s : Server) (k : Nat) : Prop := ∃ id, (id, k) ∈ s.clients

/-- what the generic walk needs of the client predicate.  `deliver` and `ack` have the shape of the stage states of the
    exit principles: `coreStored` / `coreDeferred` of a delivery, `pubAcked` and `recordGone … incRecv` of `processPublish` -/
structure Fc11Laws (P : Client → Prop) : Prop where
  ext : ∀ a b : Client, b.inflight = a.inflight → b.recvQuota = a.recvQuota → b.sendQuota = a.sendQuota →
        b.maxRecv = a.maxRecv → b.maxSend = a.maxSend → P a → P b
  deliver : ∀ (c : Client) (out : Msg), out.type = 3 → 0 ≤ out.expiry → flGet c out.id = none → P c →
        (¬ (c.sendQuota = 0 ∧ 0 < c.maxSend) → P (decSend { c with inflight := c.inflight ++ [out] })) ∧
        (c.sendQuota = 0 → 0 < c.maxSend →
          P (flSet (decSend { c with inflight := c.inflight ++ [out] }) { out with expiry := -1 }).1)
  /-- a new object with empty records and full quotas -/
  fresh : ∀ c : Client, c.inflight = [] → c.recvQuota = c.maxRecv → c.sendQuota = c.maxSend → P c
  /-- the release of a deferred message by `nextImmediate` -/
  next : ∀ c : Client, ObjWF c → P c → ∀ m ∈ c.inflight, m.expiry < 0 → c.sendQuota > 0 →
        P (decSend (flDelete c m.id).1)
  /-- `processPublish`: the acknowledgement record of an accepted QoS 1/2 publish (under a free packet id, receive
      quota available), and its removal once the PUBACK is written -/
  ack : ∀ (c : Client) (a : Msg), (a.type = 4 ∨ a.type = 5) → 0 ≤ a.expiry → flGet c a.id = none →
        c.recvQuota > 0 → P c →
        P (flSet (decRecv c) a).1 ∧ (a.type = 4 → P (incRecv (flDelete (flSet (decRecv c) a).1 a.id).1))

/-! ### the server-level relation -/

/-- the Clients map only loses entries and every object still registered keeps `P` -/
structure Fc11G (P : Client → Prop) (s s' : Server) : Prop where
  clients : s'.clients.Sublist s.clients
  keep : ∀ k, Fc11Reg s' k → P (getObj s k) → P (getObj s' k)

variable {P : Client → Prop}

theorem Fc11Reg.of_sublist {s s' : Server} (h : s'.clients.Sublist s.clients) {k : Nat} (r : Fc11Reg s' k) :
    Fc11Reg s k := r.imp fun _ hm => h.subset hm

theorem Fc11G.refl (s : Server) : Fc11G P s s := ⟨List.Sublist.refl _, fun _ _ h => h⟩

theorem Fc11G.trans {s s1 s2 : Server} (h : Fc11G P s s1) (g : Fc11G P s1 s2) : Fc11G P s s2 :=
  ⟨g.clients.trans h.clients, fun k r x => g.keep k r (h.keep k (r.of_sublist g.clients) x)⟩

theorem Fc11G.upd {s0 s s' : Server} (h : Fc11G P s0 s) (ho : s'.objs = s.objs) (hc : s'.clients = s.clients) :
    Fc11G P s0 s' :=
  ⟨by rw [hc]; exact h.clients, fun k r x => by
    rw [getObj_of_objs_eq ho k]
    exact h.keep k (by obtain ⟨id, hm⟩ := r; exact ⟨id, by rw [← hc]; exact hm⟩) x⟩

theorem Fc11G.set {s0 s : Server} (h : Fc11G P s0 s) (i : Nat) (c : Client)
    (hp : P (getObj s i) → P c) : Fc11G P s0 (setObj s i c) :=
  h.trans ⟨List.Sublist.refl _, fun k _ x => getObj_setObj_ind s i c k x fun e => hp (e ▸ x)⟩

theorem Fc11G.mod {s0 s : Server} (h : Fc11G P s0 s) (i : Nat) (f : Client → Client)
    (hp : P (getObj s i) → P (f (getObj s i))) : Fc11G P s0 (modObj s i f) := h.set i _ hp

theorem Fc11G.delClient {s0 s : Server} (h : Fc11G P s0 s) (cid : Str) :
    Fc11G P s0 { s with clients := assocDel s.clients cid } :=
  h.trans ⟨List.filter_sublist, fun _ _ x => x⟩

theorem fc11_flSet_fresh (c : Client) (m : Msg) (h : flGet c m.id = none) :
    flSet c m = ({ c with inflight := c.inflight ++ [m] }, true) := by
  unfold flSet
  rw [h]
  rfl

/-! ### the delivery family -/

theorem coreClient_fc (L : Fc11Laws P) (c : Client) (t : Str) : P c → P (coreClient c t) := by
  obtain ⟨ao, cur, e⟩ := coreClient_eq c t
  rw [e]
  exact L.ext c _ rfl rfl rfl rfl rfl

theorem publishToClientCore_fc (L : Fc11Laws P) (s : Server) (i : Nat) (sub : Sub) (f : Bool) (pk : Msg)
    (hpk : fc11MsgOK pk) : Fc11G P s (publishToClientCore s i sub f pk).1 := by
  obtain ⟨c1, hc⟩ : ∃ c1, c1 = coreClient (getObj s i) pk.topic := ⟨_, rfl⟩
  obtain ⟨out1, ho⟩ : ∃ out1, out1 = coreOut s.caps (getObj s i) sub f pk := ⟨_, rfl⟩
  have hp1 : P (getObj s i) → P c1 := hc ▸ coreClient_fc L (getObj s i) pk.topic
  have hs1 : Fc11G P s (setObj s i c1) := (Fc11G.refl s).set i c1 hp1
  -- the copy is filed under a fresh identifier: the two halves of `Fc11Laws.deliver` are the two exits
  have hD := fun pid (hfree : flGet c1 pid = none) x =>
    L.deliver { c1 with packetID := pid } { out1 with id := pid } (ho ▸ (coreOut_type ..).trans hpk.1)
      (ho ▸ (coreOut_expiry ..).symm ▸ hpk.2.1) hfree (L.ext c1 _ rfl rfl rfl rfl rfl (hp1 x))
  refine publishToClientCore_cases (Q := fun r => Fc11G P s r.1) s i sub f pk hc ho (fun _ => hs1)
    (fun _ _ => hs1.upd rfl rfl) (fun _ _ _ => hs1.upd rfl rfl) (fun pid _ _ _ _ hfree hd => ?_)
    (fun pid _ _ _ _ hfree hd => ?_)
  · unfold coreDeferred
    rw [fc11_flSet_fresh { c1 with packetID := pid } { out1 with id := pid } hfree]
    rw [Bool.and_eq_true, beq_iff_eq, decide_eq_true_eq] at hd
    exact ((Fc11G.refl s).set i _ fun x => (hD pid hfree x).2 hd.1 hd.2).upd rfl rfl
  · unfold coreStored
    rw [fc11_flSet_fresh { c1 with packetID := pid } { out1 with id := pid } hfree]
    rw [Bool.eq_false_iff, Ne, Bool.and_eq_true, beq_iff_eq, decide_eq_true_eq] at hd
    exact ((Fc11G.refl s).set i _ fun x => (hD pid hfree x).1 hd).upd rfl rfl

theorem fc11MsgOK.stamped {pk : Msg} (h : fc11MsgOK pk) (s : Server) : fc11MsgOK (stamped s pk) := by
  unfold Mochi.Broker.stamped
  refine iteInduction (motive := fc11MsgOK) (fun _ => ?_) fun _ => h
  exact iteInduction (motive := fc11MsgOK)
    (fun _ => ⟨h.1, Int.add_nonneg h.2.2 (Int.natCast_nonneg _), h.2.2⟩) fun _ => h

theorem publishToSubscribers_fc (L : Fc11Laws P) (s : Server) (pk : Msg) (hpk : fc11MsgOK pk) :
    Fc11G P s (publishToSubscribers s pk).1 :=
  publishToSubscribers_cases (J := fun acc => Fc11G P s acc.1) s pk (fun _ _ => Fc11G.refl s) fun acc cs i _ h =>
    h.trans (publishToClientCore_fc L acc.1 i cs.2 false _ (hpk.stamped s))

/-- a replay leaves the retained store alone, so what is assumed of it holds of every message replayed -/
theorem publishRetainedToClient_fc (L : Fc11Laws P) (s : Server) (i : Nat) (sub : Sub) (ex : Bool) (k : Nat)
    (hst : ∀ e ∈ s.rmsgs, fc11MsgOK e.2) :
    Fc11G P s (publishRetainedToClient s i sub ex k).1 ∧ (publishRetainedToClient s i sub ex k).1.rmsgs = s.rmsgs :=
  publishRetainedToClient_cases (J := fun acc => Fc11G P s acc.1 ∧ acc.1.rmsgs = s.rmsgs) s i sub ex k
    ⟨Fc11G.refl s, rfl⟩ fun acc sub' _ m hm h =>
      ⟨h.1.trans (publishToClientCore_fc L acc.1 i sub' true m (hst _ (h.2 ▸ assocGet_mem _ _ _ hm))),
        (publishToClientCore_kw acc.1 i sub' true m).2.trans h.2⟩

theorem retainMsg_fc (s : Server) (pk : Msg) : Fc11G P s (retainMsg s pk) := by
  unfold retainMsg
  split
  · exact Fc11G.refl s
  · exact (Fc11G.refl s).upd rfl rfl

theorem retainedState_fc (s : Server) (pk : Msg) : Fc11G P s (retainedState s pk) := by
  unfold retainedState
  split
  · exact retainMsg_fc s pk
  · exact Fc11G.refl s

/-! ### work on the acting object that touches neither the records nor the quotas -/

theorem stopClient_fc (L : Fc11Laws P) (s : Server) (i : Nat) : Fc11G P s (stopClient s i).1 := by
  unfold stopClient
  exact iteInduction (motive := fun r : Server × List Out => Fc11G P s r.1) (fun _ => Fc11G.refl s) fun _ =>
    (Fc11G.refl s).set i _ (L.ext _ _ rfl rfl rfl rfl rfl)

theorem disconnectClient_fc (L : Fc11Laws P) (s : Server) (i : Nat) (code : Nat) :
    Fc11G P s (disconnectClient s i code).1 := stopClient_fc L s i

theorem discState_fc (L : Fc11Laws P) (s : Server) (i : Nat) (sei : Option Nat) : Fc11G P s (discState s i sei) := by
  unfold discState discObj
  cases sei with
  | none => exact (Fc11G.refl s).set i _ fun x => x
  | some v => exact (Fc11G.refl s).set i _ (L.ext (getObj s i) _ rfl rfl rfl rfl rfl)

theorem processDisconnect_fc (L : Fc11Laws P) (s : Server) (i rc : Nat) (sei : Option Nat) :
    Fc11G P s (processDisconnect s i rc sei).1 :=
  processDisconnect_cases (Q := fun r => Fc11G P s r.1) s i rc sei (fun _ => Fc11G.refl s)
    (fun _ _ => discState_fc L s i sei)
    (fun _ _ => ((discState_fc L s i sei).upd
      (s' := { discState s i sei with willDelayed := assocDel s.willDelayed (getObj s i).id }) rfl rfl).trans
      (stopClient_fc L _ i))

theorem unsubDropped_fc (L : Fc11Laws P) (s : Server) (i : Nat) (cid f : Str) : Fc11G P s (unsubDropped s i cid f) := by
  unfold unsubDropped
  refine Fc11G.mod ?_ i _ (L.ext _ _ rfl rfl rfl rfl rfl)
  exact (Fc11G.refl s).upd rfl rfl

theorem processUnsubscribe_fc (L : Fc11Laws P) (s : Server) (i id : Nat) (filters : List Str) :
    Fc11G P s (processUnsubscribe s i id filters).1 :=
  processUnsubscribe_state Fc11G.refl Fc11G.trans s i id filters fun s' f => unsubDropped_fc L s' i _ f

theorem subAccepted_fc (L : Fc11Laws P) (s : Server) (i : Nat) (cid : Str) (sub : Sub) :
    Fc11G P s (subAccepted s i cid sub) := by
  unfold subAccepted
  refine Fc11G.mod ?_ i _ (L.ext _ _ rfl rfl rfl rfl rfl)
  exact (Fc11G.refl s).upd rfl rfl

/-- the retained store is not written by SUBSCRIBE, so what is assumed of it holds at every replay -/
theorem processSubscribe_fc (L : Fc11Laws P) (s : Server) (i id subId : Nat) (filters : List Sub)
    (hst : ∀ e ∈ s.rmsgs, fc11MsgOK e.2) : Fc11G P s (processSubscribe s i id subId filters).1 := by
  refine processSubscribe_cases (I := fun s' _ => Fc11G P s s' ∧ s'.rmsgs = s.rmsgs)
    (J := fun _ acc => Fc11G P s acc.1 ∧ acc.1.rmsgs = s.rmsgs) (Q := fun r => Fc11G P s r.1) s i id subId filters
    ⟨Fc11G.refl s, rfl⟩ (fun _ _ _ h => h) (fun s' _ sub h _ _ _ _ => ⟨h.1.trans (subAccepted_fc L s' i _ _), h.2⟩)
    (fun _ _ h _ => h.1) (fun _ _ h _ => h) (fun _ acc sub ex k h => ?_) (fun _ _ _ _ _ h => h.1)
  have hr := publishRetainedToClient_fc L acc.1 i sub ex k (h.2 ▸ hst)
  exact ⟨h.1.trans hr.1, hr.2.trans h.2⟩

theorem sendLWT_fc (L : Fc11Laws P) (s : Server) (i : Nat) : Fc11G P s (sendLWT s i).1 :=
  sendLWT_cases (Q := fun r => Fc11G P s r.1) s i (fun _ => Fc11G.refl s) (fun _ _ _ _ => (Fc11G.refl s).upd rfl rfl)
    (fun pk e _ _ =>
      have hpk : fc11MsgOK pk := e ▸ ⟨rfl, Int.le_refl 0, (by decide : (0 : Int) ≤ NOW)⟩
      ((retainedState_fc s pk).trans (publishToSubscribers_fc L _ pk hpk)).mod i
        (fun c => { c with will := { c.will with flag := false } }) (L.ext _ _ rfl rfl rfl rfl rfl))

theorem detachA_fc (L : Fc11Laws P) (s : Server) (i : Nat) (withErr : Bool) : Fc11G P s (detachA s i withErr).1 :=
  detachA_cases (Q := fun r => Fc11G P s r.1) s i withErr (fun _ => (sendLWT_fc L s i).trans (stopClient_fc L _ i))
    (fun _ => (Fc11G.refl s).mod i (fun c => { c with will := {} }) (L.ext _ _ rfl rfl rfl rfl rfl))

/-! ### session clean-up: the cleared object leaves the Clients map -/

/-- the object whose session ends is registered under its own id only, so it is none of those still registered -/
theorem sessionEnded_fc (s : Server) (i : Nat) (cid : Str)
    (hv : ∀ id k, (id, k) ∈ s.clients → (getObj s k).id = id) (hid : (getObj s i).id = cid) :
    Fc11G P s (sessionEnded s i cid) := by
  refine ⟨(sessionEnded_good s i cid).clients, fun k ⟨id, hm⟩ x => ?_⟩
  have hm' := (mem_assocDel_iff _ _ _).mp hm
  have hms := ((unsubscribeClient_good _ i).clients.trans (clearInflights_good s i).clients).subset hm'.1
  have hki : k ≠ i := fun e => hm'.2 ((hv id k hms).symm.trans (e ▸ hid))
  rw [sessionEnded_getObj, getObj_of_objs_eq (unsubscribeClient_objs _ i) k, getObj_setObj_ne _ i k _ hki]
  show P (getObj (setObj s i { getObj s i with inflight := [] }) k)
  rw [getObj_setObj_ne s i k _ hki]
  exact x

theorem detachB_fc (s : Server) (i : Nat) (hwf : WF s) : Fc11G P s (detachB s i) :=
  detachB_stages (Q := Fc11G P s) s i fun s' hs' =>
    Fc11G.upd (s := s') (hs'.elim (fun e => e ▸ Fc11G.refl (P := P) s)
      fun e => e ▸ sessionEnded_fc s i (getObj s i).id hwf.clients_id rfl) rfl rfl

theorem detach_fc (L : Fc11Laws P) (s : Server) (i : Nat) (withErr : Bool) (hwf : WF s) :
    Fc11G P s (detach s i withErr).1 :=
  detach_fst s i withErr ▸ (detachA_fc L s i withErr).trans (detachB_fc _ i (detachA_wf s i withErr hwf))

theorem admitConnack_fc (L : Fc11Laws P) (s : Server) (i conn : Nat) (present : Bool) :
    Fc11G P s (admitConnack s i conn present).1 :=
  admitConnack_cases (Q := fun r => Fc11G P s r.1) s i conn present
    (fun _ => (Fc11G.refl s).mod i (fun x => { x with sei := s.caps.maxSessionExpiry, fsei := true })
      (L.ext _ _ rfl rfl rfl rfl rfl))
    (fun _ => Fc11G.refl s)

/-! ### housekeeping (all but the in-flight expiry) -/

theorem tickClients_fc (s : Server) (dt : Int) (hwf : WF s) : Fc11G P s (tickClients s dt).1 :=
  (tickClients_cases (J := fun acc => Fc11G P s acc.1 ∧ Good s acc.1) s dt ⟨Fc11G.refl s, Good.refl s⟩
    fun acc e he _ h =>
      ⟨h.1.trans (sessionEnded_fc acc.1 e.2 e.1 (hwf.of_good h.2).clients_id
        ((h.2.ids e.2).trans (hwf.clients_valid e.1 e.2 he).2)), h.2.trans (sessionEnded_good acc.1 e.2 e.1)⟩).1

theorem tickRetained_fc (s : Server) (now : Int) : Fc11G P s (tickRetained s now) :=
  tickRetained_cases (J := Fc11G P s) s now (Fc11G.refl s) (fun _ _ _ _ h => h.upd rfl rfl) fun _ h => h.upd rfl rfl

theorem publishDue_fc (L : Fc11Laws P) (acc : Server × List Out) (e : Str × Msg) (hpk : fc11MsgOK e.2) :
    Fc11G P acc.1 (publishDue acc e).1 :=
  have g1 := publishToSubscribers_fc L acc.1 e.2 hpk
  publishDue_cases (Q := fun r => Fc11G P acc.1 r.1) acc e rfl (fun _ => g1.upd rfl rfl) fun j _ =>
    Fc11G.upd ((g1.trans (retainedState_fc _ e.2)).mod j (fun c => { c with will := {} }) (L.ext _ _ rfl rfl rfl rfl rfl))
      rfl rfl

theorem tickWills_fc (L : Fc11Laws P) (s : Server) (dt : Int) (hst : ∀ e ∈ s.willDelayed, fc11MsgOK e.2) :
    Fc11G P s (tickWills s dt).1 :=
  tickWills_cases (J := fun acc => Fc11G P s acc.1) s dt (Fc11G.refl s) fun acc e he _ h =>
    h.trans (publishDue_fc L acc e (hst e he))

/-! ### the acknowledging handlers, under the local condition that the acting client's update keeps `P` -/

/-- `processPublish` deletes the record found under the packet id: a non-inline client, a record that is not an open
    inbound QoS 2 exchange (that one is answered with PUBREC 0x91 and kept) -/
def fc11PubDel (c : Client) (id : Nat) : Bool :=
  !c.inline && (match flGet c id with | some m => m.type != 5 | none => false)

/-- **the local condition on an inbound packet**: the update the handler makes to the acting client's own records
    and quotas keeps `P` (per branch of the handler: PUBLISH — the deletion of a record found under the packet id;
    PUBACK / PUBREC / PUBREL — only when a record with the packet id exists, by reason-code branch and, for PUBREL, by
    whether the PUBCOMP can be written; PUBCOMP — always, `processPubcomp` does not look the record up).
    Trivial for SUBSCRIBE, UNSUBSCRIBE, PINGREQ, DISCONNECT. -/
def fc11PkOK (P : Client → Prop) (s : Server) (i : Nat) : InPk → Prop
  | .publish _ _ _ id _ _ _ _ =>
    fc11PubDel (getObj s i) id = true → P (getObj s i) → P (flDelete (getObj s i) id).1
  | .puback id _ =>
    ¬ (flGet (getObj s i) id).isNone = true → P (getObj s i) → P (incSend (flDelete (getObj s i) id).1)
  | .pubrec id rc =>
    ¬ (flGet (getObj s i) id).isNone = true →
    if (rc ≥ 0x80 || !reasonValid 5 rc) = true then P (getObj s i) → P (flDelete (getObj s i) id).1
    else P (getObj s i) → P (flSet (decRecv (getObj s i))
      { type := 6, id := id, qos := 1, reasonCode := 0, created := NOW, expiry := NOW + s.caps.maxMessageExpiry }).1
  | .pubrel id rc =>
    ¬ (flGet (getObj s i) id).isNone = true →
    if (rc ≥ 0x80 || !reasonValid 6 rc) = true then P (getObj s i) → P (flDelete (getObj s i) id).1
    else if dead (getObj s i) = true then P (getObj s i) → P (flSet (getObj s i)
      { type := 7, id := id, reasonCode := 0, created := NOW, expiry := NOW + s.caps.maxMessageExpiry }).1
    else P (getObj s i) → P (flDelete (incSend (incRecv (flSet (getObj s i)
      { type := 7, id := id, reasonCode := 0, created := NOW, expiry := NOW + s.caps.maxMessageExpiry }).1)) id).1
  | .pubcomp id _ => P (getObj s i) → P (flDelete (incSend (incRecv (getObj s i))) id).1
  | _ => True

instance fc11PkOK_dec (P : Client → Prop) [DecidablePred P] (s : Server) (i : Nat) (pk : InPk) :
    Decidable (fc11PkOK P s i pk) := by
  cases pk <;> unfold fc11PkOK <;> infer_instance

theorem processPuback_fc (s : Server) (i id rc : Nat) (hg : fc11PkOK P s i (.puback id rc)) :
    Fc11G P s (processPuback s i id).1 :=
  processPuback_cases (Q := fun r => Fc11G P s r.1) s i id (fun _ => Fc11G.refl s) fun h => by
    unfold recordGone
    exact ((Fc11G.refl s).set i _ (hg (by rw [Option.isNone_iff_eq_none]; intro e; rw [e] at h; cases h))).upd rfl rfl

theorem processPubrec_fc (s : Server) (i id rc : Nat) (hg : fc11PkOK P s i (.pubrec id rc)) :
    Fc11G P s (processPubrec s i id rc).1 :=
  processPubrec_cases (Q := fun r => Fc11G P s r.1) s i id rc rfl (fun _ => by rw [ackRes_fst]; exact Fc11G.refl s)
    (fun h1 h2 => ((Fc11G.refl s).set i _ ((if_pos h2).mp (hg h1))).upd rfl rfl)
    (fun h1 h2 _ => (Fc11G.refl s).set i _ ((if_neg h2).mp (hg h1)))
    (fun h1 h2 _ => (Fc11G.refl s).set i _ ((if_neg h2).mp (hg h1)))

theorem processPubrel_fc (s : Server) (i id rc : Nat) (hg : fc11PkOK P s i (.pubrel id rc)) :
    Fc11G P s (processPubrel s i id rc).1 :=
  processPubrel_cases (Q := fun r => Fc11G P s r.1) s i id rc rfl (fun _ => by rw [ackRes_fst]; exact Fc11G.refl s)
    (fun h1 h2 => ((Fc11G.refl s).set i _ ((if_pos h2).mp (hg h1))).upd rfl rfl)
    (fun h1 h2 h3 => (Fc11G.refl s).set i _ ((if_pos h3).mp ((if_neg h2).mp (hg h1))))
    (fun h1 h2 h3 =>
      ((Fc11G.refl s).set i _ ((if_neg (ne_true_of_eq_false h3)).mp ((if_neg h2).mp (hg h1)))).upd rfl rfl)

theorem processPubcomp_fc (s : Server) (i id rc : Nat) (hg : fc11PkOK P s i (.pubcomp id rc)) :
    Fc11G P s (processPubcomp s i id).1 := by
  have hg' : P (getObj s i) → P (flDelete (incSend (incRecv (getObj s i))) id).1 := hg
  rw [flDelete_incSend, flDelete_incRecv] at hg'
  rw [processPubcomp_eq]
  exact ((Fc11G.refl s).set i _ hg').upd rfl rfl

theorem nextImmediate_fc (L : Fc11Laws P) (s : Server) (i : Nat) (hwf : AllWF s) :
    Fc11G P s (nextImmediate s i).1 := by
  refine nextImmediate_cases (Q := fun r => Fc11G P s r.1) s i (Fc11G.refl s) fun m hq hm => ?_
  have h3 := List.mem_filter.mp (mem_permuteBy _ _ _ (List.mem_of_mem_head? hm))
  unfold recordGone
  exact ((((Fc11G.refl s).upd (s' := { s with nextSeed := s.nextSeed / 64 }) rfl rfl).set i _
    fun x => L.next (getObj s i) (hwf i) x m h3.1 (of_decide_eq_true h3.2) hq)).upd rfl rfl

/-! ### `processPublish`, exit by exit (`processPublish_cases`) -/

theorem pubRefuse_fc (L : Fc11Laws P) (s : Server) (i qos id code : Nat) : Fc11G P s (pubRefuse s i qos id code).1 :=
  pubRefuse_cases (Q := fun r => Fc11G P s r.1) s i qos id code (fun _ => Fc11G.refl s)
    (fun _ _ => disconnectClient_fc L s i code) (fun _ _ => by rw [ackRes_fst]; exact Fc11G.refl s)

/-- the record `pubTaken` drops is one `fc11PubDel` speaks of: an open QoS 2 exchange has been answered before -/
theorem fc11PubDel_of_fresh {c : Client} {id : Nat} (hf : pubDup c id = false)
    (h : (!c.inline && (flGet c id).isSome) = true) : fc11PubDel c id = true := by
  unfold pubDup at hf
  unfold fc11PubDel
  cases hg : flGet c id with
  | none => rw [hg] at h; simp at h
  | some m =>
    rw [hg] at hf
    cases hin : c.inline with
    | true => rw [hin] at h; simp at h
    | false =>
      rw [hin] at hf
      simpa [bne] using hf

theorem pubTaken_fc (L : Fc11Laws P) (s : Server) (i id : Nat) (A : List (Nat × Str))
    (hdel : fc11PubDel (getObj s i) id = true → P (getObj s i) → P (flDelete (getObj s i) id).1)
    (hf : pubDup (getObj s i) id = false) : Fc11G P s (pubTaken s i id A) := by
  unfold pubTaken
  exact iteInduction (motive := Fc11G P s)
    (fun h => ((Fc11G.refl s).set i { (flDelete (getObj s i) id).1 with aliasIn := A }
      (fun x => L.ext (flDelete (getObj s i) id).1 _ rfl rfl rfl rfl rfl (hdel (fc11PubDel_of_fresh hf h) x))).upd rfl rfl)
    (fun _ => (Fc11G.refl s).set i { getObj s i with aliasIn := A } (L.ext (getObj s i) _ rfl rfl rfl rfl rfl))

theorem pubTaken_obj (s : Server) (i id : Nat) (A : List (Nat × Str)) (hi : i < s.objs.length) :
    (getObj (pubTaken s i id A) i).recvQuota = (getObj s i).recvQuota ∧
    ((getObj (pubTaken s i id A) i).inline = false → flGet (getObj (pubTaken s i id A) i) id = none) := by
  rw [getObj_pubTaken s i id A hi]
  by_cases h : (!(getObj s i).inline && (flGet (getObj s i) id).isSome) = true
  · rw [if_pos h]
    exact ⟨rfl, fun _ => flGet_flDelete_self (getObj s i) id⟩
  · rw [if_neg h]
    refine ⟨rfl, fun hin => ?_⟩
    cases hg : flGet (getObj s i) id with
    | none => exact hg
    | some m => rw [show (getObj s i).inline = false from hin, hg] at h; exact absurd rfl h

theorem inboundMsg_fc (s : Server) (i qos : Nat) (dup retain : Bool) (id : Nat) (topic payload : Str) (msgExpiry : Nat)
    (t : Str) : fc11MsgOK { inboundMsg s i qos dup retain id topic payload msgExpiry with topic := t } := by
  refine ⟨rfl, ?_, (by decide : (0 : Int) ≤ NOW)⟩
  show (0 : Int) ≤ (if _ then NOW + ((minimumNZ s.caps.maxMessageExpiry msgExpiry : Nat) : Int) else 0)
  split
  · exact Int.add_nonneg (by decide) (Int.natCast_nonneg _)
  · exact Int.le_refl 0

theorem pubAck_fc (s : Server) (q id : Nat) :
    ((pubAck s q id).type = 4 ∨ (pubAck s q id).type = 5) ∧ 0 ≤ (pubAck s q id).expiry ∧
    ((q == 1) = true → (pubAck s q id).type = 4) := by
  refine ⟨?_, Int.add_nonneg (by decide) (Int.natCast_nonneg _), fun h => ?_⟩
  · show (if (q == 2) = true then 5 else 4) = 4 ∨ (if (q == 2) = true then 5 else 4) = 5
    split
    · exact Or.inr rfl
    · exact Or.inl rfl
  · show (if (q == 2) = true then 5 else 4) = 4
    rw [beq_iff_eq.mp h]
    rfl

/-- the acknowledgement is filed under a free identifier while receive quota is left: `Fc11Laws.ack` -/
theorem pubAcked_fc (L : Fc11Laws P) (s : Server) (i : Nat) (a : Msg) (ht : a.type = 4 ∨ a.type = 5) (he : 0 ≤ a.expiry)
    (hfr : flGet (getObj s i) a.id = none) (hq : (getObj s i).recvQuota ≠ 0) : Fc11G P s (pubAcked s i a) :=
  ((Fc11G.refl s).set i (flSet (decRecv (getObj s i)) a).1
    (fun x => (L.ack _ a ht he hfr (Nat.pos_of_ne_zero hq) x).1)).upd rfl rfl

/-- … and, for a PUBACK, released again: the second half of `Fc11Laws.ack` speaks of the object before the
    acknowledgement was filed, so the two stages are taken together -/
theorem recordGone_pubAcked_fc (L : Fc11Laws P) (s : Server) (i : Nat) (a : Msg) (ht : a.type = 4) (he : 0 ≤ a.expiry)
    (hfr : flGet (getObj s i) a.id = none) (hq : (getObj s i).recvQuota ≠ 0) :
    Fc11G P s (recordGone (pubAcked s i a) i a.id incRecv) := by
  refine ((Fc11G.refl s).set i (incRecv (flDelete (getObj (pubAcked s i a) i) a.id).1) ?_).upd ?_ rfl
  · rw [getObj_pubAcked s i a (lt_of_recvQuota_ne_zero _ _ hq)]
    exact fun x => (L.ack _ a (Or.inl ht) he hfr (Nat.pos_of_ne_zero hq) x).2 ht
  · show (s.objs.set i _).set i _ = _
    rw [List.set_set]
    rfl

theorem pubGo_fc (L : Fc11Laws P) (s2 : Server) (i id : Nat) (pk : Msg) (hpk : fc11MsgOK pk)
    (hq : (getObj s2 i).recvQuota ≠ 0) (hfree : (getObj s2 i).inline = false → flGet (getObj s2 i) id = none) :
    Fc11G P s2 (pubGo s2 i id pk).1 := by
  have hsh : fc11MsgOK (pubShaped s2 pk) := hpk
  -- the acknowledgement meets `retainedState s2 pk'`, whose objects are those of `s2`
  have hfr : ∀ pk', (pk'.qos == 0 || (getObj s2 i).inline) = false →
      flGet (getObj (retainedState s2 pk') i) (pubAck s2 pk'.qos id).id = none := fun pk' h4 => by
    rw [getObj_retainedState]
    exact hfree (Bool.or_eq_false_iff.mp h4).2
  have hq3 : ∀ pk', (getObj (retainedState s2 pk') i).recvQuota ≠ 0 := fun pk' => by rw [getObj_retainedState]; exact hq
  refine pubGo_cases (Q := fun r => Fc11G P s2 r.1) s2 i id pk (fun _ => disconnectClient_fc L s2 i 0x82)
    (fun _ _ => Fc11G.refl s2) (fun _ _ _ _ _ => by rw [ackRes_fst]; exact Fc11G.refl s2)
    (fun pk' e _ _ _ _ => (retainedState_fc s2 pk').trans (publishToSubscribers_fc L _ pk' (e ▸ hsh)))
    (fun pk' s6 e h6 _ _ _ h4 _ => ?_) (fun pk' s6 e h6 _ _ _ h4 _ => ?_)
  · obtain ⟨ht, he, _⟩ := pubAck_fc s2 pk'.qos id
    exact h6 ▸ (retainedState_fc s2 pk').trans (pubAcked_fc L _ i _ ht he (hfr pk' h4) (hq3 pk'))
  · obtain ⟨ht, he, h1⟩ := pubAck_fc s2 pk'.qos id
    refine Fc11G.trans ?_ (publishToSubscribers_fc L _ pk' (e ▸ hsh))
    subst h6
    split
    · rename_i hq1
      exact (retainedState_fc s2 pk').trans (recordGone_pubAcked_fc L _ i _ (h1 hq1) he (hfr pk' h4) (hq3 pk'))
    · exact (retainedState_fc s2 pk').trans (pubAcked_fc L _ i _ ht he (hfr pk' h4) (hq3 pk'))

theorem processPublish_fc (L : Fc11Laws P) (s : Server) (i : Nat) (qos : Nat) (dup retain : Bool) (id : Nat)
    (topic payload : Str) (msgExpiry : Nat) (alias : Option Nat)
    (hdel : fc11PkOK P s i (.publish qos dup retain id topic payload msgExpiry alias)) :
    Fc11G P s (processPublish s i qos dup retain id topic payload msgExpiry alias).1 :=
  processPublish_cases (Q := fun r => Fc11G P s r.1) s i qos dup retain id topic payload msgExpiry alias
    (fun _ => pubRefuse_fc L s i qos id _) (fun _ _ => disconnectClient_fc L s i 0x93)
    (fun _ _ _ => pubRefuse_fc L s i qos id _) (fun _ _ _ _ => by rw [ackRes_fst]; exact Fc11G.refl s)
    (fun hp => by
      have hq : (getObj s i).recvQuota ≠ 0 := fun e => by have h := hp.quota; rw [e] at h; exact absurd h (by decide)
      have ht := pubTaken_obj s i id (aliasBound s.caps.topicAliasMaximum (getObj s i).aliasIn topic alias)
        (lt_of_recvQuota_ne_zero _ _ hq)
      exact (pubTaken_fc L s i id _ hdel hp.fresh).trans (pubGo_fc L _ i id _ (inboundMsg_fc ..) (ht.1 ▸ hq) ht.2))

/-! ### one inbound packet -/

theorem receivePacket_fc (L : Fc11Laws P) (s : Server) (i : Nat) (pk : InPk) (hwf : AllWF s)
    (hst : (∃ id si fs, pk = .subscribe id si fs) → ∀ e ∈ s.rmsgs, fc11MsgOK e.2) (hg : fc11PkOK P s i pk) :
    Fc11G P s (receivePacket s i pk).1 := by
  have h : Fc11G P s (R07.handler s i pk).1 := handler_cases (Q := fun r => Fc11G P s r.1) s i pk
    (fun _ _ _ _ _ _ _ _ _ _ _ => Fc11G.refl s)
    (fun q d r id t p me al e _ => processPublish_fc L s i q d r id t p me al (e ▸ hg)) (fun _ => Fc11G.refl s)
    (fun id si fs e => processSubscribe_fc L s i id si fs (hst ⟨_, _, _, e⟩))
    (fun id fs _ => processUnsubscribe_fc L s i id fs) (fun id rc e => processPuback_fc s i id rc (e ▸ hg))
    (fun id rc e => processPubrec_fc s i id rc (e ▸ hg)) (fun id rc e => processPubrel_fc s i id rc (e ▸ hg))
    (fun id rc e => processPubcomp_fc s i id rc (e ▸ hg)) (fun _ _ => Fc11G.refl s) (fun _ _ => Fc11G.refl s)
    (fun rc sei _ => processDisconnect_fc L s i rc sei)
  exact receivePacket_cases (Q := fun r => Fc11G P s r.1) s i pk rfl
    (fun _ => h.trans (nextImmediate_fc L _ i ((handler_good s i pk).wf hwf)))
    (fun code _ => h.trans (disconnectClient_fc L _ i code)) (fun _ _ => h)

theorem recvOn_fc (L : Fc11Laws P) (s : Server) (c : Nat) (pk : InPk) (b : Bool) (hwf : WF s)
    (hst : (∃ id si fs, pk = .subscribe id si fs) → ∀ e ∈ s.rmsgs, fc11MsgOK e.2)
    (hg : ∀ i, assocGet s.connOf c = some i → fc11PkOK P s i pk) : Fc11G P s (recvOn s c pk b).1 := by
  cases hc : assocGet s.connOf c with
  | none => rw [recvOn_unknown hc]; exact Fc11G.refl s
  | some i =>
    -- `Good` is carried along to keep the state well-formed; the side conditions concern the packet itself, not the barrier
    exact (recvOn_trAt (W := fun a b _ => WF a → Good a b ∧ Fc11G P a b)
      ((Traced.ofState (R := fun a b => Good a b ∧ Fc11G P a b) (fun a => ⟨Good.refl a, Fc11G.refl a⟩)
        fun f g => ⟨f.1.trans g.1, f.2.trans g.2⟩).guard fun f w => w.of_good f.1) i (fun f => f) s pk
      (fun w => ⟨receivePacket_good s i pk, receivePacket_fc L s i pk w.allWF hst (hg i hc)⟩)
      (fun s' w => ⟨receivePacket_good s' i _, receivePacket_fc L s' i .pingreq w.allWF
        (fun h => by obtain ⟨_, _, _, h⟩ := h; cases h) trivial⟩)
      (fun s' b w => ⟨detach_good s' i b, detach_fc L s' i b w⟩) c b hc hwf).2

/-! ### connecting under a client id that is not in the Clients map -/

/-- the invariant: every registered object satisfies `P` -/
def Fc11Inv (P : Client → Prop) (s : Server) : Prop := ∀ k, Fc11Reg s k → P (getObj s k)

theorem Fc11Inv.of_fc {s s' : Server} (h : Fc11Inv P s) (g : Fc11G P s s') : Fc11Inv P s' :=
  fun k r => g.keep k r (h k (r.of_sublist g.clients))

theorem admitA_fresh (s : Server) (i : Nat) (k : Connect) (h : assocGet s.clients k.id = none) :
    admitA s i k = (registered (connCounted s) k.id i, [], false, none) :=
  admitA_cases (Q := fun r => r = (registered (connCounted s) k.id i, [], false, none)) s i k rfl (fun _ => rfl)
    (fun _ _ he _ _ => nomatch h.symm.trans he) (fun _ _ he _ _ => nomatch h.symm.trans he)

theorem admitC_absent (s : Server) (i : Nat) (k : Connect) :
    (admitC s i k false).1 = { s with willDelayed := assocDel s.willDelayed k.id } := rfl

theorem Fc11Inv.registered {s : Server} (h : Fc11Inv P s) (cid : Str) (i : Nat) (hi : P (getObj s i)) :
    Fc11Inv P (registered (connCounted s) cid i) := fun j ⟨id, hm⟩ =>
  (assocSet_mem_cases _ _ _ _ hm).elim (fun hm => h j ⟨id, hm⟩) fun e => by cases e; exact hi

theorem admitClient_fc_inv (L : Fc11Laws P) (s : Server) (i conn : Nat) (k : Connect)
    (hfresh : assocGet s.clients k.id = none) (hi : P (getObj s i)) (h : Fc11Inv P s) :
    Fc11Inv P (admitClient s i conn k).1 := by
  have g := (h.registered k.id i hi).of_fc (admitConnack_fc L _ i conn false)
  unfold admitClient
  rw [admitA_fresh s i k hfresh]
  dsimp only
  generalize admitConnack (registered (connCounted s) k.id i) i conn false = b at g ⊢
  rw [admitC_absent]
  exact g.of_fc ((Fc11G.refl _).upd rfl rfl)

/-- the new object and its connection entered: the registered objects are the old ones -/
theorem Fc11Inv.entered {s : Server} (h : Fc11Inv P s) (hwf : WF s) (conn : Nat) (k : Connect) :
    Fc11Inv P (connState s conn k) := fun j ⟨id, hm⟩ => by
  rw [getObj_connState_old s conn k j (hwf.clients_valid id j hm).1]
  exact h j ⟨id, hm⟩

/-- the object a CONNECT describes has no record and full quotas -/
theorem fc11_parseConnect (L : Fc11Laws P) (s : Server) (conn : Nat) (k : Connect) :
    P (getObj (connState s conn k) s.objs.length) :=
  (getObj_connState_new s conn k).symm ▸ L.fresh (parseConnect s conn k) rfl rfl rfl

theorem connect_fc_inv (L : Fc11Laws P) (s : Server) (conn : Nat) (k : Connect) (hwf : WF s)
    (hfresh : assocGet s.clients k.id = none) (h : Fc11Inv P s) : Fc11Inv P (connect s conn k).1 :=
  connect_cases (Q := fun r => Fc11Inv P r.1) s conn k
    (fun _ _ e _ => e ▸ (h.entered hwf conn k).of_fc (stopClient_fc L _ _))
    fun _ e _ => e ▸ admitClient_fc_inv L _ _ conn k hfresh (fc11_parseConnect L s conn k) (h.entered hwf conn k)

theorem Fc11Inv.addPending {s : Server} (h : Fc11Inv P s) (p : Pending) :
    Fc11Inv P { s with pending := s.pending ++ [p] } := h

theorem connectHold_fc_inv (L : Fc11Laws P) (s : Server) (conn : Nat) (k : Connect) (stage : Nat) (hwf : WF s)
    (hfresh : assocGet s.clients k.id = none) (h : Fc11Inv P s) : Fc11Inv P (connectHold s conn k stage).1 := by
  have h1 := h.entered hwf conn k
  refine connectHold_cases (Q := fun r => Fc11Inv P r.1) s conn k stage (fun _ _ e _ _ => e ▸ h1)
    (fun _ _ e _ _ => e ▸ h1.of_fc (stopClient_fc L _ _)) (fun _ e _ _ => e ▸ h1) ?_
  rintro _ a sD oD rfl _ _ ha hD
  rw [admitA_fresh _ _ k (show assocGet (connState s conn k).clients k.id = none from hfresh)] at ha
  subst ha
  cases hD
  exact h1.registered k.id _ (fc11_parseConnect L s conn k)

/-- a condition on the object a connection number is bound to (none: the op does nothing) -/
def fc11OnConn (s : Server) (conn : Nat) (f : Nat → Prop) : Prop :=
  match assocGet s.connOf conn with
  | some i => f i
  | none => True

instance (s : Server) (conn : Nat) (f : Nat → Prop) [DecidablePred f] : Decidable (fc11OnConn s conn f) := by
  unfold fc11OnConn
  cases assocGet s.connOf conn <;> infer_instance

theorem fc11OnConn.get {s : Server} {conn : Nat} {f : Nat → Prop} (h : fc11OnConn s conn f) (i : Nat)
    (hi : assocGet s.connOf conn = some i) : f i := by
  unfold fc11OnConn at h
  rw [hi] at h
  exact h

/-- the local condition on a parked CONNECT that is released -/
def fc11PendOK (P : Client → Prop) (s : Server) (p : Pending) : Prop :=
  if p.stage == 1 then p.refuse.isSome = true ∨ (assocGet s.clients p.k.id = none ∧ P (getObj s p.obj))
  else p.present = false

theorem connectRelease_fc_inv (L : Fc11Laws P) (s : Server) (p : Pending) (hg : fc11PendOK P s p)
    (h : Fc11Inv P s) : Fc11Inv P (connectRelease s p).1 := by
  unfold fc11PendOK at hg
  refine connectRelease_cases (Q := fun r => Fc11Inv P r.1) s p (fun _ _ _ => h.of_fc (stopClient_fc L s p.obj))
    (fun h1 hr => ?_) (fun _ _ j r => h j r) (fun h1 _ => ?_)
  · rw [if_pos h1, hr] at hg
    exact hg.elim (fun e => nomatch e) fun hg => admitClient_fc_inv L s p.obj p.conn p.k hg.1 hg.2 h
  · rw [if_neg h1] at hg
    have g := h.of_fc (admitConnack_fc L s p.obj p.conn false)
    rw [hg]
    generalize admitConnack s p.obj p.conn false = b at g ⊢
    rw [admitC_absent]
    exact g.of_fc ((Fc11G.refl _).upd rfl rfl)

instance fc11PendOK_dec (P : Client → Prop) [DecidablePred P] (s : Server) (p : Pending) :
    Decidable (fc11PendOK P s p) := by
  unfold fc11PendOK; infer_instance

/-- the released handler is a parked CONNECT: `fc11PendOK` -/
def fc11RelOK (P : Client → Prop) (s : Server) (conn : Nat) : Prop :=
  match s.pending.find? (·.conn == conn) with
  | some p => fc11PendOK P { s with pending := s.pending.filter (·.conn != conn) } p
  | none => True

instance fc11RelOK_dec (P : Client → Prop) [DecidablePred P] (s : Server) (conn : Nat) :
    Decidable (fc11RelOK P s conn) := by
  unfold fc11RelOK
  cases s.pending.find? (·.conn == conn) <;> infer_instance

/-! ### the guard on ops and the step theorem -/

/-- **the local condition on an op** (decidable when `P` is): the op's own acknowledgement handling keeps `P` on the
    acting client (`fc11PkOK`), a CONNECT uses a client id that is not in the Clients map (no take-over, no
    resumption), a released parked CONNECT likewise (`fc11PendOK`), and an in-flight housekeeping tick drops no
    record that `P` depends on. -/
def fc11OpOK (P : Client → Prop) (s : Server) : Op → Prop
  | .connect _ k => assocGet s.clients k.id = none
  | .connectHold _ k _ => assocGet s.clients k.id = none
  | .recv conn pk => fc11OnConn s conn (fun i => fc11PkOK P s i pk)
  | .recvCut conn pk => fc11OnConn s conn (fun i =>
      fc11PkOK P (modObj s i (fun c => { c with peerGone := true })) i pk)
  | .release conn => fc11RelOK P s conn
  | .tick kind t => kind = "inflight" → ∀ e ∈ s.clients, P (getObj s e.2) → P (getObj (tickInflight s t) e.2)
  | .inlinePublish topic payload retain qos => fc11PkOK P s 0 (.publish qos false retain qos topic payload 0 none)
  | _ => True

instance fc11OpOK_dec (P : Client → Prop) [DecidablePred P] (s : Server) (op : Op) : Decidable (fc11OpOK P s op) := by
  cases op <;> simp only [fc11OpOK] <;> infer_instance

theorem fc11_step (L : Fc11Laws P) (s : Server) (op : Op) (hwf : WF s) (hf : OpFresh s op) (hst : Fc11Store s)
    (hg : fc11OpOK P s op) (h : Fc11Inv P s) : Fc11Inv P (step s op).1 := by
  -- a piece that is `Good` and keeps `P` on the registered objects
  have go : ∀ {a b : Server}, Good a b → (WF a → Fc11G P a b) → WF a ∧ Fc11Inv P a → WF b ∧ Fc11Inv P b :=
    fun g f x => ⟨x.1.of_good g, x.2.of_fc (f x.1)⟩
  have quiet : ∀ {a b : Server}, b.objs = a.objs → b.clients = a.clients → b.connOf = a.connOf → b.pending = a.pending →
      WF a ∧ Fc11Inv P a → WF b ∧ Fc11Inv P b :=
    fun ho hc hn hp => go ((Good.refl _).upd ho hc hn hp) fun _ => (Fc11G.refl _).upd ho hc
  refine (step_tr (W := fun a b _ => WF a ∧ Fc11Inv P a → WF b ∧ Fc11Inv P b)
    (.ofState (fun _ x => x) fun f g x => g (f x)) (fun _ x => x) s op
    (conn := fun c k e x => by subst e; exact ⟨connect_wf s c k x.1 hf, connect_fc_inv L s c k x.1 hg x.2⟩)
    (hold := fun c k st e x => by
      subst e; exact ⟨connectHold_wf s c k st x.1 hf, connectHold_fc_inv L s c k st x.1 hg x.2⟩)
    (recv := fun c pk e => by
      subst e
      exact go (recvOn_good s c pk true) fun w => recvOn_fc L s c pk true w (fun _ => hst.1) fun i hi => fc11OnConn.get hg i hi)
    (cut := fun c pk i e hc => by
      subst e
      exact go (recvOn_good _ c pk false) fun w => recvOn_fc L _ c pk false w (fun _ => hst.1) fun j hj =>
        Option.some.inj (hc.symm.trans hj) ▸ fc11OnConn.get hg i hc)
    (ping := fun s' c => go (recvOn_good s' c _ _) fun w =>
      recvOn_fc L s' c .pingreq false w (fun h => by obtain ⟨_, _, _, h⟩ := h; cases h) fun _ _ => trivial)
    (peer := fun s' i =>
      go ((Good.refl s').mod i _ (by cw_rfl)) fun _ => (Fc11G.refl s').mod i _ (L.ext _ _ rfl rfl rfl rfl rfl))
    (det := fun s' i b => go (detach_good s' i b) (detach_fc L s' i b))
    (detA := fun s' i => go (detachA_good s' i true) fun _ => detachA_fc L s' i true)
    (detB := fun s' i => go (detachB_good s' i) (detachB_fc s' i))
    (park := fun _ _ _ => quiet rfl rfl rfl rfl)
    (unpark := fun c x => ⟨x.1.filterPending _, fun j r => x.2 j r⟩)
    (rel := fun c p e hp x => by
      subst e
      have hv := hwf.pending_valid p (List.mem_of_find?_eq_some hp)
      have hg' : fc11RelOK P s c := hg
      unfold fc11RelOK at hg'
      rw [hp] at hg'
      exact ⟨(connectRelease_wf _ p x.1 hv.1 hv.2).1, connectRelease_fc_inv L _ p hg' x.2⟩)
    (tick := fun kind t e x => by
      subst e
      -- `fc11OpOK` speaks of the in-flight tick only
      exact ⟨x.1.of_good (step_tick_good s kind t), step_tick_cases_kind (Q := fun r => Fc11Inv P r.1) s kind t
        (fun _ => h.of_fc (tickClients_fc s t hwf)) (fun _ => h.of_fc (tickRetained_fc s t))
        (fun hk => h.of_fc ⟨(tickInflight_good s t).clients, fun k r y =>
          (r.of_sublist (tickInflight_good s t).clients).elim fun id hm => hg hk (id, k) hm y⟩)
        (fun _ => h.of_fc (tickWills_fc L s t hst.2)) h⟩)
    (pub := fun t p r q e => by
      subst e
      exact go (receivePacket_good s 0 _) fun w => receivePacket_fc L s 0 _ w.allWF (fun _ => hst.1) hg)
    (isub := fun _ _ _ _ => quiet rfl rfl rfl rfl)
    (iunsub := fun _ _ => quiet rfl rfl rfl rfl) ⟨hwf, h⟩).2

/-- every op of the history satisfies the side conditions in the state it is applied to -/
def fc11OpsOK (P : Client → Prop) (s : Server) : List Op → Prop
  | [] => True
  | op :: ops => OpFresh s op ∧ Fc11Store s ∧ fc11OpOK P s op ∧ fc11OpsOK P (step s op).1 ops

theorem fc11OpsOK_iff {P : Client → Prop} {s : Server} {ops : List Op} :
    fc11OpsOK P s ops ↔ OpsOK (fun s op => OpFresh s op ∧ Fc11Store s ∧ fc11OpOK P s op) s ops :=
  OpsOK.of_rec (fun _ => trivial) (fun _ _ _ => by rw [fc11OpsOK, and_assoc, and_assoc]) s ops

instance fc11OpsOK_dec (P : Client → Prop) [DecidablePred P] (s : Server) (ops : List Op) :
    Decidable (fc11OpsOK P s ops) := decidable_of_iff _ fc11OpsOK_iff.symm

theorem fc11_run (L : Fc11Laws P) (s : Server) (ops : List Op) (hwf : WF s) (h : Fc11Inv P s)
    (hg : fc11OpsOK P s ops) : Fc11Inv P (run s ops) :=
  (run_inv (I := fun s => WF s ∧ Fc11Inv P s)
    (fun s op i c => ⟨WF_step s op i.1 c.1, fc11_step L s op i.1 c.1 c.2.1 c.2.2 i.2⟩) ⟨hwf, h⟩
    (fc11OpsOK_iff.mp hg)).2

theorem fc11_init (L : Fc11Laws P) (caps : Caps) : Fc11Inv P (init caps) := by
  intro k ⟨id, hm⟩
  have : (id, k) = (inlineID, 0) := List.mem_singleton.mp hm
  cases this
  exact L.fresh _ rfl rfl rfl

/-! ### client-level facts -/

theorem fc11_incSend_fields (c : Client) : (incSend c).inflight = c.inflight ∧ (incSend c).recvQuota = c.recvQuota ∧
    (incSend c).maxRecv = c.maxRecv ∧ (incSend c).maxSend = c.maxSend ∧
    (incSend c).sendQuota = if c.sendQuota < c.maxSend then c.sendQuota + 1 else c.sendQuota := by
  unfold incSend
  split
  · exact ⟨rfl, rfl, rfl, rfl, rfl⟩
  · exact ⟨rfl, rfl, rfl, rfl, rfl⟩

theorem fc11_flGet_none {c : Client} {id : Nat} (h : flGet c id = none) : ∀ x ∈ c.inflight, (x.id == id) = false := by
  unfold flGet at h
  rw [List.find?_eq_none] at h
  intro x hx
  have := h x hx
  simpa using this

theorem flSet_last (c : Client) (L : List Msg) (a a' : Msg) (hc : c.inflight = L ++ [a])
    (hL : ∀ x ∈ L, (x.id == a.id) = false) (hid : a'.id = a.id) :
    (flSet c a').1 = { c with inflight := L ++ [a'] } := by
  unfold flSet flGet
  have hsome : (c.inflight.find? (fun m => m.id == a'.id)).isSome = true := by
    rw [List.find?_isSome]
    exact ⟨a, by rw [hc]; simp, by rw [hid]; simp⟩
  rw [if_pos hsome]
  show ({ c with inflight := c.inflight.map _ } : Client) = _
  rw [hc, List.map_append]
  congr 2
  · conv => rhs; rw [← List.map_id L]
    apply List.map_congr_left
    intro x hx
    have := hL x hx
    rw [hid]
    simp [this]
  · simp [hid]

theorem flDelete_last (c : Client) (L : List Msg) (a : Msg) (hc : c.inflight = L ++ [a])
    (hL : ∀ x ∈ L, (x.id == a.id) = false) : (flDelete c a.id).1 = { c with inflight := L } := by
  show ({ c with inflight := c.inflight.filter _ } : Client) = _
  rw [hc, List.filter_append]
  have h1 : L.filter (fun m => m.id != a.id) = L := by
    rw [List.filter_eq_self]
    intro x hx
    have := hL x hx
    simp [bne, this]
  rw [h1]
  simp

theorem fc11_ack_eq (c : Client) (a : Msg) (hfr : flGet c a.id = none) :
    (flSet (decRecv c) a).1 = { c with inflight := c.inflight ++ [a], recvQuota := c.recvQuota - 1 } := by
  rw [decRecv_eq, fc11_flSet_fresh { c with recvQuota := c.recvQuota - 1 } a hfr]

theorem fc11_flDelete_fields (c : Client) (id : Nat) : (flDelete c id).1.recvQuota = c.recvQuota ∧
    (flDelete c id).1.sendQuota = c.sendQuota ∧ (flDelete c id).1.maxRecv = c.maxRecv ∧
    (flDelete c id).1.maxSend = c.maxSend := ⟨rfl, rfl, rfl, rfl⟩

theorem fc11_countP_delete (f : Msg → Bool) (L : List Msg) (m : Msg) (hn : (L.map (·.id)).Nodup) (hm : m ∈ L) :
    (L.filter (fun x => x.id != m.id)).countP f + (if f m then 1 else 0) = L.countP f := by
  induction L with
  | nil => cases hm
  | cons x xs ih =>
    rw [List.map_cons, List.nodup_cons] at hn
    rcases List.mem_cons.mp hm with rfl | hm'
    · have hx : xs.filter (fun y => y.id != m.id) = xs := by
        rw [List.filter_eq_self]
        intro y hy
        have : y.id ≠ m.id := fun e => hn.1 (List.mem_map.mpr ⟨y, hy, e⟩)
        simp [bne, this]
      simp only [List.filter_cons, bne_self_eq_false, Bool.false_eq_true, if_false, hx, List.countP_cons]
    · have hne : x.id ≠ m.id := fun e => hn.1 (List.mem_map.mpr ⟨m, hm', e.symm⟩)
      have hb : (x.id != m.id) = true := by simp [bne, hne]
      simp only [List.filter_cons, hb, if_true, List.countP_cons]
      have := ih hn.2 hm'
      omega

theorem fc11_countP_snoc (f : Msg → Bool) (L : List Msg) (a : Msg) :
    (L ++ [a]).countP f = L.countP f + (if f a then 1 else 0) := by
  rw [List.countP_append]
  simp [List.countP_cons]

/-! ### the receive side -/

/-- `RecvAcc`, and no inbound record is marked deferred -/
def fc11RecvP (c : Client) : Prop := RecvAcc c ∧ ∀ m ∈ c.inflight, m.expiry < 0 → fc11Inb m = false

instance : DecidablePred fc11RecvP := fun c => by unfold fc11RecvP; infer_instance

theorem fc11RecvP_laws : Fc11Laws fc11RecvP := by
  refine ⟨?_, ?_, ?_, ?_, ?_⟩
  · intro a b h1 h2 _ h4 _ ⟨hr, hd⟩
    refine ⟨?_, by rw [h1]; exact hd⟩
    unfold RecvAcc inboundOpen at *
    rw [h1, h2, h4]; exact hr
  · intro c out ht _ hfr ⟨hr, hd⟩
    have hno : ∀ e, fc11Inb { out with expiry := e } = false := fun e => by
      show (out.type == 4 || out.type == 5) = false
      rw [ht]; rfl
    -- deferred or not, the new record is none of the inbound direction
    have key : ∀ e q,
        fc11RecvP { c with inflight := c.inflight ++ [{ out with expiry := e }], sendQuota := q } := fun e q => by
      refine ⟨?_, fun m hm hlt => ?_⟩
      · show c.recvQuota + (c.inflight ++ [{ out with expiry := e }]).countP fc11Inb = c.maxRecv
        rw [fc11_countP_snoc, hno, if_neg Bool.false_ne_true]
        exact hr
      · exact (List.mem_append.mp hm).elim (fun hm => hd m hm hlt) fun hm => List.mem_singleton.mp hm ▸ hno e
    refine ⟨fun _ => ?_, fun _ _ => ?_⟩
    · rw [decSend_eq]
      exact key out.expiry _
    · rw [decSend_eq, flSet_last _ c.inflight out { out with expiry := -1 } rfl (fc11_flGet_none hfr) rfl]
      exact key (-1) _
  · intro c h1 h2 _
    refine ⟨?_, by rw [h1]; intro m hm; cases hm⟩
    unfold RecvAcc inboundOpen
    rw [h1]; exact h2
  · intro c hw ⟨hr, hd⟩ m hm hlt _
    have hcnt := fc11_countP_delete fc11Inb c.inflight m hw.ids_nodup hm
    rw [hd m hm hlt, if_neg Bool.false_ne_true, Nat.add_zero] at hcnt
    rw [decSend_eq]
    refine ⟨?_, fun x hx hxl => hd x (List.mem_filter.mp hx).1 hxl⟩
    show c.recvQuota + (c.inflight.filter (fun x => x.id != m.id)).countP fc11Inb = c.maxRecv
    rw [hcnt]
    exact hr
  · intro c a hta hea hfr hrq ⟨hr, hd⟩
    have hin : fc11Inb a = true := by
      unfold fc11Inb
      rcases hta with h | h <;> rw [h] <;> rfl
    have hr' : c.recvQuota + c.inflight.countP fc11Inb = c.maxRecv := hr
    rw [fc11_ack_eq c a hfr]
    refine ⟨⟨?_, fun m hm hlt => ?_⟩, fun _ => ?_⟩
    · show c.recvQuota - 1 + (c.inflight ++ [a]).countP fc11Inb = c.maxRecv
      rw [fc11_countP_snoc, hin, if_pos rfl]
      omega
    · exact (List.mem_append.mp hm).elim (fun hm => hd m hm hlt) fun hm => by
        rw [List.mem_singleton.mp hm] at hlt; omega
    · rw [flDelete_last _ c.inflight a rfl (fc11_flGet_none hfr), incRecv_eq]
      refine ⟨?_, hd⟩
      show (if c.recvQuota - 1 < c.maxRecv then c.recvQuota - 1 + 1 else c.recvQuota - 1) + c.inflight.countP fc11Inb
        = c.maxRecv
      split <;> omega

/-! ### the send side -/

/-- `SendAcc`, and while send quota is left no record is deferred (so `nextImmediate` never releases — F09: a release
    deletes the record of a message that has just been sent) -/
def fc11SendP (c : Client) : Prop :=
  SendAcc c ∧ (0 < c.maxSend → 0 < c.sendQuota → ∀ m ∈ c.inflight, 0 ≤ m.expiry)

instance : DecidablePred fc11SendP := fun c => by unfold fc11SendP; infer_instance

theorem fc11SendP_laws : Fc11Laws fc11SendP := by
  refine ⟨?_, ?_, ?_, ?_, ?_⟩
  · intro a b h1 _ h3 _ h5 ⟨hr, hd⟩
    refine ⟨?_, by rw [h1, h3, h5]; exact hd⟩
    unfold SendAcc outboundOpen at *
    rw [h1, h3, h5]; exact hr
  · intro c out ht he hfr ⟨hr, hd⟩
    have hr' : 0 < c.maxSend → c.sendQuota + c.inflight.countP fc11Out = c.maxSend := hr
    refine ⟨fun hnd => ?_, fun h0 _ => ?_⟩
    · rw [decSend_eq]
      refine ⟨fun hm => ?_, fun hm hq m hmem => ?_⟩
      · show c.sendQuota - 1 + (c.inflight ++ [out]).countP fc11Out = c.maxSend
        have hyes : fc11Out out = true := by unfold fc11Out; rw [ht]; simpa using he
        rw [fc11_countP_snoc, hyes, if_pos rfl]
        have := hr' hm
        have : c.sendQuota ≠ 0 := fun e => hnd ⟨e, hm⟩
        omega
      · have hq' : 0 < c.sendQuota := by have : 0 < c.sendQuota - 1 := hq; omega
        exact (List.mem_append.mp hmem).elim (hd hm hq' m) fun e => List.mem_singleton.mp e ▸ he
    · rw [decSend_eq, flSet_last _ c.inflight out { out with expiry := -1 } rfl (fc11_flGet_none hfr) rfl]
      refine ⟨fun hm => ?_, fun _ hpos => ?_⟩
      · show c.sendQuota - 1 + (c.inflight ++ [{ out with expiry := -1 }]).countP fc11Out = c.maxSend
        have hno : fc11Out { out with expiry := -1 } = false := by unfold fc11Out; simp
        rw [fc11_countP_snoc, hno, if_neg Bool.false_ne_true]
        have := hr' hm
        omega
      · have : 0 < c.sendQuota - 1 := hpos
        omega
  · intro c h1 _ h3
    refine ⟨?_, by rw [h1]; intro _ _ m hm; cases hm⟩
    unfold SendAcc outboundOpen
    rw [h1]; intro _; exact h3
  · intro c _ ⟨_, hd⟩ m hm hlt hq
    -- a deferred record while send quota is left: the client has no send maximum at all
    have hzero : ¬ 0 < c.maxSend := fun hpos => by have := hd hpos hq m hm; omega
    rw [decSend_eq]
    exact ⟨fun h => absurd h hzero, fun h => absurd h hzero⟩
  · intro c a hta hea hfr _ ⟨hr, hd⟩
    have hno : fc11Out a = false := by
      unfold fc11Out
      rcases hta with h | h <;> rw [h] <;> rfl
    rw [fc11_ack_eq c a hfr]
    refine ⟨⟨fun hm => ?_, fun hm hq' m hmem => ?_⟩, fun _ => ?_⟩
    · show c.sendQuota + (c.inflight ++ [a]).countP fc11Out = c.maxSend
      rw [fc11_countP_snoc, hno, if_neg Bool.false_ne_true]
      exact hr hm
    · exact (List.mem_append.mp hmem).elim (hd hm hq' m) fun e => List.mem_singleton.mp e ▸ hea
    · rw [flDelete_last _ c.inflight a rfl (fc11_flGet_none hfr), incRecv_eq]
      exact ⟨hr, hd⟩

/-! ### a delivery at send quota 0 writes nothing -/

theorem fc11_core_defers (s : Server) (i : Nat) (sub : Sub) (f : Bool) (pk : Msg)
    (hq : (getObj s i).sendQuota = 0) (hm : 0 < (getObj s i).maxSend) (hqos : shapeQos s.caps sub pk.qos > 0) :
    ∀ conn w, Out.wrote conn w ∉ (publishToClientCore s i sub f pk).2 := by
  intro conn w
  refine publishToClientCore_cases (Q := fun r => Out.wrote conn w ∉ r.2) s i sub f pk rfl rfl
    (fun h => absurd ((coreOut_qos ..).symm ▸ hqos) h) (fun _ _ => List.not_mem_nil)
    (fun _ _ _ h => by cases List.mem_singleton.mp h) (fun _ _ _ _ _ _ _ => List.not_mem_nil)
    (fun _ _ _ _ _ _ hd => ?_)
  -- no send quota is left: the copy is deferred, never written
  obtain ⟨ao, cur, e⟩ := coreClient_eq (getObj s i) pk.topic
  rw [e] at hd
  have : ((getObj s i).sendQuota == 0 && decide ((getObj s i).maxSend > 0)) = true := by
    rw [hq, decide_eq_true hm]; rfl
  exact absurd (this.symm.trans hd) (by decide)

/-! ### the reason code 0x93 comes from the exhausted-quota branch only -/

def fc11Not93 (r : HRes) : Prop := r.2.2 ≠ some 0x93

theorem fc11_ackRes_code (s : Server) (i t id rc : Nat) : fc11Not93 (ackRes s i t id rc) := by
  unfold fc11Not93
  rcases ackRes_cases s i t id rc with h | h <;> rw [h] <;> intro e <;> cases e

theorem fc11_pubRefuse_code (s : Server) (i qos id code : Nat) (hc : code ≠ 0x93) : fc11Not93 (pubRefuse s i qos id code) :=
  pubRefuse_cases s i qos id code (fun _ => nofun) (fun _ _ e => hc (Option.some.inj e))
    (fun _ _ => fc11_ackRes_code _ _ _ _ _)

theorem fc11_processPublish_0x93 (s : Server) (i : Nat) (qos : Nat) (dup retain : Bool) (id : Nat) (topic payload : Str)
    (msgExpiry : Nat) (alias : Option Nat)
    (h : (processPublish s i qos dup retain id topic payload msgExpiry alias).2.2 = some 0x93) :
    (getObj s i).recvQuota = 0 := by
  false_or_by_contra
  rename_i hrq
  revert h
  refine processPublish_cases (Q := fc11Not93) s i qos dup retain id topic payload msgExpiry alias
    (fun _ => fc11_pubRefuse_code s i qos id _ (by decide)) (fun _ h0 => absurd (eq_of_beq h0) hrq)
    (fun _ _ _ => fc11_pubRefuse_code s i qos id _ (by decide)) (fun _ _ _ _ => fc11_ackRes_code _ _ _ _ _) (fun _ => ?_)
  exact pubGo_cases _ i id _ (fun _ e => nomatch e) (fun _ _ => nofun) (fun _ _ _ _ _ => fc11_ackRes_code _ _ _ _ _)
    (fun _ _ _ _ _ _ => nofun) (fun _ _ _ _ _ _ _ _ _ => nofun) (fun _ _ _ _ _ _ _ _ _ => nofun)

end Mochi.Broker
