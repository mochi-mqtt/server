import Mochi.Lemmas.Topics
/-! Correctness of the subscriber scan over a prefix-closed flattened trie; how `matchLv` splits below a prefix without a
`#` level (`matchLv_append`). -/
namespace Mochi.Topics

@[simp] theorem plus_ne_hash : plus ≠ hash := by decide
@[simp] theorem hash_ne_plus : hash ≠ plus := by decide
@[simp] theorem lplus_ne_lhash : ([plus] : Level) ≠ [hash] := by decide
@[simp] theorem lhash_ne_lplus : ([hash] : Level) ≠ [plus] := by decide

/-- every non-empty prefix of a particle's address is a particle too -/
def PrefixClosed (ns : List Node) : Prop :=
  ∀ (p : Path), hasNode ns p = true → ∀ k, 0 < k → k ≤ p.length → hasNode ns (p.take k) = true

theorem prefix_exists (ns : List Node) (hpc : PrefixClosed ns) (a b : Path) (ha : a ≠ [])
    (h : hasNode ns (a ++ b) = true) : hasNode ns a = true := by
  have := hpc (a ++ b) h a.length (by cases a <;> simp_all) (by simp)
  simpa using this

theorem mem_gatherAll_subs (p q : Path) : Gather.subs q ∈ gatherAll p ↔ q = p := by
  simp [gatherAll]
theorem mem_gatherAll_shared (p q : Path) : Gather.shared q ∈ gatherAll p ↔ q = p := by
  simp [gatherAll]
theorem mem_gatherAll_inline (p q : Path) : Gather.inline q ∈ gatherAll p ↔ q = p := by
  simp [gatherAll]

theorem matchLv_cons_cons (f : Level) (fs : Path) (t : Level) (ts : Path) :
    matchLv (f :: fs) (t :: ts) = (if f == [hash] then fs.isEmpty else (f == [plus] || f == t) && matchLv fs ts) := by
  simp [matchLv]

theorem matchLv_nil_right (q : Path) : matchLv q [] = true ↔ q = [] ∨ q = [[hash]] := by
  match q with
  | [] => simp [matchLv]
  | [f] => simp [matchLv]
  | f :: g :: r => simp [matchLv]

theorem matchLv_length : ∀ (pre ts : Path), (∀ f ∈ pre, f ≠ [hash]) → matchLv pre ts = true → ts.length = pre.length
  | [], [], _, _ => rfl
  | [], _ :: _, _, h => by simp [matchLv] at h
  | f :: _, [], hh, h => by simp [matchLv, hh f] at h
  | f :: fs, _ :: ts, hh, h => by
    simp [matchLv, hh f] at h
    simp [matchLv_length fs ts (fun g hg => hh g (.tail _ hg)) h.2]

/-- below a prefix without a `#` level the rest of the filter is matched against the rest of the topic -/
theorem matchLv_append (f : Path) : ∀ (pre ts : Path), (∀ g ∈ pre, g ≠ [hash]) →
    matchLv (pre ++ f) ts = (matchLv pre (ts.take pre.length) && matchLv f (ts.drop pre.length))
  | [], ts, _ => by simp [matchLv]
  | g :: _, [], hh => by simp [matchLv, beq_eq_false_iff_ne.mpr (hh g (.head _))]
  | g :: gs, t :: ts, hh => by
    simp [matchLv, hh g, matchLv_append f gs ts (fun g hg => hh g (.tail _ hg)), Bool.and_assoc]

/-- what the walk gathers from the particle `cur` on, `ts` being the topic levels still to be matched: once the topic is
    used up, the particle itself and its `#` child -/
def visitsFrom (ns : List Node) (cur : Path) : Path → List Gather
  | [] => gatherAll cur ++ (if hasNode ns (cur ++ [[hash]]) then gatherAll (cur ++ [[hash]]) else [])
  | t :: ts => scanVisits ns cur (t :: ts)

theorem scanVisits_cons (ns : List Node) (cur : Path) (key : Level) (rest : Path) :
    scanVisits ns cur (key :: rest) =
      (if hasNode ns (cur ++ [key]) then visitsFrom ns (cur ++ [key]) rest else []) ++
      (if hasNode ns (cur ++ [[plus]]) then visitsFrom ns (cur ++ [[plus]]) rest else []) ++
      (if hasNode ns (cur ++ [[hash]]) then gatherAll (cur ++ [[hash]]) else []) := by
  cases rest with
  | nil => simp [scanVisits, visitsFrom]
  | cons r2 rest => rfl

theorem mem_visitsFrom (mk : Path → Gather) (hmk : ∀ p q, mk q ∈ gatherAll p ↔ q = p)
    (ns : List Node) (hpc : PrefixClosed ns) (q : Path) :
    ∀ (ts cur : Path), (ts = [] → hasNode ns cur = true) → (∀ t ∈ ts, t ≠ [hash]) →
      (mk q ∈ visitsFrom ns cur ts ↔ ∃ q', q = cur ++ q' ∧ hasNode ns q = true ∧ matchLv q' ts = true) := by
  intro ts
  induction ts with
  | nil =>
    intro cur hcur _
    simp only [visitsFrom, List.mem_append, List.mem_ite_nil_right, hmk, matchLv_nil_right]
    constructor
    · rintro (rfl | ⟨h, rfl⟩)
      · exact ⟨[], by simp, hcur rfl, Or.inl rfl⟩
      · exact ⟨[[hash]], rfl, h, Or.inr rfl⟩
    · rintro ⟨q', rfl, h, rfl | rfl⟩
      · exact Or.inl (by simp)
      · exact Or.inr ⟨h, rfl⟩
  | cons key rest ih =>
    intro cur _ hnh
    have hk : key ≠ [hash] := hnh key (by simp)
    have ih' : ∀ k : Level, hasNode ns (cur ++ [k]) = true → (mk q ∈ visitsFrom ns (cur ++ [k]) rest ↔
        ∃ q', q = cur ++ k :: q' ∧ hasNode ns q = true ∧ matchLv q' rest = true) := fun k hn => by
      simpa using ih (cur ++ [k]) (fun _ => hn) (fun t ht => hnh t (by simp [ht]))
    rw [visitsFrom, scanVisits_cons]
    simp only [List.mem_append, List.mem_ite_nil_right, hmk]
    constructor
    · rintro ((⟨hn, h⟩ | ⟨hn, h⟩) | ⟨hn, rfl⟩)
      · obtain ⟨q', rfl, hq, hm⟩ := (ih' key hn).mp h
        exact ⟨key :: q', rfl, hq, by rw [matchLv_cons_cons]; simp [hk, hm]⟩
      · obtain ⟨q', rfl, hq, hm⟩ := (ih' [plus] hn).mp h
        exact ⟨[plus] :: q', rfl, hq, by rw [matchLv_cons_cons]; simp [hm]⟩
      · exact ⟨[[hash]], rfl, hn, by simp [matchLv]⟩
    · rintro ⟨q', rfl, hn, hm⟩
      match q', hm with
      | [], hm => simp [matchLv] at hm
      | f :: fs, hm =>
        rw [matchLv_cons_cons] at hm
        by_cases hf : f = [hash]
        · subst hf
          have : fs = [] := by simpa using hm
          subst this
          exact Or.inr ⟨hn, rfl⟩
        · simp only [beq_iff_eq, hf, if_false, Bool.and_eq_true, Bool.or_eq_true] at hm
          have hex : hasNode ns (cur ++ [f]) = true :=
            prefix_exists ns hpc (cur ++ [f]) fs (by simp) (by simpa using hn)
          rcases hm.1 with rfl | rfl
          · exact Or.inl (Or.inr ⟨hex, (ih' _ hex).mpr ⟨fs, rfl, hn, hm.2⟩⟩)
          · exact Or.inl (Or.inl ⟨hex, (ih' _ hex).mpr ⟨fs, rfl, hn, hm.2⟩⟩)

/-- **The trie walk gathers exactly the matching particles.**  For a prefix-closed particle list, a
    topic with at least one level none of which is `#`, the scan started at particle `cur` gathers
    the particle at address `q` iff `q` exists and its address below `cur` matches the remaining
    topic levels under the MQTT rule. -/
theorem scan_iff (mk : Path → Gather) (hmk : ∀ p q, mk q ∈ gatherAll p ↔ q = p)
    (ns : List Node) (hpc : PrefixClosed ns) :
    ∀ (ts : Path), ts ≠ [] → (∀ t ∈ ts, t ≠ [hash]) → ∀ (cur q : Path),
      (mk q ∈ scanVisits ns cur ts ↔ ∃ q', q = cur ++ q' ∧ hasNode ns q = true ∧ matchLv q' ts = true) := by
  intro ts hts hnh cur q
  cases ts with
  | nil => exact absurd rfl hts
  | cons t ts => exact mem_visitsFrom mk hmk ns hpc q (t :: ts) cur (fun h => by cases h) hnh

theorem scan_exact (mk : Path → Gather) (hmk : ∀ p q, mk q ∈ gatherAll p ↔ q = p) (ns : List Node)
    (hpc : PrefixClosed ns) (topic : Str) (hnh : ∀ t ∈ splitLevels topic, t ≠ [hash]) (q : Path) :
    mk q ∈ scanVisits ns [] (splitLevels topic) ↔ hasNode ns q = true ∧ matchLv q (splitLevels topic) = true := by
  rw [scan_iff mk hmk ns hpc _ (splitLevels_ne_nil topic) hnh]
  simp

end Mochi.Topics
