import Mochi.Model.IndexConc
/-! Mutual exclusion by the root lock makes every concurrent execution of index mutators a serial one. -/
namespace Mochi.Topics.Conc
open Mochi.Topics

/-- ops of goroutine `i` already written, in order -/
def doneOf (s : Sys) (i : Nat) : List IOp := (s.log.filter (fun e => e.1 == i)).map (·.2)

/-- what goroutine `t` has still to write -/
def remaining (t : Thr) : List IOp := if t.pc == 3 then t.ops.tail else t.ops

/-- what is known of goroutine `i` with program `prog` while `holder` has the lock, the index is `idx` and `done`
    are the mutators `i` has written -/
structure TInv (prog : List IOp) (holder : Option Nat) (idx : Index) (done : List IOp) (i : Nat) (t : Thr) : Prop where
  excl : t.pc ≠ 0 → holder = some i
  snap : t.pc = 2 → t.snap = idx
  pc_le : t.pc ≤ 3
  idle : t.ops = [] → t.pc = 0
  order : done ++ remaining t = prog

structure Inv (progs : List (List IOp)) (s : Sys) : Prop where
  idx : s.idx = runOps (s.log.map (·.2))
  len : s.thrs.length = progs.length
  thr : ∀ (i : Nat) (t : Thr), s.thrs[i]? = some t → TInv (progs[i]?.getD []) s.holder s.idx (doneOf s i) i t

theorem runOps_append (l : List IOp) (op : IOp) : runOps (l ++ [op]) = applyOp (runOps l) op := by
  simp [runOps, List.foldl_append]

theorem inv_start (progs : List (List IOp)) : Inv progs (start progs) := by
  refine ⟨rfl, List.length_map _, fun i t h => ?_⟩
  rw [start, List.getElem?_map] at h
  cases hh : progs[i]? with
  | none => rw [hh] at h; exact nomatch h
  | some p =>
    rw [hh] at h
    cases Option.some.inj h
    exact ⟨fun hp => absurd rfl hp, nofun, Nat.zero_le _, fun _ => rfl, rfl⟩

theorem doneOf_log_append_ne (s : Sys) (i j : Nat) (op : IOp) (h : j ≠ i) (idx' : Index) (thrs' : List Thr) :
    doneOf { s with idx := idx', log := s.log ++ [(j, op)], thrs := thrs' } i = doneOf s i := by
  simp [doneOf, List.filter_append, h]

theorem doneOf_log_append_eq (s : Sys) (i : Nat) (op : IOp) (idx' : Index) (thrs' : List Thr) :
    doneOf { s with idx := idx', log := s.log ++ [(i, op)], thrs := thrs' } i = doneOf s i ++ [op] := by
  simp [doneOf, List.filter_append]

/-- a step of goroutine `i`: it becomes `t'`; what is known of the others has to be carried over -/
theorem Inv.setThr {progs : List (List IOp)} {s s' : Sys} {i : Nat} {t' : Thr} (h : Inv progs s)
    (hthrs : s'.thrs = s.thrs.set i t')
    (hidx : s'.idx = runOps (s'.log.map (·.2)))
    (hi : TInv (progs[i]?.getD []) s'.holder s'.idx (doneOf s' i) i t')
    (hother : ∀ j u, j ≠ i → TInv (progs[j]?.getD []) s.holder s.idx (doneOf s j) j u →
      TInv (progs[j]?.getD []) s'.holder s'.idx (doneOf s' j) j u) : Inv progs s' := by
  refine ⟨hidx, by rw [hthrs, List.length_set]; exact h.len, fun j u hu => ?_⟩
  rw [hthrs, List.getElem?_set] at hu
  split at hu
  · rename_i hij
    split at hu
    · cases Option.some.inj hu; exact hij ▸ hi
    · exact nomatch hu
  · rename_i hij
    exact hother j u (fun e => hij e.symm) (h.thr j u hu)

theorem inv_step (progs : List (List IOp)) (s : Sys) (h : Inv progs s) (i : Nat) :
    Inv progs (stepThr true s i) := by
  unfold stepThr
  cases hti : s.thrs[i]? with
  | none => exact h
  | some t =>
    dsimp only
    cases hops : t.ops with
    | nil => exact h
    | cons op rest =>
      have ht := h.thr i t hti
      have hrem : remaining t = if t.pc == 3 then rest else op :: rest := by rw [remaining, hops]; rfl
      -- a goroutine other than the holder is idle
      have idle_of : ∀ {j u}, j ≠ i → s.holder = some i →
          TInv (progs[j]?.getD []) s.holder s.idx (doneOf s j) j u → u.pc = 0 := fun hj hh hu =>
        Decidable.by_contra fun hp => hj (Option.some.inj ((hu.excl hp).symm.trans hh))
      dsimp only
      rw [if_pos rfl]
      split
      · -- pc = 0: lock
        rename_i hp0
        have hp0 : t.pc = 0 := eq_of_beq hp0
        split
        · rename_i hnone
          have hnone : s.holder = none := Option.isNone_iff_eq_none.1 hnone
          refine h.setThr rfl h.idx ⟨fun _ => rfl, nofun, Nat.le_succ_of_le (Nat.le_succ _), ?_, ?_⟩ ?_
          · exact nofun
          · rw [← ht.order, hrem, hp0]; rfl
          · exact fun j u _ hu => { hu with excl := fun hp => absurd (hnone ▸ hu.excl hp) nofun }
        · exact h
      · rename_i hn0
        have hhold : s.holder = some i := ht.excl (ne_of_beq_false (Bool.eq_false_iff.2 hn0))
        split
        · -- pc = 1: read
          rename_i hp1
          have hp1 : t.pc = 1 := eq_of_beq hp1
          refine h.setThr rfl h.idx ⟨fun _ => hhold, fun _ => rfl, Nat.le_succ _, ?_, ?_⟩ fun _ _ _ hu => hu
          · exact nofun
          · rw [← ht.order, hrem, hp1]; rfl
        · split
          · -- pc = 2: write; what was read is still the index, as nobody else can have written
            rename_i hp2
            have hp2 : t.pc = 2 := eq_of_beq hp2
            refine h.setThr rfl ?_ ⟨fun _ => hhold, nofun, Nat.le_refl _, ?_, ?_⟩ ?_
            · show applyOp t.snap op = runOps ((s.log ++ [(i, op)]).map (·.2))
              rw [List.map_append, List.map_singleton, runOps_append, ← h.idx, ht.snap hp2]
            · exact nofun
            · rw [doneOf_log_append_eq, List.append_assoc, ← ht.order, hrem, hp2]; rfl
            · intro j u hj hu
              rw [doneOf_log_append_ne s j i op (fun e => hj e.symm)]
              exact { hu with snap := fun hp => absurd (idle_of hj hhold hu) (by rw [hp]; exact nofun) }
          · -- pc = 3: unlock
            rename_i hn1 hn2
            have hp3 : t.pc = 3 := by
              have := ht.pc_le
              have h0 : t.pc ≠ 0 := ne_of_beq_false (Bool.eq_false_iff.2 hn0)
              have h1 : t.pc ≠ 1 := ne_of_beq_false (Bool.eq_false_iff.2 hn1)
              have h2 : t.pc ≠ 2 := ne_of_beq_false (Bool.eq_false_iff.2 hn2)
              omega
            refine h.setThr rfl h.idx ⟨fun hp => absurd rfl hp, nofun, Nat.zero_le _, fun _ => rfl, ?_⟩ ?_
            · rw [← ht.order, hrem, hp3]; rfl
            · exact fun j u hj hu => { hu with excl := fun hp => absurd (idle_of hj hhold hu) hp }

theorem inv_run (progs : List (List IOp)) (sched : List Nat) (s : Sys) (h : Inv progs s) :
    Inv progs (runSched true s sched) := by
  induction sched generalizing s with
  | nil => exact h
  | cons i rest ih => exact ih _ (inv_step progs s h i)

end Mochi.Topics.Conc
