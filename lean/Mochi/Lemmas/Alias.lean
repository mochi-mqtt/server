import Mochi.Model.Alias
import Mochi.Lemmas.Topics
/-!
# Lemmas about the width-faithful alias tables (Model/Alias.lean)

The invariant of every table reachable from the empty one (`Out.Inv`): the maximum fits a uint16, the
cursor never exceeds it, the bound values are exactly `1 .. cursor` in insertion order, and no key occurs
twice. Under it the uint16/uint32 arithmetic of `Out.set` never wraps (`set_eq_setNat`).
-/
namespace Mochi.Alias
open Mochi.Topics

theorem list_snoc_induction {α} {P : List α → Prop} (nil : P [])
    (snoc : ∀ l a, P l → P (l ++ [a])) : ∀ l, P l := by
  intro l
  rw [← List.reverse_reverse l]
  induction l.reverse with
  | nil => simpa using nil
  | cons a l ih => simpa using snoc _ a ih

theorem assocGet_some_mem_keys {α β} [DecidableEq α] (m : List (α × β)) (k : α) (v : β)
    (h : assocGet m k = some v) : k ∈ m.map Prod.fst :=
  (mem_keys_iff_assocGet m k).mpr ⟨v, h⟩

theorem key_eq_of_vals_nodup {α β} (m : List (α × β)) (k1 k2 : α) (v : β)
    (hn : (m.map Prod.snd).Nodup) (h1 : (k1, v) ∈ m) (h2 : (k2, v) ∈ m) : k1 = k2 := by
  induction m with
  | nil => cases h1
  | cons kv rest ih =>
    obtain ⟨k0, v0⟩ := kv
    simp only [List.map_cons, List.nodup_cons, List.mem_map, Prod.exists, exists_eq_right, not_exists] at hn
    simp only [List.mem_cons, Prod.mk.injEq] at h1 h2
    rcases h1 with ⟨e1, e1'⟩ | h1 <;> rcases h2 with ⟨e2, e2'⟩ | h2
    · rw [e1, e2]
    · subst e1'; exact absurd h2 (hn.1 _)
    · subst e2'; exact absurd h1 (hn.1 _)
    · exact ih hn.2 h1 h2

theorem u16_of_lt {n : Nat} (h : n < 65536) : u16 n = n := Nat.mod_eq_of_lt h
theorem u32_of_lt {n : Nat} (h : n < 4294967296) : u32 n = n := Nat.mod_eq_of_lt h

structure Out.Inv (a : Out) : Prop where
  max_lt : a.maximum < 65536
  cur_le : a.cursor ≤ a.maximum
  vals : a.internal.map Prod.snd = List.range' 1 a.cursor
  keys : (a.internal.map Prod.fst).Nodup

theorem Out.Inv.length {a : Out} (h : a.Inv) : a.internal.length = a.cursor := by
  have := congrArg List.length h.vals
  simpa using this

theorem Out.Inv.bound_range {a : Out} (h : a.Inv) {t : Str} {x : Nat}
    (hx : assocGet a.internal t = some x) : 1 ≤ x ∧ x ≤ a.cursor := by
  have hm := assocGet_mem _ _ _ hx
  have : x ∈ a.internal.map Prod.snd := List.mem_map.2 ⟨(t, x), hm, rfl⟩
  rw [h.vals, List.mem_range'_1] at this
  omega

theorem Out.Inv.injective {a : Out} (h : a.Inv) {t1 t2 : Str} {x : Nat}
    (h1 : assocGet a.internal t1 = some x) (h2 : assocGet a.internal t2 = some x) : t1 = t2 := by
  refine key_eq_of_vals_nodup a.internal t1 t2 x ?_ (assocGet_mem _ _ _ h1) (assocGet_mem _ _ _ h2)
  rw [h.vals]
  exact List.nodup_range' 1

theorem inv_new (m : Nat) (hm : m < 65536) : (Out.new m).Inv := by
  refine ⟨?_, ?_, ?_, ?_⟩ <;> simp [Out.new, u16_of_lt hm, hm]

theorem new_maximum (m : Nat) (hm : m < 65536) : (Out.new m).maximum = m := by
  simp [Out.new, u16_of_lt hm]

/-- `Out.set` computed in unbounded `Nat` -/
def Out.setNat (a : Out) (topic : Str) : Out × Nat × Bool :=
  if a.maximum == 0 then (a, 0, false) else
  match assocGet a.internal topic with
  | some i => (a, i, true)
  | none =>
    if a.cursor + 1 > a.maximum then (a, 0, false)
    else ({ a with internal := a.internal ++ [(topic, a.cursor + 1)], cursor := a.cursor + 1 },
          a.cursor + 1, false)

/-- under the invariant no computation of `Out.set` wraps -/
theorem set_eq_setNat {a : Out} (h : a.Inv) (t : Str) : a.set t = a.setNat t := by
  have hm := h.max_lt
  have hc := h.cur_le
  have e1 : u32 (a.cursor + 1) = a.cursor + 1 := u32_of_lt (by omega)
  have e2 : u32 a.maximum = a.maximum := u32_of_lt (by omega)
  unfold Out.set Out.setNat
  simp only [e1, e2]
  cases hg : assocGet a.internal t with
  | some i => rfl
  | none =>
    by_cases hgt : a.cursor + 1 > a.maximum
    · simp only [hgt, if_true]
    · have e3 : u16 (u16 a.cursor + 1) = a.cursor + 1 := by
        unfold u16; omega
      simp only [hgt, if_false, e3]

theorem set_eq_setFresh (a : Out) (t : Str) (h : assocGet a.internal t = none) :
    a.set t = a.setFresh t := by
  unfold Out.set Out.setFresh
  simp only [h]

theorem set_maximum (a : Out) (t : Str) : (a.set t).1.maximum = a.maximum := by
  unfold Out.set
  split
  · rfl
  · split
    · rfl
    · dsimp only
      split <;> rfl

/-- the table with `t` bound to the next alias -/
def Out.bindNext (a : Out) (t : Str) : Out :=
  { a with internal := a.internal ++ [(t, a.cursor + 1)], cursor := a.cursor + 1 }

/-- `Set` on a table with the invariant.  The middle case (all aliases taken) includes `maximum = 0`, no alias
    allowed, where the table is empty. -/
theorem set_cases {a : Out} (h : a.Inv) (t : Str) :
    (∃ x, assocGet a.internal t = some x ∧ a.set t = (a, x, true)) ∨
    (assocGet a.internal t = none ∧ a.cursor = a.maximum ∧ a.set t = (a, 0, false)) ∨
    (assocGet a.internal t = none ∧ a.cursor < a.maximum ∧ a.set t = (a.bindNext t, a.cursor + 1, false)) := by
  have hc := h.cur_le
  rw [set_eq_setNat h]
  unfold Out.setNat
  split
  · -- no alias allowed: the table is empty
    rename_i hz
    have hz : a.maximum = 0 := eq_of_beq hz
    have hc0 : a.cursor = 0 := Nat.le_zero.1 (hz ▸ hc)
    have hl : a.internal = [] := List.eq_nil_of_length_eq_zero (by rw [h.length, hc0])
    exact Or.inr (Or.inl ⟨by rw [hl]; rfl, by rw [hc0, hz], rfl⟩)
  · split
    · rename_i x hx; exact Or.inl ⟨x, hx, rfl⟩
    · rename_i hnone
      split
      · rename_i hgt; exact Or.inr (Or.inl ⟨hnone, Nat.le_antisymm hc (Nat.le_of_lt_succ hgt), rfl⟩)
      · rename_i hgt; exact Or.inr (Or.inr ⟨hnone, Nat.not_lt.1 hgt, rfl⟩)

theorem inv_set {a : Out} (h : a.Inv) (t : Str) : (a.set t).1.Inv := by
  rcases set_cases h t with ⟨_, _, e⟩ | ⟨_, _, e⟩ | ⟨hnone, hlt, e⟩
  · rw [e]; exact h
  · rw [e]; exact h
  · rw [e]
    refine ⟨h.max_lt, hlt, ?_, ?_⟩
    · show (a.internal ++ [(t, a.cursor + 1)]).map Prod.snd = List.range' 1 (a.cursor + 1)
      rw [List.range'_1_concat, List.map_append, h.vals, Nat.add_comm 1 a.cursor]
      rfl
    · show ((a.internal ++ [(t, a.cursor + 1)]).map Prod.fst).Nodup
      rw [List.map_append, List.nodup_append]
      refine ⟨h.keys, List.pairwise_singleton _ _, fun k hk b hb e => ?_⟩
      rw [List.mem_singleton.1 hb] at e
      subst e
      exact (assocGet_none_iff _ _).1 hnone hk

theorem after_nil (a : Out) : a.after [] = a := rfl
theorem after_cons (a : Out) (t : Str) (ts : List Str) : a.after (t :: ts) = (a.set t).1.after ts := rfl
theorem after_snoc (a : Out) (ts : List Str) (t : Str) : a.after (ts ++ [t]) = ((a.after ts).set t).1 := by
  simp [Out.after, List.foldl_append]
theorem after_append (a : Out) (ts ts' : List Str) : a.after (ts ++ ts') = (a.after ts).after ts' := by
  simp [Out.after, List.foldl_append]

theorem inv_after {a : Out} (h : a.Inv) (ts : List Str) : (a.after ts).Inv :=
  ts.foldlRecOn _ h fun _ h t _ => inv_set h t

theorem after_maximum (a : Out) (ts : List Str) : (a.after ts).maximum = a.maximum :=
  ts.foldlRecOn _ (motive := (·.maximum = a.maximum)) rfl fun a' h t _ => (set_maximum a' t).trans h

theorem run_fst (a : Out) (ts : List Str) : (a.run ts).1 = a.after ts := by
  induction ts generalizing a with
  | nil => rfl
  | cons t ts ih => simp only [Out.run, after_cons, ih]

theorem set_alias_le {a : Out} (h : a.Inv) (t : Str) : (a.set t).2.1 ≤ a.maximum := by
  rcases set_cases h t with ⟨x, hx, e⟩ | ⟨_, _, e⟩ | ⟨_, hlt, e⟩
  · rw [e]; exact Nat.le_trans (h.bound_range hx).2 h.cur_le
  · rw [e]; exact Nat.zero_le _
  · rw [e]; exact hlt

theorem set_mono (a : Out) (t' t : Str) (x : Nat) (h : assocGet a.internal t = some x) :
    assocGet (a.set t').1.internal t = some x := by
  unfold Out.set
  split
  · exact h
  · split
    · exact h
    · dsimp only
      split
      · exact h
      · show assocGet (a.internal ++ _) t = some x
        rw [assocGet_append, h]; rfl

theorem after_mono (a : Out) (ts : List Str) (t : Str) (x : Nat) (h : assocGet a.internal t = some x) :
    assocGet (a.after ts).internal t = some x :=
  ts.foldlRecOn _ (motive := fun a => assocGet a.internal t = some x) h fun a h t' _ => set_mono a t' t x h

theorem bindNext_get (a : Out) (t t' : Str) :
    assocGet (a.bindNext t).internal t' =
      (assocGet a.internal t').or (if t = t' then some (a.cursor + 1) else none) := by
  show assocGet (a.internal ++ [(t, a.cursor + 1)]) t' = _
  rw [assocGet_append]; rfl

theorem set_binds {a : Out} (h : a.Inv) (t : Str) (x : Nat) (hx : (a.set t).2.1 = x) (h0 : x ≠ 0) :
    assocGet (a.set t).1.internal t = some x := by
  rcases set_cases h t with ⟨y, hy, e⟩ | ⟨_, _, e⟩ | ⟨hnone, _, e⟩
  · rw [e] at hx ⊢; exact hx ▸ hy
  · rw [e] at hx; exact absurd hx.symm h0
  · rw [e] at hx ⊢
    rw [bindNext_get, hnone, if_pos rfl, ← hx]; rfl

theorem set_new_binding {a : Out} (h : a.Inv) (t' t : Str) (x : Nat)
    (hx : assocGet (a.set t').1.internal t = some x) :
    assocGet a.internal t = some x ∨ (t = t' ∧ (a.set t').2.1 = x ∧ x ≠ 0 ∧ assocGet a.internal t = none) := by
  rcases set_cases h t' with ⟨_, _, e⟩ | ⟨_, _, e⟩ | ⟨_, _, e⟩
  · rw [e] at hx; exact Or.inl hx
  · rw [e] at hx; exact Or.inl hx
  · rw [e] at hx ⊢
    rw [bindNext_get] at hx
    cases hg : assocGet a.internal t with
    | some y => rw [hg] at hx; exact Or.inl hx
    | none =>
      rw [hg] at hx
      by_cases he : t' = t
      · rw [if_pos he] at hx
        exact Or.inr ⟨he.symm, Option.some.inj hx, fun e0 => by rw [← Option.some.inj hx] at e0; omega, rfl⟩
      · rw [if_neg he] at hx; exact nomatch hx

theorem set_existed_iff {a : Out} (h : a.Inv) (t : Str) :
    (a.set t).2.2 = true ↔ ∃ x, assocGet a.internal t = some x := by
  rcases set_cases h t with ⟨x, hx, e⟩ | ⟨hnone, _, e⟩ | ⟨hnone, _, e⟩
  · rw [e]; exact ⟨fun _ => ⟨x, hx⟩, fun _ => rfl⟩
  · rw [e, hnone]; exact ⟨nofun, fun ⟨_, hx⟩ => nomatch hx⟩
  · rw [e, hnone]; exact ⟨nofun, fun ⟨_, hx⟩ => nomatch hx⟩

theorem set_existing (a : Out) (t : Str) (x : Nat) (hz : a.maximum ≠ 0) (h : assocGet a.internal t = some x) :
    a.set t = (a, x, true) := by
  unfold Out.set
  have : (a.maximum == 0) = false := by simpa using hz
  simp [this, h]

theorem Out.Inv.max_ne_zero_of_bound {a : Out} (h : a.Inv) {t : Str} {x : Nat}
    (hx : assocGet a.internal t = some x) : a.maximum ≠ 0 := by
  have := h.bound_range hx
  have := h.cur_le
  omega

theorem set_full {a : Out} (h : a.Inv) (t : Str) (hfull : a.internal.length = a.maximum)
    (hnew : assocGet a.internal t = none) : a.set t = (a, 0, false) := by
  rcases set_cases h t with ⟨x, hx, _⟩ | ⟨_, _, e⟩ | ⟨_, hlt, _⟩
  · rw [hnew] at hx; exact nomatch hx
  · exact e
  · rw [h.length] at hfull; omega

/-- `t` is bound to `x` after the calls `ts` exactly when some earlier call `Set(t)` returned `x ≠ 0` -/
theorem bound_iff_earlier (m : Nat) (hm : m < 65536) (ts : List Str) (t : Str) (x : Nat) :
    assocGet ((Out.new m).after ts).internal t = some x ↔
      ∃ p, (p ++ [t]) <+: ts ∧ (((Out.new m).after p).set t).2.1 = x ∧ x ≠ 0 := by
  induction ts using list_snoc_induction with
  | nil =>
    constructor
    · intro h; simp [after_nil, Out.new, assocGet] at h
    · rintro ⟨p, hp, _⟩
      rw [List.prefix_nil] at hp
      simp at hp
  | snoc ts t' ih =>
    have hinv := inv_after (inv_new m hm) ts
    rw [after_snoc]
    constructor
    · intro h
      rcases set_new_binding hinv t' t x h with h | ⟨rfl, hx, h0, _⟩
      · obtain ⟨p, hp, hr⟩ := ih.1 h
        exact ⟨p, List.prefix_concat_iff.2 (Or.inr hp), hr⟩
      · exact ⟨ts, List.prefix_refl _, hx, h0⟩
    · rintro ⟨p, hp, hx, h0⟩
      rcases List.prefix_concat_iff.1 hp with he | hp
      · obtain ⟨rfl, rfl⟩ := List.append_singleton_inj.1 he
        exact set_binds hinv _ _ hx h0
      · exact set_mono _ _ _ _ (ih.2 ⟨p, hp, hx, h0⟩)

theorem setFresh_get_none (a : Out) (t t' : Str) (h : assocGet a.internal t' = none) (hne : t ≠ t') :
    assocGet (a.setFresh t).1.internal t' = none := by
  unfold Out.setFresh
  split
  · exact h
  · dsimp only
    split
    · exact h
    · show assocGet (a.internal ++ _) t' = none
      rw [assocGet_append, h]
      simp [assocGet, hne]

theorem fillSpec_eq_run (a : Out) (ts : List Str) (hk : ∀ t ∈ ts, assocGet a.internal t = none)
    (hn : ts.Nodup) : a.fillSpec ts = ((a.run ts).1, (a.run ts).2.map Prod.fst) := by
  induction ts generalizing a with
  | nil => rfl
  | cons t ts ih =>
    have ht := hk t (List.mem_cons_self)
    rw [List.nodup_cons] at hn
    simp only [Out.fillSpec, Out.run, set_eq_setFresh a t ht, List.map_cons]
    rw [ih]
    · intro t' ht'
      refine setFresh_get_none a t t' (hk t' (List.mem_cons_of_mem _ ht')) ?_
      intro e; subst e; exact hn.1 ht'
    · exact hn.2

theorem fillGo_spec (m : Nat) (base : List (Str × Nat)) (ts : List Str) :
    ∀ (cur : Nat) (nb : List (Str × Nat)) (as : List Nat),
      let r := Out.fillGo m cur nb as ts
      let s := Out.fillSpec ⟨m, cur, base ++ nb.reverse⟩ ts
      s.1 = ⟨m, r.1, base ++ r.2.1.reverse⟩ ∧ as.reverse ++ s.2 = r.2.2.reverse := by
  induction ts with
  | nil => intro cur nb as; simp [Out.fillGo, Out.fillSpec]
  | cons t ts ih =>
    intro cur nb as
    simp only [Out.fillGo, Out.fillSpec, Out.setFresh]
    by_cases hz : (m == 0) = true
    · simp only [hz, if_true]
      have := ih cur nb (0 :: as)
      simp only [List.reverse_cons, List.append_assoc, List.singleton_append] at this
      exact this
    · simp only [hz]
      by_cases hg : u32 (cur + 1) > u32 m
      · simp only [hg, if_true]
        have := ih cur nb (0 :: as)
        simp only [List.reverse_cons, List.append_assoc, List.singleton_append] at this
        exact this
      · simp only [hg, if_false]
        have := ih (u32 (cur + 1)) ((t, u16 (u16 cur + 1)) :: nb) (u16 (u16 cur + 1) :: as)
        simp only [List.reverse_cons, List.append_assoc, List.singleton_append] at this
        simp only [Bool.false_eq_true, if_false, List.append_assoc]
        exact this

theorem fillFresh_eq_fillSpec (a : Out) (ts : List Str) : a.fillFresh ts = a.fillSpec ts := by
  have := fillGo_spec a.maximum a.internal ts a.cursor [] []
  simp only [List.reverse_nil, List.append_nil, List.nil_append] at this
  unfold Out.fillFresh
  obtain ⟨h1, h2⟩ := this
  apply Prod.ext
  · exact h1.symm
  · exact h2.symm

theorem fillFresh_eq_run (a : Out) (ts : List Str) (hk : ∀ t ∈ ts, assocGet a.internal t = none)
    (hn : ts.Nodup) : a.fillFresh ts = ((a.run ts).1, (a.run ts).2.map Prod.fst) := by
  rw [fillFresh_eq_fillSpec, fillSpec_eq_run a ts hk hn]

theorem after_length {a : Out} (h : a.Inv) (ts : List Str) (hk : ∀ t ∈ ts, assocGet a.internal t = none)
    (hn : ts.Nodup) : (a.after ts).internal.length = min (a.internal.length + ts.length) a.maximum := by
  induction ts generalizing a with
  | nil => rw [after_nil, List.length_nil, Nat.add_zero, h.length]; exact (Nat.min_eq_left h.cur_le).symm
  | cons t ts ih =>
    have ht := hk t (List.mem_cons_self)
    rw [List.nodup_cons] at hn
    have hk' : ∀ t' ∈ ts, assocGet (a.set t).1.internal t' = none := by
      intro t' ht'
      rw [set_eq_setFresh a t ht]
      refine setFresh_get_none a t t' (hk t' (List.mem_cons_of_mem _ ht')) ?_
      intro e; subst e; exact hn.1 ht'
    rw [after_cons, ih (inv_set h t) hk' hn.2, set_maximum, List.length_cons]
    rcases set_cases h t with ⟨x, hx, _⟩ | ⟨_, hc, e⟩ | ⟨_, _, e⟩
    · rw [ht] at hx; exact nomatch hx
    · -- the table is full already
      rw [e, h.length, hc, Nat.min_eq_right (Nat.le_add_right _ _), Nat.min_eq_right (Nat.le_add_right _ _)]
    · rw [e]
      show min ((a.internal ++ [(t, a.cursor + 1)]).length + ts.length) a.maximum = _
      rw [List.length_append, List.length_singleton, Nat.add_assoc, Nat.add_comm 1]

theorem in_set_maximum (a : In) (id : Nat) (t : Str) : (a.set id t).1.maximum = a.maximum := by
  unfold In.set
  split
  · rfl
  · split
    · split <;> rfl
    · rfl

theorem in_after_cons (a : In) (o : Nat × Str) (ops : List (Nat × Str)) :
    a.after (o :: ops) = (a.set o.1 o.2).1.after ops := rfl

/-- what `id` is bound to (the empty topic when unbound) follows the last non-empty binding -/
theorem in_after_get (a : In) (hm : a.maximum ≠ 0) (ops : List (Nat × Str)) (id : Nat) (acc : Option Str)
    (h : (assocGet a.internal id).getD [] = acc.getD []) :
    (assocGet (a.after ops).internal id).getD [] =
      (ops.foldl (fun acc o => if o.1 = id ∧ o.2 ≠ [] then some o.2 else acc) acc).getD [] := by
  induction ops generalizing a acc with
  | nil => exact h
  | cons o ops ih =>
    obtain ⟨i, t⟩ := o
    rw [in_after_cons, List.foldl_cons]
    apply ih
    · rw [in_set_maximum]; exact hm
    · have hz : (a.maximum == 0) = false := by simpa using hm
      unfold In.set
      simp only [hz]
      by_cases hi : i = id
      · subst hi
        by_cases ht : t = []
        · subst ht
          cases hg : assocGet a.internal i with
          | some e =>
            rw [hg] at h
            simpa [hg] using h
          | none =>
            rw [hg] at h
            have h' : acc.getD [] = [] := by simpa using h.symm
            simp [assocGet_assocSet, h']
        · cases hg : assocGet a.internal i with
          | some e => simp [ht, assocGet_assocSet]
          | none => simp [ht, assocGet_assocSet]
      · have hi' : ¬ id = i := fun e => hi e.symm
        cases hg : assocGet a.internal i with
        | some e =>
          by_cases ht : t = []
          · simp [ht, hi, h]
          · simp [ht, hi, hi', assocGet_assocSet, h]
        | none => simp [hi, hi', assocGet_assocSet, h]

end Mochi.Alias
