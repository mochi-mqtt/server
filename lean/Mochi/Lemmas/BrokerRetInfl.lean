import Mochi.Lemmas.BrokerCounters
import Mochi.Lemmas.BrokerPublishOp
import Mochi.Lemmas.BrokerRetained
/-!
# C25 — housekeeping of the in-flight records (`tickInflight`, server.go `clearExpiredInflights`)

* `dueAt caps now m`: the record `m` is due for removal by the housekeeping run at time `now`.
* `tickInflight_shrunk_hk`: housekeeping only removes in-flight records — of EVERY object, registered or not — and
  changes nothing else (`caps`, `clients`, `rmsgs`, number of objects, every other field of every object).
* `tickInflight_removes_due`: after housekeeping at `now` a REGISTERED session holds no record that was due at `now`;
  `C25_inflight_gone`, `C25_inflight_gone_max`.
* `admitC_out_hk`, `admitC_writes_hk`: what a resumed session is resent are its own in-flight records (PUBLISH with
  `dup = true`), so (`C25_no_resend_due_hk`) a record that was due at the last housekeeping is not resent.
* finding F25a, closed (`C25_deferred_exempt_counterexample_hk`): a copy deferred by flow control is stored with
  `expiry = -1`, housekeeping does not remove it and a later PUBACK releases it to the subscriber after its Message
  Expiry Interval has passed (a copy that was sent with the same interval IS removed by the same housekeeping run).
* non-vacuity (`C25_offline_copy_removed_hk`): an offline session's unacknowledged copy is removed by housekeeping
  and is not resent when the session is resumed; without the housekeeping run it is resent with `dup = true`.
-/
namespace Mochi.Broker
open Mochi.Topics

/-- the record is due for removal by housekeeping at time `now` (clients.go / server.go `clearExpiredInflights`) -/
def dueAt (caps : Caps) (now : Int) (m : Msg) : Bool :=
  (m.ver == 5 && m.expiry > 0 && m.expiry < now) || (caps.maxMessageExpiry > 0 && now - m.created > caps.maxMessageExpiry)

/-- the two housekeeping loops apply one test -/
theorem dueAt_eq_retDue : dueAt = retDue := rfl

/-- one iteration of the inner loop of `tickInflight` (the record `m` of the captured list, object `i`) -/
def tickInflStep_hk (now : Int) (i : Nat) (s : Server) (m : Msg) : Server :=
  if dueAt s.caps now m then
    if (flDelete (getObj s i) m.id).2 then
      { setObj s i (flDelete (getObj s i) m.id).1 with
        info := { (setObj s i (flDelete (getObj s i) m.id).1).info with
                  inflight := (setObj s i (flDelete (getObj s i) m.id).1).info.inflight - 1 } }
    else setObj s i (flDelete (getObj s i) m.id).1
  else s

/-- one iteration of the outer loop of `tickInflight` (the entry `e` of the Clients map) -/
def tickInflClient_hk (now : Int) (s : Server) (e : Str × Nat) : Server :=
  (getObj s e.2).inflight.foldl (tickInflStep_hk now e.2) s

/-- the inner `if` of `tickInflight` is exactly `dueAt s.caps now m` -/
theorem tickInflight_eq_hk (s : Server) (now : Int) :
    tickInflight s now = s.clients.foldl (tickInflClient_hk now) s := rfl

/-! ### "only in-flight records are removed" -/

/-- `s'` is `s` with some in-flight records removed (of any object), nothing else changed -/
structure Shrunk_hk (s s' : Server) : Prop where
  caps : s'.caps = s.caps
  clients : s'.clients = s.clients
  rmsgs : s'.rmsgs = s.rmsgs
  len : s'.objs.length = s.objs.length
  sub : ∀ j, ∀ x ∈ (getObj s' j).inflight, x ∈ (getObj s j).inflight
  rest : ∀ j, { getObj s' j with inflight := [] } = { getObj s j with inflight := [] }

theorem Shrunk_hk.refl (s : Server) : Shrunk_hk s s :=
  ⟨rfl, rfl, rfl, rfl, fun _ _ h => h, fun _ => rfl⟩

theorem Shrunk_hk.trans {a b c : Server} (h1 : Shrunk_hk a b) (h2 : Shrunk_hk b c) : Shrunk_hk a c :=
  ⟨h2.caps.trans h1.caps, h2.clients.trans h1.clients, h2.rmsgs.trans h1.rmsgs, h2.len.trans h1.len,
   fun j x h => h1.sub j x (h2.sub j x h), fun j => (h2.rest j).trans (h1.rest j)⟩

theorem Shrunk_hk.info {a b : Server} (h : Shrunk_hk a b) (x : Info) : Shrunk_hk a { b with info := x } :=
  ⟨h.caps, h.clients, h.rmsgs, h.len, h.sub, h.rest⟩

theorem setObj_shrunk_hk (s : Server) (i : Nat) (c' : Client)
    (hin : ∀ x ∈ c'.inflight, x ∈ (getObj s i).inflight)
    (hrest : { c' with inflight := [] } = { getObj s i with inflight := [] }) : Shrunk_hk s (setObj s i c') := by
  refine ⟨rfl, rfl, rfl, setObj_length s i c', ?_, ?_⟩
  · exact fun j x => getObj_setObj_ind (P := fun z => x ∈ z.inflight → x ∈ (getObj s j).inflight) s i c' j (fun h => h)
      fun e => e ▸ hin x
  · exact fun j => getObj_setObj_ind (P := fun z => { z with inflight := [] } = { getObj s j with inflight := [] }) s i c' j
      rfl fun e => e ▸ hrest

theorem flDelete_shrunk_hk (s : Server) (i id : Nat) : Shrunk_hk s (setObj s i (flDelete (getObj s i) id).1) := by
  refine setObj_shrunk_hk s i _ ?_ rfl
  intro x hx
  have hx' : x ∈ (getObj s i).inflight.filter (fun m => m.id != id) := hx
  exact (List.mem_filter.mp hx').1

theorem tickInflStep_cases_hk {Q : Server → Prop} (now : Int) (i : Nat) (s : Server) (m : Msg)
    (keep : ¬ dueAt s.caps now m = true → Q s)
    (drop : dueAt s.caps now m = true → ∀ inf, Q { setObj s i (flDelete (getObj s i) m.id).1 with info := inf }) :
    Q (tickInflStep_hk now i s m) :=
  iteInduction (motive := Q) (fun h => iteInduction (motive := Q) (fun _ => drop h _) fun _ => drop h _) keep

theorem tickInflStep_shrunk_hk (now : Int) (i : Nat) (s : Server) (m : Msg) :
    Shrunk_hk s (tickInflStep_hk now i s m) :=
  tickInflStep_cases_hk now i s m (fun _ => .refl s) fun _ inf => (flDelete_shrunk_hk s i m.id).info inf

theorem tickInflFold_shrunk_hk (now : Int) (i : Nat) (L : List Msg) (b : Server) :
    Shrunk_hk b (L.foldl (tickInflStep_hk now i) b) :=
  foldl_inv (fun x => Shrunk_hk b x) _ _ _ (Shrunk_hk.refl b)
    (fun b' a h => h.trans (tickInflStep_shrunk_hk now i b' a))

theorem tickInflClient_shrunk_hk (now : Int) (s : Server) (e : Str × Nat) :
    Shrunk_hk s (tickInflClient_hk now s e) :=
  tickInflFold_shrunk_hk now e.2 _ s

theorem tickInflOuter_shrunk_hk (now : Int) (cl : List (Str × Nat)) (b : Server) :
    Shrunk_hk b (cl.foldl (tickInflClient_hk now) b) :=
  foldl_inv (fun x => Shrunk_hk b x) _ _ _ (Shrunk_hk.refl b)
    (fun b' a h => h.trans (tickInflClient_shrunk_hk now b' a))

/-- housekeeping removes in-flight records and changes nothing else -/
theorem tickInflight_shrunk_hk (s : Server) (now : Int) : Shrunk_hk s (tickInflight s now) :=
  tickInflOuter_shrunk_hk now s.clients s

theorem tickInflight_sub_hk (s : Server) (now : Int) (j : Nat) :
    ∀ x ∈ (getObj (tickInflight s now) j).inflight, x ∈ (getObj s j).inflight :=
  (tickInflight_shrunk_hk s now).sub j

theorem tickInflight_clients_hk (s : Server) (now : Int) : (tickInflight s now).clients = s.clients :=
  (tickInflight_shrunk_hk s now).clients

theorem tickInflight_caps_hk (s : Server) (now : Int) : (tickInflight s now).caps = s.caps :=
  (tickInflight_shrunk_hk s now).caps

theorem tickInflight_rmsgs_hk (s : Server) (now : Int) : (tickInflight s now).rmsgs = s.rmsgs :=
  (tickInflight_shrunk_hk s now).rmsgs

theorem tickInflight_objs_length_hk (s : Server) (now : Int) : (tickInflight s now).objs.length = s.objs.length :=
  (tickInflight_shrunk_hk s now).len

theorem tickInflight_obj_rest_hk (s : Server) (now : Int) (j : Nat) :
    { getObj (tickInflight s now) j with inflight := [] } = { getObj s j with inflight := [] } :=
  (tickInflight_shrunk_hk s now).rest j

theorem tickInflight_obj_fields_hk (s : Server) (now : Int) (j : Nat) :
    (getObj (tickInflight s now) j).isOpen = (getObj s j).isOpen ∧
    (getObj (tickInflight s now) j).stopped = (getObj s j).stopped ∧
    (getObj (tickInflight s now) j).conn = (getObj s j).conn ∧
    (getObj (tickInflight s now) j).id = (getObj s j).id ∧
    (getObj (tickInflight s now) j).ver = (getObj s j).ver ∧
    (getObj (tickInflight s now) j).sendQuota = (getObj s j).sendQuota ∧
    (getObj (tickInflight s now) j).subs = (getObj s j).subs :=
  have h := tickInflight_obj_rest_hk s now j
  ⟨(congrArg Client.isOpen h :), (congrArg Client.stopped h :), (congrArg Client.conn h :), (congrArg Client.id h :),
   (congrArg Client.ver h :), (congrArg Client.sendQuota h :), (congrArg Client.subs h :)⟩

/-! ### "every due record of a registered session is removed" -/

theorem tickInflStep_absent_hk (now : Int) (i : Nat) (s : Server) (m : Msg) (h : dueAt s.caps now m = true) :
    m ∉ (getObj (tickInflStep_hk now i s m) i).inflight := by
  have key : m ∉ (getObj (setObj s i (flDelete (getObj s i) m.id).1) i).inflight := by
    by_cases hi : i < s.objs.length
    · rw [getObj_setObj_eq s i _ hi]
      intro hm
      have hm' : m ∈ (getObj s i).inflight.filter (fun x => x.id != m.id) := hm
      have h2 := (List.mem_filter.mp hm').2
      simp only [bne_self_eq_false, Bool.false_eq_true] at h2
    · rw [getObj_setObj_ge s i _ hi]
      show m ∉ (s.objs.getD i {}).inflight
      rw [List.getD_eq_getElem?_getD, List.getElem?_eq_none (Nat.le_of_not_lt hi)]
      intro hm
      cases hm
  exact tickInflStep_cases_hk (Q := fun b => m ∉ (getObj b i).inflight) now i s m (absurd h) fun _ _ => key

theorem tickInflFold_absent_hk (now : Int) (i : Nat) (x : Msg) : ∀ (L : List Msg) (b : Server), x ∈ L →
    dueAt b.caps now x = true → x ∉ (getObj (L.foldl (tickInflStep_hk now i) b) i).inflight := by
  intro L
  induction L with
  | nil => intro b hx; cases hx
  | cons m L ih =>
    intro b hx hd
    rw [List.foldl_cons]
    rcases List.mem_cons.mp hx with hxm | hx'
    · rw [← hxm]
      intro hmem
      exact tickInflStep_absent_hk now i b x hd ((tickInflFold_shrunk_hk now i L _).sub i x hmem)
    · refine ih _ hx' ?_
      rw [(tickInflStep_shrunk_hk now i b m).caps]; exact hd

theorem tickInflOuter_due_hk (now : Int) (cid : Str) (i : Nat) : ∀ (cl : List (Str × Nat)) (b : Server),
    (cid, i) ∈ cl → ∀ x ∈ (getObj (cl.foldl (tickInflClient_hk now) b) i).inflight, dueAt b.caps now x = false := by
  intro cl
  induction cl with
  | nil => intro b h; cases h
  | cons e cl ih =>
    intro b hmem x hx
    rw [List.foldl_cons] at hx
    rcases List.mem_cons.mp hmem with he | hcl
    · rw [← he] at hx
      have h1 : x ∈ (getObj (tickInflClient_hk now b (cid, i)) i).inflight :=
        (tickInflOuter_shrunk_hk now cl _).sub i x hx
      have h2 : x ∈ (getObj b i).inflight := (tickInflClient_shrunk_hk now b (cid, i)).sub i x h1
      cases hd : dueAt b.caps now x
      · rfl
      · exact absurd h1 (tickInflFold_absent_hk now i x (getObj b i).inflight b h2 hd)
    · have h := ih _ hcl x hx
      rw [(tickInflClient_shrunk_hk now b e).caps] at h
      exact h

/-- after housekeeping at `now`, a REGISTERED session (any entry of the Clients map) holds no record that was due -/
theorem tickInflight_removes_due (s : Server) (now : Int) (cid : Str) (i : Nat) (hreg : (cid, i) ∈ s.clients) :
    ∀ x ∈ (getObj (tickInflight s now) i).inflight, dueAt s.caps now x = false :=
  tickInflOuter_due_hk now cid i s.clients s hreg

/-- C25, stored copies: a copy (MQTT 5) whose expiry time lies strictly before the housekeeping time is gone from its
    (registered) session after housekeeping -/
theorem C25_inflight_gone (s : Server) (now : Int) (cid : Str) (i : Nat) (m : Msg)
    (_hm : m ∈ (getObj s i).inflight) (hreg : (cid, i) ∈ s.clients) (hv : m.ver = 5) (he : 0 < m.expiry)
    (hlt : m.expiry < now) : m ∉ (getObj (tickInflight s now) i).inflight := fun hin =>
  Bool.noConfusion ((tickInflight_removes_due s now cid i hreg m hin).symm.trans
    (dueAt_eq_retDue ▸ retDue_of_expired s.caps now m (Or.inl ⟨hv, he, hlt⟩)))

/-- … and so is a copy older than the server's Maximum Message Expiry Interval -/
theorem C25_inflight_gone_max (s : Server) (now : Int) (cid : Str) (i : Nat) (m : Msg)
    (hreg : (cid, i) ∈ s.clients) (hmax : 0 < s.caps.maxMessageExpiry)
    (hold : now - m.created > s.caps.maxMessageExpiry) : m ∉ (getObj (tickInflight s now) i).inflight := by
  intro hin
  have h := tickInflight_removes_due s now cid i hreg m hin
  unfold dueAt at h
  simp [hmax, hold] at h

/-! ### resend after a resumption (`ResendInflightMessages`) -/

/-- everything `admitC` writes is the write of one of the session's in-flight records (a PUBLISH with `dup` set) -/
theorem admitC_out_hk (s : Server) (i : Nat) (k : Connect) (present : Bool) :
    ∀ o ∈ (admitC s i k present).2, ∃ m ∈ (getObj s i).inflight, ∃ s' : Server,
      o ∈ writeMsg s' i (if m.type == 3 then { m with dup := true } else m) :=
  admitC_cases_mem (J := fun r => ∀ o ∈ r.2, ∃ m ∈ (getObj s i).inflight, ∃ s' : Server,
      o ∈ writeMsg s' i (if m.type == 3 then { m with dup := true } else m)) s i k present (fun _ ho => nomatch ho)
    fun acc m hm ih o ho => (List.mem_append.mp ho).elim (ih o) fun h => ⟨m, mem_permuteBy _ _ _ hm, acc.1, h⟩

/-- every PUBLISH packet a resumption writes is an in-flight PUBLISH record of the session, with `dup = true` -/
theorem admitC_writes_hk (s : Server) (i : Nat) (k : Connect) (present : Bool) :
    ∀ o ∈ (admitC s i k present).2, (∃ conn ver m' me, o = Out.wrote conn (.publish ver m' me)) →
      ∃ m ∈ (getObj s i).inflight, m.type = 3 ∧
        ∃ conn ver me, o = Out.wrote conn (.publish ver { m with dup := true } me) := by
  intro o ho hshape
  obtain ⟨m, hm, s', hw⟩ := admitC_out_hk s i k present o ho
  refine ⟨m, hm, ?_⟩
  by_cases ht : m.type = 3
  · rw [if_pos (by rw [ht]; rfl), writeMsg_publish s' i { m with dup := true } ht, List.mem_ite_nil_right] at hw
    exact ⟨ht, _, _, _, List.mem_singleton.mp hw.2⟩
  · rw [if_neg (by simpa using ht), writeMsg_eq, List.mem_ite_nil_right, if_neg (by simpa using ht)] at hw
    obtain ⟨conn, ver, m', me, hsh⟩ := hshape
    rw [hsh] at hw
    cases List.mem_singleton.mp hw.2

/-- a record that was due at the last housekeeping run is not resent when the (registered) session is resumed -/
theorem C25_no_resend_due_hk (s : Server) (now : Int) (cid : Str) (i : Nat) (hreg : (cid, i) ∈ s.clients)
    (k : Connect) (present : Bool) :
    ∀ o ∈ (admitC (tickInflight s now) i k present).2, (∃ conn ver m' me, o = Out.wrote conn (.publish ver m' me)) →
      ∃ m ∈ (getObj s i).inflight, dueAt s.caps now m = false ∧ m.type = 3 ∧
        ∃ conn ver me, o = Out.wrote conn (.publish ver { m with dup := true } me) := by
  intro o ho hshape
  obtain ⟨m, hm, ht, h⟩ := admitC_writes_hk (tickInflight s now) i k present o ho hshape
  exact ⟨m, tickInflight_sub_hk s now i m hm, tickInflight_removes_due s now cid i hreg m hm, ht, h⟩

/-! ### what housekeeping keeps: the deferred copies (finding F25a, general form) -/

theorem tickInflStep_keeps_hk (now : Int) (j i : Nat) (s : Server) (a x : Msg) (hx : x ∈ (getObj s i).inflight)
    (hid : j = i → dueAt s.caps now a = true → a.id ≠ x.id) :
    x ∈ (getObj (tickInflStep_hk now j s a) i).inflight := by
  have key : dueAt s.caps now a = true → x ∈ (getObj (setObj s j (flDelete (getObj s j) a.id).1) i).inflight := by
    intro hd
    refine getObj_setObj_ind (P := fun z => x ∈ z.inflight) s j _ i hx fun hji => ?_
    subst hji
    show x ∈ (getObj s i).inflight.filter (fun m => m.id != a.id)
    refine List.mem_filter.mpr ⟨hx, ?_⟩
    have hne := hid rfl hd
    simp only [bne_iff_ne, ne_eq]
    exact fun e => hne e.symm
  exact tickInflStep_cases_hk (Q := fun b => x ∈ (getObj b i).inflight) now j s a (fun _ => hx) fun h _ => key h

/-- housekeeping keeps a record `x` of object `i` unless a record of object `i` that is due carries `x`'s packet id
    (`x` itself included: the hypothesis implies that `x` is not due) -/
theorem tickInflight_keeps_hk (s : Server) (now : Int) (i : Nat) (x : Msg) (hx : x ∈ (getObj s i).inflight)
    (hid : ∀ y ∈ (getObj s i).inflight, dueAt s.caps now y = true → y.id ≠ x.id) :
    x ∈ (getObj (tickInflight s now) i).inflight := by
  rw [tickInflight_eq_hk]
  refine (foldl_inv (fun b => Shrunk_hk s b ∧ x ∈ (getObj b i).inflight) _ _ _ ⟨Shrunk_hk.refl s, hx⟩ ?_).2
  intro b e hb
  obtain ⟨hs, hb⟩ := hb
  unfold tickInflClient_hk
  refine List.foldlRecOn _ _ (motive := fun b' => Shrunk_hk s b' ∧ x ∈ (getObj b' i).inflight) ⟨hs, hb⟩
    fun b' hb' a ha => ?_
  obtain ⟨hs', hb'⟩ := hb'
  refine ⟨hs'.trans (tickInflStep_shrunk_hk now e.2 b' a), tickInflStep_keeps_hk now e.2 i b' a x hb' ?_⟩
  intro hji hd
  have h1 := hs.sub e.2 a ha
  rw [hji] at h1
  rw [hs'.caps] at hd
  exact hid a h1 hd

/-- F25a, general form: a copy deferred by flow control (`expiry = -1 ≤ 0`) is NOT removed by housekeeping, however
    long ago its Message Expiry Interval has passed — as long as no record of the session is older than the server's
    Maximum Message Expiry Interval and the records under its packet id carry no expiry time -/
theorem C25_deferred_kept_hk (s : Server) (now : Int) (i : Nat) (x : Msg) (hx : x ∈ (getObj s i).inflight)
    (hage : s.caps.maxMessageExpiry = 0 ∨ ∀ y ∈ (getObj s i).inflight, now - y.created ≤ s.caps.maxMessageExpiry)
    (hids : ∀ y ∈ (getObj s i).inflight, y.id = x.id → y.expiry ≤ 0) :
    x ∈ (getObj (tickInflight s now) i).inflight := by
  refine tickInflight_keeps_hk s now i x hx ?_
  intro y hy hd heq
  have h0 := hids y hy heq
  unfold dueAt at hd
  simp only [Bool.or_eq_true, Bool.and_eq_true, decide_eq_true_eq] at hd
  rcases hd with ⟨⟨_, h1⟩, _⟩ | ⟨h1, h2⟩
  · omega
  · rcases hage with h | h
    · omega
    · have := h y hy
      omega

/-! ### histories -/

theorem step_tick_inflight_hk (s : Server) (t : Int) : step s (.tick "inflight" t) = (tickInflight s t, []) := rfl

theorem run_tick_inflight_hk (s : Server) (ops : List Op) (t : Int) :
    run s (ops ++ [.tick "inflight" t]) = tickInflight (run s ops) t := by
  unfold run
  rw [List.foldl_append, List.foldl_cons, List.foldl_nil, step_tick_inflight_hk]

/-- C25 on histories: once housekeeping has run at a time strictly later than a stored copy's expiry time, the copy
    is gone from its (registered) session -/
theorem C25_run_inflight_gone_hk (caps : Caps) (ops : List Op) (now : Int) (cid : Str) (i : Nat) (m : Msg)
    (hm : m ∈ (getObj (run (init caps) ops) i).inflight) (hreg : (cid, i) ∈ (run (init caps) ops).clients)
    (hv : m.ver = 5) (he : 0 < m.expiry) (hlt : m.expiry < now) :
    m ∉ (getObj (run (init caps) (ops ++ [.tick "inflight" now])) i).inflight := by
  rw [run_tick_inflight_hk]
  exact C25_inflight_gone _ now cid i m hm hreg hv he hlt

/-- subscriber `s` (MQTT 5, Session Expiry 100, Receive Maximum 1) subscribes to `a` at QoS 1; publisher `p` (MQTT 5)
    publishes payload 1 (Message Expiry Interval `me1`) and payload 2 (Message Expiry Interval 10) at QoS 1: the first
    copy is sent (packet id 1), the second is deferred (send quota 0); housekeeping runs at `NOW + 100` -/
def deferredHistory_hk (me1 : Nat) : List Op :=
  [.connect 1 { ver := 5, id := [115], clean := false, sei := some 100, rm := some 1 },
   .recv 1 (.subscribe 1 0 [{ filter := [97], qos := 1 }]),
   .connect 2 { ver := 5, id := [112] },
   .recv 2 (.publish 1 false false 1 [97] [1] me1 none),
   .recv 2 (.publish 1 false false 2 [97] [2] 10 none),
   .tick "inflight" (NOW + 100)]

/-- is `o` a PUBLISH with payload `p` written to connection `conn`? -/
def isPublishTo_hk (conn : Nat) (p : Str) (o : Out) : Bool :=
  match o with
  | .wrote c (.publish _ m _) => c == conn && m.payload == p
  | _ => false

def isPublish_hk (o : Out) : Bool :=
  match o with
  | .wrote _ (.publish ..) => true
  | _ => false

set_option maxRecDepth 100000 in
/-- finding F25a, closed: the copy deferred by flow control is exempt from message expiry -/
theorem C25_deferred_exempt_counterexample_hk :
    -- before housekeeping: the sent copy (expiry time `NOW + 1000`) and the deferred copy (`expiry = -1`; MQTT 5,
    -- Message Expiry Interval 10, i.e. expired from `NOW + 10` on)
    (getObj (run (init {}) ((deferredHistory_hk 1000).take 5)) 1).inflight.map
        (fun m => (m.id, m.payload, m.expiry, m.ver, m.msgExpiry))
      = [(1, [1], NOW + 1000, 5, 1000), (2, [2], -1, 5, 10)] ∧
    -- the session is registered
    ([115], 1) ∈ (run (init {}) (deferredHistory_hk 1000)).clients ∧
    -- housekeeping at `NOW + 100 > NOW + 10` keeps the deferred copy
    (getObj (run (init {}) (deferredHistory_hk 1000)) 1).inflight.map (fun m => (m.id, m.payload, m.expiry))
      = [(1, [1], NOW + 1000), (2, [2], -1)] ∧
    -- and the subscriber's PUBACK for the first copy releases it (`nextImmediate`): payload 2 is written to the
    -- subscriber's connection 90 s after its expiry time, after a housekeeping run
    (step (run (init {}) (deferredHistory_hk 1000)) (.recv 1 (.puback 1 0))).2.any (isPublishTo_hk 1 [2]) = true ∧
    -- compare: a copy that WAS sent with the same Message Expiry Interval 10 is removed by the same housekeeping run;
    -- the deferred one stays (and, the removed copy's send quota not being returned, the PUBACK releases nothing)
    (getObj (run (init {}) (deferredHistory_hk 10)) 1).inflight.map (fun m => (m.id, m.payload, m.expiry))
      = [(2, [2], -1)] ∧
    (step (run (init {}) (deferredHistory_hk 10)) (.recv 1 (.puback 1 0))).2 = [] := by
  decide

/-- subscriber `s` (MQTT 5, Session Expiry 100) subscribes to `a` at QoS 1, publisher `p` (MQTT 5) publishes at QoS 1
    with Message Expiry Interval 10; the subscriber does not acknowledge the copy and loses its connection -/
def offlineHistory_hk : List Op :=
  [.connect 1 { ver := 5, id := [115], clean := false, sei := some 100 },
   .recv 1 (.subscribe 1 0 [{ filter := [97], qos := 1 }]),
   .connect 2 { ver := 5, id := [112] },
   .recv 2 (.publish 1 false false 1 [97] [1] 10 none),
   .drop 1]

set_option maxRecDepth 100000 in
/-- non-vacuity: an offline session's stored copy is removed by housekeeping and not resent after a resumption -/
theorem C25_offline_copy_removed_hk :
    -- the offline session is registered and holds the unacknowledged copy (MQTT 5, expiry time `NOW + 10`)
    ([115], 1) ∈ (run (init {}) offlineHistory_hk).clients ∧
    (getObj (run (init {}) offlineHistory_hk) 1).inflight.map (fun m => (m.id, m.payload, m.expiry, m.ver))
      = [(1, [1], NOW + 10, 5)] ∧
    -- housekeeping at `NOW + 20` removes it
    (getObj (run (init {}) (offlineHistory_hk ++ [.tick "inflight" (NOW + 20)])) 1).inflight = [] ∧
    -- and the resumption (Clean Start 0, session present) writes the CONNACK and no PUBLISH
    (step (run (init {}) (offlineHistory_hk ++ [.tick "inflight" (NOW + 20)]))
        (.connect 3 { ver := 5, id := [115], clean := false, sei := some 100 })).2
      = [.wrote 3 (.connack 5 true 0 1024 2 none)] ∧
    -- compare: without the housekeeping run the copy is resent with `dup = true`
    ((step (run (init {}) offlineHistory_hk)
        (.connect 3 { ver := 5, id := [115], clean := false, sei := some 100 })).2.filter isPublish_hk).map
        (fun o => match o with | .wrote c (.publish _ m _) => (c, m.id, m.payload, m.dup) | _ => (0, 0, [], false))
      = [(3, 1, [1], true)] ∧
    -- … and so it is after a housekeeping run at `NOW + 10`, which is not strictly later than the expiry time
    ((step (run (init {}) (offlineHistory_hk ++ [.tick "inflight" (NOW + 10)]))
        (.connect 3 { ver := 5, id := [115], clean := false, sei := some 100 })).2.any isPublish_hk) = true := by
  decide

set_option maxRecDepth 100000 in
/-- the hypotheses of `C25_run_inflight_gone_hk` hold for every record the offline session of `offlineHistory_hk` holds,
    at the housekeeping time `NOW + 20` -/
example : ∀ m ∈ (getObj (run (init {}) offlineHistory_hk) 1).inflight,
    m ∉ (getObj (run (init {}) (offlineHistory_hk ++ [.tick "inflight" (NOW + 20)])) 1).inflight := by
  intro m hm
  have h : m.ver = 5 ∧ 0 < m.expiry ∧ m.expiry < NOW + 20 := by
    revert m; decide
  exact C25_run_inflight_gone_hk {} offlineHistory_hk (NOW + 20) [115] 1 m hm (by decide) h.1 h.2.1 h.2.2

set_option maxRecDepth 100000 in
/-- the hypotheses of `C25_deferred_kept_hk` hold for the deferred copy (payload 2, Message Expiry Interval 10) of
    `deferredHistory_hk` at the housekeeping time `NOW + 100` -/
example : ∃ x ∈ (getObj (run (init {}) ((deferredHistory_hk 1000).take 5)) 1).inflight,
    x.payload = [2] ∧ x.msgExpiry = 10 ∧ x.created + 10 < NOW + 100 ∧
    (∀ y ∈ (getObj (run (init {}) ((deferredHistory_hk 1000).take 5)) 1).inflight,
      NOW + 100 - y.created ≤ (run (init {}) ((deferredHistory_hk 1000).take 5)).caps.maxMessageExpiry) ∧
    (∀ y ∈ (getObj (run (init {}) ((deferredHistory_hk 1000).take 5)) 1).inflight, y.id = x.id → y.expiry ≤ 0) := by
  decide

#print axioms tickInflight_eq_hk
#print axioms tickInflight_shrunk_hk
#print axioms tickInflight_sub_hk
#print axioms tickInflight_clients_hk
#print axioms tickInflight_caps_hk
#print axioms tickInflight_rmsgs_hk
#print axioms tickInflight_objs_length_hk
#print axioms tickInflight_obj_rest_hk
#print axioms tickInflight_obj_fields_hk
#print axioms tickInflFold_absent_hk
#print axioms tickInflight_removes_due
#print axioms C25_inflight_gone
#print axioms C25_inflight_gone_max
#print axioms admitC_out_hk
#print axioms admitC_writes_hk
#print axioms C25_no_resend_due_hk
#print axioms tickInflight_keeps_hk
#print axioms C25_deferred_kept_hk
#print axioms step_tick_inflight_hk
#print axioms run_tick_inflight_hk
#print axioms C25_run_inflight_gone_hk
#print axioms C25_deferred_exempt_counterexample_hk
#print axioms C25_offline_copy_removed_hk

end Mochi.Broker
