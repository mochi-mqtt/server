import Mochi.Model.Locks
/-!
# M8 — soundness of the lock-graph checkers

For **every** function list `fs`:
* `noSelfNesting_sound`: if `noSelfNesting fs` then in no reachable state of the interleaving semantics is a
  thread about to request a lock it holds;
* `lockOrderAcyclic_sound`: if `lockOrderAcyclic fs` then no reachable state contains a cycle of threads each
  waiting for a lock held by the next.
Both follow from one lemma about `walk` (`run_sound` / `pre_sound`), generic in the acquisition policy: every
trace a thread can emit satisfies `TraceOK rel`.
-/
namespace Mochi.Locks

theorem resolve_append (o p : Path) (k : LockRef) : resolve (o ++ p) k = resolve o (k.rebase p) := by
  simp [resolve, LockRef.rebase, List.append_assoc]

theorem resolve_inj {o : Path} {a b : LockRef} (h : resolve o a = resolve o b) : a = b := by
  cases a; cases b
  simp only [resolve, LockRef.mk.injEq] at h
  simp [List.append_cancel_left h.1, h.2]

theorem rebase_nil (k : LockRef) : k.rebase [] = k := rfl

theorem lookup_mem {fs : List Func} {g : Nat} {f : Func} (h : lookup fs g = some f) : f ∈ fs := by
  induction fs with
  | nil => simp [lookup] at h
  | cons a t ih =>
    simp only [lookup] at h
    split at h
    · cases h; simp
    · exact List.mem_cons_of_mem _ (ih h)

theorem sumOf_lookup {fs : List Func} {g : Nat} {f : Func} (h : lookup fs g = some f) : sumOf fs g = f.acq := by
  simp [sumOf, h]

theorem heldAfter_append (h : List LockRef) (a b : List CEv) :
    heldAfter h (a ++ b) = heldAfter (heldAfter h a) b := by
  induction a generalizing h with
  | nil => rfl
  | cons e t ih => cases e <;> simp [heldAfter, ih]

theorem traceOK_append (rel : LockRef → LockRef → Prop) (h : List LockRef) (a b : List CEv) :
    TraceOK rel h (a ++ b) ↔ TraceOK rel h a ∧ TraceOK rel (heldAfter h a) b := by
  induction a generalizing h with
  | nil => simp [TraceOK, heldAfter]
  | cons e t ih => cases e <;> simp [TraceOK, heldAfter, ih, and_assoc]

theorem traceOK_rels (rel : LockRef → LockRef → Prop) (h : List LockRef) (ds : List LockRef) :
    TraceOK rel h (ds.map .rel) := by
  induction ds generalizing h with
  | nil => simp [TraceOK]
  | cons d t ih => simp [TraceOK, ih]

theorem heldAfter_rels_sub (h : List LockRef) (ds : List LockRef) :
    ∀ l ∈ heldAfter h (ds.map .rel), l ∈ h ∧ l ∉ ds := by
  induction ds generalizing h with
  | nil => simp [heldAfter]
  | cons d t ih =>
    intro l hl
    simp only [List.map_cons, heldAfter] at hl
    have := ih _ l hl
    simp only [List.mem_filter, decide_eq_true_eq] at this
    simp [this.1.1, this.1.2, this.2]

theorem traceOK_split {rel : LockRef → LockRef → Prop} {done rest : List CEv} {l : LockRef} {m : Mode}
    (h : TraceOK rel [] (done ++ .acq l m :: rest)) : ∀ x ∈ heldAfter [] done, rel x l := by
  rw [traceOK_append] at h
  exact h.2.1

/-- locks held by the enclosing frames (`X`) never conflict with what this function may acquire -/
def Ctx (rel : LockRef → LockRef → Prop) (o : Path) (X mine : List LockRef) : Prop :=
  ∀ k ∈ mine, ∀ x ∈ X, rel x (resolve o k)

/-- the checker's sets over-approximate what the thread holds: `h` held now, `X` held by enclosing frames,
`H`/`U` as in `walk`, `D` the releases deferred so far in this activation -/
structure Inv (o : Path) (X h H U D : List LockRef) : Prop where
  held : ∀ l ∈ h, l ∈ X ∨ ∃ k ∈ H, l = resolve o k
  undef : ∀ l ∈ h, l ∈ X ∨ l ∈ D ∨ ∃ k ∈ U, l = resolve o k

theorem Inv.mono {o : Path} {X h H U D H2 U2 D2 : List LockRef} (i : Inv o X h H U D)
    (hH : ∀ k ∈ H, k ∈ H2) (hU : ∀ k ∈ U, k ∈ U2) (hD : ∀ k ∈ D, k ∈ D2) : Inv o X h H2 U2 D2 := by
  constructor
  · intro l hl
    rcases i.held l hl with hx | ⟨k, hk, e⟩
    · exact .inl hx
    · exact .inr ⟨k, hH k hk, e⟩
  · intro l hl
    rcases i.undef l hl with hx | hd | ⟨k, hk, e⟩
    · exact .inl hx
    · exact .inr (.inl (hD l hd))
    · exact .inr (.inr ⟨k, hU k hk, e⟩)

theorem okAcq_iff {pol : Policy} {mine H : List LockRef} {k : LockRef} :
    okAcq pol mine H k = true ↔ (∀ h ∈ H, pol h k = true) ∧ k ∈ mine := by
  simp [okAcq, List.all_eq_true]

section Walk
variable {S : Summary} {pol : Policy} {mine : List LockRef}

theorem walk_acquire {H U : List LockRef} {l : LockRef} {m : Mode} {r : List LockRef × List LockRef}
    (h : walk S pol mine (H, U) (.acquire l m) = some r) : okAcq pol mine H l = true ∧ r = (l :: H, l :: U) := by
  rw [walk] at h
  split at h
  · rename_i hk; exact ⟨hk, (Option.some.inj h).symm⟩
  · exact nomatch h

theorem walk_ret {H U : List LockRef} {r : List LockRef × List LockRef}
    (h : walk S pol mine (H, U) .ret = some r) : U = [] ∧ r = (H, U) := by
  rw [walk] at h
  split at h
  · rename_i hU; exact ⟨List.isEmpty_iff.1 hU, (Option.some.inj h).symm⟩
  · exact nomatch h

theorem walk_call {H U : List LockRef} {g : Nat} {p : Path} {r : List LockRef × List LockRef}
    (h : walk S pol mine (H, U) (.call g p) = some r) :
    (∀ k ∈ S g, okAcq pol mine H (k.rebase p) = true) ∧ r = (H, U) := by
  rw [walk] at h
  split at h
  · rename_i hall; exact ⟨List.all_eq_true.1 hall, (Option.some.inj h).symm⟩
  · exact nomatch h

theorem walk_seq {s r : List LockRef × List LockRef} {a b : Prog}
    (h : walk S pol mine s (.seq a b) = some r) :
    ∃ s1, walk S pol mine s a = some s1 ∧ walk S pol mine s1 b = some r := by
  rw [walk] at h
  split at h
  · rename_i s1 ha; exact ⟨s1, ha, h⟩
  · exact nomatch h

theorem walk_alt {s r : List LockRef × List LockRef} {a b : Prog}
    (h : walk S pol mine s (.alt a b) = some r) :
    ∃ H1 U1 H2 U2, walk S pol mine s a = some (H1, U1) ∧ walk S pol mine s b = some (H2, U2) ∧
      r = (H1 ++ H2, U1 ++ U2) := by
  rw [walk] at h
  split at h
  · rename_i H1 U1 H2 U2 ha hb; exact ⟨H1, U1, H2, U2, ha, hb, (Option.some.inj h).symm⟩
  · exact nomatch h

/-- a loop body may only acquire, and leave un-deferred, what the loop was entered with -/
theorem walk_loop {H U : List LockRef} {r : List LockRef × List LockRef} {a : Prog}
    (h : walk S pol mine (H, U) (.loop a) = some r) :
    ∃ H1 U1, walk S pol mine (H, U) a = some (H1, U1) ∧ (∀ k ∈ H1, k ∈ H) ∧ (∀ k ∈ U1, k ∈ U) ∧ r = (H, U) := by
  rw [walk] at h
  split at h
  · rename_i H1 U1 ha
    split at h
    · rename_i hsub
      simp only [Bool.and_eq_true, List.all_eq_true, List.contains_iff_mem] at hsub
      exact ⟨H1, U1, ha, hsub.1, hsub.2, (Option.some.inj h).symm⟩
    · exact nomatch h
  · exact nomatch h

theorem funcOK_walk {f : Func} (h : funcOK S pol f = true) :
    ∃ Hf, walk S pol f.acq ([], []) f.body = some (Hf, []) := by
  rw [funcOK] at h
  split at h
  · rename_i Hf Uf hw; exact ⟨Hf, List.isEmpty_iff.1 h ▸ hw⟩
  · exact nomatch h

end Walk

section Sound
variable {fs : List Func} {pol : Policy} {rel : LockRef → LockRef → Prop}

theorem okAcq_rel (hpol : ∀ o h k, pol h k = true → rel (resolve o h) (resolve o k))
    {o : Path} {X h H U D mine : List LockRef} {k : LockRef}
    (hc : Ctx rel o X mine) (i : Inv o X h H U D) (hk : okAcq pol mine H k = true) :
    ∀ x ∈ h, rel x (resolve o k) := by
  rw [okAcq_iff] at hk
  intro x hx
  rcases i.held x hx with hX | ⟨k', hk', e⟩
  · exact hc k hk.2 x hX
  · subst e; exact hpol o k' k (hk.1 k' hk')

theorem Inv.acquire {o : Path} {X h H U D : List LockRef} (i : Inv o X h H U D) (l : LockRef) :
    Inv o X (resolve o l :: h) (l :: H) (l :: U) D := by
  have i' := i.mono (H2 := l :: H) (U2 := l :: U) (fun _ => List.mem_cons_of_mem _) (fun _ => List.mem_cons_of_mem _)
    (fun _ x => x)
  constructor
  · intro x hx
    rcases List.mem_cons.1 hx with rfl | hx
    · exact .inr ⟨l, List.mem_cons_self, rfl⟩
    · exact i'.held x hx
  · intro x hx
    rcases List.mem_cons.1 hx with rfl | hx
    · exact .inr (.inr ⟨l, List.mem_cons_self, rfl⟩)
    · exact i'.undef x hx

theorem Inv.release {o : Path} {X h H U D : List LockRef} (i : Inv o X h H U D) (l : LockRef) :
    Inv o X (h.filter (· ≠ resolve o l)) (H.filter (· ≠ l)) (U.filter (· ≠ l)) D := by
  -- a name other than `l` resolves to a lock other than that of `l`
  have keep : ∀ {x k} {L : List LockRef}, k ∈ L → x = resolve o k → x ≠ resolve o l → k ∈ L.filter (· ≠ l) :=
    fun hk e hx => List.mem_filter.2 ⟨hk, decide_eq_true fun hkl => hx (by rw [e, hkl])⟩
  constructor
  · intro x hx
    obtain ⟨hx, hne⟩ := List.mem_filter.1 hx
    exact (i.held x hx).imp_right fun ⟨k, hk, e⟩ => ⟨k, keep hk e (of_decide_eq_true hne), e⟩
  · intro x hx
    obtain ⟨hx, hne⟩ := List.mem_filter.1 hx
    exact (i.undef x hx).imp_right (Or.imp_right fun ⟨k, hk, e⟩ => ⟨k, keep hk e (of_decide_eq_true hne), e⟩)

theorem Inv.deferRelease {o : Path} {X h H U D : List LockRef} (i : Inv o X h H U D) (l : LockRef) :
    Inv o X h H (U.filter (· ≠ l)) (D ++ [resolve o l]) := by
  refine ⟨i.held, fun x hx => ?_⟩
  rcases i.undef x hx with hX | hD | ⟨k, hk, e⟩
  · exact .inl hX
  · exact .inr (.inl (List.mem_append_left _ hD))
  · by_cases hkl : k = l
    · exact .inr (.inl (List.mem_append_right _ (List.mem_singleton.2 (by rw [e, hkl]))))
    · exact .inr (.inr ⟨k, List.mem_filter.2 ⟨hk, decide_eq_true hkl⟩, e⟩)

/-- a callee is checked from the empty state, what the caller holds being its context -/
theorem callee_ctx (hpol : ∀ o h k, pol h k = true → rel (resolve o h) (resolve o k))
    {o p : Path} {X h H U D mine acq : List LockRef} (hc : Ctx rel o X mine) (i : Inv o X h H U D)
    (hall : ∀ k ∈ acq, okAcq pol mine H (k.rebase p) = true) :
    Ctx rel (o ++ p) h acq ∧ Inv (o ++ p) h h [] [] [] :=
  ⟨fun k hk x hx => by rw [resolve_append]; exact okAcq_rel hpol hc i (hall k hk) x hx,
   fun l hl => .inl hl, fun l hl => .inl hl⟩

theorem run_sound (hpol : ∀ o h k, pol h k = true → rel (resolve o h) (resolve o k))
    (hfs : ∀ f ∈ fs, funcOK (sumOf fs) pol f = true)
    {o : Path} {P : Prog} {tr : List CEv} {ds : List LockRef} {r : Bool} (hrun : Run fs o P tr ds r) :
    ∀ (mine X h H U D H' U' : List LockRef), walk (sumOf fs) pol mine (H, U) P = some (H', U') →
      Ctx rel o X mine → Inv o X h H U D →
      TraceOK rel h tr ∧
      (r = false → Inv o X (heldAfter h tr) H' U' (D ++ ds)) ∧
      (r = true → ∀ l ∈ heldAfter h tr, l ∈ X ∨ l ∈ D ++ ds) := by
  -- nothing is emitted, nothing deferred, the program goes on
  have stay : ∀ {o : Path} {X h H U D : List LockRef}, Inv o X h H U D →
      TraceOK rel h [] ∧ (false = false → Inv o X (heldAfter h []) H U (D ++ [])) ∧
      (false = true → ∀ l ∈ heldAfter h [], l ∈ X ∨ l ∈ D ++ []) :=
    fun i => ⟨trivial, fun _ => by rw [List.append_nil]; exact i, nofun⟩
  induction hrun with intro mine X h H U D H' U' hw hc i
  | skip | callUnknown | spawn =>
    cases Option.some.inj hw
    exact stay i
  | unknown => exact nomatch hw
  | callMissing hl =>
    cases (walk_call hw).2
    exact stay i
  | @acquire o l m =>
    obtain ⟨hk, e⟩ := walk_acquire hw
    cases e
    exact ⟨⟨okAcq_rel hpol hc i hk, trivial⟩, fun _ => by rw [List.append_nil]; exact i.acquire l, nofun⟩
  | @release o l m =>
    cases Option.some.inj hw
    exact ⟨trivial, fun _ => by rw [List.append_nil]; exact i.release l, nofun⟩
  | @deferRelease o l m =>
    cases Option.some.inj hw
    exact ⟨trivial, fun _ => i.deferRelease l, nofun⟩
  | ret =>
    obtain ⟨hU, _⟩ := walk_ret hw
    refine ⟨trivial, nofun, fun _ x hx => ?_⟩
    -- nothing is left un-deferred at a `return`
    rcases i.undef x hx with hX | hD | ⟨k, hk, _⟩
    · exact .inl hX
    · exact .inr (List.mem_append_left _ hD)
    · rw [hU] at hk; exact nomatch hk
  | @call g f o p tr ds r hl hbody ih =>
    obtain ⟨hall, e⟩ := walk_call hw
    cases e
    rw [sumOf_lookup hl] at hall
    -- the callee passed its own check, which ends with every lock it acquired released or deferred
    obtain ⟨Hf, hwf⟩ := funcOK_walk (hfs f (lookup_mem hl))
    obtain ⟨hctx, hinv⟩ := callee_ctx hpol hc i hall
    obtain ⟨hok, hF, hT⟩ := ih f.acq h h [] [] [] Hf [] hwf hctx hinv
    have hsub : ∀ l ∈ heldAfter h tr, l ∈ h ∨ l ∈ ds := by
      intro l hl
      cases r with
      | false =>
        rcases (hF rfl).undef l hl with hX | hD | ⟨k, hk, _⟩
        · exact .inl hX
        · exact .inr (by rwa [List.nil_append] at hD)
        · exact nomatch hk
      | true => exact (hT rfl l hl).imp_right fun hD => by rwa [List.nil_append] at hD
    -- so after the deferred releases the caller holds what it held
    have hback : ∀ l ∈ heldAfter h (tr ++ ds.map .rel), l ∈ h := by
      intro l hl
      rw [heldAfter_append] at hl
      have := heldAfter_rels_sub _ _ l hl
      exact (hsub l this.1).resolve_right this.2
    refine ⟨(traceOK_append _ _ _ _).2 ⟨hok, traceOK_rels _ _ _⟩, fun _ => ?_, nofun⟩
    rw [List.append_nil]
    exact ⟨fun l hl => i.held l (hback l hl), fun l hl => i.undef l (hback l hl)⟩
  | @seq o a t1 d1 b t2 d2 r _ _ iha ihb =>
    obtain ⟨⟨H1, U1⟩, hwa, hwb⟩ := walk_seq hw
    obtain ⟨hok1, hF1, _⟩ := iha mine X h H U D H1 U1 hwa hc i
    obtain ⟨hok2, hF2, hT2⟩ := ihb mine X _ H1 U1 (D ++ d1) H' U' hwb hc (hF1 rfl)
    rw [heldAfter_append, ← List.append_assoc]
    exact ⟨(traceOK_append _ _ _ _).2 ⟨hok1, hok2⟩, hF2, hT2⟩
  | @seqRet o a t1 d1 b _ iha =>
    obtain ⟨⟨H1, U1⟩, hwa, _⟩ := walk_seq hw
    obtain ⟨hok1, _, hT1⟩ := iha mine X h H U D H1 U1 hwa hc i
    exact ⟨hok1, nofun, hT1⟩
  | @altL o a t d r b _ iha =>
    obtain ⟨H1, U1, H2, U2, hwa, _, e⟩ := walk_alt hw
    cases e
    obtain ⟨hok, hF, hT⟩ := iha mine X h H U D H1 U1 hwa hc i
    exact ⟨hok, fun hr => (hF hr).mono (fun _ => List.mem_append_left _) (fun _ => List.mem_append_left _)
      (fun _ x => x), hT⟩
  | @altR o b t d r a _ ihb =>
    obtain ⟨H1, U1, H2, U2, _, hwb, e⟩ := walk_alt hw
    cases e
    obtain ⟨hok, hF, hT⟩ := ihb mine X h H U D H2 U2 hwb hc i
    exact ⟨hok, fun hr => (hF hr).mono (fun _ => List.mem_append_right _) (fun _ => List.mem_append_right _)
      (fun _ x => x), hT⟩
  | @loopDone o a =>
    obtain ⟨_, _, _, _, _, e⟩ := walk_loop hw
    cases e
    exact stay i
  | @loopStep o a t1 d1 t2 d2 r _ _ iha ihl =>
    obtain ⟨H1, U1, hwa, hH, hU, e⟩ := walk_loop hw
    cases e
    obtain ⟨hok1, hF1, _⟩ := iha mine X h H U D H1 U1 hwa hc i
    obtain ⟨hok2, hF2, hT2⟩ := ihl mine X _ H U (D ++ d1) H U hw hc ((hF1 rfl).mono hH hU (fun _ x => x))
    rw [heldAfter_append, ← List.append_assoc]
    exact ⟨(traceOK_append _ _ _ _).2 ⟨hok1, hok2⟩, hF2, hT2⟩
  | @loopRet o a t1 d1 _ iha =>
    obtain ⟨H1, U1, hwa, _⟩ := walk_loop hw
    obtain ⟨hok1, _, hT1⟩ := iha mine X h H U D H1 U1 hwa hc i
    exact ⟨hok1, nofun, hT1⟩

/-- the same for executions that stopped anywhere -/
theorem pre_sound (hpol : ∀ o h k, pol h k = true → rel (resolve o h) (resolve o k))
    (hfs : ∀ f ∈ fs, funcOK (sumOf fs) pol f = true)
    {o : Path} {P : Prog} {tr : List CEv} (hpre : Pre fs o P tr) :
    ∀ (mine X h H U D H' U' : List LockRef), walk (sumOf fs) pol mine (H, U) P = some (H', U') →
      Ctx rel o X mine → Inv o X h H U D → TraceOK rel h tr := by
  induction hpre with intro mine X h H U D H' U' hw hc i
  | nil => trivial
  | full hrun =>
    exact (run_sound hpol hfs hrun mine X h H U D H' U' hw hc i).1
  | @call g f o p tr hl _ ih =>
    have hall := (walk_call hw).1
    rw [sumOf_lookup hl] at hall
    obtain ⟨Hf, hwf⟩ := funcOK_walk (hfs f (lookup_mem hl))
    obtain ⟨hctx, hinv⟩ := callee_ctx hpol hc i hall
    exact ih f.acq h h [] [] [] Hf [] hwf hctx hinv
  | @seqL o a tr b _ ih =>
    obtain ⟨⟨H1, U1⟩, hwa, _⟩ := walk_seq hw
    exact ih mine X h H U D H1 U1 hwa hc i
  | @seqR o a t1 d1 b t2 hrun _ ih =>
    obtain ⟨⟨H1, U1⟩, hwa, hwb⟩ := walk_seq hw
    obtain ⟨hok1, hF1, _⟩ := run_sound hpol hfs hrun mine X h H U D H1 U1 hwa hc i
    exact (traceOK_append _ _ _ _).2 ⟨hok1, ih mine X _ H1 U1 (D ++ d1) H' U' hwb hc (hF1 rfl)⟩
  | @altL o a tr b _ ih =>
    obtain ⟨H1, U1, _, _, hwa, _⟩ := walk_alt hw
    exact ih mine X h H U D H1 U1 hwa hc i
  | @altR o b tr a _ ih =>
    obtain ⟨_, _, H2, U2, _, hwb, _⟩ := walk_alt hw
    exact ih mine X h H U D H2 U2 hwb hc i
  | @loopIn o a tr _ ih =>
    obtain ⟨H1, U1, hwa, _⟩ := walk_loop hw
    exact ih mine X h H U D H1 U1 hwa hc i
  | @loopNext o a t1 d1 t2 hrun _ ih =>
    obtain ⟨H1, U1, hwa, hH, hU, e⟩ := walk_loop hw
    cases e
    obtain ⟨hok1, hF1, _⟩ := run_sound hpol hfs hrun mine X h H U D H1 U1 hwa hc i
    exact (traceOK_append _ _ _ _).2
      ⟨hok1, ih mine X _ H U (D ++ d1) H U hw hc ((hF1 rfl).mono hH hU (fun _ x => x))⟩

theorem thread_sound (hpol : ∀ o h k, pol h k = true → rel (resolve o h) (resolve o k))
    (hfs : checkWith pol fs = true) {tr : List CEv} (ht : ThreadTrace fs tr) : TraceOK rel [] tr := by
  obtain ⟨g, o, hpre⟩ := ht
  refine pre_sound hpol (List.all_eq_true.1 hfs) hpre (sumOf fs g) [] [] [] [] [] [] [] ?_ ?_ ?_
  · simp [walk, okAcq, rebase_nil]
  · intro k _ x hx; cases hx
  · exact ⟨fun l hl => (by cases hl), fun l hl => (by cases hl)⟩

end Sound

theorem reachable_traces {fs : List Func} {cfg : Config} (hr : Reachable fs cfg) :
    ∀ t ∈ cfg, ThreadTrace fs (t.done ++ t.todo) := by
  induction hr with
  | init h => intro t ht; simpa [(h t ht).1] using (h t ht).2
  | step _ hs ih =>
    -- a step moves the head of one thread's `todo` to the end of its `done`
    have move : ∀ {pre post : Config} {d t : List CEv} (e : CEv),
        (∀ u ∈ pre ++ ⟨d, e :: t⟩ :: post, ThreadTrace fs (u.done ++ u.todo)) →
        ∀ u ∈ pre ++ ⟨d ++ [e], t⟩ :: post, ThreadTrace fs (u.done ++ u.todo) := by
      intro pre post d t e ih u hu
      rcases List.mem_append.1 hu with hu | hu
      · exact ih u (List.mem_append.2 (.inl hu))
      · rcases List.mem_cons.1 hu with rfl | hu
        · simpa using ih ⟨d, e :: t⟩ (by simp)
        · exact ih u (List.mem_append.2 (.inr (List.mem_cons_of_mem _ hu)))
    cases hs with
    | acq => exact move _ ih
    | rel => exact move _ ih

/-- in a reachable state, whatever a thread holds when it is about to request `l` is allowed before `l` by the
policy the functions were checked against -/
theorem reachable_request_ok {pol : Policy} (rel : LockRef → LockRef → Prop) {fs : List Func}
    (hpol : ∀ o h k, pol h k = true → rel (resolve o h) (resolve o k)) (hfs : checkWith pol fs = true)
    {cfg : Config} (hr : Reachable fs cfg) {t : Thread} (ht : t ∈ cfg) {l : LockRef} {m : Mode} {rest : List CEv}
    (e : t.todo = .acq l m :: rest) : ∀ x ∈ t.held, rel x l := by
  have htr := thread_sound hpol hfs (reachable_traces hr t ht)
  rw [e] at htr
  exact traceOK_split htr

theorem selfPolicy_stable : ∀ (o : Path) (h k : LockRef), selfPolicy h k = true → resolve o h ≠ resolve o k := by
  intro o h k hp e
  simp only [selfPolicy, ne_eq, decide_eq_true_eq] at hp
  exact hp (resolve_inj e)

/-- **Soundness of `noSelfNesting`**: in every state reachable by interleaving threads that run functions of
`fs`, no thread is about to request a lock it holds. -/
theorem noSelfNesting_sound (fs : List Func) (h : noSelfNesting fs = true) :
    ∀ cfg, Reachable fs cfg → ∀ t ∈ cfg, ¬ SelfDeadlockStep t :=
  fun _ hr _ ht ⟨l, _, _, htodo, hheld⟩ => reachable_request_ok (· ≠ ·) selfPolicy_stable h hr ht htodo l hheld rfl

theorem orderPolicy_stable (rk : Nat → Nat) :
    ∀ (o : Path) (h k : LockRef), orderPolicy rk h k = true → rk (resolve o h).cls < rk (resolve o k).cls := by
  intro o h k hp
  simpa [orderPolicy, resolve] using hp

theorem WaitPath.head_mem {cfg : Config} {t v : Thread} (h : WaitPath cfg t v) : t ∈ cfg := by
  cases h <;> assumption

theorem WaitPath.head_waits {cfg : Config} {t v : Thread} (h : WaitPath cfg t v) :
    ∃ l m rest, t.todo = .acq l m :: rest := by
  cases h with
  | one _ _ hw => obtain ⟨l, m, rest, e, _⟩ := hw; exact ⟨l, m, rest, e⟩
  | cons _ hw _ => obtain ⟨l, m, rest, e, _⟩ := hw; exact ⟨l, m, rest, e⟩

/-- along a chain of waiting threads the rank of the requested lock grows -/
theorem WaitPath.rank_lt {cfg : Config} (rk : Nat → Nat)
    (hdisc : ∀ t ∈ cfg, ∀ l m rest, t.todo = .acq l m :: rest → ∀ x ∈ t.held, rk x.cls < rk l.cls)
    {t v : Thread} (h : WaitPath cfg t v) :
    ∀ lv mv rv, v.todo = .acq lv mv :: rv → ∃ lt mt rt, t.todo = .acq lt mt :: rt ∧ rk lt.cls < rk lv.cls := by
  induction h with
  | one _ hu hw =>
    intro lv mv rv hv
    obtain ⟨l, m, rest, e, hheld⟩ := hw
    exact ⟨l, m, rest, e, hdisc _ hu lv mv rv hv l hheld⟩
  | cons _ hw hp ih =>
    intro lv mv rv hv
    obtain ⟨l, m, rest, e, hheld⟩ := hw
    obtain ⟨lu, mu, ru, eu⟩ := hp.head_waits
    obtain ⟨lu', mu', ru', eu', hlt⟩ := ih lv mv rv hv
    rw [eu] at eu'
    cases eu'
    exact ⟨l, m, rest, e, Nat.lt_trans (hdisc _ hp.head_mem lu mu ru eu l hheld) hlt⟩

/-- **Soundness of `lockOrderAcyclic`**: no reachable state contains a cycle of threads each waiting for a
lock held by the next (a strict order on lock classes that every thread respects excludes it). -/
theorem lockOrderAcyclic_sound (fs : List Func) (h : lockOrderAcyclic fs = true) :
    ∀ cfg, Reachable fs cfg → ¬ WaitCycle cfg := by
  intro cfg hr ⟨t, hp⟩
  obtain ⟨l, m, rest, e⟩ := hp.head_waits
  obtain ⟨l', m', rest', e', hlt⟩ := hp.rank_lt (lockRanks fs).get (fun _ ht _ _ _ htodo =>
    reachable_request_ok (fun x l => (lockRanks fs).get x.cls < (lockRanks fs).get l.cls) (orderPolicy_stable _) h hr ht htodo)
    l m rest e
  rw [e] at e'
  cases e'
  exact Nat.lt_irrefl _ hlt

theorem lockOrderAcyclic_noSelf (fs : List Func) (h : lockOrderAcyclic fs = true) :
    ∀ cfg, Reachable fs cfg → ∀ t ∈ cfg, ¬ SelfDeadlockStep t := by
  intro cfg hr t ht ⟨l, m, rest, htodo, hheld⟩
  exact lockOrderAcyclic_sound fs h cfg hr ⟨t, .one ht ht ⟨l, m, rest, htodo, hheld⟩⟩

end Mochi.Locks
