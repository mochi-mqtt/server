import Mochi.Spec.Varint
/-! Variable byte integers: the arithmetic of one digit and one turn of the decoding loop, what the loop has done when it
    accepts, and that it reads back what `encodeLength` wrote, in the minimal number of bytes. -/
namespace Mochi.Varint

theorem lor_shl32 (x y k : Nat) (hx : x < 2 ^ k) (hy : y * 2 ^ k < 4294967296) :
    x ||| shl32 y k = x + y * 2 ^ k := by
  unfold shl32
  rw [Nat.mod_eq_of_lt hy]
  have := Nat.shiftLeft_add_eq_or_of_lt hx y
  rw [Nat.shiftLeft_eq] at this
  rw [Nat.or_comm]; omega

/-- one turn of the loop at byte `j` (counted from 0): the digit is shifted above the value gathered so
    far, so `|||` adds it, and four digits stay below 2^28 -/
theorem decodeLoop_step (eb : Nat) (rest : List Nat) (j value : Nat) (hj : j ≤ 3) (heb : eb < 256)
    (hv : value < 128 ^ j) :
    decodeLoop (eb :: rest) value (7 * j) (j + 1) =
      if eb < 128 then .ok (value + 128 ^ j * eb, j + 1)
      else if j = 3 then .error .malformed
      else decodeLoop rest (value + 128 ^ j * (eb % 128)) (7 * (j + 1)) (j + 1 + 1) := by
  have hA : 128 ^ j ≤ 128 ^ 3 := Nat.pow_le_pow_right (by decide) hj
  have hpow : 2 ^ (7 * j) = 128 ^ j := Nat.pow_mul 2 7 j
  have hd : eb % 128 * 128 ^ j ≤ 127 * 128 ^ j := Nat.mul_le_mul_right _ (by omega)
  have hor : value ||| shl32 (eb % 128) (7 * j) = value + 128 ^ j * (eb % 128) := by
    rw [lor_shl32 value (eb % 128) (7 * j) (hpow ▸ hv) (by rw [hpow]; omega), hpow, Nat.mul_comm]
  have hmax : ¬ value + 128 ^ j * (eb % 128) > maxVBI := by unfold maxVBI; rw [Nat.mul_comm]; omega
  rw [decodeLoop]
  simp only [hor, hmax, if_false]
  by_cases h : eb < 128
  · rw [if_pos h, if_pos (by omega), Nat.mod_eq_of_lt h]
  · rw [if_neg h, if_neg (by omega)]
    by_cases h3 : j = 3
    · rw [if_pos h3, if_pos (by omega)]
    · rw [if_neg h3, if_neg (by omega), Nat.mul_succ]

/-- one induction over the loop for everything an accepted run tells: the count moved forward and stayed within the
    bytes that were there and within four, the value is in range, and nothing behind the counted bytes was looked at.
    `v m bu` are the loop's variables on entry: the value so far, the shift of the next digit, and the count of bytes
    used, which INCLUDES the byte about to be read (`decodeLength` starts it at 1) — hence `k + 1 - bu` bytes taken -/
theorem decodeLoop_spec (bs : List Nat) (v m bu n k : Nat) (h : decodeLoop bs v m bu = .ok (n, k)) :
    bu ≤ k ∧ k + 1 ≤ bu + bs.length ∧ (bu ≤ 4 → k ≤ 4) ∧ n ≤ maxVBI ∧
      ∀ rest, decodeLoop (bs.take (k + 1 - bu) ++ rest) v m bu = .ok (n, k) := by
  induction bs generalizing v m bu with
  | nil => exact nomatch h
  | cons eb bs ih =>
    rw [decodeLoop] at h
    split at h
    · exact nomatch h
    · next hle =>
      split at h
      · next hz =>
        injection h with h; injection h with h1 h2; subst h1 h2
        refine ⟨Nat.le_refl _, Nat.add_le_add_left (Nat.le_add_left 1 bs.length) _, id, Nat.le_of_not_gt hle, fun rest => ?_⟩
        rw [Nat.add_sub_cancel_left, List.take_succ_cons, List.cons_append, decodeLoop, if_neg hle, if_pos hz]
      · next hz =>
        split at h
        · exact nomatch h
        · next h4 =>
          obtain ⟨a, b, c, d, e⟩ := ih _ _ _ h
          refine ⟨by omega, by rw [List.length_cons]; omega, fun _ => c (by omega), d, fun rest => ?_⟩
          rw [show k + 1 - bu = (k + 1 - (bu + 1)) + 1 by omega, List.take_succ_cons, List.cons_append, decodeLoop,
            if_neg hle, if_neg hz, if_neg h4]
          exact e rest

/-- what `DecodeLength` accepts, whatever the bytes: one to four bytes, all present, the value in range, and nothing
    behind them looked at -/
theorem decodeLength_spec (bs : List Nat) (n k : Nat) (h : decodeLength bs = .ok (n, k)) :
    1 ≤ k ∧ k ≤ 4 ∧ k ≤ bs.length ∧ n ≤ maxVBI ∧ ∀ rest, decodeLength (bs.take k ++ rest) = .ok (n, k) := by
  obtain ⟨a, b, c, d, e⟩ := decodeLoop_spec bs 0 0 1 n k h
  exact ⟨a, c (by omega), by omega, d, fun rest => by have := e rest; rwa [Nat.add_sub_cancel] at this⟩

theorem encodeLength_lt {n : Nat} (h : n < 128) : encodeLength n = [n] := by
  rw [encodeLength, if_neg (by omega), Nat.mod_eq_of_lt h]

theorem encodeLength_ge {n : Nat} (h : 128 ≤ n) : encodeLength n = (n % 128 + 128) :: encodeLength (n / 128) := by
  rw [encodeLength, if_pos (by omega)]

theorem encodeLength_bytes (n : Nat) : ∀ b ∈ encodeLength n, b < 256 := by
  induction n using Nat.strongRecOn with
  | _ n ih =>
    by_cases h : n < 128
    · rw [encodeLength_lt h]
      exact List.forall_mem_singleton.2 (by omega)
    · rw [encodeLength_ge (by omega)]
      exact List.forall_mem_cons.2 ⟨by omega, ih _ (by omega)⟩

/-- the loop reads back what `encodeLength` wrote, from any of the four positions and whatever follows -/
theorem decodeLoop_encode (n : Nat) : ∀ (j value : Nat) (rest : List Nat), j ≤ 3 → n < 128 ^ (4 - j) → value < 128 ^ j →
    decodeLoop (encodeLength n ++ rest) value (7 * j) (j + 1) = .ok (value + 128 ^ j * n, j + (encodeLength n).length) := by
  induction n using Nat.strongRecOn with
  | _ n ih =>
    intro j value rest hj hn hv
    by_cases h : n < 128
    · rw [encodeLength_lt h, List.singleton_append, decodeLoop_step n rest j value hj (by omega) hv, if_pos h]; rfl
    · have hj2 : j ≤ 2 := by
        apply Nat.le_of_not_lt; intro h3
        have : j = 3 := by omega
        subst this; omega
      have hp : 128 ^ (4 - j) = 128 ^ (4 - (j + 1)) * 128 := by rw [← Nat.pow_succ]; congr 1; omega
      have hps : 128 ^ (j + 1) = 128 ^ j * 128 := Nat.pow_succ ..
      have hd : 128 ^ j * (n % 128) ≤ 128 ^ j * 127 := Nat.mul_le_mul_left _ (by omega)
      rw [encodeLength_ge (by omega), List.cons_append, decodeLoop_step _ _ j value hj (by omega) hv,
        if_neg (by omega), if_neg (by omega), show (n % 128 + 128) % 128 = n % 128 by omega,
        ih (n / 128) (by omega) (j + 1) _ rest (by omega) (Nat.div_lt_of_lt_mul (by rw [Nat.mul_comm, ← hp]; exact hn))
          (by rw [hps]; omega)]
      have : 128 ^ j * n = 128 ^ j * (n % 128) + 128 ^ (j + 1) * (n / 128) := by
        rw [hps, Nat.mul_assoc, ← Nat.mul_add, Nat.mod_add_div]
      rw [List.length_cons, this]
      congr 2 <;> omega

theorem encodeLength_length (n : Nat) (h : n ≤ maxVBI) : (encodeLength n).length = minLen n := by
  unfold maxVBI at h
  unfold minLen
  by_cases h1 : n < 128
  · rw [if_pos h1, encodeLength_lt h1]; rfl
  · rw [if_neg h1, encodeLength_ge (by omega)]
    by_cases h2 : n < 16384
    · rw [if_pos h2, encodeLength_lt (by omega)]; rfl
    · rw [if_neg h2, encodeLength_ge (by omega)]
      by_cases h3 : n < 2097152
      · rw [if_pos h3, encodeLength_lt (by omega)]; rfl
      · rw [if_neg h3, encodeLength_ge (by omega), encodeLength_lt (by omega)]; rfl

end Mochi.Varint
