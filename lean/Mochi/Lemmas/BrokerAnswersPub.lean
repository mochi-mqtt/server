import Mochi.Lemmas.BrokerAnswers
/-!
# C07, PUBLISH: every exit of `processPublish`, as a table

`pubAnswer s i qos id topic alias` computes — from the state BEFORE the packet — what `processPublish` answers a live
network client: nothing (`silent`), an acknowledgement of type `t` with reason code `rc` (`ack t rc`), or an error that
closes the connection (`close`).  `processPublish_spec` proves the table against the handler, exit by exit.
-/
namespace Mochi.Broker.R07
open Mochi.Topics

inductive PubAns where
  | silent
  | ack (t rc : Nat)
  | close
deriving DecidableEq, Repr

/-- what a handler result has to look like for each answer -/
def PubSpec (conn ver id : Nat) : PubAns → HRes → Prop
  | .silent, r => r.2.2 = none
  | .ack t rc, r => r.2.2 = none ∧ ∃ rest, r.2.1 = .wrote conn (.ack ver t id rc) :: rest
  | .close, r => ∃ code, r.2.2 = some code

theorem PubSpec.ite {conn ver id : Nat} {ans : PubAns} {p : Prop} [Decidable p] {a b : HRes}
    (ha : p → PubSpec conn ver id ans a) (hb : ¬ p → PubSpec conn ver id ans b) :
    PubSpec conn ver id ans (if p then a else b) := by
  by_cases h : p
  · rw [if_pos h]; exact ha h
  · rw [if_neg h]; exact hb h

/-- a refused QoS > 0 publish: MQTT 5 is acknowledged with the failure code, MQTT 3 is disconnected; QoS 0: nothing -/
def refuseAns (ver qos rc : Nat) : PubAns :=
  if qos == 0 then .silent else if ver != 5 then .close else .ack (if qos == 2 then 5 else 4) rc

/-- the exits after the QoS clamp: `q` is the clamped QoS, `mode` the `OnPublish` hook's verdict for the topic -/
def pubTail (ver q : Nat) (mode : Option String) : PubAns :=
  if mode == some "reject" then .silent
  else if mode == some "err" && ver == 5 && q > 0 then .ack (if q == 2 then 5 else 4) 0x87
  else if q == 0 then .silent
  else .ack (if q == 2 then 5 else 4) (if q == 2 then 0 else q)

/-- the QoS after `if pk.FixedHeader.Qos > MaximumQos { pk.FixedHeader.Qos = MaximumQos }` -/
def clampQos (s : Server) (qos : Nat) : Nat := if qos > s.caps.maximumQos then s.caps.maximumQos else qos

/-- **the table**: the answer of `processPublish` to a live network client, exit by exit -/
def pubAnswer (s : Server) (i qos id : Nat) (topic : Str) (alias : Option Nat) : PubAns :=
  if !isValidFilter topic true then refuseAns (getObj s i).ver qos 0x90
  else if (getObj s i).recvQuota == 0 then .close
  else if !aclOk s (getObj s i).id topic true then refuseAns (getObj s i).ver qos 0x87
  else if ((flGet (getObj s i) id).map (·.type)) == some 5 then .ack 5 0x91
  else if (pubTopic s i topic alias).isEmpty then .close
  else pubTail (getObj s i).ver (clampQos s qos) (assocGet s.pubHook (pubTopic s i topic alias))

theorem Keep.trans {i : Nat} {s s1 s2 : Server} (h : Keep i s s1) (g : Keep i s1 s2) : Keep i s s2 :=
  ⟨g.conn.trans h.conn, g.ver.trans h.ver, g.isOpen.trans h.isOpen, g.stopped.trans h.stopped,
   g.inline.trans h.inline, g.peer.trans h.peer, g.caps.trans h.caps, g.acl.trans h.acl, g.connOf.trans h.connOf,
   g.hook.trans h.hook⟩

/-- the acting object is overwritten with a client that agrees with the ORIGINAL object on the six fields -/
theorem Keep.set {i : Nat} {s0 s : Server} (h : Keep i s0 s) (c : Client) (hc : CF (getObj s0 i) c) :
    Keep i s0 (setObj s i c) :=
  have q : CF (getObj s0 i) (getObj (setObj s i c) i) :=
    getObj_setObj_ind s i c i ⟨h.conn, h.ver, h.isOpen, h.stopped, h.inline, h.peer⟩ fun _ => hc
  ⟨q.conn, q.ver, q.isOpen, q.stopped, q.inline, q.peer, h.caps, h.acl, h.connOf, h.hook⟩

theorem Keep.cf {i : Nat} {s s' : Server} (h : Keep i s s') : CF (getObj s i) (getObj s' i) :=
  ⟨h.conn, h.ver, h.isOpen, h.stopped, h.inline, h.peer⟩

theorem retainMsg_keep (s : Server) (pk : Msg) (i : Nat) : Keep i s (retainMsg s pk) := by
  unfold retainMsg
  split
  · exact Keep.refl i s
  · exact (Keep.refl i s).upd rfl rfl rfl rfl rfl

/-! ### `processPublish`, exit by exit (`processPublish_cases`) -/

/-- for a network client the tests `!c.inline && x` of `processPublish` are the tests `x` of the table -/
theorem net_test {b x : Bool} (hb : b = false) : (!b && x) = x := by subst hb; rfl

theorem pubDup_net {c : Client} (id : Nat) (hin : c.inline = false) :
    pubDup c id = (((flGet c id).map (·.type)) == some 5) := by
  unfold pubDup
  rw [net_test hin]
  cases flGet c id with
  | none => rfl
  | some m => exact (Option.some_beq_some ..).symm

theorem pubRefuse_spec {s : Server} {conn i : Nat} (L : Live s conn i) (qos id code : Nat) :
    PubSpec conn (getObj s i).ver id (refuseAns (getObj s i).ver qos code) (pubRefuse s i qos id code) := by
  unfold refuseAns
  refine pubRefuse_cases (Q := PubSpec conn (getObj s i).ver id _) s i qos id code (fun h1 => ?_) (fun h1 h2 => ?_)
    (fun h1 h2 => ?_)
  · rw [if_pos h1]; exact rfl
  · rw [if_neg (ne_true_of_eq_false h1), if_pos h2]; exact ⟨code, rfl⟩
  · rw [if_neg (ne_true_of_eq_false h1), if_neg (ne_true_of_eq_false h2),
      ackRes_live' L _ id code (by split <;> decide)]
    exact ⟨rfl, [], rfl⟩

theorem aliasIn_cf (c : Client) (A : List (Nat × Str)) : CF c { c with aliasIn := A } := ⟨rfl, rfl, rfl, rfl, rfl, rfl⟩

theorem flDelete_cf (c : Client) (id : Nat) : CF c (flDelete c id).1 := ⟨rfl, rfl, rfl, rfl, rfl, rfl⟩

theorem pubTaken_keep (s : Server) (i id : Nat) (A : List (Nat × Str)) : Keep i s (pubTaken s i id A) := by
  unfold pubTaken
  split
  · exact ((Keep.refl i s).set { (flDelete (getObj s i) id).1 with aliasIn := A }
      ((flDelete_cf _ id).trans (aliasIn_cf _ A))).upd
      (s := setObj s i { (flDelete (getObj s i) id).1 with aliasIn := A }) rfl rfl rfl rfl rfl
  · exact (Keep.refl i s).set { getObj s i with aliasIn := A } (aliasIn_cf _ A)

theorem retainedState_keep (s : Server) (pk : Msg) (i : Nat) : Keep i s (retainedState s pk) := by
  unfold retainedState
  split
  · exact retainMsg_keep s pk i
  · exact Keep.refl i s

theorem pubAcked_keep {i : Nat} {s0 s : Server} (h : Keep i s0 s) (ack : Msg) : Keep i s0 (pubAcked s i ack) :=
  (h.set (flSet (decRecv (getObj s i)) ack).1 (h.cf.trans ((decRecv_cf _).trans (flSet_cf _ ack)))).upd
    (s := setObj s i (flSet (decRecv (getObj s i)) ack).1) rfl rfl rfl rfl rfl

/-- the exits of `pubGo` from a state `s2` that agrees with the state `s0` the table is computed from -/
theorem pubGo_spec {s0 : Server} {conn i : Nat} (L : Live s0 conn i) (s2 : Server) (id : Nat) (pk : Msg)
    (hk : Keep i s0 s2) :
    PubSpec conn (getObj s0 i).ver id
      (if pk.topic.isEmpty then .close
       else pubTail (getObj s0 i).ver (clampQos s0 pk.qos) (assocGet s0.pubHook pk.topic))
      (pubGo s2 i id pk) := by
  have L2 : Live s2 conn i := hk.live L
  have hq : clampQos s0 pk.qos = (pubShaped s2 pk).qos := by unfold clampQos; rw [← hk.caps]; rfl
  rw [← hk.hook, ← hk.ver, hq]
  unfold pubTail
  refine pubGo_cases (Q := PubSpec conn (getObj s2 i).ver id _) s2 i id pk (fun t1 => ?_) (fun t1 t2 => ?_)
    (fun pk' e t1 t2 t3 => ?_) (fun pk' e t1 t2 t3 t4 => ?_) (fun pk' s6 e h6 t1 t2 t3 t4 t5 => ?_)
    (fun pk' s6 e h6 t1 t2 t3 t4 t5 => ?_)
  · rw [if_pos ((net_test L2.inline).symm.trans t1)]
    exact ⟨0x82, rfl⟩
  · rw [if_neg (ne_true_of_eq_false ((net_test L2.inline).symm.trans t1)), if_pos t2]
    exact rfl
  · subst e
    rw [if_neg (ne_true_of_eq_false ((net_test L2.inline).symm.trans t1)), if_neg (ne_true_of_eq_false t2), if_pos t3,
      ackRes_live' L2 _ id 0x87 (by split <;> decide)]
    exact ⟨rfl, [], rfl⟩
  · subst e
    rw [L2.inline, Bool.or_false] at t4
    rw [if_neg (ne_true_of_eq_false ((net_test L2.inline).symm.trans t1)), if_neg (ne_true_of_eq_false t2),
      if_neg (ne_true_of_eq_false t3), if_pos t4]
    exact rfl
  · -- the acknowledgement cannot be lost on a live client
    have L6 : Live s6 conn i := (h6 ▸ pubAcked_keep (hk.trans (retainedState_keep s2 pk' i)) _ : Keep i s0 s6).live L
    rw [L6.notDead] at t5
    cases t5
  · subst e
    have hk6 : Keep i s0 s6 := h6 ▸ pubAcked_keep (hk.trans (retainedState_keep s2 (pubShaped s2 pk) i)) _
    rw [L2.inline, Bool.or_false] at t4
    rw [if_neg (ne_true_of_eq_false ((net_test L2.inline).symm.trans t1)), if_neg (ne_true_of_eq_false t2),
      if_neg (ne_true_of_eq_false t3), if_neg (ne_true_of_eq_false t4)]
    refine ⟨rfl, ?_⟩
    show ∃ rest, writeMsg s6 i _ ++ _ = _
    rw [writeMsg_ack_live (hk6.live L) _ (pubAck_ne_publish _ _ _), hk6.ver, ← hk.ver]
    exact ⟨_, rfl⟩

/-- **every exit of `processPublish`**, for a live network client: the handler's verdict and first output are what the
    table `pubAnswer` says -/
theorem processPublish_spec {s : Server} {conn i : Nat} (L : Live s conn i) (qos : Nat) (dup retain : Bool) (id : Nat)
    (topic payload : Str) (me : Nat) (alias : Option Nat) :
    PubSpec conn (getObj s i).ver id (pubAnswer s i qos id topic alias)
      (processPublish s i qos dup retain id topic payload me alias) := by
  have hin : (getObj s i).inline = false := L.inline
  unfold pubAnswer
  refine processPublish_cases (Q := PubSpec conn (getObj s i).ver id _) s i qos dup retain id topic payload me alias
    (fun h1 => ?_) (fun h1 h2 => ?_) (fun h1 h2 h3 => ?_) (fun h1 h2 h3 h4 => ?_) (fun hp => ?_)
  · rw [if_pos ((net_test hin).symm.trans h1)]
    exact pubRefuse_spec L qos id 0x90
  · rw [if_neg (ne_true_of_eq_false ((net_test hin).symm.trans h1)), if_pos h2]
    exact ⟨0x93, rfl⟩
  · rw [if_neg (ne_true_of_eq_false ((net_test hin).symm.trans h1)), if_neg (ne_true_of_eq_false h2),
      if_pos ((net_test hin).symm.trans h3)]
    exact pubRefuse_spec L qos id 0x87
  · rw [if_neg (ne_true_of_eq_false ((net_test hin).symm.trans h1)), if_neg (ne_true_of_eq_false h2),
      if_neg (ne_true_of_eq_false ((net_test hin).symm.trans h3)), if_pos ((pubDup_net id hin).symm.trans h4),
      ackRes_live' L 5 id 0x91 (by decide)]
    exact ⟨rfl, [], rfl⟩
  · rw [if_neg (ne_true_of_eq_false ((net_test hin).symm.trans hp.valid)), if_neg (ne_true_of_eq_false hp.quota),
      if_neg (ne_true_of_eq_false ((net_test hin).symm.trans hp.acl)),
      if_neg (ne_true_of_eq_false ((pubDup_net id hin).symm.trans hp.fresh))]
    exact pubGo_spec L _ id { inboundMsg s i qos dup retain id topic payload me with topic := pubTopic s i topic alias }
      (pubTaken_keep s i id _)

/-- the answer to a PUBLISH packet, `PublishValidate` included (a validation error closes the connection) -/
def pubVerdict (s : Server) (i qos id : Nat) (topic : Str) (alias : Option Nat) : PubAns :=
  match publishValidate s qos id topic alias with
  | some _ => .close
  | none => pubAnswer s i qos id topic alias

theorem handler_publish_spec {s : Server} {conn i : Nat} (L : Live s conn i) (qos : Nat) (dup retain : Bool) (id : Nat)
    (topic payload : Str) (me : Nat) (alias : Option Nat) :
    PubSpec conn (getObj s i).ver id (pubVerdict s i qos id topic alias)
      (handler s i (.publish qos dup retain id topic payload me alias)) := by
  unfold pubVerdict
  show PubSpec conn _ id _ (match publishValidate s qos id topic alias with
    | some code => (s, [], some code)
    | none => processPublish s i qos dup retain id topic payload me alias)
  cases publishValidate s qos id topic alias with
  | some code => exact ⟨code, rfl⟩
  | none => exact processPublish_spec L qos dup retain id topic payload me alias

/-- **the op, exit by exit**: verdict `close` — `closed conn` is emitted; verdict `ack t rc` — the FIRST output of the op
    is that acknowledgement, with the request's identifier, on the same connection -/
theorem step_publish_table {s : Server} {conn i : Nat} (L : Live s conn i) (qos : Nat) (dup retain : Bool) (id : Nat)
    (topic payload : Str) (me : Nat) (alias : Option Nat) :
    (pubVerdict s i qos id topic alias = .close →
      Out.closed conn ∈ (step s (.recv conn (.publish qos dup retain id topic payload me alias))).2) ∧
    (∀ t rc, pubVerdict s i qos id topic alias = .ack t rc →
      ∃ rest, (step s (.recv conn (.publish qos dup retain id topic payload me alias))).2 =
        .wrote conn (.ack (getObj s i).ver t id rc) :: rest) := by
  have h := handler_publish_spec L qos dup retain id topic payload me alias
  refine ⟨fun hv => ?_, fun t rc hv => ?_⟩
  · rw [hv] at h
    obtain ⟨code, hc⟩ := h
    exact step_error_closes L _ code hc
  · rw [hv] at h
    obtain ⟨_, rest, hr⟩ := h
    obtain ⟨rest2, h2⟩ := step_prefix L (.publish qos dup retain id topic payload me alias)
    exact ⟨rest ++ rest2, by rw [h2, hr]; rfl⟩

theorem pubVerdict_cases {Q : PubAns → Prop} (s : Server) (i qos id : Nat) (topic : Str) (alias : Option Nat)
    (refused : ∀ code, Q (refuseAns (getObj s i).ver qos code)) (close : Q .close)
    (repeated : (((flGet (getObj s i) id).map (·.type)) == some 5) = true → Q (.ack 5 0x91))
    (tail : Q (pubTail (getObj s i).ver (clampQos s qos) (assocGet s.pubHook (pubTopic s i topic alias)))) :
    Q (pubVerdict s i qos id topic alias) := by
  unfold pubVerdict
  cases publishValidate s qos id topic alias with
  | some _ => exact close
  | none =>
    show Q (pubAnswer s i qos id topic alias)
    unfold pubAnswer
    exact iteInduction (motive := Q) (fun _ => refused _) fun _ => iteInduction (motive := Q) (fun _ => close) fun _ =>
      iteInduction (motive := Q) (fun _ => refused _) fun _ => iteInduction (motive := Q) repeated fun _ =>
      iteInduction (motive := Q) (fun _ => close) fun _ => tail

theorem refuseAns_pos (ver q code : Nat) (hq : (q == 0) = false) :
    refuseAns ver q code = .close ∨ ∃ rc, refuseAns ver q code = .ack (if q == 2 then 5 else 4) rc := by
  unfold refuseAns
  rw [hq]
  by_cases hv : (ver != 5) = true
  · left; simp [hv]
  · right; exact ⟨code, by simp [hv]⟩

theorem pubTail_pos (ver q : Nat) (mode : Option String) (hq : (q == 0) = false)
    (hm : (mode == some "reject") = false) : ∃ rc, pubTail ver q mode = .ack (if q == 2 then 5 else 4) rc := by
  unfold pubTail
  rw [hm, hq]
  simp only [Bool.false_eq_true, if_false]
  by_cases h6 : (mode == some "err" && ver == 5 && decide (q > 0)) = true
  · exact ⟨0x87, by rw [if_pos h6]⟩
  · exact ⟨_, by rw [if_neg h6]⟩

/-- QoS 1, outside the three exceptions (QoS clamp F07c, PUBREC record under the identifier F07d, rejecting hook):
    the verdict is `close` or a PUBACK -/
theorem pubVerdict_qos1 (s : Server) (i id : Nat) (topic : Str) (alias : Option Nat)
    (hclamp : 1 ≤ s.caps.maximumQos)
    (hrec : ((flGet (getObj s i) id).map (·.type)) ≠ some 5)
    (hhook : assocGet s.pubHook (pubTopic s i topic alias) ≠ some "reject") :
    pubVerdict s i 1 id topic alias = .close ∨ ∃ rc, pubVerdict s i 1 id topic alias = .ack 4 rc := by
  have hc : clampQos s 1 = 1 := by
    unfold clampQos
    rw [if_neg (by omega)]
  refine pubVerdict_cases (Q := fun a => a = .close ∨ ∃ rc, a = .ack 4 rc) s i 1 id topic alias
    (fun code => refuseAns_pos _ 1 code rfl) (Or.inl rfl) (fun h => absurd (by simpa using h) hrec)
    (Or.inr ?_)
  rw [hc]
  exact pubTail_pos _ 1 _ rfl (by simpa using hhook)

/-- QoS 2, outside the exceptions (QoS clamp F07c, rejecting hook): the verdict is `close` or a PUBREC (a hook error
    code for an MQTT 5 client is a PUBREC 0x87) -/
theorem pubVerdict_qos2 (s : Server) (i id : Nat) (topic : Str) (alias : Option Nat)
    (hclamp : 2 ≤ s.caps.maximumQos)
    (hhook : assocGet s.pubHook (pubTopic s i topic alias) ≠ some "reject") :
    pubVerdict s i 2 id topic alias = .close ∨ ∃ rc, pubVerdict s i 2 id topic alias = .ack 5 rc := by
  have hc : clampQos s 2 = 2 := by
    unfold clampQos
    rw [if_neg (by omega)]
  refine pubVerdict_cases (Q := fun a => a = .close ∨ ∃ rc, a = .ack 5 rc) s i 2 id topic alias
    (fun code => refuseAns_pos _ 2 code rfl) (Or.inl rfl) (fun _ => Or.inr ⟨0x91, rfl⟩)
    (Or.inr ?_)
  rw [hc]
  exact pubTail_pos _ 2 _ rfl (by simpa using hhook)

/-- QoS 0 (no PUBREC record under the identifier — `PublishValidate` forces identifier 0): never an acknowledgement -/
theorem pubVerdict_qos0 (s : Server) (i id : Nat) (topic : Str) (alias : Option Nat)
    (hrec : ((flGet (getObj s i) id).map (·.type)) ≠ some 5) :
    pubVerdict s i 0 id topic alias = .close ∨ pubVerdict s i 0 id topic alias = .silent := by
  have hc : clampQos s 0 = 0 := by
    unfold clampQos
    split
    · omega
    · rfl
  refine pubVerdict_cases (Q := fun a => a = .close ∨ a = .silent) s i 0 id topic alias (fun _ => Or.inr rfl)
    (Or.inl rfl) (fun h => absurd (by simpa using h) hrec) (Or.inr ?_)
  rw [hc]
  unfold pubTail
  simp

end Mochi.Broker.R07
